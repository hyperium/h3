import H3.Model.Goaway
import H3.Spec.Goaway
import H3.Lemmas.Goaway
import H3.Lemmas.GoawayQueue
/-! # C08 — GOAWAY identifiers never grow and draw the accept/reject line exactly

The property theorems, with the inductions over a history they rest on (`step_ok` / `run_ok` for the
server, `client_run` for the client).  Model: `H3.Goaway` (server `shutdown`/`accept`, client `poll_close`
GOAWAY rules and the two `send_request` gates — on entry and behind `poll_open_bidi`; `StreamId + n` is `H3.StreamId.add`, in closed
form `H3.StreamId.add_eq`).  Oracle: `H3.Spec.Goaway` (RFC 9114 §5.2,
§7.2.6 over the observable history).

A server history is an arbitrary `List Ev`: arrivals in any order, `accept` polls, `shutdown n`
with any `n` at any moment and repeatedly, completions, peer GOAWAYs.  The accept/reject line
is judged where `accept` takes the stream from the transport (R-08): the observation
`surfaced i` / `rejected i` is made at that moment, against the GOAWAYs written before it. -/
namespace H3.Props.C08
open H3.Goaway H3.Spec.Goaway H3.Lemmas.Goaway

/-- transport contract: a stream opened by the client towards the server as a request stream
    has a client-initiated bidirectional stream ID. -/
def WellTyped : Ev → Prop
  | .arrive id => id % 4 = 0
  | _ => True

/-- the history stays below the saturation point of `StreamId + n`: for every request index `k`
    it contains and every `shutdown(n)` in it (all `n ≤ N`), `k + n + 1 ≤ 2^60 − 1`. -/
def Below (N : Nat) : Ev → Prop
  | .arrive id => id % 4 = 0 ∧ id / 4 + N + 1 ≤ 2^60 - 1
  | .shutdown n => n ≤ N
  | _ => True

private def evOk (P Q : Nat → Prop) : Ev → Prop
  | .arrive id => P id
  | .shutdown n => Q n
  | _ => True

private theorem step_ok {strict : Bool} {P Q : Nat → Prop} (H : Hyp strict P Q) (s : State) (h : Hist) (e : Ev)
    (hi : GInv P s h) (he : evOk P Q e) :
    valid strict h (step s e).2 = true ∧ GInv P (step s e).1 (pushAll h (step s e).2) ∧
    outcomes (step s e).2 ++ (step s e).1.incoming = s.incoming ++ arrivals [e] := by
  refine step_cases (C := fun e r => evOk P Q e → valid strict h r.2 = true ∧ GInv P r.1 (pushAll h r.2) ∧
    outcomes r.2 ++ r.1.incoming = s.incoming ++ arrivals [e]) ?_ ?_ ?_ ?_ ?_ ?_ e he
  · intro id he
    refine ⟨rfl, ⟨hi.sent_eq, hi.sent_min, hi.surf_le, hi.largest_ok, fun j hj => ?_⟩, rfl⟩
    rcases List.mem_append.mp hj with hj | hj
    · exact hi.incoming_ok j hj
    · rw [List.mem_singleton.mp hj]; exact he
  · intro id _
    exact ⟨rfl, ⟨hi.sent_eq, hi.sent_min, hi.surf_le, hi.largest_ok, hi.incoming_ok⟩, (List.append_nil _).symm⟩
  · intro s1 e1 _
    have hi1 := hi.same e1
    obtain ⟨h1, h2, h3⟩ := acceptLoop_ok H false s1 s1.incoming h hi1 hi1.incoming_ok
    exact ⟨h1, h2, by rw [h3, e1.incoming]; exact (List.append_nil _).symm⟩
  · intro n he
    obtain ⟨h1, h2⟩ := shutdown_ok H s h n he hi
    obtain ⟨_, f2, _, f4, _⟩ := shutdown_frame s n
    refine ⟨by rw [valid_append, h1]; rfl, by rw [pushAll_append]; exact h2, ?_⟩
    rw [outcomes_append, f4, f2]; exact (List.append_nil _).symm
  · -- a failed connection: `shutdown` reports the error, nothing is written
    intro n _
    exact ⟨rfl, hi, (List.append_nil _).symm⟩
  · intro e s' os hp e1 hq _
    obtain ⟨q1, q2, _, q4, _⟩ := quiet_obs hq strict h
    rw [q1, q4, arrivals_passive hp, e1.incoming]
    exact ⟨q2, hi.same e1, (List.append_nil _).symm⟩

private theorem run_ok {strict : Bool} {P Q : Nat → Prop} (H : Hyp strict P Q) (evs : List Ev) :
    ∀ (s : State) (h : Hist), GInv P s h → (∀ e ∈ evs, evOk P Q e) →
    valid strict h (run s evs).2 = true ∧ GInv P (run s evs).1 (pushAll h (run s evs).2) ∧
    outcomes (run s evs).2 ++ (run s evs).1.incoming = s.incoming ++ arrivals evs := by
  induction evs with
  | nil => intro s h hi _; exact ⟨by simp [run, valid], by simpa [run, pushAll] using hi, by simp [run, outcomes, arrivals]⟩
  | cons e es ih =>
    intro s h hi he
    obtain ⟨a1, a2, a3⟩ := step_ok H s h e hi (he e (by simp))
    obtain ⟨b1, b2, b3⟩ := ih (step s e).1 (pushAll h (step s e).2) a2 (fun e' he' => he e' (List.mem_cons_of_mem _ he'))
    refine ⟨?_, ?_, ?_⟩
    · simp only [run]; rw [valid_append, a1, b1]; rfl
    · simp only [run]; rw [pushAll_append]; exact b2
    · simp only [run]; rw [outcomes_append, List.append_assoc, b3, ← List.append_assoc, a3, arrivals_cons e es,
        List.append_assoc]

private theorem valid_split (strict : Bool) (h : Hist) (a : List Obs) (o : Obs) (b : List Obs)
    (hv : valid strict h (a ++ o :: b) = true) : okObs strict (pushAll h a) o = true := by
  rw [valid_append] at hv
  simp only [valid, Bool.and_eq_true] at hv
  exact hv.2.1

private theorem okObs_reading (strict : Bool) (h : Hist) (o : Obs) (hv : okObs strict h o = true) :
    (∀ g, o = .goaway g → g % 4 = 0 ∧ g < 2^62 ∧ (∀ p ∈ h.sent, g ≤ p) ∧
      (strict = true → ∀ i ∈ h.surfaced, i < g)) ∧
    (∀ i, o = .surfaced i → ∀ g, h.sent.head? = some g → i < g) ∧
    (∀ i, o = .rejected i → ∃ g, h.sent.head? = some g ∧ g ≤ i) := by
  refine ⟨?_, ?_, ?_⟩
  · rintro g rfl
    simp only [okObs, okGoaway, clientBidi, Bool.and_eq_true, beq_iff_eq, decide_eq_true_eq, List.all_eq_true,
      Bool.or_eq_true, Bool.not_eq_true', noRetract] at hv
    obtain ⟨⟨⟨h1, h2⟩, h3⟩, h4⟩ := hv
    refine ⟨h1, h2, h3, ?_⟩
    intro hs
    rcases h4 with h4 | h4
    · rw [hs] at h4; cases h4
    · exact h4
  · rintro i rfl g hg
    simp only [okObs, mustReject, lastSent, hg, Bool.not_eq_true', decide_eq_false_iff_not] at hv
    omega
  · rintro i rfl
    simp only [okObs, mustReject, lastSent] at hv
    cases hs : h.sent.head? with
    | none => rw [hs] at hv; cases hv
    | some g =>
      rw [hs] at hv
      exact ⟨g, rfl, by simpa using hv⟩

private theorem server_line {strict : Bool} {P Q : Nat → Prop} (H : Hyp strict P Q) (evs : List Ev)
    (hev : ∀ e ∈ evs, evOk P Q e) :
    valid strict {} (run {} evs).2 = true ∧
    (∀ a o b, (run {} evs).2 = a ++ o :: b → okObs strict (pushAll {} a) o = true) ∧
    arrivals evs = outcomes (run {} evs).2 ++ (run {} evs).1.incoming := by
  obtain ⟨h1, _, h3⟩ := run_ok H evs {} {} (ginv_init _) hev
  exact ⟨h1, fun a o b hab => valid_split strict {} a o b (hab ▸ h1), by simpa using h3.symm⟩

/-- **The server's line.**  For every history whose indices stay below the saturation point
    (`Below N`), and with `h` the history observed before each observation `o` of the trace:

    * a GOAWAY written carries a client-initiated bidirectional stream ID, not larger than any
      identifier written before, and larger than every request already shown to the
      application (no request surfaced earlier is at or above an identifier sent later);
    * a request is shown to the application only if nothing was sent yet or its ID is below
      the last identifier sent; it is refused (H3_REQUEST_REJECTED, never shown) only if its ID
      is at or above the last identifier sent;
    * every arrival gets exactly one of the two outcomes, in arrival order, or still waits in
      the transport (so "surfaced ⇔ below the line" is an equivalence). -/
theorem C08_server_line (evs : List Ev) (N : Nat) (hb : ∀ e ∈ evs, Below N e) :
    valid true {} (run {} evs).2 = true ∧
    (∀ a o b, (run {} evs).2 = a ++ o :: b →
      (∀ g, o = .goaway g → g % 4 = 0 ∧ g < 2^62 ∧ (∀ p ∈ (pushAll {} a).sent, g ≤ p) ∧
        (∀ i ∈ (pushAll {} a).surfaced, i < g)) ∧
      (∀ i, o = .surfaced i → ∀ g, (pushAll {} a).sent.head? = some g → i < g) ∧
      (∀ i, o = .rejected i → ∃ g, (pushAll {} a).sent.head? = some g ∧ g ≤ i)) ∧
    arrivals evs = outcomes (run {} evs).2 ++ (run {} evs).1.incoming := by
  have H : Hyp true (fun id => id % 4 = 0 ∧ id / 4 + N + 1 ≤ 2^60 - 1) (fun n => n ≤ N) := by
    refine ⟨fun id h => h.1, Nat.zero_le _, ?_⟩
    intro _ L n hL hn
    rw [shutdownId_eq]
    simp only
    omega
  -- `Below N` is `evOk` of these two predicates, event by event
  obtain ⟨h1, h2, h3⟩ := server_line H evs (fun e he => by have := hb e he; cases e <;> exact this)
  refine ⟨h1, fun a o b hab => ?_, h3⟩
  obtain ⟨r1, r2, r3⟩ := okObs_reading _ _ o (h2 a o b hab)
  exact ⟨fun g hg => by
    obtain ⟨x1, x2, x3, x4⟩ := r1 g hg
    exact ⟨x1, x2, x3, x4 rfl⟩, r2, r3⟩

/-- **At and beyond saturation** everything but the last clause of the first item still holds,
    for every history the transport can produce: the identifiers written are valid
    client-initiated bidirectional stream IDs (`C16_streamid_add_saturates`), never increase,
    and draw the accept/reject line exactly. -/
theorem C08_server_line_saturated (evs : List Ev) (hw : ∀ e ∈ evs, WellTyped e) :
    valid false {} (run {} evs).2 = true ∧
    (∀ a o b, (run {} evs).2 = a ++ o :: b →
      (∀ g, o = .goaway g → g % 4 = 0 ∧ g < 2^62 ∧ (∀ p ∈ (pushAll {} a).sent, g ≤ p)) ∧
      (∀ i, o = .surfaced i → ∀ g, (pushAll {} a).sent.head? = some g → i < g) ∧
      (∀ i, o = .rejected i → ∃ g, (pushAll {} a).sent.head? = some g ∧ g ≤ i)) ∧
    arrivals evs = outcomes (run {} evs).2 ++ (run {} evs).1.incoming := by
  have H : Hyp false (fun id => id % 4 = 0) (fun _ => True) :=
    ⟨fun id h => h, trivial, fun h => by cases h⟩
  obtain ⟨h1, h2, h3⟩ := server_line H evs (fun e he => by have := hw e he; cases e <;> exact this)
  refine ⟨h1, fun a o b hab => ?_, h3⟩
  obtain ⟨r1, r2, r3⟩ := okObs_reading _ _ o (h2 a o b hab)
  exact ⟨fun g hg => by
    obtain ⟨x1, x2, x3, _⟩ := r1 g hg
    exact ⟨x1, x2, x3⟩, r2, r3⟩

/-- the identifier `shutdown(n)` computes, in `StreamId` arithmetic: `n+1` requests past the
    largest accepted one / `n` requests from the first, index saturating at 2^60 − 1
    (`shutdownId_eq` for request IDs; `C16_streamid_add_saturates` is the same fact about `StreamId + n`). -/
theorem C08_shutdown_id (L n : Nat) (h4 : L % 4 = 0) (hL : L < 2^62) (hn : n < 2^64) :
    shutdownId (some L) n = 4 * min (L / 4 + n + 1) (2^60 - 1) ∧
    shutdownId none n = 4 * min n (2^60 - 1) := by
  rw [shutdownId_eq, shutdownId_eq]
  exact ⟨by simp only [h4, Nat.add_zero], rfl⟩

/-! ### `accept` says "no more requests" only when drained

`poll_accept_request_stream_internal` answers `Ready(Ok(None))` in one place, the `Pending` arm of
its loop: the transport has no stream waiting, and a GOAWAY of the peer has been processed (C09's
case) or — after a *local* `shutdown` — a stream at or above the identifier sent was refused
earlier in this poll (`rejected`), and `poll_requests_completion(cx).is_ready()` (= the
request-end channel is emptied into `ongoing_streams`, then "is `ongoing_streams` empty?").  A
refusal itself only sets `rejected` and goes on with the next stream.  `H3.Goaway.acceptLoop` is
that loop, `drained` the test. -/

/-- **`None` only when drained and nothing acceptable waits, state by state.**  For every connection
    state `s`, every queue `q` of streams waiting in the transport and either value of the loop's
    flag (`refused`: a stream has been refused earlier in this poll): one run of the accept loop
    answers `None` *exactly* when no request is ongoing at that moment (`ongoing_streams` is empty),
    **every** stream waiting is one the filter refuses (its ID is at or above the identifier sent —
    no acceptable stream is left behind a refused one: D-08b), and either a stream is refused in
    this poll (local shutdown) or a GOAWAY of the peer has been processed.  Such a run shows no
    request to the application, leaves `ongoing_streams` empty, gives every waiting stream its
    outcome and leaves the queue empty.  In particular a refusal while a request shown earlier is
    still in progress never ends `accept`. -/
theorem C08_accept_none_only_when_drained (refused : Bool) (s : State) (q : List Nat) :
    (Obs.acceptNone ∈ (acceptLoop refused s q).2 ↔
      s.ongoing = [] ∧ (∀ id ∈ q, rejects s.sentClosing id = true) ∧
      (refused = true ∨ q ≠ [] ∨ s.recvClosing.isSome = true)) ∧
    (Obs.acceptNone ∈ (acceptLoop refused s q).2 →
      surfacedIn (acceptLoop refused s q).2 = [] ∧ (acceptLoop refused s q).1.ongoing = [] ∧
      outcomes (acceptLoop refused s q).2 = q ∧ (acceptLoop refused s q).1.incoming = []) := by
  refine ⟨acceptLoop_none_iff q refused s, ?_⟩
  intro hn
  obtain ⟨h1, h3, h4⟩ := acceptLoop_none refused s q hn
  have h2 := ((acceptLoop_none_iff q refused s).mp hn).1
  refine ⟨h1, ?_, h4, h3⟩
  rw [acceptLoop_ongoing, h1, h2]; rfl

/-- **`None` abandons no stream** (D-08b, for every state): when a poll of `accept` answers `None`,
    every stream that was waiting in the transport at that poll has had its outcome in this very
    poll, in order, and nothing waits any more.  With `arrivals = outcomes ++ still-queued` of
    `C08_server_line` this is the oracle's rule `okQueue … acceptNone`: at `None` every stream the peer
    has opened has been shown to the application or refused. -/
theorem C08_none_abandons_no_stream (s : State) (hn : Obs.acceptNone ∈ (step s .accept).2) :
    outcomes (step s .accept).2 = s.incoming ∧ (step s .accept).1.incoming = [] := by
  refine accept_cases (s := s) (C := fun r => Obs.acceptNone ∈ r.2 → outcomes r.2 = s.incoming ∧ r.1.incoming = [])
    (fun _ _ hn => by simp at hn) (fun s1 e1 hn => ?_) hn
  obtain ⟨_, h3, h4⟩ := acceptLoop_none false _ _ hn
  exact ⟨h4.trans e1.incoming, h3⟩

/-- **A `shutdown(n)` that answers `Ok` leaves a GOAWAY in force** whose identifier is at most the one
    the call computed — it is either the one in force before (not larger) or written by this call
    (the oracle's rule `okQueue … shutdownOk`). -/
theorem C08_shutdown_ok_has_goaway_in_force (s : State) (n : Nat) (hf : s.failed = false) :
    Obs.shutdownOk ∈ (step s (.shutdown n)).2 ∧
    ∃ g, (step s (.shutdown n)).1.sentClosing = some g ∧ g ≤ shutdownId s.largest n ∧
      (s.sentClosing = some g ∨ Obs.goaway g ∈ (step s (.shutdown n)).2) := by
  have e : step s (.shutdown n) = ((shutdown s n).1, (shutdown s n).2 ++ [.shutdownOk]) := by simp [step, hf]
  rw [e]
  refine ⟨by simp, ?_⟩
  rcases shutdown_eq s n with ⟨e, g, hg, hle⟩ | ⟨e, _⟩ <;> rw [e]
  · exact ⟨g, hg, hle, Or.inl hg⟩
  · exact ⟨_, rfl, Nat.le_refl _, Or.inr (by simp)⟩

-- a refusal with request 0 still in progress does not end `accept`; with nothing in progress it does
example : (acceptLoop false { sentClosing := some 4, largest := some 0, ongoing := [0] } [4, 8]).2 =
      [.rejected 4, .rejected 8, .acceptPending] ∧
    (acceptLoop false { sentClosing := some 4, largest := some 0, ongoing := [] } [4, 8]).2 =
      [.rejected 4, .rejected 8, .acceptNone] ∧
    -- an acceptable stream behind a refused one is still served while a request is in progress …
    (acceptLoop false { sentClosing := some 12, largest := some 0, ongoing := [0] } [12, 4]).2 =
      [.rejected 12, .surfaced 4] ∧
    -- … and when none is (the witness of D-08b: shutdown(1) announced 4, stream 4 arrives before stream 0)
    (run {} [.shutdown 1, .arrive 4, .arrive 0, .accept]).2 =
      [.goaway 4, .shutdownOk, .rejected 4, .surfaced 0] := by decide +kernel

/-- **The queue rules over whole histories** (`H3.Spec.Goaway.okQueue`; D-08b).  The judged history
    of a run (`runJ`) is what the model shows with the peer's `arrived id`, the application's
    `completed id` and `shutdownCalled n` put in where the events happen.  For every history whose
    arrivals are distinct request stream IDs (a stream is opened once) and whose `shutdown` counts
    fit `usize`, every observation passes the queue rules against the history before it:

    * a stream is shown or refused at most once;
    * `None` is answered only when every stream the peer has opened has been shown or refused, and
      every request shown is done;
    * a `shutdown(n)` that answers `Ok` leaves a GOAWAY in force whose identifier is at most
      `n` requests past the largest one shown (`shutdownBound`), 2^62 − 4 at most. -/
theorem C08_server_queue (evs : List Ev) (hq : ∀ e ∈ evs, H3.Lemmas.GoawayQueue.QEv e)
    (hn : (arrivals evs).Nodup) :
    validQ {} (H3.Lemmas.GoawayQueue.runJ {} evs) = true := by
  exact H3.Lemmas.GoawayQueue.run_q evs {} {} H3.Lemmas.GoawayQueue.hrel_init hq (by simpa using hn)
    (by intro i hi; cases hi)

-- the witness of D-08b as the judge sees it: the repaired model's history passes, the unrepaired tree's does not
example : H3.Lemmas.GoawayQueue.runJ {} [.shutdown 1, .arrive 4, .arrive 0, .accept, .complete 0, .accept] =
      [.shutdownCalled 1, .goaway 4, .shutdownOk, .arrived 4, .arrived 0, .rejected 4, .surfaced 0, .completed 0,
       .acceptPending] ∧
    validQ {} [.shutdownCalled 1, .goaway 4, .shutdownOk, .arrived 4, .arrived 0, .rejected 4, .goaway 0, .acceptNone] = false ∧
    -- `shutdown = Ok` without a GOAWAY, a second outcome, `None` with a request in progress, an identifier above the bound
    validQ {} [.surfaced 0, .shutdownOk, .acceptNone] = false ∧
    validQ {} [.goaway 4, .shutdownOk, .surfaced 0, .surfaced 0] = false ∧
    validQ {} [.surfaced 0, .goaway 4, .shutdownCalled 0, .shutdownOk, .acceptNone] = false ∧
    validQ {} [.goaway 12, .shutdownCalled 2, .shutdownOk] = false ∧
    validQ {} [.goaway 8, .shutdownCalled 2, .shutdownOk] = true := by decide +kernel

-- … and the hypotheses of `C08_server_queue` are satisfiable by such a history
example : (∀ e ∈ [Ev.shutdown 1, .arrive 4, .arrive 0, .accept, .complete 0, .accept], H3.Lemmas.GoawayQueue.QEv e) ∧
    (arrivals [Ev.shutdown 1, .arrive 4, .arrive 0, .accept, .complete 0, .accept]).Nodup := by
  refine ⟨?_, by decide +kernel⟩
  intro e he; simp at he
  rcases he with rfl | rfl | rfl | rfl | rfl | rfl <;> simp [H3.Lemmas.GoawayQueue.QEv]

/-- **`None` only when drained, over whole histories.**  In every history (any interleaving of arrivals, `accept`
    polls, `shutdown n`, completions, GOAWAYs of the peer), with *in progress* read off the history
    alone (`H3.Spec.Goaway.inProgress`: shown to the application by an earlier step and no
    `complete` for it since): `ongoing_streams` is exactly the set of requests in progress, and a
    step that shows `None` is an `accept` made when no request is in progress (none is in
    progress after it either). -/
theorem C08_accept_none_history (evs : List Ev) :
    inProgress (trace {} evs) = (run {} evs).1.ongoing ∧
    (∀ pre st post, trace {} evs = pre ++ st :: post → Obs.acceptNone ∈ st.2 →
      st.1 = .accept ∧ inProgress pre = [] ∧ inProgress (pre ++ [st]) = []) := by
  obtain ⟨h1, h2⟩ := trace_progress evs {} [] rfl
  refine ⟨by simpa using h1, ?_⟩
  intro pre st post h hn
  simpa using h2 pre st post h hn

-- local shutdown: stream 4 is refused while request 0 is in progress (`accept` keeps waiting);
-- once request 0 has completed the next refusal ends `accept`
example : trace {} [.arrive 0, .accept, .shutdown 0, .arrive 4, .accept, .complete 0, .arrive 8, .accept] =
    [(.arrive 0, []), (.accept, [.surfaced 0]), (.shutdown 0, [.goaway 4, .shutdownOk]), (.arrive 4, []),
     (.accept, [.rejected 4, .acceptPending]), (.complete 0, []), (.arrive 8, []),
     (.accept, [.rejected 8, .acceptNone])] := by decide +kernel
example : inProgress (trace {} [.arrive 0, .accept, .shutdown 0, .arrive 4, .accept]) = [0] ∧
    inProgress (trace {} [.arrive 0, .accept, .shutdown 0, .arrive 4, .accept, .complete 0, .arrive 8]) = [] := by
  decide +kernel

/-- **Every request below the line is still served.**  After every history — whatever GOAWAYs
    were sent in it (`shutdown n` at any moment, the last one of `accept`) or received from the
    peer, and also after `accept` has answered `None` — `resolve_request` on a request that is in
    progress (shown to the application earlier, not completed: `inProgress`) returns the request
    and leaves the connection as it was.  (Which arrivals are shown is `C08_server_line`: exactly
    those below the last identifier sent; the oracle's clause `notServed ⇒ false` is part of
    `valid` there.) -/
theorem C08_surfaced_request_is_served (evs : List Ev) (id : Nat) (h : id ∈ inProgress (trace {} evs)) :
    step (run {} evs).1 (.resolve id) = ((run {} evs).1, [.served id]) ∧
    okObs true (pushAll {} (run {} evs).2) (.served id) = true := by
  rw [(C08_accept_none_history evs).1] at h
  exact ⟨by simp [step, h], rfl⟩

-- request 0 is served after shutdown(0) has announced 4, after the peer's GOAWAY, and request 4 (below the
-- line of shutdown(1)) is served after `accept` has refused request 8
example : (run {} [.arrive 0, .accept, .shutdown 0, .recvGoaway 0, .accept, .resolve 0]).2 =
      [.surfaced 0, .goaway 4, .shutdownOk, .acceptPending, .served 0] ∧
    (run {} [.arrive 0, .accept, .shutdown 1, .arrive 4, .arrive 8, .accept, .accept, .resolve 4, .resolve 8]).2 =
      [.surfaced 0, .goaway 8, .shutdownOk, .surfaced 4, .rejected 8, .acceptPending, .served 4] ∧
    valid true {} [.surfaced 0, .goaway 4, .notServed 0] = false := by decide +kernel

/-- events of a client history; identifiers come off the wire as 62-bit integers
    (`C16_decode_total`). -/
def ClientEv : Ev → Prop
  | .recvGoaway id => id < 2^62
  | .pollClose => True
  | .sendCall => True
  | .sendOpened => True
  | _ => False

private theorem client_run (evs : List Ev) : ∀ (s : State) (ps buf : List Nat),
    (∀ e ∈ evs, ClientEv e) → (∀ id ∈ buf, id < 2^62) → absClient s = clientAfter ps →
    (s.failed = false → s.ctl = buf) →
    absClient (run s evs).1 = clientAfter (evs.foldl feed (ps, buf)).1 := by
  induction evs with
  | nil => intro s ps buf _ _ h _; simpa [run] using h
  | cons e es ih =>
    intro s ps buf hc hbuf habs hctl
    have hes : ∀ e' ∈ es, ClientEv e' := fun e' he' => hc e' (List.mem_cons_of_mem _ he')
    have he := hc e (by simp)
    simp only [run, List.foldl]
    cases e with
    | recvGoaway id =>
      apply ih _ ps (buf ++ [id]) hes
      · intro j hj
        rcases List.mem_append.mp hj with hj | hj
        · exact hbuf j hj
        · exact List.mem_singleton.mp hj ▸ he
      · simpa [step, absClient] using habs
      · intro hf; simp only [step]; rw [hctl hf]
    | pollClose =>
      simp only [feed]
      by_cases hf : s.failed = true
      · have hs : (step s .pollClose).1 = s := by simp [step, pollClose, hf]
        rw [hs]
        apply ih s (ps ++ buf) [] hes (by simp)
        · have herr : (clientAfter ps).err = true := by rw [← habs]; exact hf
          rw [habs]
          simp only [clientAfter, List.foldl_append]
          exact (clientStep_err buf _ herr).symm
        · intro hf'; rw [hf] at hf'; cases hf'
      · have hf' : s.failed = false := by simpa using hf
        have hs : (step s .pollClose).1 = procCtlClient s s.ctl := by
          simp only [step, pollClose, hf']
          simp only [Bool.false_eq_true, if_false]
          split <;> rfl
        rw [hs, hctl hf']
        obtain ⟨p1, p2⟩ := procCtlClient_abs buf s hf' hbuf
        apply ih _ (ps ++ buf) [] hes (by simp)
        · rw [p1, habs]; simp [clientAfter, List.foldl_append]
        · exact p2
    | sendCall =>
      -- neither gate of `send_request` touches what the oracle reads or the control stream's buffer
      have hs : absClient (step s .sendCall).1 = absClient s ∧ (step s .sendCall).1.ctl = s.ctl := by
        simp only [step, sendCall]; split <;> exact ⟨rfl, rfl⟩
      exact ih _ ps buf hes hbuf (hs.1.trans habs) (fun hf => hs.2.trans (hctl (by rw [← hf]; exact congrArg Client.err hs.1.symm)))
    | sendOpened =>
      have hs : absClient (step s .sendOpened).1 = absClient s ∧ (step s .sendOpened).1.ctl = s.ctl := by
        simp only [step, sendOpened]; split
        · exact ⟨rfl, rfl⟩
        · split <;> exact ⟨rfl, rfl⟩
      exact ih _ ps buf hes hbuf (hs.1.trans habs) (fun hf => hs.2.trans (hctl (by rw [← hf]; exact congrArg Client.err hs.1.symm)))
    | arrive _ | accept | shutdown _ | complete _ | resolve _ => exact he.elim

/-- **The client's rules.**  For every sequence of GOAWAY identifiers received, driver polls,
    `send_request` calls (`sendCall`) and moments at which a waiting call gets its stream
    (`sendOpened`: at once with stream credit, else when the peer grants it — any time later), with
    `c` the oracle's verdict on the identifiers the driver has been given to process
    (`processed evs`; `clientStep`: a non-request ID or an ID larger than the one before is
    H3_ID_ERROR, after which nothing is processed):

    * the connection has failed with H3_ID_ERROR exactly when the oracle says so, and the
      driver's poll reports exactly that;
    * both gates of `send_request` are exactly "a GOAWAY has been accepted": a call made then
      returns `RemoteClosing` and changes nothing; a call that gets its stream then — **whenever it
      was made, also before the GOAWAY** (D-08c) — returns `RemoteClosing`, its stream is left
      without a byte; otherwise the call waits for its stream / writes the request on the next
      request stream;
    * once gated, gated for ever: whatever else is received, polled, attempted or granted, no call
      starts a request (neither a new one nor one that was waiting). -/
theorem C08_client_rules (evs : List Ev) (hc : ∀ e ∈ evs, ClientEv e) :
    (run {} evs).1.failed = (clientAfter (processed evs)).err ∧
    ((pollClose (run {} evs).1).2 = [.idError] ↔ (pollClose (run {} evs).1).1.failed = true) ∧
    (run {} evs).1.closing = (clientAfter (processed evs)).stopped ∧
    ((clientAfter (processed evs)).stopped = true →
      step (run {} evs).1 .sendCall = ((run {} evs).1, [.remoteClosing]) ∧
      ((run {} evs).1.parked ≠ 0 → step (run {} evs).1 .sendOpened =
        ({ (run {} evs).1 with parked := (run {} evs).1.parked - 1, opened := (run {} evs).1.opened + 1 },
          [.unused (4 * (run {} evs).1.opened), .remoteClosing]))) ∧
    ((clientAfter (processed evs)).stopped = false →
      step (run {} evs).1 .sendCall = ({ (run {} evs).1 with parked := (run {} evs).1.parked + 1 }, []) ∧
      ((run {} evs).1.parked ≠ 0 → step (run {} evs).1 .sendOpened =
        ({ (run {} evs).1 with parked := (run {} evs).1.parked - 1, opened := (run {} evs).1.opened + 1 },
          [.opened (4 * (run {} evs).1.opened)]))) ∧
    ((clientAfter (processed evs)).stopped = true → ∀ more, (∀ e ∈ more, ClientEv e) →
      (clientAfter (processed (evs ++ more))).stopped = true ∧
      step (run {} (evs ++ more)).1 .sendCall = ((run {} (evs ++ more)).1, [.remoteClosing]) ∧
      (∀ i, Obs.opened i ∉ (step (run {} (evs ++ more)).1 .sendOpened).2)) := by
  have key : ∀ evs : List Ev, (∀ e ∈ evs, ClientEv e) →
      absClient (run {} evs).1 = clientAfter (processed evs) := fun evs hc =>
    client_run evs {} [] [] hc (by simp) rfl (fun _ => rfl)
  have hclos : (run {} evs).1.closing = (clientAfter (processed evs)).stopped := congrArg Client.stopped (key evs hc)
  refine ⟨congrArg Client.err (key evs hc), ?_, hclos, ?_, ?_, ?_⟩
  · generalize (run {} evs).1 = s
    simp only [pollClose]
    split
    · simp [*]
    · split <;> simp [*]
  · intro hst
    have hcl : (run {} evs).1.closing = true := hclos.trans hst
    exact ⟨by simp [step, sendCall, hcl], fun hp => by simp [step, sendOpened, hcl, hp]⟩
  · intro hst
    have hcl : (run {} evs).1.closing = false := hclos.trans hst
    exact ⟨by simp [step, sendCall, hcl], fun hp => by simp [step, sendOpened, hcl, hp]⟩
  · intro hst more hm
    have hall : ∀ e ∈ evs ++ more, ClientEv e := fun e he => (List.mem_append.mp he).elim (hc e) (hm e)
    have hst' : (clientAfter (processed (evs ++ more))).stopped = true := by
      obtain ⟨y, hy⟩ := feed_prefix more (evs.foldl feed ([], []))
      have : processed (evs ++ more) = processed evs ++ y := by
        simp only [processed, List.foldl_append]; exact hy
      rw [this]
      simp only [clientAfter, List.foldl_append]
      exact clientStep_stopped y _ hst
    have hcl : (run {} (evs ++ more)).1.closing = (clientAfter (processed (evs ++ more))).stopped :=
      congrArg Client.stopped (key (evs ++ more) hall)
    have hcl' := hcl.trans hst'
    refine ⟨hst', by simp [step, sendCall, hcl'], fun i => ?_⟩
    simp only [step, sendOpened]
    split <;> simp

/-- What the client oracle says, without the fold: no H3_ID_ERROR ⇔ every identifier processed
    is a client-initiated bidirectional stream ID and the sequence never increases; new requests
    are stopped ⇔ a first GOAWAY was processed and was such an ID. -/
theorem C08_client_oracle (ids : List Nat) :
    ((clientAfter ids).err = false ↔
      (∀ id ∈ ids, clientBidi id = true) ∧ ids.Pairwise (fun a b => b ≤ a)) ∧
    ((clientAfter ids).stopped = true ↔ ∃ id r, ids = id :: r ∧ clientBidi id = true) := by
  constructor
  · have := clientFold_ok ids {} rfl
    simpa [clientAfter] using this
  · cases ids with
    | nil => simp [clientAfter]
    | cons id r =>
      simp only [clientAfter, List.foldl]
      by_cases hb : clientBidi id = true
      · have hs : clientStep {} id = { prev := some id, stopped := true } := by
          simp [clientStep, clientBad, hb]
        rw [hs]
        exact ⟨fun _ => ⟨id, r, rfl, hb⟩, fun _ => clientStep_stopped r _ rfl⟩
      · have hb' : clientBidi id = false := by simpa using hb
        have hs : clientStep {} id = { err := true } := by simp [clientStep, clientBad, hb']
        rw [hs, clientStep_err r _ rfl]
        constructor
        · intro h; cases h
        · rintro ⟨id', r', h1, h2⟩
          simp only [List.cons.injEq] at h1
          rw [← h1.1, hb'] at h2; cases h2

/-- **`shutdown` on a failed connection** (the repair of D-05s): once a connection error has been
    recorded (here: H3_ID_ERROR for a GOAWAY whose identifier increased) `shutdown(n)` reports it,
    writes no GOAWAY and changes nothing — `sent_closing` included, so the identifiers the peer has
    seen stay those `C08_server_line` has judged. -/
theorem C08_shutdown_on_failed_connection (s : State) (n : Nat) (hf : s.failed = true) :
    step s (.shutdown n) = (s, [.shutdownErr]) := by
  simp [step, hf]

/-! ### non-vacuity: concrete histories -/

-- a failed connection (the peer's GOAWAY identifier increased: H3_ID_ERROR): `shutdown` reports the
-- error `accept` reported and writes no GOAWAY (D-05s, repaired)
example : (run {} [.arrive 0, .accept, .recvGoaway 4, .accept, .recvGoaway 8, .accept, .shutdown 0, .shutdown 2]).2 =
    [.surfaced 0, .acceptPending, .acceptErr, .shutdownErr, .shutdownErr] := by decide +kernel
-- shutdown(0) after serving stream 0 announces 4 and refuses stream 4
example : (run {} [.arrive 0, .accept, .shutdown 0, .arrive 4, .accept]).2 =
    [.surfaced 0, .goaway 4, .shutdownOk, .rejected 4, .acceptPending] := by decide +kernel
-- out-of-order arrival: the identifier is based on the largest accepted ID, not the latest
example : (run {} [.arrive 8, .arrive 4, .accept, .accept, .shutdown 0]).2 =
    [.surfaced 8, .surfaced 4, .goaway 12, .shutdownOk] := by decide +kernel
-- grace interval, repeated shutdowns never raise the identifier; the last request done, a refusal ends accept
example : (run {} [.arrive 0, .accept, .shutdown 2, .shutdown 3, .shutdown 0, .arrive 4, .complete 0, .accept]).2 =
    [.surfaced 0, .goaway 12, .shutdownOk, .shutdownOk, .goaway 4, .shutdownOk, .rejected 4, .acceptNone] := by decide +kernel
-- nothing accepted yet: shutdown(2) still lets two requests in
example : (run {} [.shutdown 2, .arrive 0, .arrive 4, .arrive 8, .accept, .accept, .accept]).2 =
    [.goaway 8, .shutdownOk, .surfaced 0, .surfaced 4, .rejected 8, .acceptPending] := by decide +kernel
-- the hypothesis of `C08_server_line` is needed: at the last index the identifier cannot exceed the request
example : valid true {} (run {} [.arrive (2^62 - 4), .accept, .shutdown 5]).2 = false ∧
    valid false {} (run {} [.arrive (2^62 - 4), .accept, .shutdown 5]).2 = true := by decide +kernel
-- … and is satisfiable
example : ∀ e ∈ [Ev.arrive 8, .arrive 4, .accept, .shutdown 3], Below 3 e := by
  intro e he; simp at he; rcases he with rfl | rfl | rfl | rfl <;> simp [Below]
-- client: accepted GOAWAY gates send_request; a larger one afterwards is H3_ID_ERROR, the gate stays
example : (run {} [.sendCall, .sendOpened, .recvGoaway 8, .pollClose, .sendCall, .recvGoaway 12, .pollClose, .sendCall]).2 =
    [.opened 0, .drvPending, .remoteClosing, .idError, .remoteClosing] := by decide +kernel
-- client (the witness of D-08c): a call waits for stream credit, the GOAWAY is processed, the credit arrives: the call is
-- refused, stream 0 stays without a byte, and so is every later call; with the credit first the request goes out
example : (run {} [.sendCall, .recvGoaway 0, .pollClose, .sendOpened, .sendCall]).2 =
      [.drvPending, .unused 0, .remoteClosing, .remoteClosing] ∧
    (run {} [.sendCall, .sendOpened, .recvGoaway 0, .pollClose, .sendCall]).2 =
      [.opened 0, .drvPending, .remoteClosing] ∧
    (∀ e ∈ [Ev.sendCall, .recvGoaway 0, .pollClose, .sendOpened], ClientEv e) := by
  refine ⟨by decide +kernel, by decide +kernel, ?_⟩
  intro e he; simp at he; rcases he with rfl | rfl | rfl | rfl <;> simp [ClientEv]
-- client: a server-initiated ID is H3_ID_ERROR and does not gate
example : (run {} [.recvGoaway 3, .pollClose, .sendCall, .sendOpened]).2 = [.idError, .opened 0] := by decide +kernel
example : clientAfter [8, 4, 4, 0] = ⟨some 0, false, true⟩ ∧ (clientAfter [8, 4, 5]).err = true ∧
    (clientAfter [2]).stopped = false := by decide +kernel

end H3.Props.C08
