import H3.Model.ErrCell
import H3.Model.Setup
import H3.Lemmas.ErrCell
/-! # C05 — one connection error, seen everywhere, never lost between tasks

Most theorems are about `run registerFirst (init todo) sched`: an ARBITRARY number of stream
handles (`todo` gives, per handle, the errors its successive calls raise), an ARBITRARY schedule
(`List TaskId`: every interleaving, at the granularity of single operations on the shared state,
of driver polls/calls with the handles' calls), proved by invariants over the step relation and
induction over the schedule.  Two speak of one step from an arbitrary state (`C05_first_raise_installs`,
`C05_shutdown_step_is_the_check`), two of the driver's part of the error state alone (`H3.Setup.Drv`:
`C05_drop_keeps_first_close`, `C05_shutdown_after_error_writes_nothing`).  `registerFirst = true` is the model of the source tree with the
fix for D-05 (`register` before `get`), `false` of the tree before it.

PARTIAL (stated in the evidence): `OnceLock` and `AtomicWaker` are taken with their documented
linearizable semantics; their internals and weak-memory effects are not modelled. -/
namespace H3.Props.C05
open H3.ErrCell

/-- The cell changes at most once; every value returned to any handle, by any call, at any
    later time, is the cell's (the caller sees `convert` of it); every error the driver returns
    is `convert cell` and equals `handled`; `handled`, once set, stays for ever. `sched` is the
    history up to an arbitrary point, `later` everything that happens afterwards. -/
theorem C05_first_error_wins (rf : Bool) (todo : List (List Err)) (sched later : List TaskId) :
    let s := run rf (init todo) sched
    let s' := run rf (init todo) (sched ++ later)
    (∀ e, s.cell = some e → s'.cell = some e) ∧
    (∀ h, s.handled = some h → s'.handled = some h) ∧
    (∀ t ∈ s'.tasks, (∀ r ∈ t.rets, s'.cell = some r) ∧ (∀ r, t.mid = some r → s'.cell = some r)) ∧
    (∀ h ∈ s'.drets, s'.handled = some h ∧ ∃ e, s'.cell = some e ∧ h = convert e) ∧
    (∀ e, s.cell = some e →
      (∀ t ∈ s'.tasks, ∀ r ∈ t.rets, r = e) ∧ (∀ h ∈ s'.drets, h = convert e) ∧
      (∀ h, s'.handled = some h → h = convert e)) := by
  intro s s'
  have hs : InvW s := invW_run (invW_init todo) rf sched
  have hs' : InvW s' := invW_run (invW_init todo) rf (sched ++ later)
  have hrun : s' = run rf s later := run_append rf (init todo) sched later
  have hcell : ∀ e, s.cell = some e → s'.cell = some e := fun e h => by
    rw [hrun]; exact cell_run h rf later
  refine ⟨hcell, ?_, hs'.tasks_cell, ?_, ?_⟩
  · intro h hh; rw [hrun]; exact handled_run hs hh rf later
  · intro h hm
    have hh := hs'.drets_handled h hm
    obtain ⟨e, hc, he, _⟩ := hs'.handled_cell h hh
    exact ⟨hh, e, hc, he⟩
  · intro e he
    have hc' := hcell e he
    refine ⟨?_, ?_, ?_⟩
    · intro t ht r hr
      have := (hs'.tasks_cell t ht).1 r hr
      rw [hc'] at this; exact (Option.some.inj this).symm
    · intro h hm; exact (hs'.of_cell hc' (hs'.drets_handled h hm)).1
    · intro h hh; exact (hs'.of_cell hc' hh).1

example :
    let s := run true (init [[.internal 261 1], [.quic .timeout]])
      [.str 1, .drv .poll, .str 0, .drv .pce, .str 0, .str 1, .drv .pce]
    s.cell = some (.quic .timeout) ∧ s.handled = some .timeout ∧ s.drets = [.timeout] ∧
    s.tasks.map (·.rets) = [[.quic .timeout], [.quic .timeout]] := by decide +kernel

/-- *First* error: while the cell is empty no call of the driver but a raise changes it (`bidi`
    raises too: `C05_client_poll_close_tail`), and the first raise (a handle's store, or the driver
    detecting an error itself) installs exactly its own error. -/
theorem C05_first_raise_installs (rf : Bool) (s : State) (hc : s.cell = none) :
    (∀ i t e rest, s.tasks[i]? = some t → t.mid = none → t.todo = e :: rest →
      (step rf s (.str i)).cell = some e) ∧
    (∀ e, s.handled = none → (s.pc = .started ∨ s.pc = .armed) →
      let s' := step rf s (.drv (.det e))
      s'.cell = some e ∧ s'.handled = some (convert e) ∧ s'.drets = convert e :: s.drets ∧
      s'.closes = s.closes ++ (closeOf e).toList) ∧
    (∀ op, (∀ e, op ≠ .det e) → (∀ r, op ≠ .bidi r) → (step rf s (.drv op)).cell = none) := by
  refine ⟨?_, ?_, ?_⟩
  · intro i t e rest ht hm htodo
    simp [step, sstep, ht, hm, htodo, sset, hc]
  · intro e hn hp
    rcases hp with hp | hp <;> simp [step, dstep, hp, detect, hn, hc, observe]
  · -- the two halves of `poll_connection_error` and the check of `shutdown` only read the cell
    intro op hop hop'
    cases op with
    | det e => exact absurd rfl (hop e)
    | bidi r => exact absurd rfl (hop' r)
    | poll => simp only [step, dstep]; split <;> exact hc
    | park => simp only [step, dstep]; split <;> exact hc
    | shut =>
      simp only [step, dstep]
      split
      · exact (checkErr_cell s).trans hc
      · exact hc
    | pce =>
      simp only [step, dstep]
      split
      · exact (pceFirst_frame rf s).1.trans hc
      · exact (pceFirst_frame rf s).1.trans hc
      · exact (pceSecond_frame rf s).1.trans hc
      · exact hc

example :
    (step true (run true (init [[.internal 261 1], [.quic .timeout]]) [.drv .poll]) (.str 1)).cell
      = some (.quic .timeout) := by decide +kernel

example :
    let s := run false (init [[.internal 261 1]])
      [.drv .poll, .drv .pce, .drv .pce, .drv (.det (.quic (.internal 3))), .str 0, .str 0]
    -- the driver's own detection came first: the handle's later raise reports the driver's error
    s.cell = some (.quic (.internal 3)) ∧ s.closes = [(258, 3)] ∧
    s.tasks.map (·.rets) = [[.quic (.internal 3)]] := by decide +kernel

/-- Once `handled` is set, every later call of `poll_connection_error` and of
    `handle_connection_error` returns that error at once (it is never `Pending` again); for `bidi` see
    `C05_client_poll_close_tail`, for `shutdown` `C05_shutdown_reports_error`. -/
theorem C05_driver_reports_on_every_later_call (rf : Bool) (todo : List (List Err))
    (sched : List TaskId) (h : CErr) :
    let s := run rf (init todo) sched
    s.handled = some h → (s.pc = .started ∨ s.pc = .armed) →
    (∀ op, op = .pce ∨ (∃ e, op = .det e) →
      let s' := step rf s (.drv op)
      s'.drets = h :: s.drets ∧ s'.pc = .idle ∧ s'.closes = s.closes ∧ s'.cell = s.cell) := by
  intro s hh hp op hop
  rcases hop with rfl | ⟨e, rfl⟩ <;> rcases hp with hp | hp <;>
    simp [step, dstep, hp, pceFirst, detect, hh, retHandled]

example :
    let s := run true (init [[.quic .timeout]])
      [.str 0, .str 0, .drv .poll, .drv .pce, .drv .pce, .drv .poll, .drv .pce,
       .drv .poll, .drv (.det (.internal 257 2))]
    s.drets = [.timeout, .timeout, .timeout] ∧ s.closes = [] ∧ s.pc = .idle ∧
    s.cell = some (.quic .timeout) := by decide +kernel

/-- `close` is called at most once, only for a winner that was detected locally (an h3
    `InternalConnectionError`, closed with its own code, or an `InternalError` of the QUIC trait
    implementation, closed with H3_INTERNAL_ERROR), with exactly that code and reason — and it
    *is* called exactly then once the driver has seen the error; the call is never repeated or
    retracted later. -/
theorem C05_close_once_right_code (rf : Bool) (todo : List (List Err)) (sched later : List TaskId) :
    let s := run rf (init todo) sched
    let s' := run rf (init todo) (sched ++ later)
    s.closes.length ≤ 1 ∧
    (∀ c ∈ s.closes, ∃ e, s.cell = some e ∧ closeOf e = some c ∧ s.handled = some (convert e)) ∧
    (∀ h, s.handled = some h → ∃ e, s.cell = some e ∧ h = convert e ∧ s.closes = (closeOf e).toList) ∧
    (s.handled = none → s.closes = []) ∧
    (s.handled ≠ none → s'.closes = s.closes) ∧
    ((∀ code tag, closeOf (.internal code tag) = some (code, tag)) ∧
     (∀ tag, closeOf (.quic (.internal tag)) = some (H3.Gen.Consts.CODE_H3_INTERNAL_ERROR, tag)) ∧
     H3.Gen.Consts.CODE_H3_INTERNAL_ERROR = 0x0102 ∧
     (∀ code, closeOf (.quic (.appClose code)) = none) ∧ closeOf (.quic .timeout) = none ∧
     (∀ tag, closeOf (.quic (.undefined tag)) = none)) := by
  intro s s'
  have hs : InvW s := invW_run (invW_init todo) rf sched
  have hs' : InvW s' := invW_run (invW_init todo) rf (sched ++ later)
  have hrun : s' = run rf s later := run_append rf (init todo) sched later
  have hcl : s.handled = none ∧ s.closes = [] ∨
      ∃ e, s.cell = some e ∧ s.handled = some (convert e) ∧ s.closes = (closeOf e).toList := by
    cases hh : s.handled with
    | none => exact .inl ⟨rfl, hs.handled_none hh⟩
    | some h => obtain ⟨e, hc, rfl, hcl⟩ := hs.handled_cell h hh; exact .inr ⟨e, hc, rfl, hcl⟩
  refine ⟨?_, ?_, hs.handled_cell, hs.handled_none, ?_, ?_⟩
  · rcases hcl with ⟨_, h⟩ | ⟨e, _, _, h⟩ <;> rw [h]
    · exact Nat.zero_le 1
    · cases closeOf e <;> simp
  · intro c hc
    rcases hcl with ⟨_, h⟩ | ⟨e, hce, hh, h⟩ <;> rw [h] at hc
    · cases hc
    · exact ⟨e, hce, by simpa using hc, hh⟩
  · intro hne
    rcases hcl with ⟨h, _⟩ | ⟨e, hce, hh, h⟩
    · exact absurd h hne
    · have hh' : s'.handled = some (convert e) := by rw [hrun]; exact handled_run hs hh rf later
      have hce' : s'.cell = some e := by rw [hrun]; exact cell_run hce rf later
      rw [h, (hs'.of_cell hce' hh').2]
  · exact ⟨fun _ _ => rfl, fun _ => rfl, rfl, fun _ => rfl, rfl, fun _ => rfl⟩

example :
    let s := run true (init [[.quic (.internal 7)], [.internal 261 1]])
      [.drv .poll, .drv .pce, .drv .pce, .drv .park, .str 0, .str 1, .str 1, .str 0,
       .drv .poll, .drv .pce, .drv .pce, .drv .poll, .drv .pce, .drv (.det (.internal 262 9))]
    s.closes = [(258, 7)] ∧ s.handled = some (.remote (.internal 7)) ∧
    s.drets = [.remote (.internal 7), .remote (.internal 7)] := by decide +kernel

example :
    let s := run true (init [[.quic (.appClose 256)], [.internal 261 1]])
      [.str 0, .str 1, .drv .poll, .drv .pce, .drv .pce, .str 0, .str 1]
    s.closes = [] ∧ s.handled = some (.remote (.appClose 256)) := by decide +kernel

/-- No lost wake-up, for the order `register; get` (the source after the fix for D-05): in every
    reachable state in which every task is at a yield point (the driver is not inside a poll, no
    handle is between its store and its wake) and the cell is set, a parked driver has a
    notification pending (`woken`), i.e. an executor will poll it again — and such a poll
    returns the error (second part: from any reachable state with the cell set, a poll that runs
    one `poll_connection_error` call to completion, however the handles' steps `mid₁`, `mid₂`
    are interleaved with it, ends with the driver having reported the error). -/
theorem C05_no_lost_wakeup (todo : List (List Err)) (sched : List TaskId) :
    let s := run true (init todo) sched
    lostWakeup s = false ∧
    (quiescent s = true → s.cell ≠ none → s.parked = true → s.woken = true) ∧
    (s.parked = true → s.handled = none ∧ s.pc = .idle) ∧
    (∀ e, s.cell = some e → s.pc = .idle → ∀ mid₁ mid₂ : List Nat,
      let s' := run true s ([.drv .poll] ++ mid₁.map .str ++ [.drv .pce] ++ mid₂.map .str ++ [.drv .pce])
      s'.handled = some (convert e) ∧ s'.pc = .idle ∧ s'.parked = false ∧
      ∃ rest, s'.drets = convert e :: rest) := by
  intro s
  have hw : InvW s := invW_run (invW_init todo) true sched
  have ht : InvT s := invT_run (invT_init todo) sched
  have hl := invT_not_lost ht
  refine ⟨hl, ?_, ?_, ?_⟩
  · intro hq hc hp
    cases hwk : s.woken with
    | true => rfl
    | false =>
      have hcs : s.cell.isSome = true := by cases h : s.cell <;> simp_all
      simp [lostWakeup, hq, hcs, hp, hwk] at hl
  · -- a parked driver is idle and has not handled an error: `park` is only reachable from `armed`
    exact fun hp => (invP_run (invW_init todo) (invP_init todo) true sched hp).symm
  · intro e hc hidle mid₁ mid₂
    exact poll_reports hw hc hidle mid₁ mid₂

example :
    let s := run true (init [[.internal 261 1]])
      [.drv .poll, .drv .pce, .str 0, .str 0, .drv .pce, .drv .park]
    -- the D-05 interleaving on the fixed order: the check comes after the store, the driver
    -- reports the error instead of parking
    s.handled = some (.localApp 261 1) ∧ s.parked = false ∧ s.closes = [(261, 1)] := by decide +kernel

example :
    let s := run true (init [[.internal 261 1]])
      [.drv .poll, .drv .pce, .drv .pce, .drv .park, .str 0, .str 0]
    -- parked first, error afterwards: the wake finds the registered waker
    quiescent s = true ∧ s.parked = true ∧ s.cell ≠ none ∧ s.woken = true := by decide +kernel

/-- For the order `get; register` (the source before the fix, D-05) the property is false: after
    the poll has started, the five steps  check (empty) · store · wake (no waker registered) ·
    register · return `Pending`  leave every task at a yield point, the cell set, the driver
    parked and nothing to wake it. -/
theorem C05_lost_wakeup_witness :
    let s := run false (init [[.internal 261 1]])
      [.drv .poll, .drv .pce, .str 0, .str 0, .drv .pce, .drv .park]
    lostWakeup s = true ∧ quiescent s = true ∧ s.cell = some (.internal 261 1) ∧
    s.parked = true ∧ s.woken = false ∧ s.handled = none ∧ s.closes = [] ∧ s.drets = [] ∧
    s.tasks.map (·.rets) = [[.internal 261 1]] := by decide +kernel

/-- **The end of a poll of client `poll_close` / `wait_idle`.**  Its last act is
    `if poll_accept_bi(cx).is_ready() { return handle_connection_error(H3_STREAM_CREATION_ERROR) }`,
    and `poll_accept_bi` is also `Ready` when the transport failed (it has then raised the transport's
    error itself) — `DOp.bidi r`, `clientTail`.  In every reachable state (any handles, errors,
    schedule, either order of register/check) in which the driver is inside a poll, that step ends
    the poll (never parked) with the connection's single error `w`: the error already in the cell if
    there is one — whoever stored it, a handle between the driver's last check and this point
    included: neither the transport's error nor H3_STREAM_CREATION_ERROR replaces it —, otherwise
    the transport's error, otherwise H3_STREAM_CREATION_ERROR; the call returns `convert w`,
    `handled` is that, and the close calls are exactly `closeOf w` (so at most one, with the
    winner's code, none for an error of the peer/transport); an error handled before stays and
    nothing more is closed. -/
theorem C05_client_poll_close_tail (rf : Bool) (todo : List (List Err)) (sched : List TaskId)
    (r : Option QErr) :
    let s := run rf (init todo) sched
    let s' := step rf s (.drv (.bidi r))
    (s.pc = .started ∨ s.pc = .armed) →
    s'.pc = .idle ∧ s'.parked = false ∧
    ∃ w, s'.cell = some w ∧ s'.handled = some (convert w) ∧ s'.closes = (closeOf w).toList ∧
      (∃ rest, s'.drets = convert w :: rest) ∧
      (∀ e, s.cell = some e → w = e) ∧
      (s.cell = none → w = match r with | some q => .quic q | none => clientBidiErr) ∧
      (∀ h, s.handled = some h → h = convert w ∧ s'.closes = s.closes) := by
  intro s s' hp
  have hw : InvW s := invW_run (invW_init todo) rf sched
  have hP : InvP s := invP_run (invW_init todo) (invP_init todo) rf sched
  have hs' : s' = clientTail s r := by
    show step rf s (.drv (.bidi r)) = _
    rcases hp with hp | hp <;> simp [step, dstep, hp]
  -- the step in closed form: everything is read off the winner `s.cell.getD …`
  obtain ⟨u, hu, hpk⟩ := clientTail_eq hw r
  rw [hs', hu]
  refine ⟨rfl, hpk.trans (not_parked (fun h => (hP h).1) (ne_idle hp)), _, rfl, rfl, rfl, ⟨_, rfl⟩, ?_, ?_, ?_⟩
  · intro e he; rw [he]; rfl
  · intro hn; rw [hn]; rfl
  · intro h0 hh0
    obtain ⟨e0, hc0, hhe0, hcl0⟩ := hw.handled_cell h0 hh0
    rw [hc0]; exact ⟨hhe0, hcl0.symm⟩

-- a handle stores its error after the driver's last check of the poll and before the client is
-- handed a server-initiated stream: the handle's error is the outcome, closed with ITS code
example :
    let s := run true (init [[.internal 261 1]])
      [.drv .poll, .drv .pce, .drv .pce, .str 0, .drv (.bidi none), .str 0, .drv .poll, .drv .pce]
    s.cell = some (.internal 261 1) ∧ s.closes = [(261, 1)] ∧
    s.drets = [.localApp 261 1, .localApp 261 1] ∧ s.tasks.map (·.rets) = [[.internal 261 1]] := by decide +kernel
-- nothing before: the transport's error wins over the H3_STREAM_CREATION_ERROR raised behind it
-- (two `handle_connection_error` calls, one outcome, no close for a peer's close); a stream: 0x0103
example :
    let s := run true (init [[]]) [.drv .poll, .drv .pce, .drv .pce, .drv (.bidi (some (.appClose 256)))]
    s.cell = some (.quic (.appClose 256)) ∧ s.closes = [] ∧
    s.drets = [.remote (.appClose 256), .remote (.appClose 256)] := by decide +kernel
example :
    let s := run true (init [[]]) [.drv .poll, .drv .pce, .drv .pce, .drv (.bidi none)]
    s.cell = some (.internal 259 0) ∧ s.closes = [(259, 0)] ∧ s.drets = [.localApp 259 0] := by decide +kernel

/-! ## the application drops the driver (reading R-05) -/

/-- **`Drop` never touches the first close call.**  `Drop for server::Connection` calls
    `close(H3_NO_ERROR)` unconditionally (`H3.Setup.dropConn`).  The property's "the QUIC connection
    is closed with exactly that error's code" speaks about the call that closes the connection, the
    first one (reading R-05: a `close` on a closed QUIC connection changes nothing the peer sees).
    Whatever the driver's error state: the drop appends at most one call (H3_NO_ERROR = 0x0100, server
    only — the client's driver has no `Drop`) and leaves `handled` alone; a first close call there
    was stays the first; and once the driver has acted on an error `e` (`raise` on a driver that had
    none), the calls are `closeCode e` followed by the drop's — so for an error detected locally the
    first call, the one that closes the connection, carries exactly that error's code, and for an
    error of the peer / the transport the drop's call is the only one. -/
theorem C05_drop_keeps_first_close (server : Bool) (d : H3.Setup.Drv) :
    (H3.Setup.dropConn server d).closes = d.closes ++ (if server then [0x0100] else []) ∧
    (H3.Setup.dropConn server d).handled = d.handled ∧
    (∀ c, d.closes.head? = some c → (H3.Setup.dropConn server d).closes.head? = some c) ∧
    (∀ e, d.handled = none → d.closes = [] →
      (H3.Setup.dropConn server (H3.Setup.raise d e).1).closes
        = H3.Setup.closeCode e ++ (if server then [0x0100] else []) ∧
      (∀ c t, closeOf e = some (c, t) →
        (H3.Setup.dropConn server (H3.Setup.raise d e).1).closes.head? = some c)) := by
  refine ⟨?_, ?_, ?_, ?_⟩
  · cases server <;> simp [H3.Setup.dropConn, H3.Gen.Consts.CODE_H3_NO_ERROR]
  · cases server <;> simp [H3.Setup.dropConn]
  · intro c hc
    cases hcl : d.closes with
    | nil => rw [hcl] at hc; cases hc
    | cons a r => rw [hcl] at hc; cases server <;> simp_all [H3.Setup.dropConn]
  · intro e hn hcl
    refine ⟨?_, ?_⟩
    · cases server <;> simp [H3.Setup.dropConn, H3.Setup.raise, hn, hcl, H3.Gen.Consts.CODE_H3_NO_ERROR]
    · intro c t hce
      cases server <;> simp [H3.Setup.dropConn, H3.Setup.raise, hn, hcl, H3.Setup.closeCode, hce]

-- the witness of R-05 on the model: H3_FRAME_UNEXPECTED handled, then the server object is dropped:
-- `closed=[261,256]`; a peer's close, then the drop: `[256]`; a client: nothing added
example : (H3.Setup.dropConn true (H3.Setup.raise {} (.internal 261 0)).1).closes = [261, 256] ∧
    (H3.Setup.dropConn true (H3.Setup.raise {} (.quic (.appClose 256))).1).closes = [256] ∧
    (H3.Setup.dropConn false (H3.Setup.raise {} (.internal 259 0)).1).closes = [259] := by decide +kernel

/-! ## `shutdown` (D-05s, repaired): the driver's remaining entry point reports the error too -/

/-- **`shutdown` reports the connection's error.**  `ConnectionInner::shutdown` starts with
    `check_connection_error` (`H3.Setup.checkError`).  In every state the system can reach — any
    number of handles, any errors, any schedule — with the cell holding `e` (whoever stored it: the
    driver or a request handle on another task, handled by the driver already or not):
    the check answers `convert e`, the error every other call reports; afterwards `handled` is
    that error, the cell is unchanged, and the close calls are exactly `closeOf e` — one call with
    the error's code if it was detected locally, none otherwise, never a second one.  With the
    cell empty the check answers nothing and changes nothing. -/
theorem C05_shutdown_reports_error (rf : Bool) (todo : List (List Err)) (sched : List TaskId) :
    let s := run rf (init todo) sched
    (∀ e, s.cell = some e →
      (H3.Setup.checkError s).2 = some (convert e) ∧
      (H3.Setup.checkError s).1.handled = some (convert e) ∧
      (H3.Setup.checkError s).1.closes = (closeOf e).toList ∧
      (H3.Setup.checkError s).1.cell = some e) ∧
    (s.cell = none → H3.Setup.checkError s = (s, none)) := by
  intro s
  have hs : InvW s := invW_run (invW_init todo) rf sched
  refine ⟨fun e hc => ?_, fun hc => ?_⟩
  · cases hh : s.handled with
    | some h =>
      obtain ⟨hh', hcl⟩ := hs.of_cell hc hh
      simp [H3.Setup.checkError, hh, hh', hcl, hc]
    | none =>
      simp [H3.Setup.checkError, hh, hc, hs.handled_none hh]
  · cases hh : s.handled with
    | some h =>
      obtain ⟨e', hc', _, _⟩ := hs.handled_cell h hh
      rw [hc] at hc'; cases hc'
    | none => simp [H3.Setup.checkError, hh, hc]

/-- **The executable `shutdown` step is that check.**  `DOp.shut` — the label `D.shut` of engine
    `cell`, where the harness calls the real `shutdown()` (modes `acc`/`clo`/`idl`) resp. the real
    `check_connection_error` (mode `pce`) — changes the shared state exactly as `H3.Setup.checkError`
    says, in *every* state in which the driver is not inside a poll (reachable or not): same cell,
    same `handled`, same close calls, the answer is what the call returns, nothing else that other
    tasks can see (tasks, waker, notification) is touched.  So `C05_shutdown_reports_error` is a
    statement about the step the correspondence run executes. -/
theorem C05_shutdown_step_is_the_check (rf : Bool) (s : State) (hp : s.pc = .idle) :
    let s' := step rf s (.drv .shut)
    s'.cell = (H3.Setup.checkError s).1.cell ∧ s'.handled = (H3.Setup.checkError s).1.handled ∧
    s'.closes = (H3.Setup.checkError s).1.closes ∧
    s'.drets = (H3.Setup.checkError s).2.toList ++ s.drets ∧
    s'.tasks = s.tasks ∧ s'.waker = s.waker ∧ s'.woken = s.woken ∧ s'.pc = .idle ∧
    ((H3.Setup.checkError s).2 = none → s' = s) := by
  simp only [step, dstep, hp, checkErr, H3.Setup.checkError]
  cases hh : s.handled with
  | some h => simp [retHandled]
  | none =>
    cases hc : s.cell with
    | some e => simp [observe, hc]
    | none => simp [hp]

private def Alone (s : State) : Prop := s.tasks = [] ∧ (s.cell = none ∨ s.handled ≠ none)

/-- a driver that shares the error state with nobody: no handle exists, so whatever is in the cell
    was put there by the driver itself and has been handled -/
theorem cell_handled_alone (rf : Bool) (sched : List TaskId) :
    let s := run rf (init []) sched
    s.tasks = [] ∧ (s.cell = none ∨ s.handled ≠ none) := by
  -- kept by every step: without a handle `sstep` does nothing, and the driver writes the cell only
  -- in `observe`, which sets `handled`
  refine run_keeps (P := Alone) (fun s l hs => ?_) ⟨rfl, Or.inl rfl⟩ sched
  have ht := hs.1
  have obs : ∀ (u : State) (e : Err), u.tasks = [] → Alone (observe u e) := fun u e hu => ⟨hu, Or.inr nofun⟩
  have chk' : ∀ next, Alone (chk s next) := fun next => by
    unfold chk
    split
    · exact obs s _ ht
    · exact hs
  have det : ∀ (u : State) (e : Err), Alone u → Alone (detect u e) := fun u e hu => by
    unfold detect
    split
    · exact hu
    · exact obs _ _ hu.1
  cases l with
  | str i => simp only [step, sstep, ht, List.getElem?_nil]; exact hs
  | drv op =>
    refine dstep_cases (C := Alone) hs (fun _ => hs) (fun _ => ?_) (fun _ => ?_) (fun _ => ?_)
      (fun e _ => det s e hs) (fun r _ => ?_) (fun _ => hs) op
    · unfold checkErr
      split
      · exact hs
      · split
        · exact obs s _ ht
        · exact hs
    · unfold pceFirst
      split
      · exact hs
      · split
        · exact hs
        · exact chk' _
    · unfold pceSecond
      split
      · exact chk' _
      · exact hs
    · unfold clientTail
      cases r with
      | none => exact det s _ hs
      | some q => exact det _ _ (det s _ hs)

/-- **`shutdownPlan` (engine `flt5`) decides with the same check.**  The whole-connection model of
    `flt` / `flt5` keeps only the driver's part of the error state (`H3.Setup.Drv`: `handled`, close
    codes) and lets `shutdownPlan` look at `handled` alone.  That is `check_connection_error` on every
    state such a connection can reach: with no request handle on the shared state (any driver calls,
    any detections, either order) the cell is empty or handled, so the plan made from the shared
    state's check (`shutdownPlanShared`: cell AND handled — what engine `hnd5` uses, where real
    request handles write the cell) is the plan made from `handled`. -/
theorem C05_shutdownPlan_is_the_check (rf : Bool) (sched : List TaskId) (keeps : Bool) :
    let s := run rf (init []) sched
    H3.Setup.shutdownPlanShared s keeps =
      H3.Setup.shutdownPlan { handled := s.handled, closes := s.closes.map (·.1) } keeps := by
  intro s
  have h := (cell_handled_alone rf sched).2
  simp only [H3.Setup.shutdownPlanShared, H3.Setup.shutdownPlan, H3.Setup.checkError]
  cases hh : s.handled with
  | some x => rfl
  | none =>
    rcases h with h | h
    · have hc : s.cell = none := h
      simp [hc]
    · exact absurd hh h

-- a handle has stored, the driver has not looked: the shared check reports, `handled` alone would not
example :
    let s := run true (init [[.internal 261 1]]) [.str 0, .str 0]
    H3.Setup.shutdownPlanShared s false = .report (.localApp 261 1) ∧
    H3.Setup.shutdownPlan { handled := s.handled, closes := [] } false = .write ∧
    (step true s (.drv .shut)).drets = [.localApp 261 1] ∧ (step true s (.drv .shut)).closes = [(261, 1)] := by
  decide +kernel

/-- **… and then does nothing else.**  Once the driver has handled an error `h`, `shutdown` answers
    `h` whatever GOAWAY was or was not sent before and whatever the transport would answer: it
    decides `report h` before it looks at `sent_closing` or touches the control stream — no GOAWAY
    is written to a connection that has failed, no further close call is made.  Without an error:
    `Ok(())` at once if an identifier that is not larger was announced before, else the write. -/
theorem C05_shutdown_after_error_writes_nothing (d : H3.Setup.Drv) (h : CErr) (keeps : Bool)
    (w : Option H3.Setup.SErr) (hd : d.handled = some h) :
    H3.Setup.shutdownPlan d keeps = .report h ∧ H3.Setup.shutdownEntry d keeps w = (d, some h) ∧
    (∀ d' : H3.Setup.Drv, d'.handled = none →
      H3.Setup.shutdownPlan d' true = .nothing ∧ H3.Setup.shutdownPlan d' false = .write) := by
  refine ⟨by simp [H3.Setup.shutdownPlan, H3.Setup.shutdownPlanOf, hd],
    by simp [H3.Setup.shutdownEntry, H3.Setup.shutdownPlan, H3.Setup.shutdownPlanOf, hd], ?_⟩
  intro d' hd'
  simp [H3.Setup.shutdownPlan, H3.Setup.shutdownPlanOf, hd']

-- the D-05s witnesses on the models, now reporting the error: a handle stored a timeout, `accept`
-- has not looked yet — `shutdown` reports it (nothing to close); h3 closed with H3_FRAME_UNEXPECTED
-- — `shutdown` answers that error, before and after a GOAWAY was announced
example :
    let s := run true (init [[.quic .timeout]]) [.str 0, .str 0]
    (H3.Setup.checkError s).2 = some .timeout ∧ (H3.Setup.checkError s).1.closes = [] := by decide +kernel
example :
    let s := run true (init [[.internal 261 1]]) [.drv .poll, .drv .pce, .str 0, .str 0, .drv .pce]
    (H3.Setup.checkError s).2 = some (.localApp 261 1) ∧ (H3.Setup.checkError s).1.closes = [(261, 1)] := by decide +kernel
example : H3.Setup.shutdownEntry { handled := some (.localApp 0x0105 0), closes := [0x0105] } false none =
    ({ handled := some (.localApp 0x0105 0), closes := [0x0105] }, some (.localApp 0x0105 0)) ∧
    H3.Setup.shutdownEntry { handled := some .timeout } true none = ({ handled := some .timeout }, some .timeout) := by
  decide +kernel

end H3.Props.C05
