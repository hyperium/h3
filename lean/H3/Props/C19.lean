import H3.Model.Session
import H3.Model.FrameStream
import H3.Props.C16
import H3.Props.C02
import H3.Props.C04
import H3.Lemmas.C19
import H3.Lemmas.C19IO
import H3.Lemmas.C19Live
import H3.Lemmas.VarintSpec
/-! # C19 — WebTransport streams stay attached to their session, bytes intact

Model: `H3.Session` (`webtransport/session_id.rs`, the stream headers of `open_bi` / `open_uni`, the gate in
`poll_accept_recv`) over `H3.FS` and `H3.UniAccept`; the header a reader must find is the RFC 9000 §16 varint of
the session's stream ID.  The file begins with what one pass of the accept loop keeps (`entry`, `waits`, `held`,
`run_closed`), which `C19_gated` and `C19_buffered_streams_keep_identity` rest on. -/
namespace H3.Props.C19
open H3.Session H3.Varint H3.Gen.Consts

private theorem dec_enc (x : Nat) (hx : x < 2^62) (rest : Bytes) :
    Varint.decode (Varint.encode x ++ rest) = .ok x rest :=
  (H3.Props.C16.C16_decode_encode x hx rest).1

/-- The session id is the CONNECT stream's id: conversions are the identity on the number, the
    id reported for an accepted session is that stream id, and the header h3 writes at the start
    of every stream it opens for the session parses (RFC 9000 varints) to the WebTransport
    stream type followed by exactly that id — for every id, multi-byte varint ids included. -/
theorem C19_session_id_is_stream_id (id : Nat) (hid : id < 2^62) (rest : Bytes) :
    acceptedSessionId id = id ∧ toStream (ofStream id) = id ∧ ofStream (toStream id) = id ∧
    Varint.decode (bidiHeader id ++ rest) = .ok 0x41 (Varint.encode id ++ rest) ∧
    Varint.decode (Varint.encode id ++ rest) = .ok id rest ∧
    Varint.decode (uniHeader id ++ rest) = .ok 0x54 (Varint.encode id ++ rest) := by
  refine ⟨rfl, rfl, rfl, ?_, dec_enc id hid rest, ?_⟩
  · simp only [bidiHeader, List.append_assoc]
    exact dec_enc _ (by decide) _
  · simp only [uniHeader, List.append_assoc]
    exact dec_enc _ (by decide) _

example : bidiHeader 4 = [0x40, 0x41, 0x04] ∧ uniHeader 65536 = [0x40, 0x54, 0x80, 0x01, 0x00, 0x00] := by
  decide

/-- An incoming bidirectional stream that starts with the header for session `s` is decoded
    by the frame layer as the WebTransport frame carrying exactly `s`, consuming exactly the
    header, whatever payload follows. -/
theorem C19_bidi_header_decodes (s : Nat) (hs : s < 2^62) (payload : Bytes) :
    H3.Frame.decode (bidiHeader s ++ payload) =
      .frame (.webTransport s) (bidiHeader s).length :=
  (H3.Frame.decode_hdr _ s (by decide) hs payload).trans (if_pos rfl)

example : H3.Frame.decode (bidiHeader 256 ++ [1, 2, 3]) = .frame (.webTransport 256) 4 := by decide +kernel

private theorem uniFate_false (evs : List H3.FS.Ev) (id : Nat) (rd : Rd) (sc : List H3.FS.Ev) :
    uniFate false evs ≠ .surface id rd sc := by
  unfold uniFate
  split
  · split
    · simp
    · simp
  · simp
  · simp
  · simp

/-- the entry one pass of `poll_accept_recv` pushes for a stream, if it pushes one -/
def entry (en : Bool) (u : UniIn) : Option WtUni :=
  match uniFate en u.evs with
  | .surface id rd sc => some ⟨u.stream, id, rd, sc⟩
  | _ => none

/-- the stream stays in `pending_recv_streams` -/
def waits (en : Bool) (u : UniIn) : Bool :=
  match uniFate en u.evs with
  | .wait => true
  | _ => false

/-- what `wt_uni_streams` holds once `poll_accept_recv` has run -/
def held (en : Bool) (a : Accepted) : List WtUni := a.wt ++ a.pending.filterMap (entry en)

def arrivals : List AOp → List UniIn
  | [] => []
  | .arrive u :: r => u :: arrivals r
  | .accept :: r => arrivals r

theorem fold_closed (en : Bool) (l : List UniIn) (acc : Accepted) :
    l.foldl (Accepted.passOne en) acc =
      ⟨acc.pending ++ l.filter (waits en), acc.wt ++ l.filterMap (entry en)⟩ := by
  induction l generalizing acc with
  | nil => simp
  | cons u r ih =>
    rw [List.foldl_cons, ih]
    cases h : uniFate en u.evs <;> simp [Accepted.passOne, waits, entry, h]

/-- A stream's fate depends on its own events alone, so a pass has a closed form. -/
theorem pass_closed (en : Bool) (a : Accepted) :
    a.pass en = ⟨a.pending.filter (waits en), held en a⟩ := by
  unfold Accepted.pass held
  rw [fold_closed]
  simp

theorem entry_of_waits (en : Bool) (l : List UniIn) : (l.filter (waits en)).filterMap (entry en) = [] := by
  rw [List.filterMap_eq_nil_iff]
  intro u hu
  have := (List.mem_filter.mp hu).2
  cases h : uniFate en u.evs <;> simp [waits, entry, h] at this ⊢

private theorem popLast_cases {α} (l : List α) :
    (l = [] ∧ popLast l = none) ∨ ∃ r x, l = r ++ [x] ∧ popLast l = some (x, r) := by
  rcases List.eq_nil_or_concat l with rfl | ⟨r, x, rfl⟩
  · exact .inl ⟨rfl, rfl⟩
  · exact .inr ⟨r, x, by simp, by simp [popLast]⟩

/-- A permutation, not an equation: `accept_uni` pops the entry pushed last. -/
theorem run_closed (en : Bool) (ops : List AOp) : ∀ a : Accepted,
    List.Perm ((runAccepts en a ops).1 ++ held en (runAccepts en a ops).2)
      (a.wt ++ (a.pending ++ arrivals ops).filterMap (entry en)) ∧
    (runAccepts en a ops).2.pending.filter (waits en) = (a.pending ++ arrivals ops).filter (waits en) := by
  induction ops with
  | nil => intro a; simp only [arrivals, List.append_nil]; exact ⟨.refl _, rfl⟩
  | cons op r ih =>
    intro a
    cases op with
    | arrive u =>
      have := ih (a.arrive u)
      simp only [Accepted.arrive, List.append_assoc] at this
      exact this
    | accept =>
      -- the call runs a pass (`pass_closed`) and pops the last entry held, if there is one
      have key := fun w => ih ⟨a.pending.filter (waits en), w⟩
      simp only [List.filterMap_append, entry_of_waits, List.filter_append, List.filter_filter,
        Bool.and_self, List.nil_append] at key
      simp only [runAccepts, arrivals, Accepted.acceptUni, pass_closed]
      rw [List.filterMap_append, ← List.append_assoc, List.filter_append, ← held]
      rcases popLast_cases (held en a) with ⟨_, hpop⟩ | ⟨w, x, hl, hpop⟩ <;> simp only [hpop]
      · exact key _
      · rw [hl, List.append_assoc]
        exact ⟨((key w).1.cons x).trans List.perm_middle.symm, (key w).2⟩

theorem entry_false (l : List UniIn) : l.filterMap (entry false) = [] := by
  rw [List.filterMap_eq_nil_iff]
  intro u _
  simp only [entry]
  split
  · exact absurd ‹_› (uniFate_false _ _ _ _)
  · rfl

/-- **The gate, over the running model.**  With the extension disabled (`enable_webtransport =
    false`): (1) whatever a uni stream delivers, the pass of `poll_accept_recv` over it never takes
    the `WebTransportUni(id, s) if enable_webtransport` arm (`uniFate false` is never `surface`);
    (2) for EVERY sequence of arrivals (any streams, any events on them) and `accept_uni` polls, in
    any interleaving, starting from any state with an empty `wt_uni_streams`: no `accept_uni` ever
    surfaces a stream and nothing is ever pushed on `wt_uni_streams`.  (3) Conversely, with the
    extension enabled a stream is surfaced only if `poll_type` resolved it and `into_stream`
    classified it as the WebTransport uni type, with the session id it is surfaced under. -/
theorem C19_gated :
    (∀ evs id rd sc, uniFate false evs ≠ .surface id rd sc) ∧
    (∀ (a : Accepted) (ops : List AOp), a.wt = [] →
      (runAccepts false a ops).1 = [] ∧ (runAccepts false a ops).2.wt = []) ∧
    (∀ evs id rd sc, uniFate true evs = .surface id rd sc →
      ∃ s rest, UniAccept.resolve (evs.length + 1) {} evs = .resolved s rest ∧
        UniAccept.intoStream s = some (.wtUni id)) := by
  refine ⟨uniFate_false, fun a ops h => ?_, ?_⟩
  · simpa [held, entry_false, h] using (run_closed false ops a).1
  intro evs id rd sc h
  unfold uniFate at h
  split at h
  · rename_i s rest hres
    split at h
    · rename_i id' hi
      simp only [if_true, UniFate.surface.injEq] at h
      exact ⟨s, rest, hres, by rw [hi, h.1]⟩
    · cases h
  · cases h
  · cases h
  · cases h

/-! non-vacuity: two WebTransport uni streams (QUIC ids 6 and 10, sessions 4 and 8, the second with
    FIN behind its payload) arrive and `accept_uni` is polled three times: with the extension off
    nothing is surfaced and `wt_uni_streams` stays empty; with it on both are surfaced -/
example : (runAccepts false {} [.arrive ⟨6, [.chunk [0x40, 0x54, 0x04, 0xaa]]⟩, .accept,
      .arrive ⟨10, [.chunk [0x40, 0x54, 0x08, 0xbb], .fin]⟩, .accept, .accept]).1 = [] ∧
    (runAccepts false {} [.arrive ⟨6, [.chunk [0x40, 0x54, 0x04, 0xaa]]⟩, .accept,
      .arrive ⟨10, [.chunk [0x40, 0x54, 0x08, 0xbb], .fin]⟩, .accept, .accept]).2.wt = [] :=
  C19_gated.2.1 {} _ rfl
example : (runAccepts false {} [.arrive ⟨6, [.chunk [0x40, 0x54, 0x04, 0xaa]]⟩, .accept,
      .arrive ⟨10, [.chunk [0x40, 0x54, 0x08, 0xbb], .fin]⟩, .accept, .accept]) = ([], {}) := by decide +kernel
example : (runAccepts true {} [.arrive ⟨6, [.chunk [0x40, 0x54, 0x04, 0xaa]]⟩, .accept,
      .arrive ⟨10, [.chunk [0x40, 0x54, 0x08, 0xbb], .fin]⟩, .accept, .accept]).1.map
        (fun e => (e.stream, e.session)) = [(6, 4), (10, 8)] := by decide +kernel
example : uniFate true [.chunk [0x40, 0x54, 0x08, 0xbb], .fin] =
    .surface 8 { buf := [[0xbb]] } [.fin] := by decide +kernel

/-- `readAll` is, by definition, the buffered remainder followed by what the transport delivers
    later.  (It does not look at FIN / RESET; what the `poll_read` calls report is `readLim`,
    `C19_limited_reader` below.) -/
theorem C19_read_after_header (buffered later : List (List Nat)) :
    readAll buffered later = buffered.flatten ++ later.flatten := by
  simp [readAll]

section bidi
open H3.FS

theorem reach_of_pollUntil {sc : List Ev} {o : FOut} {s : FS.St} {r : List Ev} (fuel : Nat)
    (h : pollUntil frameDec fuel {} sc = (o, s, r)) (hne : o.isErr = false) :
    Reach frameDec sc o.toks s r := by
  simpa using pollUntil_reach frameDec sc fuel [] {} sc Reach.init o s r h hne

theorem reach_run {sc0 : List Ev} (hsc : ScriptOK sc0) {toks : List (FS.Tok Frame.Frame Frame.FrameErr)}
    {s : FS.St} {script : List Ev} (h : Reach frameDec sc0 toks s script) :
    ∃ consumed, consumed ++ (s.flat ++ evBytes script) = evBytes sc0 ∧
      run frameDec (.hdr []) consumed = (PSt.ofRem s.remaining, toks) := by
  obtain ⟨taken, hsc0, hI⟩ := H3.Props.C02.C02_chunking_independent frameDec frameDec_laws sc0 hsc h
  obtain ⟨consumed, hseen, hrun⟩ := hI.split
  exact ⟨consumed, by rw [hsc0, evBytes_append, hseen, List.append_assoc], hrun⟩

/-- **Bidirectional streams, any encoding of the header.**  `hdr` is any byte string the frame
    decoder reads as the WebTransport header of session `sid` whatever follows it (the header
    `open_bi` writes, `C19_bidi_header_decodes`; but also one whose varints the peer wrote in a
    longer form than necessary).  The transport delivers `hdr ++ payload` cut in ANY way (`sc0`:
    header and payload in one chunk, cuts inside either varint, `Pending` anywhere).  `poll_next`
    is polled until it answers the WebTransport frame — any configuration of the `FrameStream`
    model in which exactly the token `frame (webTransport x)` has been handed out.  Then the frame
    carries the session id of the header, the stream is in raw mode (`remaining_data =
    usize::MAX`), and the bytes still buffered followed by the bytes the transport has still to
    deliver are exactly the payload: nothing of it was consumed with the header, nothing of the
    header is left (this is what `FrameStream::into_inner()` hands to the WebTransport stream). -/
theorem C19_payload_after_any_header (sid : Nat) (hdr payload : List Nat)
    (hdec : ∀ p, H3.Frame.decode (hdr ++ p) = .frame (.webTransport sid) hdr.length)
    (hlen : payload.length < 2^64) (sc0 : List Ev) (hsc : ScriptOK sc0)
    (hbytes : evBytes sc0 = hdr ++ payload)
    {x : Nat} {s : FS.St} {script : List Ev}
    (h : Reach frameDec sc0 [FS.Tok.frame (.webTransport x)] s script) :
    x = sid ∧ s.remaining = USIZE_MAX ∧ s.flat ++ evBytes script = payload := by
  obtain ⟨consumed, hall, hrun⟩ := reach_run hsc h
  rw [hbytes] at hall
  obtain ⟨hx, _, hp, hr⟩ := run_raw_hdr frameDec frameDec_laws
    (fun p => (frameDec_frame_iff _ _ _).mpr (hdec p)) (Nat.le_sub_one_of_lt hlen) hall hrun
  exact ⟨Frame.Frame.webTransport.inj hx, PSt.ofRem_inj hr, hp⟩

/-- **Bidirectional streams.**  The same for the header h3 itself writes for session `sid`
    (`bidiHeader sid` = varint 0x41, varint `sid`), for every session id incl. multi-byte ones:
    for every cutting of `bidiHeader sid ++ payload`, once `poll_next` has answered the
    WebTransport frame, the frame carries `sid` and buffer ++ future = `payload`. -/
theorem C19_payload_after_header (sid : Nat) (hsid : sid < 2^62) (payload : List Nat)
    (hlen : payload.length < 2^64) (sc0 : List Ev) (hsc : ScriptOK sc0)
    (hbytes : evBytes sc0 = bidiHeader sid ++ payload)
    {x : Nat} {s : FS.St} {script : List Ev}
    (h : Reach frameDec sc0 [FS.Tok.frame (.webTransport x)] s script) :
    x = sid ∧ s.remaining = USIZE_MAX ∧ s.flat ++ evBytes script = payload :=
  C19_payload_after_any_header sid (bidiHeader sid) payload (C19_bidi_header_decodes sid hsid)
    hlen sc0 hsc hbytes h

/-- ... hence `readAll` of the buffered chunks and of the chunks still in the script is exactly the
    payload. -/
theorem C19_bidi_reader_obtains_payload (sid : Nat) (hsid : sid < 2^62) (payload : List Nat)
    (hlen : payload.length < 2^64) (sc0 : List Ev) (hsc : ScriptOK sc0)
    (hbytes : evBytes sc0 = bidiHeader sid ++ payload)
    {x : Nat} {s : FS.St} {script : List Ev}
    (h : Reach frameDec sc0 [FS.Tok.frame (.webTransport x)] s script) :
    readAll s.buf (evChunks script) = payload := by
  rw [C19_read_after_header, evChunks_flatten]
  exact (C19_payload_after_header sid hsid payload hlen sc0 hsc hbytes h).2.2

/-! non-vacuity: session 256 (`40 41 | 41 00`), payload `aa bb cc`, two cuttings of the same
    seven bytes: all in one chunk; and `cut₂` below: cut inside the type varint, inside the id
    varint and inside the payload, with a `Pending` in between (three `poll_next` calls), FIN
    behind the payload.  (The example in between is about the other header, `40 41 40 04`.) -/
example : bidiHeader 256 ++ [0xaa, 0xbb, 0xcc] = [0x40, 0x41, 0x41, 0x00, 0xaa, 0xbb, 0xcc] := by decide +kernel

example : Reach frameDec [.chunk [0x40, 0x41, 0x41, 0x00, 0xaa, 0xbb, 0xcc]]
    [FS.Tok.frame (.webTransport 256)] { buf := [[0xaa, 0xbb, 0xcc]], remaining := USIZE_MAX } [] :=
  reach_of_pollUntil (o := .frame (.webTransport 256)) 1 (by decide +kernel) rfl

example : readAll [[0xaa, 0xbb, 0xcc]] (evChunks []) = [0xaa, 0xbb, 0xcc] :=
  C19_bidi_reader_obtains_payload 256 (by decide) [0xaa, 0xbb, 0xcc] (by decide)
    [.chunk [0x40, 0x41, 0x41, 0x00, 0xaa, 0xbb, 0xcc]]
    (by decide) (by decide)
    (x := 256) (s := { buf := [[0xaa, 0xbb, 0xcc]], remaining := USIZE_MAX }) (script := [])
    (reach_of_pollUntil (o := .frame (.webTransport 256)) 1 (by decide +kernel) rfl)

/-- any bytes whose two leading integers are the WebTransport frame type and `sid` — in whatever
    encoding — decode as that session's frame, whatever follows -/
theorem decode_wt_of_hdr2 {hdr : List Nat} {sid : Nat}
    (h : H3.Frame.hdr2 hdr = some (FRAME_WEBTRANSPORT_BI_STREAM, sid, hdr.length)) (p : List Nat) :
    H3.Frame.decode (hdr ++ p) = .frame (.webTransport sid) hdr.length := by
  rw [H3.Frame.decode_view, H3.Frame.hdr2_append h p]
  exact if_pos rfl

/-- a header whose session id the peer wrote in a longer form than necessary (`40 04` for 4) -/
theorem long_header_decodes (p : List Nat) :
    H3.Frame.decode ([0x40, 0x41, 0x40, 0x04] ++ p) =
      .frame (.webTransport 4) ([0x40, 0x41, 0x40, 0x04] : List Nat).length :=
  decode_wt_of_hdr2 (by decide) p

example : (4 = 4 ∧ USIZE_MAX = USIZE_MAX ∧ [] ++ evBytes [.pend, .chunk [0xaa], .fin] = [0xaa]) :=
  C19_payload_after_any_header 4 [0x40, 0x41, 0x40, 0x04] [0xaa] long_header_decodes (by decide)
    [.chunk [0x40, 0x41, 0x40], .chunk [0x04], .pend, .chunk [0xaa], .fin]
    (by decide) (by decide)
    (x := 4) (s := { buf := [], remaining := USIZE_MAX }) (script := [.pend, .chunk [0xaa], .fin])
    (reach_of_pollUntil (o := .frame (.webTransport 4)) 1 (by decide +kernel) rfl)

def cut₂ : List Ev := [.chunk [0x40], .pend, .chunk [0x41, 0x41], .pend, .chunk [0x00, 0xaa], .chunk [0xbb, 0xcc], .fin]

theorem scriptOK_cut₂ : ScriptOK cut₂ := by decide

/-- what the examples about `cut₂` evaluate, once -/
theorem cut₂_facts :
    evBytes cut₂ = bidiHeader 256 ++ [0xaa, 0xbb, 0xcc] ∧
    H3.Frame.decode (evBytes cut₂) = .frame (.webTransport 256) 4 ∧
    pollUntil frameDec 8 {} cut₂ =
      (.frame (.webTransport 256), { buf := [[0xaa]], remaining := USIZE_MAX }, [.chunk [0xbb, 0xcc], .fin]) ∧
    (openBidi 256 [4] [.slice [0xaa, 0xbb, 0xcc] [3]]).wire = evBytes cut₂ := by decide +kernel

theorem cut₂_first (n : Nat) : H3.Frame.decode (evBytes cut₂) ≠ .unknown n := by
  rw [cut₂_facts.2.1]; nofun

theorem reach_cut₂ : Reach frameDec cut₂ [FS.Tok.frame (.webTransport 256)]
    { buf := [[0xaa]], remaining := USIZE_MAX } [.chunk [0xbb, 0xcc], .fin] :=
  reach_of_pollUntil (o := .frame (.webTransport 256)) 8 cut₂_facts.2.2.1 rfl

example : (256 = 256 ∧ (USIZE_MAX = USIZE_MAX) ∧ [0xaa] ++ evBytes [.chunk [0xbb, 0xcc], .fin] = [0xaa, 0xbb, 0xcc]) :=
  C19_payload_after_header 256 (by decide) [0xaa, 0xbb, 0xcc] (by decide) cut₂
    scriptOK_cut₂ cut₂_facts.1 reach_cut₂

example : readAll [[0xaa]] (evChunks [.chunk [0xbb, 0xcc], .fin]) = [0xaa, 0xbb, 0xcc] :=
  C19_bidi_reader_obtains_payload 256 (by decide) [0xaa, 0xbb, 0xcc] (by decide) cut₂
    scriptOK_cut₂ cut₂_facts.1 reach_cut₂

end bidi

section uni
open H3.UniAccept H3.Lemmas.C04
open H3.Spec.ControlRules (header)

/-- the header `open_uni` writes for session `sid` is read by the RFC 9000 stream-header reader as
    type 0x54, id `sid`, whatever follows -/
theorem uniHeader_reads (sid : Nat) (hsid : sid < 2^62) (p : List Nat) :
    header (uniHeader sid ++ p) = .complete 0x54 (some sid) p := by
  unfold header uniHeader
  rw [List.append_assoc, rfcDecode_encode _ (by decide)]
  simp only [STREAM_WEBTRANSPORT_UNI]
  simp only [show Spec.ControlRules.hasId 84 = true by decide, if_true, rfcDecode_encode sid hsid]

/-- **Unidirectional streams, any encoding of the header.**  `hdr` is any byte string the RFC 9000
    stream-header reader reads as stream type 0x54 followed by the id `sid`, whatever follows it
    (the header `open_uni` writes, `uniHeader_reads`; but also one whose varints the peer wrote in
    a longer form than necessary).  For every script carrying `hdr ++ payload` before the end of
    the stream (ANY cutting, `Pending` anywhere, FIN or RESET behind the payload or still open)
    `poll_type`, polled until it is ready, resolves the stream: the type is the WebTransport
    stream type, the id attached is exactly `sid`, and the bytes still buffered followed by the
    bytes still to come are exactly the payload. -/
theorem C19_uni_payload_after_any_header (sid : Nat) (hdr payload : List Nat)
    (hh : ∀ p, header (hdr ++ p) = .complete 0x54 (some sid) p)
    (sc : List UniAccept.Ev) (hwf : ScriptWF sc) (hbytes : bytesOf sc = hdr ++ payload) :
    ∃ s r, resolve (sc.length + 1) {} sc = .resolved s r ∧
      s.ty = some 0x54 ∧ s.id = some sid ∧ s.buf ++ future s r = payload := by
  have hres := H3.Props.C04.C04_type_resolution sc hwf
  rw [hbytes, hh payload] at hres
  cases hr : resolve (sc.length + 1) {} sc with
  | resolved s r =>
    rw [hr] at hres
    exact ⟨s, r, rfl, hres⟩
  | dropped | internal | waiting s => rw [hr] at hres; exact hres.elim

/-- **Unidirectional streams.**  The same for the header h3 itself writes for session `sid`
    (`uniHeader sid` = varint 0x54, varint `sid`), for every session id incl. multi-byte ones. -/
theorem C19_uni_payload_after_header (sid : Nat) (hsid : sid < 2^62) (payload : List Nat)
    (sc : List UniAccept.Ev) (hwf : ScriptWF sc) (hbytes : bytesOf sc = uniHeader sid ++ payload) :
    ∃ s r, resolve (sc.length + 1) {} sc = .resolved s r ∧
      s.ty = some 0x54 ∧ s.id = some sid ∧ s.buf ++ future s r = payload :=
  C19_uni_payload_after_any_header sid (uniHeader sid) payload (uniHeader_reads sid hsid) sc hwf hbytes

/-- ... hence `readAll` of the resolved stream (any encoding of the header) is the payload. -/
theorem C19_uni_reader_after_any_header (sid : Nat) (hdr payload : List Nat)
    (hh : ∀ p, header (hdr ++ p) = .complete 0x54 (some sid) p)
    (sc : List UniAccept.Ev) (hwf : ScriptWF sc) (hbytes : bytesOf sc = hdr ++ payload) :
    ∃ s r, resolve (sc.length + 1) {} sc = .resolved s r ∧ s.id = some sid ∧
      readAll [s.buf] (futureChunks s r) = payload := by
  obtain ⟨s, r, h1, _, h3, h4⟩ := C19_uni_payload_after_any_header sid hdr payload hh sc hwf hbytes
  refine ⟨s, r, h1, h3, ?_⟩
  rw [C19_read_after_header, futureChunks_flatten]
  simpa using h4

/-- ... hence `readAll` of the buffered remainder and of the chunks the transport delivers before
    the stream ends is exactly the payload. -/
theorem C19_uni_reader_obtains_payload (sid : Nat) (hsid : sid < 2^62) (payload : List Nat)
    (sc : List UniAccept.Ev) (hwf : ScriptWF sc) (hbytes : bytesOf sc = uniHeader sid ++ payload) :
    ∃ s r, resolve (sc.length + 1) {} sc = .resolved s r ∧ s.id = some sid ∧
      readAll [s.buf] (futureChunks s r) = payload :=
  C19_uni_reader_after_any_header sid (uniHeader sid) payload (uniHeader_reads sid hsid) sc hwf hbytes

/-! non-vacuity: session 65536 (`40 54 | 80 01 00 00`), payload `aa bb`: everything in one chunk
    with FIN behind; cut inside the type varint and inside the id varint with `Pending` between -/
example : uniHeader 65536 ++ [0xaa, 0xbb] = [0x40, 0x54, 0x80, 0x01, 0x00, 0x00, 0xaa, 0xbb] := by decide +kernel
example : resolve 3 {} [.chunk [0x40, 0x54, 0x80, 0x01, 0x00, 0x00, 0xaa, 0xbb], .fin] =
    .resolved { buf := [0xaa, 0xbb], ty := some 0x54, id := some 65536 } [.fin] := by decide +kernel
example : resolve 8 {} [.chunk [0x40], .pend, .chunk [0x54, 0x80], .pend, .chunk [0x01, 0x00], .chunk [0x00, 0xaa],
      .chunk [0xbb]] =
    .resolved { buf := [0xaa], ty := some 0x54, id := some 65536 } [.chunk [0xbb]] := by decide +kernel
example : ∃ s r, resolve 8 {} [.chunk [0x40], .pend, .chunk [0x54, 0x80], .pend, .chunk [0x01, 0x00],
      .chunk [0x00, 0xaa], .chunk [0xbb]] = .resolved s r ∧ s.id = some 65536 ∧
      readAll [s.buf] (futureChunks s r) = [0xaa, 0xbb] :=
  C19_uni_reader_obtains_payload 65536 (by decide) [0xaa, 0xbb]
    [.chunk [0x40], .pend, .chunk [0x54, 0x80], .pend, .chunk [0x01, 0x00], .chunk [0x00, 0xaa], .chunk [0xbb]]
    (by decide) (by decide)

/-- a header whose type AND session id the peer wrote in a longer form than necessary
    (`40 54` for 0x54, `40 04` for 4) -/
theorem long_uni_header_reads (p : List Nat) :
    header ([0x40, 0x54, 0x40, 0x04] ++ p) = .complete 0x54 (some 4) p := by
  -- the two integers are read off the four bytes, whatever follows (`rfcDecode_append`)
  have h1 := Varint.rfcDecode_append (a := [0x40, 0x54, 0x40, 0x04]) (v := 0x54) (r := [0x40, 0x04]) (by decide) p
  have h2 := Varint.rfcDecode_append (a := [0x40, 0x04]) (v := 4) (r := []) (by decide) p
  unfold header
  rw [h1]
  simp only [show Spec.ControlRules.hasId 0x54 = true by decide, if_true]
  rw [h2]
  rfl

-- `40 54 40 04 | aa bb`, cut inside both varints, `Pending` in between
example : resolve 7 {} [.chunk [0x40], .pend, .chunk [0x54, 0x40], .pend, .chunk [0x04, 0xaa], .chunk [0xbb]] =
    .resolved { buf := [0xaa], ty := some 0x54, id := some 4 } [.chunk [0xbb]] := by decide +kernel
example : ∃ s r, resolve 7 {} [.chunk [0x40], .pend, .chunk [0x54, 0x40], .pend, .chunk [0x04, 0xaa],
      .chunk [0xbb]] = .resolved s r ∧ s.ty = some 0x54 ∧ s.id = some 4 ∧ s.buf ++ future s r = [0xaa, 0xbb] :=
  C19_uni_payload_after_any_header 4 [0x40, 0x54, 0x40, 0x04] [0xaa, 0xbb] long_uni_header_reads
    [.chunk [0x40], .pend, .chunk [0x54, 0x40], .pend, .chunk [0x04, 0xaa], .chunk [0xbb]]
    (by decide) (by decide)

end uni

section limited
open H3.FS
open H3.Lemmas.C04 (bytesOf)

/-- **The buffer-limited reader, for every sequence of positive buffer sizes.**  A
    `BufRecvStream` holds the chunks `s.buf` (none empty) and the transport still answers `sc` (any
    cutting, `Pending` anywhere, FIN / RESET anywhere or not at all).  An application reads through
    `AsyncRead::poll_read` with buffers of sizes `sizes` — ANY list of positive numbers, one per
    completed call — until a call reports 0 bytes, an error, or the sizes are used up.  Then
    `ReadOK` holds (its fields say what: nothing lost, nothing twice, order kept wherever the loop
    stops; each call within its buffer; the loop ends the way the stream ends and only after every
    byte before that end), and with more buffers than bytes the loop does end that way. -/
theorem C19_limited_reader (sizes : List Nat) (hpos : ∀ n ∈ sizes, 0 < n) (s : Rd)
    (hbuf : ∀ c ∈ s.buf, c ≠ []) (sc : List Ev) (hsc : ScriptOK sc) :
    ReadOK sizes s sc (readLim sizes s sc) ∧
    ((s.buf.flatten ++ bytesOf sc).length < sizes.length →
      (readLim sizes s sc).pieces.flatten = s.buf.flatten ++ bytesOf sc ∧
      (readLim sizes s sc).fin = endOf sc) :=
  ⟨readLim_ok sizes hpos s hbuf sc hsc, (readLim_ok sizes hpos s hbuf sc hsc).complete⟩

/-! non-vacuity: `aa bb cc` buffered, `dd ee` still to come behind a `Pending`, then FIN; buffers of
    2 bytes: three calls report `aa bb | cc | dd ee`, the fourth `Ok(0)` (one buffer unused); buffers 1, 4, 1 run out before
    the end: `aa | bb cc | dd`, `ee` still buffered; a RESET instead of FIN is reported after `dd ee` -/
example : readLim [2, 2, 2, 2, 2] { buf := [[0xaa, 0xbb, 0xcc]] } [.pend, .chunk [0xdd, 0xee], .fin] =
    { pieces := [[0xaa, 0xbb], [0xcc], [0xdd, 0xee]], fin := .eof, s := { buf := [], eos := true },
      script := [.fin], left := [2] } := by decide +kernel
example : readLim [1, 4, 1] { buf := [[0xaa, 0xbb, 0xcc]] } [.pend, .chunk [0xdd, 0xee], .fin] =
    { pieces := [[0xaa], [0xbb, 0xcc], [0xdd]], fin := .more, s := { buf := [[0xee]] },
      script := [.fin], left := [] } := by decide +kernel
example : (readLim [5, 5, 5] { buf := [] } [.chunk [0xdd, 0xee], .reset 7]).fin = .err 7 ∧
    (readLim [5, 5, 5] { buf := [] } [.chunk [0xdd, 0xee], .reset 7]).pieces = [[0xdd, 0xee]] := by decide +kernel
example : (readLim [2, 2, 2, 2, 2, 2] { buf := [[0xaa, 0xbb, 0xcc]] } [.pend, .chunk [0xdd, 0xee], .fin]).pieces.flatten =
    [0xaa, 0xbb, 0xcc] ++ bytesOf [.pend, .chunk [0xdd, 0xee], .fin] ∧
    (readLim [2, 2, 2, 2, 2, 2] { buf := [[0xaa, 0xbb, 0xcc]] } [.pend, .chunk [0xdd, 0xee], .fin]).fin =
      endOf [.pend, .chunk [0xdd, 0xee], .fin] :=
  (C19_limited_reader [2, 2, 2, 2, 2, 2] (by decide) { buf := [[0xaa, 0xbb, 0xcc]] } (by decide)
    [.pend, .chunk [0xdd, 0xee], .fin]
    (by decide)).2 (by decide)

/-- **Bidirectional streams, buffer-limited reader.**  As `C19_bidi_reader_obtains_payload`, but the
    application reads through `AsyncRead::poll_read` with ANY sequence of positive buffer sizes:
    for every session id, payload, cutting of `bidiHeader sid ++ payload` (nothing delivered behind
    FIN / RESET) and configuration reached when `poll_next` has answered the WebTransport frame,
    the bytes the calls report are, concatenated, a prefix of the payload — each call at least one
    byte and at most its buffer — and with more buffers than payload bytes they are exactly the
    payload, and the loop ends as the stream does (`Ok(0)` only behind the last byte). -/
theorem C19_bidi_limited_reader_obtains_payload (sid : Nat) (hsid : sid < 2^62) (payload : List Nat)
    (hlen : payload.length < 2^64) (sc0 : List Ev) (hsc : ScriptOK sc0)
    (hbytes : evBytes sc0 = bidiHeader sid ++ payload) (hend : EndLast sc0)
    {x : Nat} {s : FS.St} {script : List Ev}
    (h : Reach frameDec sc0 [FS.Tok.frame (.webTransport x)] s script)
    (sizes : List Nat) (hpos : ∀ n ∈ sizes, 0 < n) :
    (∃ rest, (readLim sizes (Rd.ofFS s) script).pieces.flatten ++ rest = payload) ∧
    (∀ p ∈ (readLim sizes (Rd.ofFS s) script).pieces, p ≠ []) ∧
    Fits (readLim sizes (Rd.ofFS s) script).pieces sizes ∧
    (payload.length < sizes.length →
      (readLim sizes (Rd.ofFS s) script).pieces.flatten = payload ∧
      (readLim sizes (Rd.ofFS s) script).fin = endOf script) := by
  obtain ⟨taken, hsc0, hI⟩ := H3.Props.C02.C02_chunking_independent frameDec frameDec_laws sc0 hsc h
  have hsc' : ScriptOK script := by rw [hsc0] at hsc; exact scriptOK_suffix hsc
  have hend' : EndLast script := by rw [hsc0] at hend; exact endLast_suffix taken script hend
  have hpay : (Rd.ofFS s).buf.flatten ++ bytesOf script = payload := by
    rw [bytesOf_eq_evBytes script hend']
    exact (C19_payload_after_header sid hsid payload hlen sc0 hsc hbytes h).2.2
  exact (readLim_ok sizes hpos (Rd.ofFS s) hI.ne script hsc').payload hpay

-- the cutting `cut₂` of `40 41 41 00 | aa bb cc` + FIN (cuts inside both varints and inside the payload),
-- read with 1-byte buffers, with 2-byte buffers, and with one large buffer per call
example : (readLim [1, 1, 1, 1] (Rd.ofFS { buf := [[0xaa]], remaining := USIZE_MAX }) [.chunk [0xbb, 0xcc], .fin]) =
    { pieces := [[0xaa], [0xbb], [0xcc]], fin := .eof, s := { buf := [], eos := true }, script := [.fin],
      left := [] } := by decide +kernel
example : (readLim [2, 2, 2, 2] (Rd.ofFS { buf := [[0xaa]], remaining := USIZE_MAX }) [.chunk [0xbb, 0xcc], .fin]).pieces =
    [[0xaa], [0xbb, 0xcc]] := by decide +kernel
example : (readLim [64, 64, 64, 64] (Rd.ofFS { buf := [[0xaa]], remaining := USIZE_MAX })
      [.chunk [0xbb, 0xcc], .fin]).pieces.flatten = [0xaa, 0xbb, 0xcc] ∧
    (readLim [64, 64, 64, 64] (Rd.ofFS { buf := [[0xaa]], remaining := USIZE_MAX })
      [.chunk [0xbb, 0xcc], .fin]).fin = endOf [.chunk [0xbb, 0xcc], .fin] :=
  (C19_bidi_limited_reader_obtains_payload 256 (by decide) [0xaa, 0xbb, 0xcc] (by decide) cut₂
    scriptOK_cut₂ cut₂_facts.1
    rfl reach_cut₂ [64, 64, 64, 64] (by decide)).2.2.2 (by decide)

end limited

section live
open H3.FS

/-- **The WebTransport bidi header is answered, any encoding of the header.**  `hdr` is any byte
    string the frame decoder reads as the WebTransport header of session `sid` whatever follows
    (that a proper prefix of it is answered `Incomplete` follows from the decoder's laws,
    `frameDec_laws.minimal`).  The transport delivers `hdr ++ payload` (`payload` may be empty) cut
    in ANY way, `Pending` anywhere, nothing delivered behind FIN / RESET (`EndLast`: the header is
    delivered completely).  `poll_next` is polled from the initial state; every `Pending` answer is
    followed by another poll once the transport has more to say (`pollUntil`).  Then the polls end
    with the answer `frame (webTransport sid)` — never `Pending` with the script used up, never an
    error, never the end of the stream, never another frame — after at most one poll per script
    event, and the configuration they end in is one of those `C19_payload_after_any_header` speaks
    about (`Reach` with exactly that token handed out): its hypothesis is never vacuous. -/
theorem C19_any_bidi_header_is_answered (sid : Nat) (hdr payload : List Nat)
    (hdec : ∀ p, H3.Frame.decode (hdr ++ p) = .frame (.webTransport sid) hdr.length)
    (sc : List Ev) (hsc : ScriptOK sc) (hbytes : evBytes sc = hdr ++ payload) (hend : EndLast sc) :
    ∃ s rest, pollUntil frameDec (sc.length + 1) {} sc = (.frame (.webTransport sid), s, rest) ∧
      Reach frameDec sc [FS.Tok.frame (.webTransport sid)] s rest := by
  have hdec' : ∀ p, frameDec.dec (hdr ++ p) = .frame (.webTransport sid) hdr.length :=
    fun p => (frameDec_frame_iff _ _ _).mpr (hdec p)
  exact pollUntil_answers frameDec frameDec_laws hdr payload (.webTransport sid) hdec' sc hsc hend hbytes
    (sc.length + 1) {} sc Reach.init (Or.inl rfl) rfl (Nat.lt_succ_self _)

/-- **The WebTransport bidi header is answered.**  The same for the header h3 itself writes for
    session `sid`, every `sid < 2^62`, every payload (also the empty one), every cutting. -/
theorem C19_bidi_header_is_answered (sid : Nat) (hsid : sid < 2^62) (payload : List Nat)
    (sc : List Ev) (hsc : ScriptOK sc) (hbytes : evBytes sc = bidiHeader sid ++ payload)
    (hend : EndLast sc) :
    ∃ s rest, pollUntil frameDec (sc.length + 1) {} sc = (.frame (.webTransport sid), s, rest) ∧
      Reach frameDec sc [FS.Tok.frame (.webTransport sid)] s rest :=
  C19_any_bidi_header_is_answered sid (bidiHeader sid) payload (C19_bidi_header_decodes sid hsid) sc hsc
    hbytes hend

/-- Liveness composed with `C19_payload_after_any_header`: re-polling ends with the frame, and the
    conclusions of that theorem hold of the configuration it ends in. -/
theorem C19_any_bidi_header_then_payload (sid : Nat) (hdr payload : List Nat)
    (hdec : ∀ p, H3.Frame.decode (hdr ++ p) = .frame (.webTransport sid) hdr.length)
    (hlen : payload.length < 2^64)
    (sc : List Ev) (hsc : ScriptOK sc) (hbytes : evBytes sc = hdr ++ payload) (hend : EndLast sc) :
    ∃ s rest, pollUntil frameDec (sc.length + 1) {} sc = (.frame (.webTransport sid), s, rest) ∧
      s.remaining = USIZE_MAX ∧ s.flat ++ evBytes rest = payload ∧
      readAll s.buf (evChunks rest) = payload := by
  obtain ⟨s, rest, hp, hR⟩ := C19_any_bidi_header_is_answered sid hdr payload hdec sc hsc hbytes hend
  obtain ⟨_, h2, h3⟩ := C19_payload_after_any_header sid hdr payload hdec hlen sc hsc hbytes hR
  refine ⟨s, rest, hp, h2, h3, ?_⟩
  rw [C19_read_after_header, evChunks_flatten]
  exact h3

theorem C19_bidi_header_then_payload (sid : Nat) (hsid : sid < 2^62) (payload : List Nat)
    (hlen : payload.length < 2^64)
    (sc : List Ev) (hsc : ScriptOK sc) (hbytes : evBytes sc = bidiHeader sid ++ payload)
    (hend : EndLast sc) :
    ∃ s rest, pollUntil frameDec (sc.length + 1) {} sc = (.frame (.webTransport sid), s, rest) ∧
      s.remaining = USIZE_MAX ∧ s.flat ++ evBytes rest = payload ∧
      readAll s.buf (evChunks rest) = payload :=
  C19_any_bidi_header_then_payload sid (bidiHeader sid) payload (C19_bidi_header_decodes sid hsid) hlen sc
    hsc hbytes hend

/-! non-vacuity: `cut₂` (`40 | Pending | 41 41 | Pending | 00 aa | bb cc | FIN`: cuts inside both
    varints and inside the payload): three polls, the third answers the frame; the theorem
    instantiated on it; the long header `40 41 40 04` with an EMPTY payload and a RESET behind it;
    and what the hypotheses exclude: a header that is not delivered completely is answered
    `Pending` (stream still open) or `UnexpectedEnd` (FIN inside the header) -/
example : pollUntil frameDec 8 {} cut₂ =
    (.frame (.webTransport 256), { buf := [[0xaa]], remaining := USIZE_MAX }, [.chunk [0xbb, 0xcc], .fin]) :=
  cut₂_facts.2.2.1
example : ∃ s rest, pollUntil frameDec (cut₂.length + 1) {} cut₂ = (.frame (.webTransport 256), s, rest) ∧
    s.remaining = USIZE_MAX ∧ s.flat ++ evBytes rest = [0xaa, 0xbb, 0xcc] ∧
    readAll s.buf (evChunks rest) = [0xaa, 0xbb, 0xcc] :=
  C19_bidi_header_then_payload 256 (by decide) [0xaa, 0xbb, 0xcc] (by decide) cut₂
    scriptOK_cut₂ cut₂_facts.1
    rfl
example : pollUntil frameDec 5 {} [.chunk [0x40, 0x41], .pend, .chunk [0x40, 0x04], .reset 7] =
    (.frame (.webTransport 4), { buf := [], remaining := USIZE_MAX }, [.reset 7]) := by decide +kernel
example : ∃ s rest, pollUntil frameDec 5 {} [.chunk [0x40, 0x41], .pend, .chunk [0x40, 0x04], .reset 7] =
      (.frame (.webTransport 4), s, rest) ∧
    Reach frameDec [.chunk [0x40, 0x41], .pend, .chunk [0x40, 0x04], .reset 7]
      [FS.Tok.frame (.webTransport 4)] s rest :=
  C19_any_bidi_header_is_answered 4 _ [] long_header_decodes _
    (by decide) (by decide) rfl
example : (pollUntil frameDec 4 {} [.chunk [0x40, 0x41], .pend, .chunk [0x41]]).1 = .pending ∧
    (pollUntil frameDec 4 {} [.chunk [0x40, 0x41], .pend, .chunk [0x41], .fin]).1 = .errEnd ∧
    (pollUntil frameDec 4 {} [.chunk [0x40, 0x41], .reset 7, .chunk [0x41, 0x00]]).1 = .errQuic 7 := by
  decide +kernel

end live

section signalFirst
open H3.FS

/-- **The WebTransport signal is honoured only at the first bytes of the stream — partial.**
    draft-ietf-webtrans-http3 §4.2 allows the 0x41 signal only as the VERY FIRST bytes of a
    bidirectional stream.  The FULL statement would be: whenever re-polling `poll_next` from the
    initial state over a script `sc` answers the WebTransport frame of session `x` (`pollUntil
    frameDec (sc.length + 1) {} sc = (.frame (.webTransport x), s, rest)`, or, more generally, any
    configuration `Reach frameDec sc [Tok.frame (.webTransport x)] s rest`), the stream's first
    bytes are a 0x41 header for `x`: `∃ n, Frame.decode (evBytes sc) = .frame (.webTransport x) n`.
    That is FALSE for the code (finding D-19b, `C19_signal_only_at_first_bytes_full_fails`): the
    frame layer skips frames of unknown type and hands out `Frame::WebTransportStream` also behind
    them.  Proved here: the full conclusion under the one extra hypothesis `hfirst` that the first
    frame of the stream is not one the decoder skips as unknown (stated on the whole byte string
    the script carries; by the stability law of the decoder this is the same as saying it of any
    prefix long enough to be decoded).  Every other way to reach the token is excluded: a first
    frame of a known type would have been handed out first (the token list is exactly `[frame
    (webTransport x)]`), an error ends the stream. -/
theorem C19_signal_only_at_first_bytes_partial (sc : List Ev) (hsc : ScriptOK sc)
    {x : Nat} {s : FS.St} {rest : List Ev}
    (h : Reach frameDec sc [FS.Tok.frame (.webTransport x)] s rest)
    (hfirst : ∀ n, H3.Frame.decode (evBytes sc) ≠ .unknown n) :
    ∃ n, H3.Frame.decode (evBytes sc) = .frame (.webTransport x) n := by
  obtain ⟨consumed, hall, hrun⟩ := reach_run hsc h
  -- by the stability law, what the decoder says of `consumed` it says of the whole stream
  have hst : ∀ r, frameDec.dec consumed = liftRes r → (liftRes r).isIncomplete = false →
      H3.Frame.decode (evBytes sc) = r := by
    intro r hd hr
    have := frameDec_laws.stable consumed (s.flat ++ evBytes rest) (by rw [hd]; exact hr)
    rw [hall, hd] at this
    exact liftRes_inj this
  have hun : ∀ n, frameDec.dec consumed ≠ .unknown n :=
    fun n hd => hfirst n (hst (.unknown n) hd rfl)
  obtain ⟨n, hd⟩ := first_frame_of_run frameDec frameDec_laws consumed (.webTransport x) _ hrun hun
  exact ⟨n, hst (.frame (.webTransport x) n) hd rfl⟩

/-- the partial theorem for the re-polling reader: if `poll_next`, polled again after every
    `Pending`, ends with the WebTransport frame of session `x`, and the first frame of the stream is
    not skipped as unknown, the stream starts with a WebTransport header for `x` -/
theorem C19_signal_only_at_first_bytes_polled_partial (sc : List Ev) (hsc : ScriptOK sc) (fuel : Nat)
    {x : Nat} {s : FS.St} {rest : List Ev}
    (h : pollUntil frameDec fuel {} sc = (.frame (.webTransport x), s, rest))
    (hfirst : ∀ n, H3.Frame.decode (evBytes sc) ≠ .unknown n) :
    ∃ n, H3.Frame.decode (evBytes sc) = .frame (.webTransport x) n :=
  C19_signal_only_at_first_bytes_partial sc hsc (reach_of_pollUntil fuel h rfl) hfirst

/-- **The full statement fails (finding D-19b).**  Witness: the stream `21 00 | 40 41 00 | aa bb` + FIN —
    a GREASE frame (type 0x21) of length 0, then the 0x41 signal for session 0.  One `poll_next`
    (so also the re-polling reader) answers `frame (webTransport 0)` and enters raw mode with `aa bb`
    buffered, although the decoder reads the first bytes of the stream as an unknown frame of 2
    bytes, not as a WebTransport header; hence the full statement (for `Reach`, of which the
    `pollUntil` form is an instance by `pollUntil_reach`) is refuted. -/
theorem C19_signal_only_at_first_bytes_full_fails :
    pollUntil frameDec 3 {} [.chunk [0x21, 0x00, 0x40, 0x41, 0x00, 0xaa, 0xbb], .fin] =
      (.frame (.webTransport 0), { buf := [[0xaa, 0xbb]], remaining := USIZE_MAX }, [.fin]) ∧
    H3.Frame.decode [0x21, 0x00, 0x40, 0x41, 0x00, 0xaa, 0xbb] = .unknown 2 ∧
    ¬ (∀ (sc : List Ev) (x : Nat) (s : FS.St) (rest : List Ev), ScriptOK sc →
        Reach frameDec sc [FS.Tok.frame (.webTransport x)] s rest →
        ∃ n, H3.Frame.decode (evBytes sc) = .frame (.webTransport x) n) := by
  have hp : pollNext frameDec {} [.chunk [0x21, 0x00, 0x40, 0x41, 0x00, 0xaa, 0xbb], .fin] =
      (.frame (.webTransport 0), { buf := [[0xaa, 0xbb]], remaining := USIZE_MAX }, [.fin]) := by
    decide +kernel
  have hd : H3.Frame.decode [0x21, 0x00, 0x40, 0x41, 0x00, 0xaa, 0xbb] = .unknown 2 := by decide +kernel
  refine ⟨by decide +kernel, hd, fun hall => ?_⟩
  obtain ⟨n, hn⟩ := hall [.chunk [0x21, 0x00, 0x40, 0x41, 0x00, 0xaa, 0xbb], .fin] 0 _ _
    (by decide) (Reach.next Reach.init hp rfl)
  have he : evBytes [.chunk [0x21, 0x00, 0x40, 0x41, 0x00, 0xaa, 0xbb], .fin] =
      [0x21, 0x00, 0x40, 0x41, 0x00, 0xaa, 0xbb] := by decide +kernel
  rw [he, hd] at hn
  cases hn

/-! non-vacuity of the partial theorem: `cut₂` (`40 41 41 00 | aa bb cc`, cut inside both varints):
    the configuration reached after three polls; the first frame is not unknown; the conclusion -/
example : H3.Frame.decode (evBytes cut₂) = .frame (.webTransport 256) 4 := cut₂_facts.2.1
example : ∃ n, H3.Frame.decode (evBytes cut₂) = .frame (.webTransport 256) n :=
  C19_signal_only_at_first_bytes_partial cut₂
    scriptOK_cut₂ reach_cut₂ cut₂_first

example : ∃ n, H3.Frame.decode (evBytes cut₂) = .frame (.webTransport 256) n :=
  C19_signal_only_at_first_bytes_polled_partial cut₂
    scriptOK_cut₂ 8 cut₂_facts.2.2.1 cut₂_first

end signalFirst

section limitedUni
open H3.UniAccept H3.Lemmas.C04
open H3.FS (ScriptOK)

/-- **Unidirectional streams, buffer-limited reader, any encoding of the header.**  As
    `C19_uni_reader_after_any_header`, with the application reading the resolved stream through
    `AsyncRead::poll_read` with ANY sequence of positive buffer sizes. -/
theorem C19_uni_limited_reader_after_any_header (sid : Nat) (hdr payload : List Nat)
    (hh : ∀ p, H3.Spec.ControlRules.header (hdr ++ p) = .complete 0x54 (some sid) p)
    (sc : List UniAccept.Ev) (hwf : ScriptWF sc) (hsc : ScriptOK sc)
    (hbytes : bytesOf sc = hdr ++ payload)
    (sizes : List Nat) (hpos : ∀ n ∈ sizes, 0 < n) :
    ∃ s r, resolve (sc.length + 1) {} sc = .resolved s r ∧ s.id = some sid ∧
      (∃ rest, (readLim sizes (Rd.ofUni s) (uniScript s r)).pieces.flatten ++ rest = payload) ∧
      (∀ p ∈ (readLim sizes (Rd.ofUni s) (uniScript s r)).pieces, p ≠ []) ∧
      Fits (readLim sizes (Rd.ofUni s) (uniScript s r)).pieces sizes ∧
      (payload.length < sizes.length →
        (readLim sizes (Rd.ofUni s) (uniScript s r)).pieces.flatten = payload ∧
        (readLim sizes (Rd.ofUni s) (uniScript s r)).fin = endOf (uniScript s r)) := by
  obtain ⟨s, r, h1, _, h3, h4⟩ := C19_uni_payload_after_any_header sid hdr payload hh sc hwf hbytes
  refine ⟨s, r, h1, h3, ?_⟩
  obtain ⟨pre, hpre⟩ := resolve_suffix _ _ _ _ _ h1
  have hr : ScriptOK r := by rw [hpre] at hsc; exact H3.FS.scriptOK_suffix hsc
  have hpay : (Rd.ofUni s).buf.flatten ++ bytesOf (uniScript s r) = payload := by
    rw [Rd.ofUni_flatten, bytesOf_uniScript]; exact h4
  exact (readLim_ok sizes hpos (Rd.ofUni s) (Rd.ofUni_bufOK s) (uniScript s r) (scriptOK_uniScript hr)).payload hpay

/-- **Unidirectional streams, buffer-limited reader.**  The same for the header h3 itself writes
    (`uniHeader sid`), for every session id. -/
theorem C19_uni_limited_reader_obtains_payload (sid : Nat) (hsid : sid < 2^62) (payload : List Nat)
    (sc : List UniAccept.Ev) (hwf : ScriptWF sc) (hsc : ScriptOK sc)
    (hbytes : bytesOf sc = uniHeader sid ++ payload)
    (sizes : List Nat) (hpos : ∀ n ∈ sizes, 0 < n) :
    ∃ s r, resolve (sc.length + 1) {} sc = .resolved s r ∧ s.id = some sid ∧
      (∃ rest, (readLim sizes (Rd.ofUni s) (uniScript s r)).pieces.flatten ++ rest = payload) ∧
      (∀ p ∈ (readLim sizes (Rd.ofUni s) (uniScript s r)).pieces, p ≠ []) ∧
      Fits (readLim sizes (Rd.ofUni s) (uniScript s r)).pieces sizes ∧
      (payload.length < sizes.length →
        (readLim sizes (Rd.ofUni s) (uniScript s r)).pieces.flatten = payload ∧
        (readLim sizes (Rd.ofUni s) (uniScript s r)).fin = endOf (uniScript s r)) :=
  C19_uni_limited_reader_after_any_header sid (uniHeader sid) payload (uniHeader_reads sid hsid) sc hwf hsc
    hbytes sizes hpos

-- session 65536, payload `aa bb`, cut inside both varints; `aa` is buffered behind the header, `bb`
-- still to come: read with 1-byte buffers
example : readLim [1, 1, 1] (Rd.ofUni { buf := [0xaa], ty := some 0x54, id := some 65536 })
      (uniScript { buf := [0xaa], ty := some 0x54, id := some 65536 } [.chunk [0xbb]]) =
    { pieces := [[0xaa], [0xbb]], fin := .open_, s := { buf := [] }, script := [], left := [1] } := by decide +kernel
example : ∃ s r, resolve 9 {} [.chunk [0x40], .pend, .chunk [0x54, 0x80], .pend, .chunk [0x01, 0x00],
      .chunk [0x00, 0xaa], .chunk [0xbb], .fin] = .resolved s r ∧ s.id = some 65536 ∧
      (∃ rest, (readLim [1, 1, 1] (Rd.ofUni s) (uniScript s r)).pieces.flatten ++ rest = [0xaa, 0xbb]) ∧
      (∀ p ∈ (readLim [1, 1, 1] (Rd.ofUni s) (uniScript s r)).pieces, p ≠ []) ∧
      Fits (readLim [1, 1, 1] (Rd.ofUni s) (uniScript s r)).pieces [1, 1, 1] ∧
      (([0xaa, 0xbb] : List Nat).length < [1, 1, 1].length →
        (readLim [1, 1, 1] (Rd.ofUni s) (uniScript s r)).pieces.flatten = [0xaa, 0xbb] ∧
        (readLim [1, 1, 1] (Rd.ofUni s) (uniScript s r)).fin = endOf (uniScript s r)) :=
  C19_uni_limited_reader_obtains_payload 65536 (by decide) [0xaa, 0xbb]
    [.chunk [0x40], .pend, .chunk [0x54, 0x80], .pend, .chunk [0x01, 0x00], .chunk [0x00, 0xaa], .chunk [0xbb], .fin]
    (by decide)
    (by decide) (by decide)
    [1, 1, 1] (by decide)

-- the long header `40 54 40 04` + `aa bb`, cut inside both varints, read with 1-byte buffers
example : ∃ s r, resolve 8 {} [.chunk [0x40], .pend, .chunk [0x54, 0x40], .pend, .chunk [0x04, 0xaa],
      .chunk [0xbb], .fin] = .resolved s r ∧ s.id = some 4 ∧
      (∃ rest, (readLim [1, 1, 1] (Rd.ofUni s) (uniScript s r)).pieces.flatten ++ rest = [0xaa, 0xbb]) ∧
      (∀ p ∈ (readLim [1, 1, 1] (Rd.ofUni s) (uniScript s r)).pieces, p ≠ []) ∧
      Fits (readLim [1, 1, 1] (Rd.ofUni s) (uniScript s r)).pieces [1, 1, 1] ∧
      (([0xaa, 0xbb] : List Nat).length < [1, 1, 1].length →
        (readLim [1, 1, 1] (Rd.ofUni s) (uniScript s r)).pieces.flatten = [0xaa, 0xbb] ∧
        (readLim [1, 1, 1] (Rd.ofUni s) (uniScript s r)).fin = endOf (uniScript s r)) :=
  C19_uni_limited_reader_after_any_header 4 [0x40, 0x54, 0x40, 0x04] [0xaa, 0xbb] long_uni_header_reads
    [.chunk [0x40], .pend, .chunk [0x54, 0x40], .pend, .chunk [0x04, 0xaa], .chunk [0xbb], .fin]
    (by decide)
    (by decide) (by decide)
    [1, 1, 1] (by decide)

end limitedUni

section buffered
open H3.UniAccept H3.Lemmas.C04

/-- what the peer put on one uni stream: the QUIC stream id, the session id in its header, the
    payload behind the header, and how the transport delivers these bytes (any cutting, `Pending`
    anywhere, FIN / RESET behind them or not at all) -/
structure Sent where
  stream : Nat
  sid : Nat
  /-- the header bytes as the peer wrote them: any encoding the RFC 9000 reader reads as type 0x54,
      id `sid` (`Sent.OK`) — `uniHeader sid` or a longer form of either varint -/
  hdr : List Nat
  payload : List Nat
  sc : List UniAccept.Ev
deriving DecidableEq

def Sent.OK (x : Sent) : Prop :=
  (∀ p, H3.Spec.ControlRules.header (x.hdr ++ p) = .complete 0x54 (some x.sid) p) ∧ ScriptWF x.sc ∧
    bytesOf x.sc = x.hdr ++ x.payload

/-- a stream with the header h3 itself writes is `OK` -/
theorem Sent.ok_canonical (x : Sent) (hsid : x.sid < 2^62) (hh : x.hdr = uniHeader x.sid)
    (hwf : ScriptWF x.sc) (hb : bytesOf x.sc = uniHeader x.sid ++ x.payload) : x.OK :=
  ⟨by rw [hh]; exact uniHeader_reads x.sid hsid, hwf, by rw [hh]; exact hb⟩

def Sent.toIn (x : Sent) : UniIn := ⟨x.stream, x.sc⟩

def Sent.ident (x : Sent) : Nat × Nat × List Nat := (x.stream, x.sid, x.payload)

/-- who a buffered / surfaced entry claims to be: the stream it is, the session id reported with it,
    and the bytes a reader of its `BufRecvStream` can still obtain (buffered ++ to come) -/
def ident (e : WtUni) : Nat × Nat × List Nat := (e.stream, e.session, e.rd.buf.flatten ++ bytesOf e.script)

/-- arrivals and `accept_uni` polls, in any order -/
inductive Act where
  | arrive (x : Sent)
  | accept

def Act.op : Act → AOp
  | .arrive x => .arrive x.toIn
  | .accept => .accept

def arrived : List Act → List Sent
  | [] => []
  | .arrive x :: r => x :: arrived r
  | .accept :: r => arrived r

private theorem uniFate_ok (x : Sent) (hx : x.OK) :
    ∃ rd sc, uniFate true x.sc = .surface x.sid rd sc ∧ rd.buf.flatten ++ bytesOf sc = x.payload := by
  obtain ⟨hh, hwf, hbytes⟩ := hx
  obtain ⟨s, r, h1, h2, h3, h4⟩ := C19_uni_payload_after_any_header x.sid x.hdr x.payload hh x.sc hwf hbytes
  refine ⟨Rd.ofUni s, uniScript s r, ?_, ?_⟩
  · have hi : intoStream s = some (.wtUni x.sid) := by
      unfold intoStream
      rw [h2, h3]
      simp [STREAM_CONTROL, STREAM_PUSH, STREAM_ENCODER, STREAM_DECODER, STREAM_WEBTRANSPORT_UNI]
    unfold uniFate
    rw [h1]
    simp only [hi, if_true]
  · rw [Rd.ofUni_flatten, bytesOf_uniScript]; exact h4

theorem entry_ok (P : List Sent) (hP : ∀ x ∈ P, x.OK) :
    ((P.map Sent.toIn).filterMap (entry true)).map ident = P.map Sent.ident ∧
      (P.map Sent.toIn).filter (waits true) = [] := by
  induction P with
  | nil => exact ⟨rfl, rfl⟩
  | cons x r ih =>
    obtain ⟨rd, sc, hf, hb⟩ := uniFate_ok x (hP x (by simp))
    obtain ⟨h1, h2⟩ := ih (fun y hy => hP y (by simp [hy]))
    have he : entry true x.toIn = some ⟨x.stream, x.sid, rd, sc⟩ := by simp [entry, Sent.toIn, hf]
    have hw : waits true x.toIn = false := by simp [waits, Sent.toIn, hf]
    simp only [List.map_cons, List.filterMap_cons, he, List.filter_cons, hw, h1, h2]
    simp [ident, Sent.ident, hb]

theorem arrivals_acts (acts : List Act) : arrivals (acts.map Act.op) = (arrived acts).map Sent.toIn := by
  induction acts with
  | nil => rfl
  | cons act r ih => cases act <;> simp [Act.op, arrivals, arrived, ih]

/-- one `poll_accept_recv` over pending streams that all carry a complete WebTransport header:
    every one of them is pushed, with its own identity, in the order of `pending_recv_streams` -/
private theorem pass_fold (P : List Sent) (hP : ∀ x ∈ P, x.OK) (acc : Accepted) :
    ∃ es : List WtUni, (P.map Sent.toIn).foldl (Accepted.passOne true) acc = { acc with wt := acc.wt ++ es } ∧
      es.map ident = P.map Sent.ident :=
  ⟨_, by rw [fold_closed, (entry_ok P hP).2, List.append_nil], (entry_ok P hP).1⟩

/-- **Buffered streams keep their identity.**  The peer opens any number of WebTransport uni
    streams — any QUIC stream ids, any session ids (the session's own or not) in ANY encoding the
    RFC 9000 reader reads as type 0x54 + that id (`Sent.hdr`: the minimal one h3 writes or longer
    forms of either varint), any payloads, each delivered in any cutting with `Pending` anywhere —
    and the application calls
    `accept_uni` any number of times, arrivals and calls interleaved in ANY order (`acts`).  Then
    the entries surfaced by the calls, together with the entries still buffered in
    `wt_uni_streams` once `poll_accept_recv` has run again, are — as triples (QUIC stream, session
    id reported, bytes a reader of the handed-over `BufRecvStream` obtains: buffered ++ still to
    come) — a PERMUTATION of the triples (stream, session id the peer wrote in ITS header, ITS
    payload) of the streams that arrived: every stream is surfaced at most once, nothing is
    surfaced that did not arrive, no stream is surfaced with another stream's session id or
    another stream's bytes, none is lost; and no stream with a complete header is left unresolved.
    The ORDER in which buffered streams are surfaced (the code pops the one pushed last) is not
    part of the claim. -/
theorem C19_buffered_streams_keep_identity (acts : List Act) (hok : ∀ x ∈ arrived acts, x.OK) :
    List.Perm ((runAccepts true {} (acts.map Act.op)).1.map ident ++
               ((runAccepts true {} (acts.map Act.op)).2.pass true).wt.map ident)
              ((arrived acts).map Sent.ident) ∧
    ((runAccepts true {} (acts.map Act.op)).2.pass true).pending = [] := by
  obtain ⟨h1, h2⟩ := run_closed true (acts.map Act.op) {}
  have h1 := h1.map ident
  rw [arrivals_acts] at h1 h2
  simp only [List.nil_append, (entry_ok _ hok).1, (entry_ok _ hok).2, List.map_append] at h1 h2
  rw [pass_closed]
  exact ⟨h1, h2⟩

/-- **`accept_uni` waits only when there is nothing to surface.**  In a state whose pending streams
    all carry a complete WebTransport header (`P`), with the extension enabled, `accept_uni`
    answers `Pending` iff `wt_uni_streams` is empty and no stream is pending; otherwise it
    surfaces one of them, with its own identity (previous theorem). -/
theorem C19_accept_uni_waits_only_when_nothing_is_buffered (a : Accepted) (P : List Sent)
    (hp : a.pending = P.map Sent.toIn) (hP : ∀ x ∈ P, x.OK) :
    ((a.acceptUni true).1 = none ↔ a.wt = [] ∧ P = []) := by
  have h2 : (held true a).map ident = a.wt.map ident ++ P.map Sent.ident := by
    rw [held, hp, List.map_append, (entry_ok P hP).1]
  unfold Accepted.acceptUni
  rw [pass_closed]
  rcases popLast_cases (held true a) with ⟨hnil, hpop⟩ | ⟨r, x, hl, hpop⟩ <;> simp only [hpop]
  · simpa [hnil, eq_comm] using h2
  · simp only [reduceCtorEq, false_iff]
    rintro ⟨hw, hPn⟩
    simp [hl, hw, hPn] at h2

/-! non-vacuity: three streams (QUIC ids 6, 10, 14) for the sessions 4, 8 and 12 with the payloads
    `aa`, `bb`, `cc` (the first with the non-minimal header `40 54 40 04` cut inside the id, the
    second header cut inside, the third with FIN behind it); two arrive, one
    accept, the third arrives, two more accepts: surfaced 10, 14, 6 — each with its own session id
    and its own bytes -/
def s6 : Sent := ⟨6, 4, [0x40, 0x54, 0x40, 0x04], [0xaa], [.chunk [0x40, 0x54, 0x40], .chunk [0x04, 0xaa]]⟩
def s10 : Sent := ⟨10, 8, uniHeader 8, [0xbb], [.chunk [0x40], .pend, .chunk [0x54, 0x08], .chunk [0xbb]]⟩
def s14 : Sent := ⟨14, 12, uniHeader 12, [0xcc], [.chunk [0x40, 0x54, 0x0c, 0xcc], .fin]⟩
def three : List Act := [.arrive s6, .arrive s10, .accept, .arrive s14, .accept, .accept]

example : (runAccepts true {} (three.map Act.op)).1.map ident =
    [(10, 8, [0xbb]), (14, 12, [0xcc]), (6, 4, [0xaa])] := by decide +kernel
example : (arrived three).map Sent.ident = [(6, 4, [0xaa]), (10, 8, [0xbb]), (14, 12, [0xcc])] := by decide +kernel
example : List.Perm ((runAccepts true {} (three.map Act.op)).1.map ident ++
      ((runAccepts true {} (three.map Act.op)).2.pass true).wt.map ident)
    [(6, 4, [0xaa]), (10, 8, [0xbb]), (14, 12, [0xcc])] :=
  (C19_buffered_streams_keep_identity three (by
    intro x hx
    simp [three, arrived] at hx
    rcases hx with rfl | rfl | rfl
    · exact ⟨long_uni_header_reads, by decide, by decide⟩
    · exact Sent.ok_canonical s10 (by decide) rfl
        (by decide) (by decide)
    · exact Sent.ok_canonical s14 (by decide) rfl (by decide) (by decide))).1
-- a fourth accept waits: nothing is buffered any more; a stream that ends inside its header is never surfaced
example : ((runAccepts true {} (three.map Act.op)).2.acceptUni true).1 = none := by decide +kernel
example : (runAccepts true {} [.arrive ⟨6, [.chunk [0x40, 0x54], .fin]⟩, .accept]).1 = [] ∧
    (runAccepts true {} [.arrive ⟨6, [.chunk [0x40, 0x54], .fin]⟩, .accept]).2 = {} := by decide +kernel
-- with the extension off nothing is surfaced
example : (runAccepts false {} (three.map Act.op)).1 = [] := by decide +kernel

end buffered

section wire
open H3.Spec.ControlRules (header)

/-- **Streams the server opens, bidirectional.**  For every session id below 2^62, every acceptance
    pattern `hs` of the transport while `open_bi` writes the header (any number of bytes at a
    time, `Pending` anywhere) and every sequence of write calls of the application — byte slices
    through `poll_send` / `AsyncWrite::poll_write` (futures or tokio), DATA frames through
    `send_data` + `poll_ready`, `poll_finish` / `poll_close` / `poll_shutdown`, `reset` — each
    under its own acceptance pattern: nothing panics; the bytes the transport has accepted are
    always a prefix of `bidiHeader sid ++` the bytes handed to the write calls in order; once no
    call is left waiting they are exactly that, FIN is set iff a finishing call was made, and the
    receiving frame decoder reads the wire as the WebTransport frame of session `sid`, consuming
    exactly the header, with exactly the handed bytes behind it; and no call is left waiting when
    every acceptance pattern offers enough room. -/
theorem C19_opened_bidi_wire (sid : Nat) (hsid : sid < 2^62) (hs : List Nat) (ops : List WOp)
    (hf : FramesOK ops) :
    (openBidi sid hs ops).panic = false ∧
    (∃ rest, (openBidi sid hs ops).wire ++ rest = bidiHeader sid ++ handed ops) ∧
    ((openBidi sid hs ops).stuck = false →
      (openBidi sid hs ops).wire = bidiHeader sid ++ handed ops ∧
      ((openBidi sid hs ops).fin = true ↔ WOp.finish ∈ ops) ∧
      H3.Frame.decode (openBidi sid hs ops).wire = .frame (.webTransport sid) (bidiHeader sid).length ∧
      (openBidi sid hs ops).wire.drop (bidiHeader sid).length = handed ops) ∧
    (Accepts hs (bidiHeader sid).length → Enough ops → (openBidi sid hs ops).stuck = false) := by
  obtain ⟨h1, h2, h3, h4⟩ := opened_ok (x := STREAM_WEBTRANSPORT_BIDI) (by decide) hsid hs ops hf
  refine ⟨h1, h2, fun hst => ?_, h4⟩
  -- `open_bi` writes the type as `STREAM_WEBTRANSPORT_BIDI`, `bidiHeader` has `FRAME_WEBTRANSPORT_BI_STREAM`: both are 0x41
  obtain ⟨(e : (openBidi sid hs ops).wire = bidiHeader sid ++ handed ops), hfin⟩ := h3 hst
  refine ⟨e, hfin, ?_, ?_⟩
  · rw [e]; exact C19_bidi_header_decodes sid hsid _
  · rw [e]; simp

/-- **Streams the server opens, unidirectional.**  The same for `open_uni`: the wire is
    `uniHeader sid ++` the handed bytes, and the stream-header reader of the specification (RFC 9000
    varints: stream type, then the session id) reads it as type 0x54, id `sid`, with exactly the
    handed bytes behind the header. -/
theorem C19_opened_uni_wire (sid : Nat) (hsid : sid < 2^62) (hs : List Nat) (ops : List WOp)
    (hf : FramesOK ops) :
    (openUni sid hs ops).panic = false ∧
    (∃ rest, (openUni sid hs ops).wire ++ rest = uniHeader sid ++ handed ops) ∧
    ((openUni sid hs ops).stuck = false →
      (openUni sid hs ops).wire = uniHeader sid ++ handed ops ∧
      ((openUni sid hs ops).fin = true ↔ WOp.finish ∈ ops) ∧
      header (openUni sid hs ops).wire = .complete 0x54 (some sid) (handed ops)) ∧
    (Accepts hs (uniHeader sid).length → Enough ops → (openUni sid hs ops).stuck = false) := by
  obtain ⟨h1, h2, h3, h4⟩ := opened_ok (x := STREAM_WEBTRANSPORT_UNI) (by decide) hsid hs ops hf
  refine ⟨h1, h2, fun hst => ?_, h4⟩
  obtain ⟨(e : (openUni sid hs ops).wire = uniHeader sid ++ handed ops), hfin⟩ := h3 hst
  refine ⟨e, hfin, ?_⟩
  rw [e]
  exact uniHeader_reads sid hsid _

/-! non-vacuity: session 256; the transport takes the 4 header bytes as 1 + (Pending) + 2 + 1; then a
    3-byte slice taken as 2 + (Pending) + 1, a DATA frame `00 01 09` taken as header, then payload (the `WriteBuf` yields them as two chunks), `poll_finish`;
    and the same with too little room for the slice: the call is left waiting, the wire is a prefix -/
example : openBidi 256 [1, 0, 2, 5] [.slice [1, 2, 3] [2, 0, 1], .frame [9] [10, 10], .finish] =
    { wire := [0x40, 0x41, 0x41, 0x00, 1, 2, 3, 0x00, 0x01, 9], fin := true } := by decide +kernel
example : openBidi 256 [1, 0, 2, 5] [.slice [1, 2, 3] [2, 0], .frame [9] [10, 10], .finish] =
    { wire := [0x40, 0x41, 0x41, 0x00, 1, 2], stuck := true } := by decide +kernel
example : openUni 65536 [3, 3] [.slice [7, 8] [1, 1], .reset 5] =
    { wire := [0x40, 0x54, 0x80, 0x01, 0x00, 0x00, 7, 8], rst := some 5 } := by decide +kernel
example : handed [.slice [1, 2, 3] [2, 0, 1], .frame [9] [10, 10], .finish] = [1, 2, 3, 0x00, 0x01, 9] := by decide +kernel
example : H3.Frame.decode (openBidi 256 [1, 0, 2, 5] [.slice [1, 2, 3] [2, 0, 1], .frame [9] [10, 10], .finish]).wire =
    .frame (.webTransport 256) (bidiHeader 256).length :=
  ((C19_opened_bidi_wire 256 (by decide) _ _
    (by intro p sc hm; simp at hm; rw [hm.1]; decide)).2.2.1 (by decide +kernel)).2.2.1

end wire

section readback
open H3.FS

/-- **An opened bidirectional stream, read back.**  Composition of `C19_opened_bidi_wire` and
    `C19_bidi_limited_reader_obtains_payload`: whatever the acceptance patterns on the sending side
    (all calls completed), however the wire bytes are cut on the way (nothing behind FIN / RESET),
    and whatever positive buffer sizes the receiving application reads with (more buffers than
    bytes): the receiver's frame carries the sender's session id and the bytes it reads are exactly
    the bytes handed to the sender's write calls, in order, `Ok(0)` only behind the last one. -/
theorem C19_opened_bidi_read_back (sid : Nat) (hsid : sid < 2^62) (hs : List Nat) (ops : List WOp)
    (hf : FramesOK ops) (hst : (openBidi sid hs ops).stuck = false)
    (hlen : (handed ops).length < 2^64) (sc0 : List Ev) (hsc : ScriptOK sc0)
    (hbytes : evBytes sc0 = (openBidi sid hs ops).wire) (hend : EndLast sc0)
    {x : Nat} {s : FS.St} {script : List Ev}
    (h : Reach frameDec sc0 [FS.Tok.frame (.webTransport x)] s script)
    (sizes : List Nat) (hpos : ∀ n ∈ sizes, 0 < n) (hn : (handed ops).length < sizes.length) :
    x = sid ∧ (readLim sizes (Rd.ofFS s) script).pieces.flatten = handed ops ∧
    (readLim sizes (Rd.ofFS s) script).fin = endOf script := by
  have hw := ((C19_opened_bidi_wire sid hsid hs ops hf).2.2.1 hst).1
  rw [hw] at hbytes
  refine ⟨(C19_payload_after_header sid hsid _ hlen sc0 hsc hbytes h).1, ?_⟩
  exact (C19_bidi_limited_reader_obtains_payload sid hsid _ hlen sc0 hsc hbytes hend h sizes hpos).2.2.2 hn

/-- **... without assuming that the receiver ever gets the frame.**  `C19_opened_bidi_read_back`
    composed with the liveness theorem `C19_bidi_header_is_answered`: the receiver polls `poll_next`
    from the initial state, again after every `Pending`; the polls end with the WebTransport frame
    of the sender's session id, and reading from there with any positive buffer sizes (more buffers
    than bytes) yields exactly the bytes handed to the sender's write calls. -/
theorem C19_opened_bidi_answered_and_read_back (sid : Nat) (hsid : sid < 2^62) (hs : List Nat)
    (ops : List WOp) (hf : FramesOK ops) (hst : (openBidi sid hs ops).stuck = false)
    (hlen : (handed ops).length < 2^64) (sc0 : List Ev) (hsc : ScriptOK sc0)
    (hbytes : evBytes sc0 = (openBidi sid hs ops).wire) (hend : EndLast sc0)
    (sizes : List Nat) (hpos : ∀ n ∈ sizes, 0 < n) (hn : (handed ops).length < sizes.length) :
    ∃ s script, pollUntil frameDec (sc0.length + 1) {} sc0 = (.frame (.webTransport sid), s, script) ∧
      (readLim sizes (Rd.ofFS s) script).pieces.flatten = handed ops ∧
      (readLim sizes (Rd.ofFS s) script).fin = endOf script := by
  have hw := ((C19_opened_bidi_wire sid hsid hs ops hf).2.2.1 hst).1
  have hbytes' : evBytes sc0 = bidiHeader sid ++ handed ops := by rw [hbytes, hw]
  obtain ⟨s, script, hp, hR⟩ := C19_bidi_header_is_answered sid hsid (handed ops) sc0 hsc hbytes' hend
  exact ⟨s, script, hp,
    (C19_opened_bidi_read_back sid hsid hs ops hf hst hlen sc0 hsc hbytes hend hR sizes hpos hn).2⟩

-- the seven bytes of `cut₂` are what `open_bi(256)` + a 3-byte slice put on the wire
example : (openBidi 256 [4] [.slice [0xaa, 0xbb, 0xcc] [3]]).wire = evBytes cut₂ := cut₂_facts.2.2.2
example : 256 = 256 ∧
    (readLim [2, 2, 2, 2] (Rd.ofFS { buf := [[0xaa]], remaining := USIZE_MAX }) [.chunk [0xbb, 0xcc], .fin]).pieces.flatten =
      handed [.slice [0xaa, 0xbb, 0xcc] [3]] ∧
    (readLim [2, 2, 2, 2] (Rd.ofFS { buf := [[0xaa]], remaining := USIZE_MAX }) [.chunk [0xbb, 0xcc], .fin]).fin =
      endOf [.chunk [0xbb, 0xcc], .fin] :=
  C19_opened_bidi_read_back 256 (by decide) [4] [.slice [0xaa, 0xbb, 0xcc] [3]]
    (by intro p sc hm; simp at hm) (by decide +kernel) (by decide) cut₂
    scriptOK_cut₂ cut₂_facts.2.2.2.symm
    rfl reach_cut₂ [2, 2, 2, 2] (by decide) (by decide)

example : ∃ s script, pollUntil frameDec (cut₂.length + 1) {} cut₂ = (.frame (.webTransport 256), s, script) ∧
    (readLim [2, 2, 2, 2] (Rd.ofFS s) script).pieces.flatten = handed [.slice [0xaa, 0xbb, 0xcc] [3]] ∧
    (readLim [2, 2, 2, 2] (Rd.ofFS s) script).fin = endOf script :=
  C19_opened_bidi_answered_and_read_back 256 (by decide) [4] [.slice [0xaa, 0xbb, 0xcc] [3]]
    (by intro p sc hm; simp at hm) (by decide +kernel) (by decide) cut₂
    scriptOK_cut₂ cut₂_facts.2.2.2.symm
    rfl [2, 2, 2, 2] (by decide) (by decide)

end readback

end H3.Props.C19
