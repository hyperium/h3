import H3.Lemmas.C06Run
import H3.Lemmas.C06Free
import H3.Lemmas.C06Ctl
import H3.Props.C04
import H3.Props.C05
import H3.Props.C11Closed
import H3.Props.C12
import H3.Lemmas.Setup
import H3.Lemmas.SendCompletion
import H3.Lemmas.ConnClose
/-! # C06 — no peer behaviour makes h3 panic or leaves a call pending for ever

Sections 1–4 (request streams, unidirectional streams, the control stream) rest on
`H3/Lemmas/C06{Frame,Req,Free,Run,Ctl}.lean`, 3 and 4 also on C04's theorems; sections 5–8 are assembled from
theorems of C05, C10, C12, C15 and from `Lemmas/WriteBuf`, `Setup`, `SendCompletion`, `ConnClose`.

A *transport script* (`List FS.Ev`) is what the QUIC receive stream answers to successive reads:
`chunk bytes | pend | fin | reset code`; an exhausted script answers `Pending`; "every
fragmentation and every schedule of polls" = "every script".  Hypotheses that occur:
`ScriptWF` — the chunks consist of bytes (`< 256`); `FS.ScriptOK` — chunks are non-empty (R-T);
only the completion theorems need the latter.

The *documented call pattern* of a request stream (both roles): `resolve_request` resp.
`recv_response`; then `recv_data` until it answers `None`; then `recv_trailers`; a call that
returns an error ends the pattern (no further call on the stream), a call that is `Pending` is
polled again.  As a state machine: `Phase`, `pollPhase`, `nextPhase`. -/
namespace H3.Props.C06
open H3.C06 H3.ReqRecv H3.Gen.Consts
open H3.Lemmas.C04 (ScriptWF hasEnd firstErr)
open H3.FS (Ev ScriptOK)

/-! ## 1. Request streams: the `assert!` of `poll_next` cannot fire -/

/-- **No panic on a request stream — the model's drivers.**  Both roles, every classification of
    header blocks (`H`), every transport script of bytes — arbitrary bytes, cut into arbitrary
    chunks (empty ones included), `pend` anywhere, FIN / RESET anywhere, anything behind them:
    * `documented … fsSrc …` (the driver the correspondence run executes: one poll per call, a
      `Pending` call stays pending), for every loop bound, and `documentedChunks`;
    * `runDoc` (every `Pending` retried while the script has events left), for every bound on
      `poll_recv_data`'s loop and on the number of polls
    never contain the panic outcome: no call of the documented pattern reaches `poll_next` with
    `remaining_data ≠ 0`. -/
theorem C06_no_panic_request_stream (role : Role) (H : Hdr) (script : List Ev) (hwf : ScriptWF script) :
    (∀ fuel,
      (documented role fsSrc H fuel { src := ({}, script) }).head ≠ .panic ∧
      (∀ r ∈ (documented role fsSrc H fuel { src := ({}, script) }).body, r ≠ .panic) ∧
      (documented role fsSrc H fuel { src := ({}, script) }).trailers ≠ some .panic) ∧
    ((documentedChunks role H script).head ≠ .panic ∧
      (∀ r ∈ (documentedChunks role H script).body, r ≠ .panic) ∧
      (documentedChunks role H script).trailers ≠ some .panic) ∧
    (∀ N k, ∀ e ∈ runDoc role H N k .head (initSt script), e.2 ≠ .panic) :=
  ⟨fun fuel => documented_no_panic role H fuel _ (phaseOK_init script) (wfSt_init script hwf),
   documented_no_panic role H _ _ (phaseOK_init script) (wfSt_init script hwf),
   fun N k => runDoc_no_panic role H N k .head _ (phaseOK_init script) (wfSt_init script hwf)⟩

def okHdr : Hdr := ⟨fun _ => .ok, fun _ => .ok⟩

/-- HEADERS(aa bb), DATA(2) cut in the length and in the payload, a grease frame, FIN; two
    `Pending`s on the way -/
def script₁ : List Ev :=
  [.chunk [0x01, 0x02, 0xaa, 0xbb, 0x00], .pend, .chunk [0x02, 0xc1], .pend, .chunk [0xc2, 0x21], .chunk [0x00], .fin]

-- non-vacuity: the pattern runs through all three phases; the one-poll driver stops at the first `pend`
example : documentedPolled .server okHdr script₁ =
    [(.head, .head [0xaa, 0xbb]), (.body, .data [0xc1]), (.body, .data [0xc2]), (.body, .end_),
     (.trailers, .noTrailers)] := by decide +kernel
example : documentedChunks .server okHdr script₁ =
    { head := .head [0xaa, 0xbb], body := [.pending], env := {} } := by decide +kernel
example : ScriptWF script₁ := by decide

/-- **No panic on a request stream — every schedule, and the invariant.**  In every
    configuration the documented pattern can reach (`DocReach`: calls in the documented order,
    a `Pending` call polled again any number of times, further events arriving from the peer
    between any two polls, any loop bound `N`):
    * the invariant holds: before `resolve_request`/`recv_response` and before `recv_trailers`
      `remaining_data = 0`; while `recv_data` is being called `remaining_data < 2^62` (the
      length of a DATA frame is a varint), so `poll_data` cannot answer `None` with data
      outstanding (db6b9f0 closed the other way to get there);
    * the call the pattern makes next does not panic. -/
theorem C06_no_panic_request_stream_every_schedule (role : Role) (H : Hdr) (N : Nat) (ph : Phase) (st : RSt)
    (h : DocReach role H N ph st) :
    PhaseOK ph st ∧ (pollPhase role H N ph st).1 ≠ .panic :=
  ⟨(docReach_inv h).1, (pollPhase_safe role H N ph st (docReach_inv h).1 (docReach_inv h).2).noPanic⟩

-- non-vacuity: a configuration in the middle of a body (one piece handed out, two bytes outstanding)
example : DocReach .client okHdr 9 .body
    (pollPhase .client okHdr 9 .body (pollPhase .client okHdr 9 .head
      (initSt [.chunk [0x01, 0x01, 0xaa, 0x00, 0x03, 0xb1]])).2).2 :=
  .poll (.poll (.init _ (by decide))
    (by decide +kernel)) (by decide +kernel)
example : (pollPhase .client okHdr 9 .body (pollPhase .client okHdr 9 .head
    (initSt [.chunk [0x01, 0x01, 0xaa, 0x00, 0x03, 0xb1]])).2).2.src.1.remaining = 2 := by decide +kernel

/-- **No panic on a request stream — ANY order of calls (no call-pattern hypothesis).**  After the
    repair "recv_trailers answers an error instead of panicking while a DATA payload is outstanding"
    `poll_recv_trailers` tests `has_data()` first, as `poll_recv_data` always did
    (`pollRecvTrailersG`).  For EVERY state of a request stream — any buffered chunks, any transport
    script behind them, any `remaining_data`, any saved trailers, any recorded error; that is:
    whatever was called before, in whatever order, whatever it answered (errors included), whatever
    arrived in between:
    * `recv_data` does not panic (for every bound on its loop);
    * `recv_trailers` does not panic;
    * the message head (`resolve_request`, which consumes the resolver and so runs once, first;
      `recv_response`, which the documentation wants called before `recv_data`) does not panic from
      `remaining_data = 0`, i.e. as the first call;
    * and the repair changes nothing inside the documented pattern: whenever `remaining_data = 0` —
      in particular in every configuration the pattern reaches before `recv_trailers` (`DocReach …
      .trailers`) — the repaired function is the function the other theorems (C03, C07, C01 and the
      completion theorems below) are about. -/
theorem C06_no_panic_any_call_order (role : Role) (H : Hdr) :
    (∀ (N : Nat) (st : RSt), (pollRecvData fsSrc N st).1 ≠ .panic) ∧
    (∀ st : RSt, (pollRecvTrailersG fsSrc H st).1 ≠ .panic) ∧
    (∀ st : RSt, st.src.1.remaining = 0 → (pollHead role fsSrc H st).1 ≠ .panic) ∧
    (∀ st : RSt, st.src.1.remaining = 0 → pollRecvTrailersG fsSrc H st = pollRecvTrailers fsSrc H st) ∧
    (∀ (N : Nat) (st : RSt), DocReach role H N .trailers st →
      pollRecvTrailersG fsSrc H st = (pollPhase role H N .trailers st)) :=
  ⟨pollRecvData_never_panics, pollRecvTrailersG_never_panics H, pollHead_never_panics role H,
   pollRecvTrailersG_eq H, fun _ st h => pollRecvTrailersG_eq H st (docReach_inv h).1⟩

/-- **The guard is what keeps the `assert!` from firing** (the scenario that used to be the panic
    outside the documented pattern): HEADERS, DATA(4) with two payload bytes, FIN.  `recv_data` fails
    with H3_FRAME_ERROR (the truncation, C02) and leaves `remaining_data = 4`; the part of
    `poll_recv_trailers` behind the guard would reach `poll_next` and its `assert!` (`panic` in the
    model, as the code before the repair did); the repaired function answers
    `StreamError{H3_FRAME_UNEXPECTED}`.  The same after a partly read body without any error. -/
theorem C06_recv_trailers_guard_witness :
    (pollRecvData fsSrc 10 (pollHead .server fsSrc okHdr
      (initSt [.chunk [0x01, 0x01, 0xaa, 0x00, 0x04, 0xb1, 0xb2], .fin])).2).1 = .errConn 262 ∧
    (pollRecvTrailers fsSrc okHdr (pollRecvData fsSrc 10 (pollHead .server fsSrc okHdr
      (initSt [.chunk [0x01, 0x01, 0xaa, 0x00, 0x04, 0xb1, 0xb2], .fin])).2).2).1 = .panic ∧
    (pollRecvTrailersG fsSrc okHdr (pollRecvData fsSrc 10 (pollHead .server fsSrc okHdr
      (initSt [.chunk [0x01, 0x01, 0xaa, 0x00, 0x04, 0xb1, 0xb2], .fin])).2).2).1 = .errStream 261 ∧
    (pollRecvData fsSrc 10 (pollHead .client fsSrc okHdr
      (initSt [.chunk [0x01, 0x01, 0xaa, 0x00, 0x04, 0xb1, 0xb2]])).2).1 = .data [0xb1, 0xb2] ∧
    (pollRecvTrailersG fsSrc okHdr (pollRecvData fsSrc 10 (pollHead .client fsSrc okHdr
      (initSt [.chunk [0x01, 0x01, 0xaa, 0x00, 0x04, 0xb1, 0xb2]])).2).2).1 = .errStream 261 := by
  decide +kernel

/-! ## 2. Request streams: completion -/

/-- **Completion on a request stream.**  Both roles, every `H`, every script of non-empty chunks
    of bytes that contains the stream's `fin` or a `reset` (at any position, anything before and
    behind it, `pend` anywhere): the documented pattern, every `Pending` retried, runs to its end —
    every logged answer is a value or an error (`settled`: not `Pending`, not the loop-bound
    artefact, not the panic outcome), and the last one ends the pattern (`nextPhase = none`: the
    answer of `recv_trailers`, or an error). -/
theorem C06_completion_request_stream (role : Role) (H : Hdr) (script : List Ev) (hwf : ScriptWF script)
    (hok : ScriptOK script) (hend : Ev.fin ∈ script ∨ ∃ c, Ev.reset c ∈ script) :
    (∀ e ∈ documentedPolled role H script, settled e.2 = true) ∧
    ∃ pre last, documentedPolled role H script = pre ++ [last] ∧ nextPhase last.1 last.2 = none := by
  -- `fsFuel` = buffered bytes + bytes to come + events + 4, the measure `mu` + 4
  have hmu : fsFuel ({}, script) = muS (initSt script) + 4 := FS.fsFuel_mu {} script
  exact runDoc_complete role H _ _ .head (initSt script) (phaseOK_init script) (wfSt_init script hwf)
    (good_init FS.frameDec script hok) (Or.inr hend) (by omega) (by simp only [rank]; omega)

example : documentedPolled .client okHdr
    [.chunk [0x01, 0x02, 0xaa, 0xbb, 0x00], .pend, .chunk [0x04, 0xc1], .reset 7] =
    [(.head, .head [0xaa, 0xbb]), (.body, .errReset 7)] := by decide +kernel
example : documentedPolled .client okHdr
    [.chunk [0x01, 0x02, 0xaa, 0xbb, 0x00], .pend, .chunk [0x04, 0xc1], .fin] =
    [(.head, .head [0xaa, 0xbb]), (.body, .errConn 262)] := by decide +kernel
-- without the end of the stream in the script the pattern does stay pending (the hypothesis is needed)
example : documentedPolled .server okHdr [.chunk [0x01, 0x02, 0xaa, 0xbb, 0x00], .pend, .chunk [0x04, 0xc1]] =
    [(.head, .head [0xaa, 0xbb]), (.body, .data [0xc1]), (.body, .pending)] := by decide +kernel

/-- **Nothing waits once the stream has ended — every schedule.**  In every configuration the
    documented pattern can reach, once the transport has answered the end of the stream
    (`eos`), or a reset is what it answers next (`AtEnd`): the call the pattern makes next does
    not answer `Pending`, and if the pattern goes on the next configuration is again `AtEnd` — as
    it also is when more events arrive.  (No assumption on the chunking.) -/
theorem C06_completion_request_stream_every_schedule (role : Role) (H : Hdr) (N : Nat) (ph : Phase)
    (st : RSt) (h : DocReach role H N ph st) (hE : AtEnd st.src) :
    (pollPhase role H N ph st).1 ≠ .pending ∧
    (∀ ph', nextPhase ph (pollPhase role H N ph st).1 = some ph' → AtEnd (pollPhase role H N ph st).2.src) ∧
    (∀ evs, AtEnd (st.src.1, st.src.2 ++ evs)) :=
  ⟨((pollPhase_safe role H N ph st (docReach_inv h).1 (docReach_inv h).2).atEnd hE).1,
   ((pollPhase_safe role H N ph st (docReach_inv h).1 (docReach_inv h).2).atEnd hE).2,
   fun evs => atEnd_arrive evs hE⟩

example : AtEnd (pollPhase .server okHdr 9 .body
    (pollPhase .server okHdr 9 .head (initSt [.chunk [0x01, 0x01, 0xaa], .fin])).2).2.src :=
  Or.inl (by decide +kernel)
example : AtEnd (initSt [.reset 5, .chunk [0x01]]).src := Or.inr ⟨5, _, rfl⟩

/-! ## 3. Unidirectional streams: type resolution -/

/-- **Unidirectional streams.**  For every transport script of bytes (any chunking, `pend`
    anywhere, FIN or RESET anywhere), `poll_type` polled again while it answers `Pending`:
    * never ends with H3_INTERNAL_ERROR ("Unexpected end parsing varint");
    * is left waiting only if the script contains neither FIN nor RESET — a stream that ends
      before its header is complete is dropped, which raises no connection error;
    * when it resolves, neither `expect` of `into_stream` can fire. -/
theorem C06_uni_streams (sc : List Ev) (hwf : ScriptWF sc) :
    UniAccept.resolve (sc.length + 1) {} sc ≠ .internal ∧
    (hasEnd sc = true → ∀ s, UniAccept.resolve (sc.length + 1) {} sc ≠ .waiting s) ∧
    (∀ s r, UniAccept.resolve (sc.length + 1) {} sc = .resolved s r → UniAccept.intoStream s ≠ none) ∧
    (∀ cfg c, (Control.acceptArrival cfg c .dropped).err = none) := by
  have h := H3.Lemmas.C04.resolve_outcome sc hwf
  refine ⟨fun hi => by rw [hi] at h; exact h, fun he s hs => ?_, fun s r hs => ?_, fun _ _ => rfl⟩
  · rw [hs, he] at h
    cases h.2
  · rw [hs] at h
    obtain ⟨ty, hty, hh⟩ := h
    obtain ⟨k, hk, _⟩ := H3.Props.C04.C04_into_stream { role := .server } s ty hty
      (fun hi => H3.Lemmas.C04.header_id _ ty s.id _ hh hi)
    rw [hk]
    simp

example : UniAccept.resolve 4 {} [.chunk [0x01], .chunk [0x40], .reset 9] = .dropped := by decide +kernel
example : UniAccept.intoStream { buf := [0xaa], ty := some 0x54, id := some 0x10000 } = some (.wtUni 0x10000) := by
  decide

/-! ## 4. The control stream -/

/-- **The control stream.**  `ctlOuts k s script`: everything `FrameStream::poll_next` answers on
    the control stream for a transport script, from a state `s` with no payload outstanding
    (what `into_stream` builds), polled again after every frame without payload and after every
    `Pending` while the script has events; `ctlIns` = the same answers as `poll_control` reads
    them (`itemOf`).
    * No answer is the panic outcome (or a data piece): `poll_control` only calls `poll_next`
      with `remaining_data = 0` — for every script.
    * If the script (non-empty chunks) contains the stream's FIN or a RESET, the answers end
      with a terminal one — clean end, truncation, reset, protocol error, or a frame with a
      payload (DATA / WebTransport) — and the control machine ends with a connection error
      (`firstErr`), which is what the polled driver returns whatever the grease stream does
      (`driveAll`, by `C04_first_error`): it does not stay pending.
    * If no frame before the end raised an error (those errors are C04's), the error is
      H3_CLOSED_CRITICAL_STREAM for a clean FIN and for a RESET, and H3_FRAME_ERROR — the code
      of the overlapping rule — when FIN cuts a frame (R-04). -/
theorem C06_control_stream (cfg : Control.Cfg) (c : Control.Conn) (hc : c.control = true) (hce : c.err = none)
    (s : FS.St) (h0 : s.remaining = 0) (script : List Ev) (k : Nat) :
    (∀ o ∈ ctlOuts k s script, o ≠ .panic ∧ ∀ d, o ≠ .data d) ∧
    (Good FS.frameDec s script → Ends s script → mu s script < k →
      ∃ pre last, ctlOuts k s script = pre ++ [last] ∧ terminalOut last ∧
        (∃ e, firstErr cfg c (ctlIns k s script) = some e ∧
          ∀ gs g, (Control.driveAll false cfg ((ctlIns k s script).length + 1) c gs (ctlIns k s script) g).2.1
            = some e) ∧
        (firstErr cfg c (pre.filterMap itemOf) = none →
          ((last = .none ∨ ∃ q, last = .errQuic q) →
            firstErr cfg c (ctlIns k s script) = some CODE_H3_CLOSED_CRITICAL_STREAM) ∧
          (last = .errEnd → firstErr cfg c (ctlIns k s script) = some CODE_H3_FRAME_ERROR))) := by
  refine ⟨?_, ?_⟩
  · intro o ho
    have := ctlOuts_no_panic k s script h0 o ho
    cases o <;> first | exact this.elim | exact ⟨by simp, by simp⟩
  · intro hG hE hk
    obtain ⟨pre, last, h1, h2⟩ := ctlOuts_complete k s script h0 hG hE hk
    refine ⟨pre, last, h1, h2, ?_, ?_⟩
    · obtain ⟨e, he⟩ := firstErr_of_terminal cfg last h2 pre c hc
      have he' : firstErr cfg c (ctlIns k s script) = some e := by
        unfold ctlIns; rw [h1]; exact he
      refine ⟨e, he', fun gs g => ?_⟩
      rw [H3.Props.C04.C04_first_error cfg c gs _ g hce]
      exact he'
    · intro hpre
      have hsplit : ∀ x, itemOf last = some x →
          firstErr cfg c (ctlIns k s script) = (Control.step cfg (after cfg c (pre.filterMap itemOf)) x).2.2 := by
        intro x hx
        unfold ctlIns
        rw [h1, List.filterMap_append, firstErr_append, hpre]
        simp only [List.filterMap_cons, hx, List.filterMap_nil, Option.none_or, firstErr]
        cases (Control.step cfg (after cfg c (pre.filterMap itemOf)) x).2.2 <;> rfl
      have hctl := after_control cfg (pre.filterMap itemOf) c hc
      obtain ⟨e1, e2, e3⟩ := step_stream_end cfg _ hctl
      refine ⟨?_, ?_⟩
      · rintro (rfl | ⟨q, rfl⟩)
        · rw [hsplit _ rfl]; exact e1
        · rw [hsplit _ rfl]; exact e2 q
      · rintro rfl
        rw [hsplit _ rfl]; exact e3

-- non-vacuity: SETTINGS, GOAWAY(0) cut by a `Pending`, then FIN / RESET / FIN inside the frame
example : ctlOuts 20 {} [.chunk [0x04, 0x00, 0x07], .pend, .chunk [0x01, 0x00], .fin] =
    [.frame (.settings []), .pending, .frame (.goaway 0), .none] := by decide +kernel
example : firstErr { role := .server } { control := true }
    (ctlIns 20 {} [.chunk [0x04, 0x00, 0x07], .pend, .chunk [0x01, 0x00], .fin]) = some 0x0104 := by
  decide +kernel
example : firstErr { role := .client } { control := true }
    (ctlIns 20 {} [.chunk [0x04, 0x00, 0x07], .pend, .chunk [0x01], .reset 3]) = some 0x0104 := by
  decide +kernel
example : firstErr { role := .server } { control := true }
    (ctlIns 20 {} [.chunk [0x04, 0x00, 0x07], .pend, .chunk [0x01], .fin]) = some 0x0106 := by
  decide +kernel
-- a DATA frame on the control stream: the machine's error (H3_FRAME_UNEXPECTED) comes first
example : firstErr { role := .server } { control := true }
    (ctlIns 20 {} [.chunk [0x04, 0x00, 0x00, 0x02, 0xaa], .fin]) = some 0x0105 := by decide +kernel
example : Good FS.frameDec {} [.chunk [0x04, 0x00, 0x07], .pend, .chunk [0x01, 0x00], .fin] :=
  good_init _ _ (by decide)
-- the state `into_stream` builds when bytes behind the stream header were already buffered
example : Good FS.frameDec { buf := if [0x04, 0x00] = [] then [] else [[0x04, 0x00]], eos := false } [.fin] :=
  good_leftover FS.frameDec [0x04, 0x00] false [.fin] (by decide)

/-! ## 5. Field sections and messages -/

/-- **Field sections.**  Decoding any byte string as a field section and turning any field list
    into a message never panics:
    * `decode_stateless` on every byte string and every limit answers with one of the code's own
      `Ok`/`Err` values — the model's loop bound (`fuel`) is never reached (C10/C11);
    * the server's answer to an oversized section (encoding and sending the 431) does not panic;
    * `prefix_int::decode` with the prefix sizes 1..8 and `prefix_string::decode` with the sizes
      2..9 (the callers pass constants in these ranges) never hit `assert!(size <= 8)`, the
      `u8` shifts or `size - 1` — on every byte string (C15);
    * the Huffman decoder never runs out of the model's bound (C15);
    * the Huffman decoder's machine arithmetic — its `u32` bit positions, the `u8` / `u16` shifts and
      the slice indexings of `read_bits` — never overflows: `prefix_string::decode` with every one of
      these operations checked (`decodeGC?`) is the unchecked model on EVERY byte string, because the
      repaired function refuses a Huffman literal whose bit length + 16 does not fit `u32` before the
      decoder sees it (D-06u, `C15_huffman_positions_fit`; the tree under check has the refusal when the
      translator's `hugeLiteralRefused` says so);
    * `Header::try_from` + `into_request_parts` / `into_response_parts` / `into_fields` on every
      field list return `Ok` or a `HeaderError`, never the panic outcome (C12, after 8fb18d1; also
      with the D-01 repair, where a map that cannot be pre-sized starts empty and a full map is
      reported by `try_append`). -/
theorem C06_field_sections :
    (∀ (b : List Nat) (max : Nat), Qpack.decodeStateless b max ≠ .err .fuel) ∧
    (∀ (mfs : Nat) (applied : Option Nat) (block : List Nat), Qpack.serverResolve mfs applied block ≠ .panic) ∧
    (∀ (n : Nat) (bs : List Nat), 1 ≤ n → n ≤ 8 → Varint.WF bs →
      PrefixInt.decode? n bs = some (PrefixInt.decode n bs)) ∧
    (∀ (n : Nat) (bs : List Nat), 2 ≤ n → n ≤ 9 → Varint.WF bs →
      PrefixString.decode? n bs = some (PrefixString.decode n bs)) ∧
    (∀ b : List Nat, Varint.WF b → Huffman.hdecodeX b ≠ .error .fuel) ∧
    (H3.Gen.HuffDec.hugeLiteralRefused = true → ∀ (n : Nat) (bs : List Nat), 2 ≤ n → n ≤ 9 → Varint.WF bs →
      PrefixString.decodeGC? true n bs = some (PrefixString.decode n bs)) ∧
    (∀ (H : Headers.Http) (fs : List Headers.FieldLine),
      Headers.recvRequest H fs ≠ .panic ∧ Headers.recvResponse H fs ≠ .panic ∧
      Headers.recvTrailers H fs ≠ .panic) := by
  have hstr : ∀ (n : Nat) (bs : List Nat), 2 ≤ n → n ≤ 9 → Varint.WF bs →
      PrefixString.decode? n bs = some (PrefixString.decode n bs) := by
    intro n bs h2 h9 hwf
    have hi := H3.Props.C15.C15_prefix_int_no_panic (n - 1) (by omega) (by omega) bs hwf
    have hsome : ∃ x, PrefixString.decode? n bs = some x := by
      unfold PrefixString.decode? PrefixString.decodeG?
      rw [if_neg (by omega), hi]
      cases PrefixInt.decode (n - 1) bs with
      | endOf => exact ⟨_, rfl⟩
      | overflow => exact ⟨_, rfl⟩
      | ok flags len rest =>
        simp only
        split <;> exact ⟨_, rfl⟩
    obtain ⟨x, hx⟩ := hsome
    simp [PrefixString.decode, hx]
  refine ⟨fun b max => (H3.Props.C10.C10_recv_no_wrap b max).1, ?_, ?_, hstr, ?_, ?_, H3.Props.C12.C12_no_panic⟩
  · intro mfs applied block
    unfold Qpack.serverResolve
    cases Qpack.recvSite .serverRequest mfs block with
    | fields fs => simp
    | connError c => simp
    | tooBig n m st =>
      simp only [Qpack.sendSite, H3.Props.C10.response431_encoded]
      by_cases hlim : 42 > Qpack.peerLimit applied <;> simp [hlim]
  · intro n bs h1 h8 hwf
    exact H3.Props.C15.C15_prefix_int_no_panic n h1 h8 bs hwf
  · intro b hb
    -- the last of its six conjuncts
    exact (H3.Props.C15.C15_huffman_accepts_exactly_partial b hb []).2.2.2.2.2
  · intro hg n bs h2 h9 hwf
    -- its third conjunct (with the refusal in the source), second half: the checked `decodeGC?` is `decode?`
    rw [((H3.Props.C15.C15_huffman_positions_fit).2.2.1 hg n bs).2]
    exact hstr n bs h2 h9 hwf

example : Qpack.decodeStateless [0, 0, 0x5f, 0x09, 0x81] 1000 = .err (.invalidString .unexpectedEnd) := by
  decide +kernel
example : Qpack.decodeStateless [0xff, 0xff, 0xff, 0xff, 0xff, 0xff, 0xff, 0xff, 0xff, 0xff, 0xff] 1000 =
    .err (.invalidInteger .overflow) := by decide +kernel
example : PrefixString.decode? 8 [0x82, 0xff] = some (.err .unexpectedEnd) := by decide +kernel

/-! ## 6. The send side under the peer's flow control -/

/-- **Writing.**  What the peer controls on the send side is how many bytes the transport takes
    in each `poll_ready` (flow control; 0 = `Pending`; a STOP_SENDING ends the writing with the
    transport's error, which the call returns).  For every well-formed `WriteBuf` — every `From`
    conversion yields one (`C14_conversions`) — and every acceptance script, `stream::write`
    does not panic: `advance` is never asked for more than is left (`Bytes::advance`,
    `self.len - self.pos`, `buf[self.pos..self.len]`), and nothing is lost or written twice:
    what went out followed by what is left is the original content. -/
theorem C06_send_side (w : WriteBuf.WB) (hwf : w.WF) (script : List Nat) :
    WriteBuf.write (some w) script ≠ .panic ∧
    ∃ out w', w.drain script = some (out, w') ∧ w'.WF ∧ out ++ w'.view = w.view := by
  obtain ⟨o, w', hd, hwf', hv⟩ := WriteBuf.drain_spec w hwf script
  refine ⟨?_, o, w', hd, hwf', hv⟩
  simp only [WriteBuf.write, hd]
  split <;> simp

example : (match WriteBuf.write (WriteBuf.fromFrame (.data [9, 8, 7])) [1, 0, 2, 1] with
    | .pending out w => (out, w.view)
    | _ => ([], [])) = ([0x00, 0x03, 9], [8, 7]) := by decide +kernel

/-- **Completion of the send-side calls.**  `c` is any API call of the send side as the sequence of
    transport waits it makes (`SendCall`): client `send_request` = `poll_open_bidi` (waits for stream
    credit) + one `stream::write`; `send_response` / `send_data` / `send_trailers` = one
    `stream::write`; `finish` = the grease frame if one is due + `poll_finish`.  The transport's
    answers (`Acc`) are chosen by the peer: `take k` = flow control (`take 0` = `Pending`), `err e` =
    the call fails — `StreamTerminated{code}` once the peer's STOP_SENDING has arrived, a connection
    error once the peer closed the connection or it timed out.  For every call over well-formed
    `WriteBuf`s (every `From` conversion yields one, `C14_conversions`) and EVERY script:
    * no panic;
    * `Ok` ⇒ exactly the call's content went out;
    * `Err(e)` ⇒ `e` is the FIRST error answer of the script, what went out is a prefix of the
      content, and nothing that arrives later changes the outcome;
    * still `Pending` at the end of the script ⇒ the script contains NO error answer and fewer
      progress answers than the call needs (`need` = one per wait, one per byte: a crude but
      sufficient bound), a prefix of the content went out — and as soon as an error answer arrives
      (STOP_SENDING, close, timeout), whatever follows it, the call returns exactly that error;
    * hence: a script that contains an error answer, or enough acceptance, never leaves the call
      pending — it ends with `Ok` or with an error of the script;
    * the single write loop `writeE` (`stream::write`): the same, with the buffer that is left
      (`DrainOK`: well-formed, not empty, `out ++ left.view` = the original content). -/
theorem C06_send_completion (c : WriteBuf.SendCall) (hwf : ∀ w ∈ c.writes, w.WF) (script : List WriteBuf.Acc) :
    WriteBuf.callE c script ≠ .panic ∧
    (∀ out, WriteBuf.callE c script = .ok out → out = c.content) ∧
    (∀ out e, WriteBuf.callE c script = .failed out e →
      (∃ pre post, script = pre ++ .err e :: post ∧ WriteBuf.NoErr pre) ∧ (∃ t, out ++ t = c.content) ∧
      ∀ more, WriteBuf.callE c (script ++ more) = .failed out e) ∧
    (∀ out, WriteBuf.callE c script = .pending out →
      WriteBuf.NoErr script ∧ WriteBuf.posTakes script < c.need ∧ (∃ t, out ++ t = c.content) ∧
      ∀ e more, WriteBuf.callE c (script ++ .err e :: more) = .failed out e) ∧
    (((∃ e, WriteBuf.Acc.err e ∈ script) ∨ c.need ≤ WriteBuf.posTakes script) →
      (∃ out, WriteBuf.callE c script = .ok out) ∨
      ∃ out e, WriteBuf.callE c script = .failed out e ∧ WriteBuf.Acc.err e ∈ script) ∧
    (∀ w : WriteBuf.WB, w.WF → WriteBuf.DrainOK w [] script (WriteBuf.writeE (some w) script)) := by
  have h := WriteBuf.callE_ok c hwf script
  refine ⟨?_, ?_, ?_, ?_, ?_, fun w hw => WriteBuf.drainE_ok w hw [] script⟩
  · intro hp; rw [hp] at h; exact h
  · intro out ho; rw [ho] at h; exact h
  · intro out e ho; rw [ho] at h; exact h
  · intro out ho; rw [ho] at h; exact h
  · intro hyp
    cases ho : WriteBuf.callE c script with
    | ok out => exact Or.inl ⟨out, rfl⟩
    | failed out e =>
      rw [ho] at h
      obtain ⟨⟨pre, post, hs, _⟩, _, _⟩ := h
      exact Or.inr ⟨out, e, rfl, by rw [hs]; simp⟩
    | pending out =>
      rw [ho] at h
      obtain ⟨h1, h2, _, _⟩ := h
      rcases hyp with ⟨e, he⟩ | hn
      · exact (h1 e he).elim
      · exact absurd h2 (Nat.not_lt.mpr hn)
    | panic => rw [ho] at h; exact h.elim

-- non-vacuity.  `send_data(09 08 07)` (header 00 03, then the payload) gets one byte of write credit, then
-- none: pending; the peer's STOP_SENDING (code 7) ends the call with that error
example : (WriteBuf.fromFrame (.data [9, 8, 7])).map (fun w =>
    (WriteBuf.callE { writes := [w] } [.take 1, .take 0],
     WriteBuf.callE { writes := [w] } [.take 1, .take 0, .err (.terminated 7), .take 100])) =
    some (.pending [0x00], .failed [0x00] (.terminated 7)) := by decide +kernel
-- enough credit in pieces: header rest, then the payload
example : (WriteBuf.fromFrame (.data [9, 8, 7])).map (fun w =>
    WriteBuf.callE { writes := [w] } [.take 1, .take 0, .take 9, .take 2, .take 0, .take 1]) =
    some (.ok [0x00, 0x03, 9, 8, 7]) := by decide +kernel
-- client `send_request` waits for stream credit (`poll_open_bidi` Pending twice) when the connection times out;
-- with credit it opens, and is stopped in the middle of the HEADERS frame
example : (WriteBuf.fromFrame (.headers [0xd1, 0xd7])).map (fun w =>
    (WriteBuf.callE { opens := true, writes := [w] } [.take 0, .take 0, .err (.conn 1)],
     WriteBuf.callE { opens := true, writes := [w] } [.take 0, .take 1, .take 2, .take 1, .err (.terminated 0)])) =
    some (.failed [] (.conn 1), .failed [0x01, 0x02, 0xd1] (.terminated 0)) := by decide +kernel
-- `finish` with a grease frame due: the frame, then `poll_finish`, which waits until the peer closes
example : (WriteBuf.fromFrame (.grease 0x21)).map (fun w =>
    (WriteBuf.callE { writes := [w], finishes := true } [.take 100, .take 0],
     WriteBuf.callE { writes := [w], finishes := true } [.take 100, .take 0, .err (.conn 0)],
     WriteBuf.callE { writes := [w], finishes := true } [.take 100, .take 1])) =
    some (.pending [0x21, 0x06, 103, 114, 101, 97, 115, 101], .failed [0x21, 0x06, 103, 114, 101, 97, 115, 101] (.conn 0),
          .ok [0x21, 0x06, 103, 114, 101, 97, 115, 101]) := by decide +kernel

/-! ## 7. Connection close -/

/-- **When the connection has failed or was closed** (full strength: the connection error is an
    event of the model).  `H3.ConnClose` carries the event additively: the frame layer passes on
    whatever `StreamErrorIncoming` the transport answers, so `FS.Ev.reset c` / `Out.errQuic c` stand
    for "the transport answered `Err(e)`", `c` naming `e`; `TErr.code` names every variant — the
    identity on RESET_STREAM codes (`< 2^62`), numbers from `2^62` on for `ConnectionErrorIncoming`
    (`EvC.connErr q`: the peer closed the connection, it timed out, it failed) and `Unknown`.
    1. The naming loses nothing, and a connection error is never mistaken for a reset.
    2. Frame layer: with `connErr q` the transport's next answer (the end of the stream not yet
       read), `poll_next` and `poll_data` answer `Err(Quic(connection error))` AT ONCE — before
       anything buffered is decoded — and leave state and script alone: the error stays the
       transport's answer to every later read (sticky), as SimQuic and Quinn behave.
    3. Request streams, ANY state (whatever was called before, whatever it answered): with `connErr
       q` the transport's next answer, `recv_data`, `recv_trailers` and (as the first call) the
       message head do not answer `Pending` and do not panic; while the end of the stream has not
       been read they answer exactly the connection error (`recv_trailers` from a state with a DATA
       payload outstanding answers the stream error of its guard), the state is untouched, so every
       later call completes the same way.
    4. What the caller is handed: `handle_quic_stream_error` stores the error in the connection's
       cell unless one is there (first wins) and returns `StreamError::ConnectionError` of the error
       IN the cell; a RESET_STREAM code still yields `RemoteTerminate` and leaves the cell alone.
    5. The driver: `poll_control` with the error recorded returns it at once whatever is queued, and
       so does the role's driver poll; the error cell never loses a stored error — a peer close
       `quic (appClose code)` and a timeout `quic timeout` are such errors — and a parked driver's
       next poll returns it however the stream handles' steps interleave (`C05_no_lost_wakeup`);
       once the cell holds an error every connection-level failure of a call returns the stored one.
    6. The send side: a send call (`send_request` waiting for stream credit included) that is
       pending returns the connection error as soon as the transport answers it
       (`C06_send_completion`).
    What remains the transport's: that it wakes every task parked on one of its calls when the
    connection fails (SimQuic does, Quinn does; `C06_setup_pending_only_on_transport` and the frame
    layer's `pend` facts say h3 answers `Pending` only from a transport call that answered
    `Pending`) — the `adv`, `flt` and `wt` runs observe it at executor quiescence (R-06). -/
theorem C06_connection_close :
    ((∀ e : ConnClose.TErr, (∀ c, e = .terminated c → c < 2 ^ 62) → ConnClose.TErr.ofCode e.code = e) ∧
      ∀ q, 2 ^ 62 ≤ ConnClose.TErr.code (.conn q)) ∧
    (∀ (s : FS.St) (q : ErrCell.QErr) (r : List ConnClose.EvC), s.eos = false →
      (s.remaining = 0 → FS.pollNext FS.frameDec s (ConnClose.lower (.connErr q :: r)) =
        (.errQuic (ConnClose.TErr.code (.conn q)), s, ConnClose.lower (.connErr q :: r))) ∧
      (s.remaining ≠ 0 → FS.pollData (F := H3.Frame.Frame) (E := H3.Frame.FrameErr) s (ConnClose.lower (.connErr q :: r)) =
        (.errQuic (ConnClose.TErr.code (.conn q)), s, ConnClose.lower (.connErr q :: r)))) ∧
    (∀ (role : Role) (H : Hdr) (N : Nat) (st : RSt) (q : ErrCell.QErr) (r : List ConnClose.EvC),
      st.src.2 = ConnClose.lower (.connErr q :: r) →
      ((pollRecvData fsSrc N st).1 ≠ .pending ∧ (pollRecvData fsSrc N st).1 ≠ .panic) ∧
      ((pollRecvTrailersG fsSrc H st).1 ≠ .pending ∧ (pollRecvTrailersG fsSrc H st).1 ≠ .panic) ∧
      (st.src.1.remaining = 0 →
        (pollHead role fsSrc H st).1 ≠ .pending ∧ (pollHead role fsSrc H st).1 ≠ .panic) ∧
      (st.src.1.eos = false →
        pollRecvData fsSrc (N + 1) st = (.errReset (ConnClose.TErr.code (.conn q)), st) ∧
        (st.src.1.remaining = 0 → st.trailers = none →
          pollRecvTrailersG fsSrc H st = (.errReset (ConnClose.TErr.code (.conn q)), st)) ∧
        (st.src.1.remaining = 0 →
          pollHead role fsSrc H st = (.errReset (ConnClose.TErr.code (.conn q)), st)))) ∧
    ((∀ (cell : Option ErrCell.Err) (q : ErrCell.QErr),
        ConnClose.handleQuic cell (ConnClose.TErr.ofCode (ConnClose.TErr.code (.conn q))) =
          (.connection (ErrCell.convert (cell.getD (.quic q))), some (cell.getD (.quic q)))) ∧
      (∀ (cell : Option ErrCell.Err) (c : Nat), c < 2 ^ 62 →
        ConnClose.handleQuic cell (ConnClose.TErr.ofCode c) = (.remoteTerminate c, cell))) ∧
    ((∀ (blocking : Bool) (cfg : Control.Cfg) (c : Control.Conn) (gs : Control.Grease) (ins : List Control.In)
        (g : List Control.GAns) (e : Nat), c.err = some e →
      (Control.pollControl blocking cfg c gs ins g).res = .err e ∧
      ∀ fuel, (Control.drivePoll blocking cfg (fuel + 1) c gs ins g).res = some e) ∧
     (∀ (todo : List (List ErrCell.Err)) (sched : List ErrCell.TaskId) (e : ErrCell.Err),
      let s := ErrCell.run true (ErrCell.init todo) sched
      ErrCell.lostWakeup s = false ∧
      (s.cell = some e → s.pc = .idle → ∀ mid₁ mid₂ : List Nat,
        let s' := ErrCell.run true s
          ([.drv .poll] ++ mid₁.map .str ++ [.drv .pce] ++ mid₂.map .str ++ [.drv .pce])
        s'.handled = some (ErrCell.convert e) ∧ ∃ rest, s'.drets = ErrCell.convert e :: rest)) ∧
     (∀ (st : RSt) (c code : Nat), st.env.cell = some c → connErr st code = (.errConn c, st))) ∧
    (∀ (c : WriteBuf.SendCall) (_ : ∀ w ∈ c.writes, w.WF) (script : List WriteBuf.Acc) (out : List Nat)
        (q : Nat) (more : List WriteBuf.Acc),
      WriteBuf.callE c script = .pending out →
      WriteBuf.callE c (script ++ .err (.conn q) :: more) = .failed out (.conn q)) := by
  refine ⟨⟨ConnClose.ofCode_code, ConnClose.conn_code_ge⟩, ?_, ?_, ⟨?_, ?_⟩, ⟨?_, ?_, ?_⟩, ?_⟩
  · intro s q r heos
    rw [ConnClose.lower_connErr]
    exact ⟨fun h0 => pollNext_reset FS.frameDec s _ _ h0 heos, fun h0 => pollData_reset s _ _ h0 heos⟩
  · intro role H N st q r hs
    have hE : AtEnd st.src := ConnClose.atEnd_closed st.src q r hs
    refine ⟨⟨pollRecvData_atEnd N st hE, pollRecvData_never_panics N st⟩,
      ⟨pollRecvTrailersG_atEnd H st hE, pollRecvTrailersG_never_panics H st⟩,
      fun h0 => ⟨pollHead_atEnd role H st h0 hE, pollHead_never_panics role H st h0⟩, fun heos => ?_⟩
    rw [ConnClose.lower_connErr] at hs
    exact calls_on_error role H N st _ _ hs heos
  · intro cell q
    rw [ConnClose.ofCode_code _ (fun c h => by cases h)]
    cases cell <;> rfl
  · intro cell c hc
    have : ConnClose.TErr.ofCode c = .terminated c := ConnClose.ofCode_code (.terminated c) (fun c' h => by cases h; exact hc)
    rw [this]
    rfl
  · intro blocking cfg c gs ins g e he
    have h1 : (Control.pollControl blocking cfg c gs ins g).res = .err e := by
      cases ins <;> simp [Control.pollControl, he]
    refine ⟨h1, fun fuel => ?_⟩
    simp only [Control.drivePoll, h1]
  · intro todo sched e
    have h := H3.Props.C05.C05_no_lost_wakeup todo sched
    simp only at h ⊢
    refine ⟨h.1, fun hc hp mid₁ mid₂ => ?_⟩
    -- the last conjunct of `C05_no_lost_wakeup` (a parked driver's next polls); of its four facts `handled` and `drets`
    obtain ⟨h1, _, _, h4⟩ := h.2.2.2 e hc hp mid₁ mid₂
    exact ⟨h1, h4⟩
  · intro st c code hc
    simp [connErr, hc]
  · intro c hwf script out q more hp
    exact ((C06_send_completion c hwf script).2.2.2.1 out hp).2.2.2 (.conn q) more

example : (Control.pollControl false { role := .server } { control := true, err := some 0x0100 } {}
    [.item (.frame (.settings []))] []).res = .err 0x0100 := by decide
example : (pollPhase .server okHdr 9 .head (initSt [.reset 0x10c])).1 = .errReset 0x10c := by decide +kernel
example : ErrCell.convert (.quic (.appClose 0x100)) = .remote (.appClose 0x100) ∧
    ErrCell.convert (.quic .timeout) = .timeout := by decide
-- the peer closes the connection (application close 0x100) while `recv_data` waits inside DATA(3): the call
-- pending on `[chunk …]` completes with the connection error once `connErr` is the transport's answer; the
-- chunk the transport still had queued BEHIND the close is never read
example : (pollRecvData fsSrc 9 (pollHead .client fsSrc okHdr
      (initSt (ConnClose.lower [.chunk [0x01, 0x01, 0xaa, 0x00, 0x03, 0xb1]]))).2).1 = .data [0xb1] ∧
    (pollRecvData fsSrc 9 (pollRecvData fsSrc 9 (pollHead .client fsSrc okHdr
      (initSt (ConnClose.lower [.chunk [0x01, 0x01, 0xaa, 0x00, 0x03, 0xb1]]))).2).2).1 = .pending ∧
    (pollRecvData fsSrc 9 (pollRecvData fsSrc 9 (pollHead .client fsSrc okHdr
      (initSt (ConnClose.lower [.chunk [0x01, 0x01, 0xaa, 0x00, 0x03, 0xb1], .connErr (.appClose 0x100), .chunk [0xb2]]))).2).2).1 =
      .errReset (ConnClose.TErr.code (.conn (.appClose 0x100))) := by decide +kernel
example : ConnClose.handleQuic none (ConnClose.TErr.ofCode (ConnClose.TErr.code (.conn .timeout))) =
    (.connection .timeout, some (.quic .timeout)) := by decide +kernel
example : ConnClose.handleQuic (some (.internal 0x0105 0)) (.conn (.appClose 7)) =
    (.connection (.localApp 0x0105 0), some (.internal 0x0105 0)) := by decide

/-! ## 8. The setup of a connection against a transport that fails -/

section setup
open H3.Setup H3.ErrCell H3.Lemmas.Setup

/-- **`builder.build(conn)` against any transport.**  `T`/`tr` is an arbitrary state machine answering
    `poll_open_send`, `send_data`, `poll_ready` with `Pending`, `Ok` or any `StreamErrorIncoming`
    (every `ConnectionErrorIncoming` variant, `StreamTerminated`, `Unknown`) at any call, depending
    on everything that happened before; the future is polled any number of times.  (The model has
    no panic outcome: these paths contain no `unwrap`/`expect`/index.)  Whatever the transport does:
    * while the future is `Pending`, and when it returns `Ok`, `close` has not been called;
    * when it returns an error, `close` was called exactly when the error was detected locally,
      once, with exactly its code: `Local` with code `c` ⇒ `closes = [c]`, the transport's
      `InternalError` (reported as `Remote(InternalError)`) ⇒ `closes = [H3_INTERNAL_ERROR]`,
      `Timeout` / `Remote(ApplicationClose)` / `Remote(Undefined)` ⇒ no close; `Remote(Timeout)` never;
    * a local error of the setup has code H3_CLOSED_CRITICAL_STREAM (the control stream could not be
      opened, or was stopped / broke while SETTINGS were written) or H3_INTERNAL_ERROR (the
      transport's `InternalError` before the connection object exists). -/
theorem C06_setup_outcome {T : Type} (tr : Transport T) (fuel : Nat) (t : T) :
    match (buildRun tr fuel t {}).2 with
    | (s, none) => s.drv = {}
    | (s, some none) => s.drv = {}
    | (s, some (some e)) => OutcomeOK e s.drv.closes ∧
        ∀ c x, e = .localApp c x → c = 0x0104 ∨ c = 0x0102 := by
  have h := (buildRun_why tr fuel t {} rfl (by simp) nofun).1
  unfold RunOK at h
  rcases hr : (buildRun tr fuel t {}).2 with ⟨s, r⟩
  rw [hr] at h
  cases r with
  | none => simpa using h
  | some r =>
    cases r with
    | none => simpa using h
    | some e => exact h

/-- **Only the control stream can fail the setup.**  If the calls on the control stream — opening
    it, `send_data` and `poll_ready` on it — never answer an error, `build` never returns one,
    whatever the calls on the two QPACK streams answer (failed openings: the streams are left out;
    failed writes: ignored). -/
theorem C06_setup_only_control_stream_fails {T : Type} (tr : Transport T) (h : CtlOk tr) (fuel : Nat) (t : T)
    (e : CErr) : (buildRun tr fuel t {}).2.2 ≠ some (some e) :=
  fun he => ((buildRun_why tr fuel t {} rfl (by simp) nofun).2 e he).elim fun se hse => h.not_ctlErr se hse.1

/-- the control stream cannot be opened: the error of `handle_quic_error_raw` /
    `close_raw_connection_with_h3_error`, whatever the other two openings answered -/
theorem C06_setup_control_open_error {T : Type} (tr : Transport T) (t : T) (e : SErr) (rest : List (Option SErr)) :
    (afterOpens tr t {} (some e :: rest) false).res = some (some (openCtlErr e).1) ∧
    (afterOpens tr t {} (some e :: rest) false).st.drv.closes = (openCtlErr e).2.toList ∧
    openCtlErr (.conn .timeout) = (.timeout, none) ∧
    (∀ x, openCtlErr (.conn (.internal x)) = (.localApp 0x0102 x, some 0x0102)) ∧
    (∀ c, openCtlErr (.conn (.appClose c)) = (.remote (.appClose c), none)) ∧
    (∀ x, openCtlErr (.conn (.undefined x)) = (.remote (.undefined x), none)) ∧
    (∀ c, openCtlErr (.terminated c) = (.localApp 0x0104 0, some 0x0104)) ∧
    (∀ x, openCtlErr (.unknown x) = (.localApp 0x0104 1, some 0x0104)) := by
  refine ⟨by simp [afterOpens], by simp [afterOpens], rfl, fun _ => rfl, fun _ => rfl, fun _ => rfl,
    fun _ => rfl, fun _ => rfl⟩

/-- **`Pending` only while the transport says `Pending`.**  A poll of `build` that returns `Pending`
    has made a transport call that answered `Pending` in this very poll (so the transport holds the
    task's waker); and against a transport that answers every opening and every `poll_ready` at
    once — what a transport does once the connection has failed or was closed — a single poll
    finishes the setup, from whatever point it had reached. -/
theorem C06_setup_pending_only_on_transport {T : Type} (tr : Transport T) (t : T) (s : BSt) (hd : s.drv = {})
    (hp : s.phase ≠ .finished) :
    ((buildPoll tr t s).res = none → (buildPoll tr t s).sawPending = true) ∧
    (NoWait tr → (buildPoll tr t s).res ≠ none) := by
  have h := buildPoll_why tr t s hd hp
  have hk := h.ok
  refine ⟨fun hn => ?_, fun hw hn => ?_⟩ <;> simp only [ResOK, hn] at hk
  · exact hk.2.2
  · exact hw.not_waits (h.pend hk.2.2)

-- non-vacuity, scripted transports (`scriptTr`: the answers to successive calls)
-- everything succeeds: three openings, then `send_data`/`poll_ready` of control, decoder, encoder
example : (buildRun scriptTr 1 [.ok, .ok, .ok, .ok, .ok, .ok, .ok, .ok, .ok] {}).2 =
    ({ phase := .finished }, some none) := by decide +kernel
-- the control stream cannot be opened: the transport's InternalError ⇒ Local H3_INTERNAL_ERROR, closed once
example : (buildRun scriptTr 1 [.err (.conn (.internal 7)), .err (.conn (.internal 7)), .err (.conn (.internal 7))] {}).2 =
    ({ phase := .finished, drv := { closes := [0x0102] } }, some (some (.localApp 0x0102 7))) := by decide +kernel
-- stream credit arrives late, then SETTINGS wait for write credit (two polls end `Pending`) until the
-- peer stops the control stream: Local H3_CLOSED_CRITICAL_STREAM, closed once
example : (buildRun scriptTr 2 [.ok, .pending, .ok, .ok, .ok, .pending, .ok, .ok, .ok, .ok, .err (.terminated 9)] {}).2.2 =
    none := by decide +kernel
example : (buildRun scriptTr 3 [.ok, .pending, .ok, .ok, .ok, .pending, .ok, .ok, .ok, .ok, .err (.terminated 9)] {}).2 =
    ({ phase := .finished, drv := { handled := some (.localApp 0x0104 0), closes := [0x0104] } },
     some (some (.localApp 0x0104 0))) := by decide +kernel
-- a QPACK stream that cannot be opened (`Unknown`) and one whose write fails: the setup succeeds
example : (buildRun scriptTr 1 [.ok, .err (.unknown 0), .ok, .ok, .ok, .err (.terminated 3)] {}).2 =
    ({ phase := .finished }, some none) := by decide +kernel
-- the connection times out while SETTINGS wait for write credit
example : (buildRun scriptTr 2 [.ok, .ok, .ok, .ok, .pending, .ok, .pending, .ok, .pending,
    .err (.conn .timeout), .err (.conn .timeout), .err (.conn .timeout)] {}).2 =
    ({ phase := .finished, drv := { handled := some .timeout } }, some (some .timeout)) := by decide +kernel

end setup

end H3.Props.C06
