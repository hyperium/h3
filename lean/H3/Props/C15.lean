import H3.Model.PrefixString
import H3.Lemmas.PrefixInt
import H3.Lemmas.HuffTables
import H3.Lemmas.HuffFits
import H3.Lemmas.HuffEncFits
import H3.Lemmas.HuffLax
/-! # C15 — QPACK prefixed integers and Huffman string literals

Property theorems (and two private lemmas shared by the string-literal ones, `literal_prefix` and
`decodeG?_literal`).  Models: `H3.PrefixInt` (`qpack/prefix_int.rs`), `H3.Huffman`
(`qpack/prefix_string/{decode,encode,bitwin}.rs`, tables regenerated from the sources into
`H3.Gen.HuffDec`/`H3.Gen.HuffEnc`), `H3.PrefixString` (`qpack/prefix_string/mod.rs`).
Specification: `H3.Spec.Huffman` (RFC 7541 §5.2 + Appendix B as 257 code lengths), `rfcDecode`
(RFC 7541 §5.1).

D-15 (recorded, not repaired).  `check_eof` judges only the bits after the last level boundary of
the decode tree, so the decoder accepts endings RFC 7541 §5.2 forbids.  The model keeps that
behaviour and flags it (`Huffman.lax`, second component of `hdecodeX`, computed by `Huffman.laxAt` from the
window `check_eof` accepted with; the flagged set is enumerated EXACTLY by `C15_huffman_lax_set_exact`, so the
exclusion below is a fixed set of shapes and not "whatever the decoder accepts beyond the RFC"); the strictness
half of the property is therefore proved as `C15_huffman_accepts_exactly_partial`, the full statement

    theorem C15_huffman_accepts_exactly (b s : List Nat) (hb : ∀ x ∈ b, x < 256) :
        Huffman.hdecode b = .ok s ↔ Spec.Huffman.specDecode b = some s

is FALSE for the code that exists (`C15_huffman_D15_witnesses`).  What is missing from it is
exactly the hypothesis `Huffman.lax b = false` in the direction `⇒`. -/
namespace H3.Props.C15
open H3.PrefixInt

/-- Round trip for every prefix size 1..8, any flags that fit, any value the decoder's range holds
    (contains every value < 2^62), any following bytes; no panic; output is bytes. -/
theorem C15_prefix_int_roundtrip (n flags v : Nat) (hn1 : 1 ≤ n) (hn8 : n ≤ 8)
    (hf : flags < 2 ^ (8 - n)) (hv : v - (2 ^ n - 1) < 2 ^ 63) (rest : List Nat) :
    encode? n flags v = some (encode n flags v) ∧
    (∀ b ∈ encode n flags v, b < 256) ∧
    decode? n (encode n flags v ++ rest) = some (.ok flags v rest) ∧
    decode n (encode n flags v ++ rest) = .ok flags v rest := by
  have hd := decode?_encode_eq n flags v hn1 hn8 hf rest
  rw [if_pos hv] at hd
  refine ⟨?_, encode_bytes n flags v hn8 hf, hd, decode_of_decode? hd⟩
  rw [encode_eq n flags v hn8 hf, encode?_eq n flags v hn8 hf]

example : encode 5 3 1337 = [127, 154, 10] ∧
    decode 5 (encode 5 3 1337 ++ [7, 200]) = .ok 3 1337 [7, 200] := by
  simp [encode, encode?, encLoop, decode, decode?, decLoop, H3.Gen.PrefixInt.MAX_POWER]
example : decode 8 (encode 8 0 (2 ^ 63 + 254) ++ [7]) = .ok 0 (2 ^ 63 + 254) [7] :=
  (C15_prefix_int_roundtrip 8 0 (2 ^ 63 + 254) (by decide) (by decide) (by decide) (by decide)
    [7]).2.2.2

/-- Values beyond the decoder's range: the encoder's own output is REJECTED with overflow (never
    altered).  (Holds for every natural `v`, in particular for every `u64`.) -/
theorem C15_prefix_int_encoder_beyond_range (n flags v : Nat) (hn1 : 1 ≤ n) (hn8 : n ≤ 8)
    (hf : flags < 2 ^ (8 - n)) (hv : 2 ^ 63 ≤ v - (2 ^ n - 1)) (rest : List Nat) :
    decode? n (encode n flags v ++ rest) = some .overflow ∧
    decode n (encode n flags v ++ rest) = .overflow := by
  have hd := decode?_encode_eq n flags v hn1 hn8 hf rest
  rw [if_neg (by omega)] at hd
  exact ⟨hd, decode_of_decode? hd⟩

example : encode 8 0 (2 ^ 63 + 255) = [255, 128, 128, 128, 128, 128, 128, 128, 128, 128, 1] ∧
    decode 8 (encode 8 0 (2 ^ 63 + 255) ++ [7]) = .overflow := by
  simp [encode, encode?, encLoop, decode, decode?, decLoop, H3.Gen.PrefixInt.MAX_POWER]

/-- No panic: for a prefix size in 1..8 `decode` is the function computed by `decode?`. -/
theorem C15_prefix_int_no_panic (n : Nat) (hn1 : 1 ≤ n) (hn8 : n ≤ 8) (bs : List Nat)
    (hwf : ∀ b ∈ bs, b < 256) :
    decode? n bs = some (decode n bs) := by
  cases bs with
  | nil => rw [decode_nil n hn8, decode?_nil n hn8]
  | cons first r =>
    have h := decode?_cons n first r hn1 hn8 (hwf first (List.mem_cons_self ..))
    rw [decode_of_decode? h, h]

example : decode? 3 [7, 128, 1] = some (.ok 0 135 []) := by decide

/-- An `ok` result is the mathematical RFC 7541 §5.1 value, below 2^64 (no wrap of the `u64`
    accumulator), at most `2^n - 1 + 2^63 - 1`, with the RFC's rest and the flag bits. -/
theorem C15_prefix_int_ok_sound (n : Nat) (hn1 : 1 ≤ n) (hn8 : n ≤ 8) (bs : List Nat)
    (hwf : ∀ b ∈ bs, b < 256) (f v : Nat) (rest : List Nat) (h : decode n bs = .ok f v rest) :
    rfcDecode n bs = some (v, rest) ∧ v < 2 ^ 64 ∧ v - (2 ^ n - 1) < 2 ^ 63 ∧
    ∃ first r, bs = first :: r ∧ f = first / 2 ^ n :=
  decode_sound n hn1 hn8 bs hwf f v rest h

example : decode 3 [0xAF, 0xFF, 0x00, 9] = .ok 21 134 [9] ∧
    rfcDecode 3 [0xAF, 0xFF, 0x00, 9] = some (134, [9]) := by decide

/-- `UnexpectedEnd` exactly when a byte is missing. -/
theorem C15_prefix_int_endOf_iff (n : Nat) (hn1 : 1 ≤ n) (hn8 : n ≤ 8) (bs : List Nat)
    (hwf : ∀ b ∈ bs, b < 256) :
    (decode n bs = .endOf ↔
      bs = [] ∨ ∃ first r, bs = first :: r ∧ first % 2 ^ n = 2 ^ n - 1 ∧ r.length < 9 ∧
        ∀ b ∈ r, 128 ≤ b) ∧
    (decode n bs = .endOf ↔ rfcDecode n bs = none ∧ contLen bs.tail < 9) := by
  have hpos := Nat.two_pow_pos n
  cases bs with
  | nil => simp [decode_nil n hn8, rfcDecode_nil, contLen]
  | cons first r =>
    rw [(decode_cons_err n first r hn1 hn8 hwf).1, rfcDecode_cons_none, List.tail_cons, and_assoc]
    refine ⟨⟨fun ⟨hs, hc, h9⟩ => .inr ⟨first, r, rfl, by omega, ?_, (rfcCont_none_iff r).mp hc⟩, ?_⟩, .rfl⟩
    · rwa [← contLen_of_all_ge r ((rfcCont_none_iff r).mp hc)]
    · rintro (h | ⟨a, l, h, hs, h9, hall⟩)
      · cases h
      · cases h
        exact ⟨by omega, (rfcCont_none_iff r).mpr hall, by rwa [contLen_of_all_ge r hall]⟩

example : decode 3 [7, 128, 128, 128, 128, 128, 128, 128, 128] = .endOf ∧
    decode 3 [6] = .ok 0 6 [] := by decide

theorem C15_prefix_int_overflow_iff (n : Nat) (hn1 : 1 ≤ n) (hn8 : n ≤ 8) (bs : List Nat)
    (hwf : ∀ b ∈ bs, b < 256) :
    (decode n bs = .overflow ↔
      ∃ first r, bs = first :: r ∧ first % 2 ^ n = 2 ^ n - 1 ∧ 9 ≤ r.length ∧
        ∀ b ∈ r.take 9, 128 ≤ b) := by
  have hpos := Nat.two_pow_pos n
  cases bs with
  | nil =>
    rw [decode_nil n hn8]
    exact ⟨fun h => (by cases h), fun ⟨_, _, h, _⟩ => (by cases h)⟩
  | cons first r =>
    rw [(decode_cons_err n first r hn1 hn8 hwf).2]
    refine ⟨fun ⟨hs, h9⟩ => ⟨first, r, rfl, by omega, h9⟩, ?_⟩
    rintro ⟨a, l, h, hs, h9⟩
    cases h
    exact ⟨by omega, h9⟩

example : decode 3 [7, 128, 128, 128, 128, 128, 128, 128, 128, 128, 1] = .overflow ∧
    decode 3 [7, 128, 128, 128, 128, 128, 128, 128, 128, 1] = .ok 0 72057594037927943 [] := by
  decide

/-- Completeness; the hypothesis covers every value below `2^n - 1 + 2^63` in its shortest encoding. -/
theorem C15_prefix_int_complete (n : Nat) (hn1 : 1 ≤ n) (hn8 : n ≤ 8) (bs : List Nat)
    (hwf : ∀ b ∈ bs, b < 256) (v : Nat) (rest : List Nat)
    (h : rfcDecode n bs = some (v, rest)) (hlen : v < 2 ^ n - 1 ∨ contLen bs.tail ≤ 9) :
    ∃ first r, bs = first :: r ∧ decode n bs = .ok (first / 2 ^ n) v rest := by
  cases bs with
  | nil => rw [rfcDecode_nil] at h; cases h
  | cons first r =>
    refine ⟨first, r, rfl, ?_⟩
    rw [decode_cons n first r hn1 hn8 hwf]
    rw [rfcDecode_cons] at h
    split at h
    · rename_i hs; cases h; rw [if_pos hs]
    · rename_i hs
      rw [if_neg hs]
      split at h
      · cases h
      · rename_i c rest' hc
        cases h
        simp only [hc]
        rw [if_pos (by rcases hlen with h | h <;> first | exact h | omega)]

example : rfcDecode 5 [31, 154, 10, 4] = some (1337, [4]) ∧ contLen [154, 10, 4] = 2 ∧
    decode 5 [31, 154, 10, 4] = .ok 0 1337 [4] := by decide

/-- Decoding never wraps: on EVERY byte string (bytes < 256), for every prefix size 1..8 -/
theorem C15_prefix_int_no_wrap (n : Nat) (hn1 : 1 ≤ n) (hn8 : n ≤ 8) (bs : List Nat)
    (hwf : ∀ b ∈ bs, b < 256) :
    decode? n bs = some (decode n bs) ∧                                   -- no panic
    -- an ok result is the mathematical RFC 7541 §5.1 value, below 2^64, with the RFC's rest and
    -- the flag bits
    (∀ f v rest, decode n bs = .ok f v rest →
        rfcDecode n bs = some (v, rest) ∧ v < 2 ^ 64 ∧ v - (2 ^ n - 1) < 2 ^ 63 ∧
        ∃ first r, bs = first :: r ∧ f = first / 2 ^ n) ∧
    -- a missing byte gives endOf, and only that
    (decode n bs = .endOf ↔
      (rfcDecode n bs = none ∧
        (bs = [] ∨ contLen bs.tail < 9 ∨ bs.head! % 2 ^ n < 2 ^ n - 1))) ∧
    -- overflow exactly when the prefix is saturated and the first nine continuation bytes all
    -- have the top bit set
    (decode n bs = .overflow ↔
        ∃ first r, bs = first :: r ∧ first % 2 ^ n = 2 ^ n - 1 ∧ 9 ≤ r.length ∧
          ∀ b ∈ r.take 9, 128 ≤ b) ∧
    -- completeness: an RFC value whose encoding has at most nine continuation bytes is decoded
    (∀ v rest, rfcDecode n bs = some (v, rest) → contLen bs.tail ≤ 9 →
        ∃ first r, bs = first :: r ∧ decode n bs = .ok (first / 2 ^ n) v rest) := by
  refine ⟨C15_prefix_int_no_panic n hn1 hn8 bs hwf,
    fun f v rest h => C15_prefix_int_ok_sound n hn1 hn8 bs hwf f v rest h, ?_,
    C15_prefix_int_overflow_iff n hn1 hn8 bs hwf,
    fun v rest h hl => C15_prefix_int_complete n hn1 hn8 bs hwf v rest h (Or.inr hl)⟩
  rw [(C15_prefix_int_endOf_iff n hn1 hn8 bs hwf).2]
  constructor
  · exact fun ⟨h1, h2⟩ => ⟨h1, Or.inr (Or.inl h2)⟩
  · rintro ⟨h1, h2 | h2 | h2⟩
    · subst h2; exact ⟨h1, by simp [contLen]⟩
    · exact ⟨h1, h2⟩
    · cases bs with
      | nil => exact ⟨h1, by simp [contLen]⟩
      | cons first r => exact absurd h2 ((rfcDecode_cons_none n first r).mp h1).1

example : decode 6 [63, 255, 255, 255, 255, 255, 255, 255, 255, 127, 42]
      = .ok 0 (2 ^ 6 - 1 + (2 ^ 63 - 1)) [42] ∧
    decode 6 [63, 255, 255, 255, 255, 255, 255, 255, 255, 255, 0] = .overflow ∧
    decode 6 [63, 255, 255] = .endOf := by decide


open H3.Bits H3.Spec.Huffman in
/-- The three tables agree.  (a) The root-to-symbol paths of the generated decode tree, in table
    order, are exactly the canonical code words of the RFC's 256 byte lengths in canonical order
    (so every byte has one path and EOS has none); (b) the generated encode table's row of every
    byte — as (bit count, value) and in the byte-parts form `put` uses — is that code word;
    (c) walking a byte's code word down the tree yields the byte; (d) the hand-typed lengths are
    257 numbers in 5..30 satisfying Kraft's equality (the code is complete), and EOS is thirty ones. -/
theorem C15_huffman_tables_agree :
    Huffman.pathsL H3.Gen.HuffDec.root = codes.take 256 ∧
    (∀ c < 256, Huffman.codeT c = codeOf c) ∧
    (∀ c < 256, Huffman.rowOK c = true) ∧
    (∀ s < 256, Huffman.walkL H3.Gen.HuffDec.root (codeOf s) = .sym s []) ∧
    codeLengths.length = 257 ∧ (∀ l ∈ codeLengths, 5 ≤ l ∧ l ≤ 30) ∧
    (codeLengths.map fun l => 2 ^ (30 - l)).sum = 2 ^ 30 ∧
    codeOf 256 = List.replicate 30 true ∧
    H3.Gen.HuffDec.levelCount = 89 :=
  ⟨Huffman.root_paths_eq, Huffman.codeT_eq_codeOf, Huffman.rows_ok, Huffman.root_walk_code,
    by decide +kernel, by decide +kernel, by decide +kernel, codeOf_eos, rfl⟩

-- RFC 7541 Appendix C.4.1 / C.4.2 / C.6.1: www.example.com, no-cache, custom-key, custom-value
-- (the RFC's side is read off `hencode_spec` / `hdecodeX_false_iff` and the model is run: the reference searches `codes` for
-- every symbol, which is slow to evaluate)
example : Huffman.hencode? [119, 119, 119, 46, 101, 120, 97, 109, 112, 108, 101, 46, 99, 111, 109] =
    some [0xf1, 0xe3, 0xc2, 0xe5, 0xf2, 0x3a, 0x6b, 0xa0, 0xab, 0x90, 0xf4, 0xff] := by decide +kernel
example : Spec.Huffman.specEncode [119, 119, 119, 46, 101, 120, 97, 109, 112, 108, 101, 46, 99, 111, 109] =
    [0xf1, 0xe3, 0xc2, 0xe5, 0xf2, 0x3a, 0x6b, 0xa0, 0xab, 0x90, 0xf4, 0xff] :=
  (Huffman.hencode_spec _ (by decide)).symm.trans (by decide +kernel)
example : Spec.Huffman.specEncode [110, 111, 45, 99, 97, 99, 104, 101] = [0xa8, 0xeb, 0x10, 0x64, 0x9c, 0xbf] :=
  (Huffman.hencode_spec _ (by decide)).symm.trans (by decide +kernel)
example : Spec.Huffman.specEncode [99, 117, 115, 116, 111, 109, 45, 107, 101, 121] =
    [0x25, 0xa8, 0x49, 0xe9, 0x5b, 0xa9, 0x7d, 0x7f] :=
  (Huffman.hencode_spec _ (by decide)).symm.trans (by decide +kernel)
example : Spec.Huffman.specEncode [99, 117, 115, 116, 111, 109, 45, 118, 97, 108, 117, 101] =
    [0x25, 0xa8, 0x49, 0xe9, 0x5b, 0xb8, 0xe8, 0xb4, 0xbf] :=
  (Huffman.hencode_spec _ (by decide)).symm.trans (by decide +kernel)
example : Huffman.hdecode [0xa8, 0xeb, 0x10, 0x64, 0x9c, 0xbf] = .ok [110, 111, 45, 99, 97, 99, 104, 101] := by
  decide +kernel
example : Spec.Huffman.specDecode [0x25, 0xa8, 0x49, 0xe9, 0x5b, 0xa9, 0x7d, 0x7f] =
    some [99, 117, 115, 116, 111, 109, 45, 107, 101, 121] :=
  (Huffman.hdecodeX_false_iff _ (by unfold Huffman.WF; decide) _).1 (by decide +kernel)

/-- Round trip for every byte string whose Huffman coding fits the encoder's `u32` positions (`hfit`: coding
    length `L` with `7·L < 2^32`, i.e. shorter than 613 566 757 bytes, about 585 MiB — a decidable hypothesis):
    the encoder does not panic, its output is the RFC 7541 §5.2 encoding (the code words concatenated, filled up
    with ones to the byte boundary — `specEncode s = pack (enc s)`), consists of bytes, and the decoder returns
    `s` from it through the strict branch (no reliance on D-15); no machine operation of the real encoder
    overflows on the way (last clause: the checked encoder `hencodeC`, both shapes of `put`, every growth policy
    of `Vec`, is `hencode`).
    The statement WITHOUT `hfit` ("for every `s`") is FALSE OF THE CODE: the model
    `hencode?` keeps the positions in `Nat`, the code in `u32`, and `(7 * end_range.byte) / 4` resp.
    `self.byte += self.bit / 8` overflow — `C15_huffman_encoder_positions_fit` (2), (3); site D-15e; witnesses on
    the real code `huff encn 0a 450000000` (`attempt to multiply with overflow` in `HuffmanEncoder::put`, build
    with overflow checks) and 1 150 000 000 × `0a` through `encode_stateless` in plain `--release` (index out of
    bounds after `byte` wrapped). -/
theorem C15_huffman_roundtrip (s : List Nat) (hs : ∀ x ∈ s, x < 256)
    (hfit : 7 * (Huffman.hencode s).length < 2 ^ 32) :
    Huffman.hencode? s = some (Huffman.hencode s) ∧
    Huffman.hencode s = Spec.Huffman.specEncode s ∧
    H3.Bits.bitsOf (Huffman.hencode s) = Spec.Huffman.enc s ++
      List.replicate ((8 - (Spec.Huffman.enc s).length % 8) % 8) true ∧
    (∀ b ∈ Huffman.hencode s, b < 256) ∧
    Huffman.hdecodeX (Huffman.hencode s) = .ok (s, false) ∧
    Huffman.hdecode (Huffman.hencode s) = .ok s ∧
    Huffman.lax (Huffman.hencode s) = false ∧
    ∀ g grow, Huffman.hencodeC g grow s = some (.ok (Huffman.hencode s)) := by
  have hx := Huffman.hdecodeX_hencode s hs
  refine ⟨?_, Huffman.hencode_spec s hs, ?_, ?_, hx, ?_, ?_, fun g grow => Huffman.hencodeC_eq g grow s hs hfit⟩
  · rw [Huffman.hencode?_eq s hs, Huffman.hencode_eq s hs]
  · rw [Huffman.hencode_spec s hs, Spec.Huffman.specEncode, H3.Bits.bitsOf_pack]
  · rw [Huffman.hencode_eq s hs]; exact H3.Bits.pack_lt _
  · simp [Huffman.hdecode, hx]
  · simp [Huffman.lax, hx]

example : Huffman.hencode [0, 255, 97] = [255, 199, 255, 255, 220, 63] ∧
    Huffman.hdecode [255, 199, 255, 255, 220, 63] = .ok [0, 255, 97] := by decide +kernel

/-- The Huffman ENCODER's positions fit `u32` — up to a bound, and not beyond it (site D-15e).
    `Huffman.hencodeC g grow` is the encoder with the `u32` operations of `encode.rs` / `bitwin.rs` written
    out (`BitWindow::forwards`, `(7 * end_range.byte) / 4`, `pos.bit + pos.count`, `pos.byte + 1`), `none` = one
    of them overflows (the subtractions, shift amounts and table indexes of `write_bits` are not among them: `writeBitsC`
    runs `writeBits` behind the two additions; their ranges are clause (4));
    `g` = the shape of `put` / `ensure_free_space` (`false`: as it was; `true`: repaired — reservation in
    `usize`, `Err` once `buffer_pos.byte > u32::MAX - 8`); `grow` = what `Vec` does when it has to grow (the
    reservation is computed only when `capacity() <= end_range.byte`), arbitrary.
    (1) Within `7·L < 2^32` (`L` = bytes of the coding) nothing overflows and the answer is that of `hencode`
        (positions in `Nat`: the function all other C15 / C11 / C10 theorems are about).
    (2) Old shape, coding longer than `2^32` bytes: overflow at `self.byte += self.bit / 8` at the latest (in a build
        without overflow checks the wrapped `byte` then indexes out of range: 1 150 000 000 × `0a`, `--release`).
    (3) Old shape, in between: `7 * end_range.byte` overflows whenever the reservation is computed for `7·b ≥ 2^32` —
        a panic with overflow checks (`huff encn 0a 450000000`), a harmlessly smaller reservation without.
    (4) The ranges of the subtractions, shift amounts and table indexes of `write_bits` behind its `debug_assert!`s.
    (5) `hencodeT` is `hencodeC` at the shape the translator reads off the tree under check (`hugeCodingRefused`;
        any third shape of `put` / `ensure_free_space` / `write_bits` / `forwards` it refuses).
    (6) Repaired shape: never an overflow, `Err` or the model's bytes (`huff encn 0a 1145324611`: a coding of
        2^32 − 4 bytes is written, one symbol more is refused). -/
theorem C15_huffman_encoder_positions_fit :
    (∀ (g : Bool) (grow : Nat → Nat → Nat) (s : List Nat), (∀ x ∈ s, x < 256) →
      7 * (Huffman.hencode s).length < 2 ^ 32 →
      Huffman.hencodeC g grow s = some (.ok (Huffman.hencode s))) ∧
    (∀ (grow : Nat → Nat → Nat) (s : List Nat), (∀ x ∈ s, x < 256) → 2 ^ 32 < (Huffman.hencode s).length →
      Huffman.hencodeC false grow s = none) ∧
    (∀ (grow : Nat → Nat → Nat) (e : Huffman.EncoderC) (cnt : Nat),
      e.buffer.length ≤ (e.pos.endPos + cnt) / 8 → e.cap ≤ (e.pos.endPos + cnt) / 8 →
      2 ^ 32 ≤ 7 * ((e.pos.endPos + cnt) / 8) → Huffman.ensureFreeSpaceC false grow e cnt = none) ∧
    (∀ bit < 8, ∀ count < 9, 1 ≤ count →
      (bit + count ≤ 8 → bit ≤ 8 ∧ 8 - bit - count < 8 ∧ bit + count ≤ 8 ∧ 8 - bit ≤ 8 ∧ 8 - count - bit ≤ 8) ∧
      (8 < bit + count → 8 - bit ≤ count ∧ count - (8 - bit) < 8 ∧ count - (8 - bit) ≤ 8 ∧
        8 - (count - (8 - bit)) < 8 ∧ 8 - bit ≤ 8)) ∧
    (∀ grow s, Huffman.hencodeT grow s = Huffman.hencodeC H3.Gen.HuffEnc.hugeCodingRefused grow s) ∧
    (∀ (grow : Nat → Nat → Nat) (s : List Nat), (∀ x ∈ s, x < 256) →
      Huffman.hencodeC true grow s = some .tooLong ∨
      Huffman.hencodeC true grow s = some (.ok (Huffman.hencode s))) :=
  ⟨Huffman.hencodeC_eq, Huffman.hencodeC_overflow, Huffman.ensureFreeSpaceC_mul_overflow,
    Huffman.writeBits_ops_in_range, fun _ _ => rfl, Huffman.hencodeC_repaired⟩

-- the checked encoder on RFC 7541 C.4.1 (both shapes, the standard library's growth); the reservation at byte
-- position 613 566 757 = ⌈2^32 / 7⌉ in the old shape (overflow; none one byte earlier); the repaired `put` near
-- `u32::MAX` (refusal)
example : Huffman.hencodeC false Huffman.stdGrow [119, 119, 119, 46, 101, 120, 97, 109, 112, 108, 101, 46, 99, 111, 109] =
    some (.ok [0xf1, 0xe3, 0xc2, 0xe5, 0xf2, 0x3a, 0x6b, 0xa0, 0xab, 0x90, 0xf4, 0xff]) ∧
    Huffman.hencodeC true Huffman.stdGrow [119, 119, 119, 46, 101, 120, 97, 109, 112, 108, 101, 46, 99, 111, 109] =
    some (.ok [0xf1, 0xe3, 0xc2, 0xe5, 0xf2, 0x3a, 0x6b, 0xa0, 0xab, 0x90, 0xf4, 0xff]) := by decide +kernel
example : Huffman.ensureFreeSpaceC false Huffman.stdGrow ⟨⟨613566756, 7, 1⟩, [], 0⟩ 5 = none ∧
    (Huffman.ensureFreeSpaceC false Huffman.stdGrow ⟨⟨613566755, 7, 1⟩, [], 0⟩ 5).isSome = true ∧
    Huffman.putC true Huffman.stdGrow ⟨⟨2 ^ 32 - 8, 0, 0⟩, [], 0⟩ 97 = some none := by
  exact ⟨Huffman.ensureFreeSpaceC_mul_overflow _ _ _ (by decide) (by decide) (by decide), by decide +kernel,
    by decide +kernel⟩

/-- Strictness, as far as it holds for the code that exists.  For every byte string `b`:
    whatever RFC 7541 §5.2 allows is accepted with the same bytes, through the strict branch;
    an acceptance through the strict branch (`lax = false`) is allowed by the RFC, with the same
    bytes; an acceptance through the lax branch (`lax = true`, site D-15) is always a string the
    RFC forbids; the model's loop bound is never reached.  `Huffman.lax b` is computable. -/
theorem C15_huffman_accepts_exactly_partial (b : List Nat) (hb : ∀ x ∈ b, x < 256) (s : List Nat) :
    (Spec.Huffman.specDecode b = some s → Huffman.hdecodeX b = .ok (s, false)) ∧
    (Huffman.hdecodeX b = .ok (s, false) → Spec.Huffman.specDecode b = some s) ∧
    (Huffman.hdecodeX b = .ok (s, true) → Spec.Huffman.specDecode b = none) ∧
    (Spec.Huffman.specDecode b = some s → Huffman.hdecode b = .ok s ∧ Huffman.lax b = false) ∧
    (Huffman.hdecode b = .ok s → Huffman.lax b = false → Spec.Huffman.specDecode b = some s) ∧
    Huffman.hdecodeX b ≠ .error .fuel := by
  have hiff := Huffman.hdecodeX_false_iff b hb
  refine ⟨(hiff s).2, (hiff s).1, fun h => ?_, fun h => ?_, fun h hl => ?_, Huffman.hdecodeX_ne_fuel b hb⟩
  · cases hsp : Spec.Huffman.specDecode b with
    | none => rfl
    | some s' => have := (hiff s').2 hsp; rw [h] at this; cases this
  · simp [Huffman.hdecode, Huffman.lax, (hiff s).2 h]
  · cases hx : Huffman.hdecodeX b with
    | error e => simp [Huffman.hdecode, hx] at h
    | ok v =>
      obtain ⟨r, l⟩ := v
      simp only [Huffman.hdecode, hx, Except.ok.injEq] at h
      simp only [Huffman.lax, hx] at hl
      subst h hl
      exact (hiff r).1 hx

example : Spec.Huffman.specDecode [0x18, 0xff] = some [97, 97] ∧
    Huffman.hdecodeX [0x18, 0xff] = .ok ([97, 97], false) :=
  have h : Huffman.hdecodeX [0x18, 0xff] = .ok ([97, 97], false) := by decide +kernel
  ⟨(C15_huffman_accepts_exactly_partial _ (by decide) _).2.1 h, h⟩

open H3.Bits H3.Spec.Huffman H3.Huffman in
/-- The D-15 set, EXACTLY (so that the exclusion `lax = false` of `C15_huffman_accepts_exactly_partial` is a known,
    enumerated set and not "whatever the decoder accepts beyond the RFC": any further loosening of `check_eof`,
    once modelled, makes this theorem false instead of widening the waiver).
    For a byte string `b`, let `tail` be the bits behind the last complete symbol.  The level tree consumes a path
    `c` of it up to the level boundary at which the next level's `lookup` bits are not there (`walkL root (c ++ q) =
    .short q`: `c` = what the levels above have taken, `q` = what is left), and `check_eof` judges `q` alone.
    (1) ALL the decoder accepts, flag included: `enc s ++ tail` where `q` is empty (arm `Ordering::Greater`) or at
        most eight bits, all ones (arm `Ordering::Equal`: the rest of the last byte); flag = `tail` is no valid
        padding.
    (2) Accepted although RFC 7541 §5.2 forbids it (flag `true`, printed `#D-15`) IFF moreover `c ++ q` is longer
        than 7 bits, or `c` has a zero bit.  That is: (a) padding of 8 bits or more, all ones, most of which the
        levels have swallowed (`ff`: `11111111|`), up to and including the 30 ones of EOS and more (`ffffffff`:
        30 ones `|11`); (b) the beginning of a code word that is not all ones, cut at a level boundary, alone or
        followed by at most eight ones (`18ef`: `10111|1`; `fe`: `11111110|`) — "padding not a prefix of EOS".
        Nothing else: in particular never a `q` with a zero bit, never more than eight unjudged bits behind the
        level boundary, never a `.unhandled` table slot.
    (3) The same for `Huffman.lax`, the flag the driver prints.
    (4) The flag is computed from the branch, not from the RFC: `Huffman.laxAt` takes the window `check_eof` was
        called with (the level's window) and the start of the unfinished symbol, and says "bits consumed above the
        level + bits judged > 7, or a consumed bit is zero"; on every accepting step that is `!padOK` (the RFC's
        rule on the bits behind the last complete symbol). -/
theorem C15_huffman_lax_set_exact (b : List Nat) (hb : ∀ x ∈ b, x < 256) :
    (∀ s l, hdecodeX b = .ok (s, l) ↔
      (∀ x ∈ s, x < 256) ∧ ∃ tail q, bitsOf b = enc s ++ tail ∧ walkL H3.Gen.HuffDec.root tail = .short q ∧
        (q = [] ∨ (q.length ≤ 8 ∧ ∀ x ∈ q, x = true)) ∧ l = !validPad tail) ∧
    (∀ s, hdecodeX b = .ok (s, true) ↔
      (∀ x ∈ s, x < 256) ∧ ∃ c q, bitsOf b = enc s ++ (c ++ q) ∧
        walkL H3.Gen.HuffDec.root (c ++ q) = .short q ∧
        (q = [] ∨ (q.length ≤ 8 ∧ ∀ x ∈ q, x = true)) ∧
        (7 < c.length + q.length ∨ ∃ x ∈ c, x = false)) ∧
    (Huffman.lax b = true ↔ ∃ s,
      (∀ x ∈ s, x < 256) ∧ ∃ c q, bitsOf b = enc s ++ (c ++ q) ∧
        walkL H3.Gen.HuffDec.root (c ++ q) = .short q ∧
        (q = [] ∨ (q.length ≤ 8 ∧ ∀ x ∈ q, x = true)) ∧
        (7 < c.length + q.length ∨ ∃ x ∈ c, x = false)) ∧
    (∀ w w', w.endPos ≤ 8 * b.length → decodeNext H3.Gen.HuffDec.root w b = (w', .done) →
      laxAt b w.endPos w' = !padOK b w.endPos) := by
  refine ⟨fun s l => ?_, lax_iff b hb, ?_, fun w w' hpos h => laxAt_eq b hb w w' hpos h⟩
  · rw [hdecodeX_iff b hb s l]
    simp only [eofOK_iff]
  · rw [lax_true_iff]
    exact exists_congr (lax_iff b hb)

-- the witnesses in the terms of the theorem: `ff` = the levels swallow all eight ones, nothing is left to judge
-- (`Greater`); `ffffffff` = they swallow the 30 ones of EOS, two ones are judged (`Equal`); `18ef` behind `aa`:
-- `10111` consumed, one `1` judged; `fe`: `11111110` consumed; seven ones (valid) go the same way as eight
example : H3.Huffman.walkL H3.Gen.HuffDec.root (List.replicate 8 true) = .short [] ∧
    H3.Huffman.walkL H3.Gen.HuffDec.root (List.replicate 32 true) = .short [true, true] ∧
    H3.Huffman.walkL H3.Gen.HuffDec.root [true, false, true, true, true, true] = .short [true] ∧
    H3.Huffman.walkL H3.Gen.HuffDec.root [true, true, true, true, true, true, true, false] = .short [] ∧
    H3.Huffman.walkL H3.Gen.HuffDec.root (List.replicate 7 true) = .short [] := by decide +kernel

/-- The full-strength strictness statement is false for the code that exists: the three D-15
    witnesses (and `fe`: padding with a zero bit) are accepted by the decoder, through the flagged
    branch, and forbidden by RFC 7541 §5.2 — eight bits of padding; the EOS symbol; padding
    `101111` that is not a prefix of EOS. -/
theorem C15_huffman_D15_witnesses :
    Huffman.hdecode [0xff] = .ok [] ∧ Huffman.lax [0xff] = true ∧
      Spec.Huffman.specDecode [0xff] = none ∧
    Huffman.hdecode [0xff, 0xff, 0xff, 0xff] = .ok [] ∧ Huffman.lax [0xff, 0xff, 0xff, 0xff] = true ∧
      Spec.Huffman.specDecode [0xff, 0xff, 0xff, 0xff] = none ∧
    Huffman.hdecode [0x18, 0xef] = .ok [97, 97] ∧ Huffman.lax [0x18, 0xef] = true ∧
      Spec.Huffman.specDecode [0x18, 0xef] = none ∧
    Huffman.hdecode [0xfe] = .ok [] ∧ Spec.Huffman.specDecode [0xfe] = none ∧
    ¬ (∀ b s : List Nat, (∀ x ∈ b, x < 256) →
        (Huffman.hdecode b = .ok s ↔ Spec.Huffman.specDecode b = some s)) := by
  -- the decoder's side is run; the RFC's side follows from `C15_huffman_accepts_exactly_partial`: what is
  -- accepted through the flagged branch is forbidden
  have run : Huffman.hdecodeX [0xff] = .ok ([], true) ∧ Huffman.hdecodeX [0xff, 0xff, 0xff, 0xff] = .ok ([], true) ∧
      Huffman.hdecodeX [0x18, 0xef] = .ok ([97, 97], true) ∧ Huffman.hdecodeX [0xfe] = .ok ([], true) := by
    decide +kernel
  obtain ⟨r1, r2, r3, r4⟩ := run
  have spec : ∀ b s, (∀ x ∈ b, x < 256) → Huffman.hdecodeX b = .ok (s, true) →
      Huffman.hdecode b = .ok s ∧ Huffman.lax b = true ∧ Spec.Huffman.specDecode b = none :=
    fun b s hb h => ⟨by rw [Huffman.hdecode, h], by rw [Huffman.lax, h],
      (C15_huffman_accepts_exactly_partial b hb s).2.2.1 h⟩
  obtain ⟨a1, b1, c1⟩ := spec _ _ (by decide) r1
  obtain ⟨a2, b2, c2⟩ := spec _ _ (by decide) r2
  obtain ⟨a3, b3, c3⟩ := spec _ _ (by decide) r3
  obtain ⟨a4, _, c4⟩ := spec _ _ (by decide) r4
  refine ⟨a1, b1, c1, a2, b2, c2, a3, b3, c3, a4, c4, fun h => ?_⟩
  have := (h [0xff] [] (by decide)).mp a1
  rw [c1] at this; cases this

/-- the length prefix of a string literal: the prefixed integer `(H = 1, L)` in `n − 1` bits (`flags << 1 | 1` on `u8`
    is `2·flags + 1` for flags that fit) -/
private theorem literal_prefix (n flags L : Nat) (hn2 : 2 ≤ n) (hn8 : n ≤ 8) (hf : flags < 2 ^ (8 - n))
    (hL : L < 2 ^ 63) (rest : List Nat) :
    PrefixInt.encode? (n - 1) ((flags * 2) % 256 ||| 1) L = some (PrefixInt.encode (n - 1) (2 * flags + 1) L) ∧
    PrefixInt.decode? (n - 1) (PrefixInt.encode (n - 1) (2 * flags + 1) L ++ rest) =
      some (.ok (2 * flags + 1) L rest) := by
  have h128 : (2 : Nat) ^ (8 - n) ≤ 2 ^ 6 := Nat.pow_le_pow_right (by decide) (by omega)
  have hor : (flags * 2) % 256 ||| 1 = 2 * flags + 1 := by
    have := mul_pow_or flags 1 1 (by decide)
    rw [Nat.pow_one] at this
    rw [Nat.mod_eq_of_lt (by omega), this, Nat.mul_comm]
  have hf' := strFlags_lt hn2 hn8 hf
  obtain ⟨h1, _, h3, _⟩ := C15_prefix_int_roundtrip (n - 1) (2 * flags + 1) L (by omega) (by omega) hf' (by omega) rest
  exact ⟨hor ▸ h1, h3⟩

/-- The string-literal encoder, for every size that has room for the `H` flag (2..8; the code uses 4,
    6 and 8), any flags that fit and every byte string whose Huffman coding fits the encoder's `u32` positions
    (`hfit`: coding length `L` with `7·L < 2^32`, decidable): no panic, no overflow (`encodeC?`, the encoder
    over the checked Huffman encoder, both shapes, every growth policy, gives the same bytes); the wire form is
    the prefixed integer `(H = 1, length)` followed by the RFC 7541 §5.2 Huffman encoding.
    With a weaker bound (say `< 2^63`, "what fits a `Vec`") the statement is FALSE OF THE CODE: beyond
    `hfit` the Huffman encoder overflows (`C15_huffman_encoder_positions_fit` (2), (3), site D-15e, witness
    `huff encn 0a 450000000`) or, repaired, answers `Err(HuffmanEncoding)`. -/
theorem C15_string_literal_encode (n flags : Nat) (hn2 : 2 ≤ n) (hn8 : n ≤ 8)
    (hf : flags < 2 ^ (8 - n)) (s : List Nat) (hs : ∀ x ∈ s, x < 256)
    (hfit : 7 * (Huffman.hencode s).length < 2 ^ 32) :
    PrefixString.encode? n flags s = some (PrefixString.encode n flags s) ∧
    PrefixString.encode n flags s =
      PrefixInt.encode (n - 1) (2 * flags + 1) (Huffman.hencode s).length ++ Huffman.hencode s ∧
    ∀ g grow, PrefixString.encodeC? g grow n flags s = some (.ok (PrefixString.encode n flags s)) := by
  obtain ⟨he, _, _, _, _, _, _, hC⟩ := C15_huffman_roundtrip s hs hfit
  have hn0 : n ≠ 0 := by omega
  obtain ⟨hi1, _⟩ := literal_prefix n flags (Huffman.hencode s).length hn2 hn8 hf (by omega) []
  have henc : PrefixString.encode? n flags s =
      some (PrefixInt.encode (n - 1) (2 * flags + 1) (Huffman.hencode s).length ++ Huffman.hencode s) := by
    simp only [PrefixString.encode?, he, if_neg hn0, hi1]
  have henc' : PrefixString.encode n flags s =
      PrefixInt.encode (n - 1) (2 * flags + 1) (Huffman.hencode s).length ++ Huffman.hencode s := by
    simp [PrefixString.encode, henc]
  refine ⟨by rw [henc, henc'], henc', fun g grow => ?_⟩
  simp only [PrefixString.encodeC?, hC g grow, if_neg hn0, hi1, henc']

private theorem decodeG?_literal (g : Bool) (n flags : Nat) (hn2 : 2 ≤ n) (hn8 : n ≤ 8)
    (hf : flags < 2 ^ (8 - n)) (s : List Nat) (hs : ∀ x ∈ s, x < 256)
    (hfit : 7 * (Huffman.hencode s).length < 2 ^ 32) (rest : List Nat) :
    PrefixString.decodeG? g n (PrefixString.encode n flags s ++ rest) =
      some (if (g && decide (2 ^ 32 ≤ (Huffman.hencode s).length * 8 + 16)) = true then .err .bufSize
        else .ok flags s rest) := by
  obtain ⟨_, _, _, _, _, hd, _⟩ := C15_huffman_roundtrip s hs hfit
  obtain ⟨_, henc', _⟩ := C15_string_literal_encode n flags hn2 hn8 hf s hs hfit
  obtain ⟨_, hi3⟩ := literal_prefix n flags (Huffman.hencode s).length hn2 hn8 hf (by omega)
    (Huffman.hencode s ++ rest)
  have hodd : (2 * flags + 1) % 2 = 1 := by omega
  rw [henc', List.append_assoc]
  simp only [PrefixString.decodeG?, if_neg (by omega : n ≠ 0), hi3, PrefixString.hugeHuffman, hodd,
    beq_self_eq_true, Bool.true_and]
  split
  · rfl
  · simp only [PrefixString.decodePayload]
    rw [if_neg (by simp), if_neg (by omega)]
    simp only [List.take_left', List.drop_left', hd]
    congr 2; omega

/-- String literals round-trip for every size that has room for the `H` flag (2..8), any flags that
    fit, any following bytes, and every byte string whose Huffman coding is shorter than 2^29 − 2 bytes
    (`hlen`: its bit length + 16 fits `u32` — the bound `prefix_string::decode` puts on a Huffman literal
    since the repair of D-06u, because the Huffman decoder's bit positions are `u32`;
    `C15_string_literal_beyond_bound` for the others): no panic; the wire form is that of
    `C15_string_literal_encode`; decoding returns the flags, the string and the rest — with or without
    the refusal in the tree under check (`decodeG? g` for both `g`; `decode?` is the one the translator
    selects). -/
theorem C15_string_literal_roundtrip (n flags : Nat) (hn2 : 2 ≤ n) (hn8 : n ≤ 8)
    (hf : flags < 2 ^ (8 - n)) (s : List Nat) (hs : ∀ x ∈ s, x < 256)
    (hlen : (Huffman.hencode s).length * 8 + 16 < 2 ^ 32) (rest : List Nat) :
    PrefixString.encode? n flags s = some (PrefixString.encode n flags s) ∧
    PrefixString.encode n flags s =
      PrefixInt.encode (n - 1) (2 * flags + 1) (Huffman.hencode s).length ++ Huffman.hencode s ∧
    PrefixString.decode? n (PrefixString.encode n flags s ++ rest) = some (.ok flags s rest) ∧
    PrefixString.decode n (PrefixString.encode n flags s ++ rest) = .ok flags s rest ∧
    ∀ g, PrefixString.decodeG? g n (PrefixString.encode n flags s ++ rest) = some (.ok flags s rest) := by
  obtain ⟨henc, henc', _⟩ := C15_string_literal_encode n flags hn2 hn8 hf s hs (by omega)
  have hdecG : ∀ g, PrefixString.decodeG? g n (PrefixString.encode n flags s ++ rest) = some (.ok flags s rest) :=
    fun g => by
      rw [decodeG?_literal g n flags hn2 hn8 hf s hs (by omega) rest, if_neg]
      simp only [Bool.and_eq_true, decide_eq_true_eq]
      omega
  have hdec : PrefixString.decode? n (PrefixString.encode n flags s ++ rest) = some (.ok flags s rest) := hdecG _
  exact ⟨henc, henc', hdec, by simp [PrefixString.decode, hdec], hdecG⟩

example : PrefixString.encode 6 1 [110, 97, 109, 101] = [0x63, 0xa8, 0x74, 0x97] ∧
    PrefixString.decode 6 (PrefixString.encode 6 1 [110, 97, 109, 101] ++ [9]) = .ok 1 [110, 97, 109, 101] [9] := by
  decide +kernel

/-- Beyond the decoder's bound and within the encoder's (a Huffman coding of 2^29 − 2 bytes or more, i.e. a string
    of more than 143 MB, and shorter than 613 566 757 bytes: `hfit`, the hypothesis of `C15_string_literal_encode`;
    longer ones the encoder does not write — D-15e): the
    encoder still writes the literal, and the decoder with the refusal (the repaired
    `prefix_string::decode`) answers `Error::BufSize` — a decoding error (QPACK_DECOMPRESSION_FAILED at the
    three receive sites, like every other string error: `C11_rejects`), never other bytes and never the
    overflow of the bit positions that the unrepaired code ran into (D-06u).  So "every byte string
    round-trips" holds up to that length and fails safe beyond it. -/
theorem C15_string_literal_beyond_bound (n flags : Nat) (hn2 : 2 ≤ n) (hn8 : n ≤ 8)
    (hf : flags < 2 ^ (8 - n)) (s : List Nat) (hs : ∀ x ∈ s, x < 256)
    (hbig : 2 ^ 32 ≤ (Huffman.hencode s).length * 8 + 16) (hfit : 7 * (Huffman.hencode s).length < 2 ^ 32)
    (rest : List Nat) :
    PrefixString.encode? n flags s = some (PrefixString.encode n flags s) ∧
    PrefixString.decodeG? true n (PrefixString.encode n flags s ++ rest) = some (.err .bufSize) ∧
    PrefixString.decodeGC? true n (PrefixString.encode n flags s ++ rest) = some (.err .bufSize) := by
  obtain ⟨henc, _, _⟩ := C15_string_literal_encode n flags hn2 hn8 hf s hs hfit
  have hd : PrefixString.decodeG? true n (PrefixString.encode n flags s ++ rest) = some (.err .bufSize) := by
    rw [decodeG?_literal true n flags hn2 hn8 hf s hs hfit rest, if_pos]
    simp only [Bool.true_and, decide_eq_true_eq]
    exact hbig
  exact ⟨henc, hd, by rw [PrefixString.decodeGC?_true]; exact hd⟩

/-- The Huffman decoder's bit positions fit `u32` (the justification of the arithmetic sites of
    `prefix_string/{decode,bitwin}.rs` in the panic-site inventory; D-06u repaired).
    `Huffman.hdecodeC` / `PrefixString.decodeGC?` are the decoder / the string-literal decoder with every
    machine operation of the Rust code written out — every `+` and `*` on `u32` (`BitWindow::forwards`,
    `byte_offset * 8 + bit_offset + len`, `src.len() as u32 * 8`, `bit_pos.byte + 1`), every `-`, every
    shift of a `u8` / `u16`, both slice indexings of `read_bits` — and answering `none` as soon as one of
    them overflows, underflows, shifts by the width or indexes out of range.
    (1) Within `8·L + 8 < 2^32` (any `Nat`s as input) the checked decoder is `hdecodeX`, the function all other
        C15 / C11 theorems are about.
    (2) With the refusal in `prefix_string::decode` what reaches the Huffman decoder has `8·len + 16 < 2^32`, so the
        string-literal decoder never overflows, on any input and any size argument.
    (3) If the translator says the tree under check has the refusal (`hugeLiteralRefused`), `decode?` is that body.
    (4) The bound is needed: from 2^29 bytes on the first `read_bits` overflows (`src.len() as u32 * 8`; from 2^32
        bytes on the cast itself loses bits) — D-06u's witness `huff decn 00 536870912`. -/
theorem C15_huffman_positions_fit :
    (∀ input : List Nat, 8 * input.length + 8 < 2 ^ 32 →
      Huffman.hdecodeC input = some (Huffman.hdecodeX input)) ∧
    (∀ n bs, PrefixString.decodeGC? true n bs = PrefixString.decodeG? true n bs) ∧
    (H3.Gen.HuffDec.hugeLiteralRefused = true →
      ∀ n bs, PrefixString.decode? n bs = PrefixString.decodeG? true n bs ∧
        PrefixString.decodeGC? true n bs = PrefixString.decode? n bs) ∧
    (∀ input : List Nat, 2 ^ 29 ≤ input.length → Huffman.hdecodeC input = none) := by
  refine ⟨Huffman.hdecodeC_eq, PrefixString.decodeGC?_true, ?_, Huffman.hdecodeC_overflow⟩
  intro hg n bs
  have h : PrefixString.decode? n bs = PrefixString.decodeG? true n bs := by
    unfold PrefixString.decode?; rw [hg]
  exact ⟨h, by rw [h]; exact PrefixString.decodeGC?_true n bs⟩

-- the checked decoder on RFC 7541 C.4.2 (`no-cache`), on an invalid ending, and on a literal that declares
-- 2^29 − 2 bytes (`ff ff fe ff ff 01` = H, length 127 + 536870783): refused before anything is computed; without
-- the refusal, one byte less, or without H it is a truncated literal
example : Huffman.hdecodeC [0xa8, 0xeb, 0x10, 0x64, 0x9c, 0xbf] =
    some (.ok ([110, 111, 45, 99, 97, 99, 104, 101], false)) := by decide +kernel
example : Huffman.hdecodeC [0x18, 0x00] = some (.error (.missingBits ⟨1, 7, 5⟩)) := by decide +kernel
example : PrefixString.decodeGC? true 8 [0xff, 0xff, 0xfe, 0xff, 0xff, 0x01, 0x00] = some (.err .bufSize) ∧
    PrefixString.decodeG? false 8 [0xff, 0xff, 0xfe, 0xff, 0xff, 0x01, 0x00] = some (.err .unexpectedEnd) ∧
    PrefixString.decodeG? true 8 [0xff, 0xfe, 0xfe, 0xff, 0xff, 0x01, 0x00] = some (.err .unexpectedEnd) ∧
    PrefixString.decodeG? true 8 [0x7f, 0xff, 0xfe, 0xff, 0xff, 0x01, 0x00] = some (.err .unexpectedEnd) := by
  decide +kernel

/-- `prefix_int::decode` and `prefix_string::decode` are generic over `B: Buf`; over a `Buf` of several
    chunks the models (`decodeM?`) answer what they answer for the concatenation, so the answer — value,
    rest, error — does not depend on where the cuts are, and every theorem above about `decode?` holds
    for every chunking.  (Trivial for the models, which take the bytes; the content is in the engines
    `pint decm` / `pstr decm`, which run the real functions over a `Buf` whose `chunk()` is the first
    piece only, at every cut position: a payload read from `chunk()` instead of through
    `copy_to_bytes` is cut short at a chunk boundary — the seeded change the contiguous engine missed.) -/
theorem C15_decode_chunking_independent (n : Nat) (chunks chunks' : List (List Nat))
    (h : chunks.flatten = chunks'.flatten) :
    PrefixString.decodeM? n chunks = PrefixString.decodeM? n chunks' ∧
    PrefixInt.decodeM? n chunks = PrefixInt.decodeM? n chunks' ∧
    PrefixString.decodeM? n chunks = PrefixString.decode? n chunks.flatten ∧
    PrefixInt.decodeM? n chunks = PrefixInt.decode? n chunks.flatten ∧
    PrefixString.decodeM? n [chunks.flatten] = PrefixString.decodeM? n chunks := by
  refine ⟨?_, ?_, rfl, rfl, ?_⟩
  · unfold PrefixString.decodeM?; rw [h]
  · unfold PrefixInt.decodeM?; rw [h]
  · unfold PrefixString.decodeM?; simp

-- `63 a8 | 74 97 09`: the Huffman payload `a8 74 97` ("name") crosses the cut; raw `03 61 | 62 63`
example : PrefixString.decodeM? 6 [[0x63, 0xa8], [0x74, 0x97, 9]] = some (.ok 1 [110, 97, 109, 101] [9]) ∧
    PrefixString.decodeM? 6 [[0x63], [0xa8, 0x74], [0x97, 9]] = some (.ok 1 [110, 97, 109, 101] [9]) ∧
    PrefixString.decodeM? 8 [[0x03, 0x61], [0x62, 0x63]] = some (.ok 0 [0x61, 0x62, 0x63] []) ∧
    PrefixInt.decodeM? 5 [[31, 154], [10, 4]] = some (.ok 0 1337 [4]) := by decide +kernel

end H3.Props.C15
