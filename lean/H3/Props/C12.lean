import H3.Model.Headers
import H3.Spec.Headers
import H3.Lemmas.Headers
/-! # C12 — only well-formed messages reach the application; sent ones are well-formed

    All theorems are about the model `H3.Headers` (tied to `/repo` by the `hdr` engine and by the
    generated `H3.Gen.Headers`) against the oracle `H3.Spec.Headers`, for **every** field list
    `fs : List (List Nat × List Nat)` — no bound on length, names or values — and for every
    instance `H` of the abstract `http` URI machinery satisfying `HttpLaws`.

    The proofs evaluate the seven generated constants (`nameRejectsDquote`, `mapFallible`,
    `trailersRefusePseudo`, `hostEveryValue`, `otherKindRefused`, `pseudoSyntaxChecked` must be `true`,
    `mapPresizeRefuses` must be `false`), each of them in `H3.Lemmas.Headers`; on a tree where one of them has
    the other value that file, and so this one, does not build. -/
namespace H3.Props.C12
open H3.Headers H3.Spec.Headers H3.Gen

/-! ## the four concrete validators are the RFC's classes -/

/-- What `Field::parse` accepts as a regular field name is a non-empty lower-case token; its
    value check is exactly the RFC 9110 field-value byte set; `:method` values are exactly the
    tokens; `:status` values are exactly three digits 100…999 (and the numeric value handed to
    the application is that number). -/
theorem C12_validators_are_rfc :
    (∀ n, nameAccepted n = true → LowerToken n) ∧
    (∀ v, validValue v = true ↔ LegalValue v) ∧
    (∀ m, validMethod m = true ↔ MethodToken m) ∧
    (∀ s, validStatus s = true ↔ StatusCode s) ∧
    (∀ s, validStatus s = true → 100 ≤ statusVal s ∧ statusVal s ≤ 999 ∧ statusDigits (statusVal s) = s) :=
  ⟨nameAccepted_lowerToken rfl, validValue_iff, validMethod_iff, validStatus_iff,
   fun s h => ⟨(statusVal_range s h).1, (statusVal_range s h).2, statusDigits_statusVal s h⟩⟩

example : nameAccepted [97, 34, 98] = false := by decide +kernel            -- a"b
example : nameAccepted [67, 111] = false := by decide +kernel               -- Co
example : validValue [97, 13, 98] = false := by decide +kernel              -- a\rb
example : validValue [128, 255, 9, 32] = true := by decide +kernel

/-- the authority `chooseAuthority` settles on, read off the `:authority` values `A` and the `Host` values `Hs` -/
theorem chosen_authority {A Hs : List Bytes} {auth : Bytes}
    (hc : chooseAuthority A.getLast? Hs.head? = .ok auth) (hall : ∀ v ∈ Hs, Hs.head? = some v) :
    auth ∈ A ++ Hs ∧ (A ≠ [] → ∃ a ∈ A, ∀ h ∈ Hs, a = h) ∧
    (Hs.head? = some auth ∨ (Hs = [] ∧ A.getLast? = some auth)) ∧
    (∀ hv ∈ Hs, hv = auth) ∧ (∀ a, A.getLast? = some a → a = auth) := by
  obtain ⟨hone, hauth, hhost⟩ := chooseAuthority_ok hc
  have hhosts : ∀ hv ∈ Hs, hv = auth := fun hv hhv => hhost hv (hall hv hhv)
  refine ⟨?_, fun hA => ⟨_, List.getLast_mem hA, fun hv hhv =>
    (hauth _ (List.getLast?_eq_some_getLast hA)).trans (hhosts hv hhv).symm⟩, ?_, hhosts, hauth⟩
  · rcases hone with ha | hh
    · exact List.mem_append_left _ (List.mem_of_getLast? ha)
    · exact List.mem_append_right _ (List.mem_of_head? hh)
  · cases hh : Hs.head? with
    | some y => exact .inl (by rw [hhost y hh])
    | none => exact .inr ⟨List.head?_eq_none_iff.mp hh, hone.resolve_right (by rw [hh]; nofun)⟩

/-- **Only well-formed requests reach the application.**  If `Header::try_from` followed by
    `into_request_parts` succeeds on the decoded field list `fs`, then `fs` is a well-formed
    request in the oracle's sense (`WellFormedRequest`: names and values in order; pseudo-header
    fields only of those defined *for requests*, no `:status` — `DefinedFor`, D-12f; a `:method`; a
    non-empty authority from `:authority` or `Host`, **every** `Host` value being the `:authority`
    value, and without `:authority` all `Host` values one value — `AuthorityOk`, D-12e), and the
    parts handed over carry exactly the received values: of a repeated pseudo-header field the last
    one; the URI is what `http` builds from `:scheme`, the authority and `:path`, where the authority
    is non-empty, is accepted by `Authority`'s parser and is the value of every `Host` field when
    there is one, else the `:authority` value; the header map holds exactly the regular fields,
    per-name order kept. -/
theorem C12_accepted_request_wellformed (H : Http) (L : HttpLaws H) (fs : List FieldLine) (r : RequestParts)
    (h : recvRequest H fs = .ok r) :
    WellFormedRequest H fs ∧
    lastVal nMethod fs = some r.method ∧
    r.protocol = lastVal nProtocol fs ∧
    (∃ auth, auth ≠ [] ∧ H.parseAuthority auth = some auth ∧
      ((valuesOf nHost fs).head? = some auth ∨ (valuesOf nHost fs = [] ∧ lastVal nAuthority fs = some auth)) ∧
      (∀ hv ∈ valuesOf nHost fs, hv = auth) ∧
      (∀ a, lastVal nAuthority fs = some a → a = auth) ∧
      H.uriBuild ((lastVal nScheme fs).bind H.parseScheme) auth ((lastVal nPath fs).bind H.parsePath) = some r.uri) ∧
    CarriesRegular (hmIter r.headers) fs := by
  obtain ⟨hd, e, h⟩ := Res.bind_eq_ok h
  have hi := tryFrom_ok e
  obtain ⟨hnost, hall, auth, m, hc, hm, hu, rm, rp, rh⟩ := intoRequestParts_ok h
  have hdef : DefinedFor requestPseudoNames fs := definedFor_request (inv_fieldOk hi) (inv_no_status hi hnost)
  rw [inv_hosts hi, allFirst_iff] at hall
  rw [inv_authority L hi, inv_host hi] at hc
  rw [hi.method] at hm
  rw [hi.scheme, hi.path] at hu
  have hparse : H.parseAuthority auth = some auth := L.uri_authority_parses _ _ _ _ hu
  have hne : auth ≠ [] := by
    intro e0; subst e0; rw [L.uri_authority_nonempty] at hu; cases hu
  obtain ⟨hmem, hboth, hfrom, hhosts, hauth⟩ := chosen_authority (A := valuesOf nAuthority fs) hc hall
  refine ⟨⟨inv_fieldOk hi, hdef, ⟨(nMethod, m), lastVal_mem hm, rfl⟩, ⟨auth, hmem, hne⟩, hboth, hall⟩, ?_, ?_,
    ⟨auth, hne, hparse, hfrom, hhosts, hauth, hu⟩, ?_⟩
  · rw [rm]; exact hm
  · rw [rp, hi.protocol]
  · rw [rh]; exact inv_carries hi

/-- the D-12e witness: `:authority: a`, `host: a`, `host: b` is not a well-formed request (the
    second `Host` value is not the `:authority` value), nor are the two `Host` values alone
    (R-12b); hence both are refused (`C12_malformed_request_refused`; concretely below, on `toy`). -/
example (H : Http) : ¬ WellFormedRequest H [(nMethod, [71]), (nAuthority, [97]), (nHost, [97]), (nHost, [98])] := by
  intro h
  have := h.2.2.2.2.2 [98] (by decide +kernel)
  revert this; decide +kernel
example (H : Http) : ¬ WellFormedRequest H [(nMethod, [71]), (nHost, [97]), (nHost, [98])] := by
  intro h
  have := h.2.2.2.2.2 [98] (by decide +kernel)
  revert this; decide +kernel

/-- the D-12f witnesses: `:method: GET, :authority: a.com, :status: 200` is not a well-formed request
    (`:status` is not defined for requests) and `:status: 200, :method: GET, :path: /` is not a
    well-formed response (`:method`, `:path` are not defined for responses), whatever `http` parses;
    hence both are refused (`C12_malformed_request_refused`, `C12_malformed_response_refused`;
    concretely below, on `toy`). -/
example (H : Http) : ¬ WellFormedRequest H
    [(nMethod, [71, 69, 84]), (nAuthority, [97, 46, 99, 111, 109]), (nStatus, [50, 48, 48])] := by
  intro h
  have := h.2.1 (nStatus, [50, 48, 48]) (by decide +kernel) (by decide +kernel)
  revert this; decide +kernel
example (H : Http) : ¬ WellFormedResponse H [(nStatus, [50, 48, 48]), (nMethod, [71, 69, 84]), (nPath, [47])] := by
  intro h
  have := h.2.1 (nMethod, [71, 69, 84]) (by decide +kernel) (by decide +kernel)
  revert this; decide +kernel

/-- **Only well-formed responses reach the application**: accepted ⇒ the oracle's
    `WellFormedResponse` (names, values, no pseudo-header field other than `:status` — the only one
    defined *for responses*, `DefinedFor`, D-12f: no `:method`, `:scheme`, `:authority`, `:path`,
    `:protocol` — with a parseable value, a
    `:status`), the status handed over is the number written in the (last) `:status` field, three
    digits 100…999, and the map holds exactly the regular fields, per-name order kept. -/
theorem C12_accepted_response_wellformed (H : Http) (fs : List FieldLine) (st : Nat) (m : HeaderMap)
    (h : recvResponse H fs = .ok (st, m)) :
    WellFormedResponse H fs ∧
    (∃ v, lastVal nStatus fs = some v ∧ StatusCode v ∧ st = statusVal v ∧ 100 ≤ st ∧ st ≤ 999) ∧
    CarriesRegular (hmIter m) fs := by
  obtain ⟨hd, e, h⟩ := Res.bind_eq_ok h
  have hi := tryFrom_ok e
  obtain ⟨hnoreq, hs, hmap⟩ := intoResponseParts_ok h
  subst hmap
  have hdef : DefinedFor responsePseudoNames fs :=
    definedFor_response (inv_fieldOk hi) (inv_no_request_field hi hnoreq)
  rw [hi.status] at hs
  cases el : lastVal nStatus fs with
  | none => rw [el] at hs; cases hs
  | some v =>
    rw [el] at hs
    simp only [Option.map_some, Option.some.injEq] at hs
    have hmem := lastVal_mem el
    have hsc := fieldOk_status (inv_fieldOk hi _ hmem)
    have hr := statusVal_range v ((validStatus_iff v).mpr hsc)
    refine ⟨⟨inv_fieldOk hi, hdef, ⟨(nStatus, v), hmem, rfl⟩⟩, ⟨v, rfl, hsc, hs.symm, ?_, ?_⟩, inv_carries hi⟩
    · rw [← hs]; exact hr.1
    · rw [← hs]; exact hr.2

/-- **Only well-formed trailers reach the application**: accepted ⇒ no pseudo-header field at
    all (RFC 9114 §4.3), every name a non-empty lower-case token, every value legal; the map
    handed over holds exactly the received fields, per-name order kept. -/
theorem C12_accepted_trailers_wellformed (H : Http) (fs : List FieldLine) (m : HeaderMap)
    (h : recvTrailers H fs = .ok m) :
    WellFormedTrailers fs ∧ regular fs = fs ∧ CarriesRegular (hmIter m) fs := by
  obtain ⟨hd, e, h⟩ := Res.bind_eq_ok h
  have hi := tryFrom_ok e
  obtain ⟨hlen, rfl⟩ := intoTrailers_ok h
  have hnone : ∀ f ∈ fs, isPseudoName f.1 = false := by
    intro f hf
    have := List.eq_nil_of_length_eq_zero (hi.len ▸ hlen)
    rw [List.filter_eq_nil_iff] at this
    simpa using this f hf
  refine ⟨?_, ?_, inv_carries hi⟩
  · intro f hf
    have hok := inv_fieldOk hi f hf
    have hnp : ¬ IsPseudo f.1 := (not_isPseudo_iff _).mpr (hnone f hf)
    obtain ⟨h1, h2⟩ := hok
    rw [if_neg hnp] at h2
    exact ⟨h1, hnp, h2.1, h2.2⟩
  · unfold regular
    rw [List.filter_eq_self]
    intro f hf
    simpa using (not_isPseudo_iff _).mpr (hnone f hf)

/-! ## everything else is refused, on the stream, with H3_MESSAGE_ERROR -/

/-- The three functions never panic (in particular not on long lists: `HeaderMap` is created with
    the fallible constructor), so every list is either handed over or refused with a `HeaderError`. -/
theorem C12_no_panic (H : Http) (fs : List FieldLine) :
    recvRequest H fs ≠ .panic ∧ recvResponse H fs ≠ .panic ∧ recvTrailers H fs ≠ .panic := by
  have hp := tryFrom_ne_panic H fs
  exact ⟨Res.bind_ne_panic hp (intoRequestParts_ne_panic H), Res.bind_ne_panic hp intoResponseParts_ne_panic,
    Res.bind_ne_panic hp intoTrailers_ne_panic⟩

/-- Every `HeaderError`, at each of the three call sites, becomes a *stream*-level error whose
    code is `H3_MESSAGE_ERROR` (never a connection error), and `H3_MESSAGE_ERROR` is also the code
    that goes to the peer: the server resets its response side and stops the request side with
    it, the client's `recv_response` — in either of its two arms, after `try_from` and after
    `into_response_parts` (`second`) — and `poll_recv_trailers` stop the receiving side with it.
    (The codes are read from the three call sites on every run: `H3.Gen.Headers`.) -/
theorem C12_refusal_is_message_error (e : HeaderError) (second : Bool) :
    (siteResolve e).scope = .stream ∧ (siteResolve e).code = Consts.CODE_H3_MESSAGE_ERROR ∧
    (siteResolve e).stopSending = some Consts.CODE_H3_MESSAGE_ERROR ∧
    (siteResolve e).reset = some Consts.CODE_H3_MESSAGE_ERROR ∧
    (siteRecvResponse second e).scope = .stream ∧ (siteRecvResponse second e).code = Consts.CODE_H3_MESSAGE_ERROR ∧
    (siteRecvResponse second e).stopSending = some Consts.CODE_H3_MESSAGE_ERROR ∧ (siteRecvResponse second e).reset = none ∧
    (siteRecvTrailers e).scope = .stream ∧ (siteRecvTrailers e).code = Consts.CODE_H3_MESSAGE_ERROR ∧
    (siteRecvTrailers e).stopSending = some Consts.CODE_H3_MESSAGE_ERROR := by
  cases e <;> cases second <;> decide

example : siteRecvResponse true .invalidHeaderName =
    { scope := .stream, code := 0x10e, stopSending := some 0x10e, reset := none } := by decide +kernel

/-- **Anything else is refused** (requests): a list that is not a well-formed request makes
    `resolve` return a stream-level `H3_MESSAGE_ERROR`; nothing is handed over, nothing panics. -/
theorem C12_malformed_request_refused (H : Http) (L : HttpLaws H) (fs : List FieldLine)
    (hbad : ¬ WellFormedRequest H fs) :
    ∃ e, recvRequest H fs = .err e ∧ (siteResolve e).scope = .stream ∧
      (siteResolve e).code = Consts.CODE_H3_MESSAGE_ERROR := by
  cases h : recvRequest H fs with
  | ok r => exact absurd (C12_accepted_request_wellformed H L fs r h).1 hbad
  | panic => exact absurd h (C12_no_panic H fs).1
  | err e => exact ⟨e, rfl, (C12_refusal_is_message_error e false).1, (C12_refusal_is_message_error e false).2.1⟩

/-- **Anything else is refused** (responses); the refusal goes through the arm of `recv_response`
    that `recvResponseSecond` names. -/
theorem C12_malformed_response_refused (H : Http) (fs : List FieldLine) (hbad : ¬ WellFormedResponse H fs) :
    ∃ e, recvResponse H fs = .err e ∧ (siteRecvResponse (recvResponseSecond H fs) e).scope = .stream ∧
      (siteRecvResponse (recvResponseSecond H fs) e).code = Consts.CODE_H3_MESSAGE_ERROR := by
  cases h : recvResponse H fs with
  | ok r => obtain ⟨st, m⟩ := r; exact absurd (C12_accepted_response_wellformed H fs st m h).1 hbad
  | panic => exact absurd h (C12_no_panic H fs).2.1
  | err e =>
    have := C12_refusal_is_message_error e (recvResponseSecond H fs)
    exact ⟨e, rfl, this.2.2.2.2.1, this.2.2.2.2.2.1⟩

/-- **Anything else is refused** (trailers). -/
theorem C12_malformed_trailers_refused (H : Http) (fs : List FieldLine) (hbad : ¬ WellFormedTrailers fs) :
    ∃ e, recvTrailers H fs = .err e ∧ (siteRecvTrailers e).scope = .stream ∧
      (siteRecvTrailers e).code = Consts.CODE_H3_MESSAGE_ERROR := by
  cases h : recvTrailers H fs with
  | ok m => exact absurd (C12_accepted_trailers_wellformed H fs m h).1 hbad
  | panic => exact absurd h (C12_no_panic H fs).2.2
  | err e =>
    have := C12_refusal_is_message_error e false
    exact ⟨e, rfl, this.2.2.2.2.2.2.2.2.1, this.2.2.2.2.2.2.2.2.2.1⟩

/-! ## the capacity of `http::HeaderMap` -/

/-- `Header::try_from` does not refuse a section for the number of its fields (D-01, repaired:
    `try_from` is the loop; a map that cannot be pre-sized starts empty).  What remains is the
    limit of `http::HeaderMap` itself, 24576 distinct names (`hmMaxEntries`; `try_append` fails when
    it is called on a map that already holds that many — `Header.full` in the loop of `try_from`, the
    test of `hmTryAppend`): a header map handed over holds at most that many names, and a section whose regular fields carry more distinct names is
    refused — with a `HeaderError` (H3_MESSAGE_ERROR on the stream, `C12_refusal_is_message_error`),
    never a panic (D-12b). -/
theorem C12_map_capacity (H : Http) (fs : List FieldLine) :
    (∀ r, recvRequest H fs = .ok r → r.headers.length ≤ hmMaxEntries) ∧
    (∀ st m, recvResponse H fs = .ok (st, m) → m.length ≤ hmMaxEntries) ∧
    (∀ m, recvTrailers H fs = .ok m → m.length ≤ hmMaxEntries) ∧
    (∀ ns : List Bytes, ns.Nodup → hmMaxEntries < ns.length →
      (∀ n ∈ ns, ¬ IsPseudo n ∧ ∃ v, (n, v) ∈ fs) →
      (∃ e, recvRequest H fs = .err e) ∧ (∃ e, recvResponse H fs = .err e) ∧
      (∃ e, recvTrailers H fs = .err e)) := by
  refine ⟨?_, ?_, ?_, ?_⟩
  · intro r h
    obtain ⟨hd, e, h⟩ := Res.bind_eq_ok h
    obtain ⟨_, _, _, _, _, _, _, _, _, rh⟩ := intoRequestParts_ok h
    rw [rh]; exact tryFrom_cap e
  · intro st m h
    obtain ⟨hd, e, h⟩ := Res.bind_eq_ok h
    obtain ⟨_, _, hmap⟩ := intoResponseParts_ok h
    rw [hmap]; exact tryFrom_cap e
  · intro m h
    obtain ⟨hd, e, h⟩ := Res.bind_eq_ok h
    rw [(intoTrailers_ok h).2]; exact tryFrom_cap e
  · intro ns hnd hlen hocc
    obtain ⟨e, he⟩ := tryFrom_too_many_names (H := H) ns hnd hlen hocc
    exact ⟨⟨e, by simp [recvRequest, he, Res.bind]⟩, ⟨e, by simp [recvResponse, he, Res.bind]⟩,
      ⟨e, by simp [recvTrailers, he, Res.bind]⟩⟩

example : hmTryAppend (List.replicate 3 ([120], [[49]])) [121] [50] =
    some (List.replicate 3 ([120], [[49]]) ++ [([121], [[50]])]) := by decide +kernel

/-! ## sent messages are well-formed -/

/-- what `HeaderName` guarantees of the names in a caller's `HeaderMap` -/
def MapNamesOk (m : HeaderMap) : Prop := ∀ g ∈ m, fromLowercase g.1 = true

theorem hmIter_names (m : HeaderMap) : ∀ f ∈ hmIter m, ∃ g ∈ m, g.1 = f.1 := by
  induction m with
  | nil => intro f hf; simp [hmIter] at hf
  | cons g r ih =>
    obtain ⟨k, vs⟩ := g
    intro f hf
    simp only [hmIter, List.mem_append, List.mem_map] at hf
    rcases hf with ⟨v, _, rfl⟩ | hf
    · exact ⟨(k, vs), by simp, rfl⟩
    · obtain ⟨g, hg, e⟩ := ih f hf
      exact ⟨g, by simp [hg], e⟩

theorem pseudoList_pseudo (p : Pseudo) : ∀ f ∈ pseudoList p, IsPseudo f.1 := fun f hf =>
  (by decide : ∀ n ∈ [nMethod, nScheme, nAuthority, nPath, nStatus, nProtocol], IsPseudo n) f.1
    ((pseudoList_names_sublist p).subset (List.mem_map_of_mem hf))

/-- **Every message h3 sends**: for every `Header` value whatsoever, the iterator handed to the
    QPACK encoder yields first the pseudo-header fields that are present — in the fixed order
    `:method, :scheme, :authority, :path, :status, :protocol`, hence each at most once — and then
    every entry of the header map in the map's own order (groups in insertion order, per-name
    order kept).  With `HeaderName`'s invariant on the map's names this is the oracle's
    `PseudoFirst` and `PseudoOnce`. -/
theorem C12_sent_order (h : Header) :
    h.wireFields = pseudoList h.pseudo ++ hmIter h.fields ∧
    (∀ f ∈ pseudoList h.pseudo, IsPseudo f.1) ∧
    ((pseudoList h.pseudo).map (·.1)).Sublist [nMethod, nScheme, nAuthority, nPath, nStatus, nProtocol] ∧
    (MapNamesOk h.fields → PseudoFirst h.wireFields ∧ PseudoOnce h.wireFields) := by
  have hw := wireFields_eq h
  have hp := pseudoList_pseudo h.pseudo
  have hs := pseudoList_names_sublist h.pseudo
  refine ⟨hw, hp, hs, ?_⟩
  intro hm
  have hreg : ∀ f ∈ hmIter h.fields, ¬ IsPseudo f.1 := by
    intro f hf
    obtain ⟨g, hg, e⟩ := hmIter_names _ f hf
    rw [← e]; exact fromLowercase_not_pseudo _ (hm g hg)
  refine ⟨⟨_, _, hw, hp, hreg⟩, ?_⟩
  unfold PseudoOnce
  rw [hw, List.filter_append]
  have e1 : (pseudoList h.pseudo).filter (fun f => IsPseudo f.1) = pseudoList h.pseudo := by
    rw [List.filter_eq_self]; intro f hf; simpa using hp f hf
  have e2 : (hmIter h.fields).filter (fun f => IsPseudo f.1) = [] := by
    rw [List.filter_eq_nil_iff]; intro f hf; simpa using hreg f hf
  rw [e1, e2, List.append_nil]
  exact List.Sublist.nodup hs (by decide)

/-- **…with the values the caller supplied** (requests): when `Header::request` accepts, the
    pseudo-header fields are exactly the oracle's `sentRequestPseudo`: `:method` = the method;
    unless this is a CONNECT without `Protocol`, `:scheme` = the URI's scheme or `https` and
    `:path` = the URI's path-and-query or `/`; `:authority` = the URI's authority when it has
    one; `:protocol` = the `Protocol` extension when the method is CONNECT.  It refuses only for
    a missing authority (no URI authority and no `Host`) or a `Host` differing from it. -/
theorem C12_sent_request_values (method : Bytes) (uri : UriParts) (fields : HeaderMap) (ext : Option Bytes) :
    (∀ h, Header.request method uri fields ext = .ok h →
        h.wireFields = sentRequestPseudo method uri ext ++ hmIter fields) ∧
    (∀ e, Header.request method uri fields ext = .err e →
        (e = .missingAuthority ∧ uri.authority = none ∧ hmGet fields nHost = none) ∨
        (e = .contradictedAuthority ∧ ∃ a hv, uri.authority = some a ∧ hmGet fields nHost = some hv ∧ a ≠ hv)) ∧
    Header.request method uri fields ext ≠ .panic := by
  have key : pseudoList (Pseudo.request method uri ext) = sentRequestPseudo method uri ext := by
    obtain ⟨s, a, pq⟩ := uri
    -- `PathAndQuery::path()` is never empty (`"/"` stands in), so the `!= OPTIONS` test of `Pseudo::request` is dead
    have hdead : ∀ d : Bytes, (pqPath d).isEmpty = false := by
      intro d; unfold pqPath; simp only; split <;> simp_all [slash]
    unfold Pseudo.request sentRequestPseudo pseudoList
    simp only [show H3.Spec.Headers.mCONNECT = H3.Headers.mCONNECT from rfl,
      show H3.Spec.Headers.https = sHttps from rfl]
    by_cases hc : method = H3.Headers.mCONNECT
    · subst hc
      cases ext <;> cases pq <;> simp +decide [optField, hdead, pqAsStr, slash, H3.Headers.mCONNECT]
    · cases ext <;> cases pq <;> simp [optField, hdead, pqAsStr, slash, hc]
  refine ⟨?_, ?_, ?_⟩
  · intro h hh
    obtain rfl := request_ok hh
    rw [wireFields_eq, key]
  · intro e he
    rcases request_cases method uri fields ext with h | ⟨h, hw⟩ | ⟨h, hw⟩ <;> rw [h] at he <;> cases he
    · exact .inl ⟨rfl, hw⟩
    · exact .inr ⟨rfl, hw⟩
  · rcases request_cases method uri fields ext with h | ⟨h, _⟩ | ⟨h, _⟩ <;> rw [h] <;> nofun

/-- responses carry `:status` = the caller's status code (three digits) and nothing else before the
    map; trailers carry no pseudo-header field at all. -/
theorem C12_sent_response_trailer_values (status : Nat) (fields : HeaderMap) :
    (Header.response status fields).wireFields = sentResponsePseudo status ++ hmIter fields ∧
    (Header.trailer fields).wireFields = hmIter fields := by
  constructor
  · rw [wireFields_eq]; rfl
  · rw [wireFields_eq]; rfl

/-! ## non-vacuity: a small concrete `Http` and concrete messages -/

/-- a toy URI machinery satisfying the laws: schemes `http`/`https`, authorities made of letters,
    digits, `.`, `:`; paths starting with `/`; `Uri::from_parts`' shape rules. -/
def toy : Http where
  parseScheme v := if v = [104, 116, 116, 112] ∨ v = sHttps then some v else none
  parseAuthority v :=
    if !v.isEmpty && v.all (fun b => (97 ≤ b && b ≤ 122) || (48 ≤ b && b ≤ 58) || b == 46) then some v else none
  parsePath v := if v.head? = some 47 ∧ 35 ∉ v then some v else none
  uriBuild s a p :=
    if !a.isEmpty && a.all (fun b => (97 ≤ b && b ≤ 122) || (48 ≤ b && b ≤ 58) || b == 46) then
      (if s.isSome = p.isSome then some { scheme := s, authority := some a, path := p } else none)
    else none

theorem toy_laws : HttpLaws toy where
  authority_nonempty := by decide
  authority_as_str := by
    intro v a h; simp only [toy] at h; split at h <;> cases h; rfl
  uri_authority_nonempty := by intro s p; rfl
  uri_authority_parses := by
    intro s a p u h
    simp only [toy] at h ⊢
    split at h
    · rename_i hc; simp [hc]
    · cases h

def aCom : Bytes := [97, 46, 99, 111, 109]
def GET : Bytes := [71, 69, 84]

/-- `:method GET, :scheme https, :authority a.com, :path /, x: 1, y: 2, x: 3` is accepted and
    handed over with these very values, `x` grouped in arrival order. -/
example : recvRequest toy [(nMethod, GET), (nScheme, sHttps), (nAuthority, aCom), (nPath, slash), ([120], [49]), ([121], [50]), ([120], [51])]
    = .ok { method := GET, uri := { scheme := some sHttps, authority := some aCom, path := some slash },
            protocol := none, headers := [([120], [[49], [51]]), ([121], [[50]])] } := by decide +kernel
/-- upper-case name, `"` in a name, CR in a value, unknown pseudo name, empty name: refused -/
example : recvRequest toy [(nMethod, GET), (nAuthority, aCom), ([88], [49])] = .err .invalidHeaderName := by decide +kernel
example : recvRequest toy [(nMethod, GET), (nAuthority, aCom), ([97, 34], [49])] = .err .invalidHeaderName := by decide +kernel
example : recvRequest toy [(nMethod, GET), (nAuthority, aCom), ([120], [13])] = .err .invalidHeaderValue := by decide +kernel
example : recvRequest toy [(nMethod, GET), (nAuthority, aCom), ([58, 120], [49])] = .err .invalidHeaderName := by decide +kernel
example : recvRequest toy [(nMethod, GET), (nAuthority, aCom), ([], [49])] = .err .invalidHeaderName := by decide +kernel
/-- missing method / authority, empty Host, contradiction -/
example : recvRequest toy [(nAuthority, aCom)] = .err .missingMethod := by decide +kernel
example : recvRequest toy [(nMethod, GET)] = .err .missingAuthority := by decide +kernel
example : recvRequest toy [(nMethod, GET), (nHost, [])] = .err .invalidRequest := by decide +kernel
example : recvRequest toy [(nMethod, GET), (nAuthority, aCom), (nHost, [98])] = .err .contradictedAuthority := by decide +kernel
/-- D-12f: a pseudo-header field of the other kind of message — `:status` in a request; `:method`,
    `:scheme`, `:authority`, `:path`, `:protocol` in a response — is refused, alone or combined,
    before or after the fields of the right kind, also when its value repeats -/
example : recvRequest toy [(nMethod, GET), (nAuthority, aCom), (nStatus, [50, 48, 48])] = .err .invalidHeaderName := by decide +kernel
example : recvRequest toy [(nStatus, [50, 48, 48]), (nMethod, GET), (nScheme, sHttps), (nAuthority, aCom), (nPath, slash)] = .err .invalidHeaderName := by decide +kernel
example : recvRequest toy [(nStatus, [50, 48, 48])] = .err .invalidHeaderName := by decide +kernel
example : recvResponse toy [(nStatus, [50, 48, 48]), (nMethod, GET), (nPath, slash)] = .err .invalidHeaderName := by decide +kernel
example : recvResponse toy [(nMethod, GET), (nStatus, [50, 48, 48])] = .err .invalidHeaderName := by decide +kernel
example : recvResponse toy [(nStatus, [50, 48, 48]), (nScheme, sHttps)] = .err .invalidHeaderName := by decide +kernel
example : recvResponse toy [(nStatus, [50, 48, 48]), (nAuthority, aCom)] = .err .invalidHeaderName := by decide +kernel
example : recvResponse toy [(nStatus, [50, 48, 48]), (nPath, slash)] = .err .invalidHeaderName := by decide +kernel
example : recvResponse toy [(nStatus, [50, 48, 48]), (nProtocol, [119, 101, 98, 115, 111, 99, 107, 101, 116])] = .err .invalidHeaderName := by decide +kernel
example : recvResponse toy [(nMethod, GET), (nScheme, sHttps), (nAuthority, aCom), (nPath, slash)] = .err .invalidHeaderName := by decide +kernel
/-- … and goes through the second arm of `recv_response`; a section `try_from` refuses through the first -/
example : recvResponseSecond toy [(nStatus, [50, 48, 48]), (nMethod, GET)] = true := by decide +kernel
example : recvResponseSecond toy [(nStatus, [50, 48, 48]), ([88], [49])] = false := by decide +kernel
/-- a repeated `:status` in a response is still handed over, with the last value (R-12 (i)) -/
example : recvResponse toy [(nStatus, [50, 48, 48]), (nStatus, [50, 48, 52])] = .ok (204, []) := by decide +kernel
/-- D-12e: a later `Host` value that differs — from `:authority`, or from the first `Host` value
    when the authority comes from `Host` — is a contradiction as well; identical ones are not -/
example : recvRequest toy [(nMethod, GET), (nAuthority, aCom), (nHost, aCom), (nHost, [98])] = .err .contradictedAuthority := by decide +kernel
example : recvRequest toy [(nMethod, GET), (nHost, aCom), (nAuthority, aCom), (nHost, [])] = .err .contradictedAuthority := by decide +kernel
example : recvRequest toy [(nMethod, GET), (nHost, aCom), (nHost, [98])] = .err .contradictedAuthority := by decide +kernel
example : recvRequest toy [(nMethod, GET), (nHost, aCom), (nAuthority, aCom), (nHost, aCom)]
    = .ok { method := GET, uri := { scheme := none, authority := some aCom, path := none },
            protocol := none, headers := [(nHost, [aCom, aCom])] } := by decide +kernel
/-- the number of fields is no limit (D-01, repaired): any number of values under one name is
    handed over, in order -/
example (k : Nat) : recvTrailers toy (List.replicate (k + 1) ([120], [49])) =
    .ok [([120], List.replicate (k + 1) [49])] := by
  have hp : Field.parse toy [120] [49] = .ok (.header [120] [49]) := by decide +kernel
  have key : ∀ (k : Nat) (vs : List Bytes), vs ≠ [] →
      tryFromLoop toy { fields := [([120], vs)] } (List.replicate k ([120], [49])) =
        .ok { fields := [([120], vs ++ List.replicate k [49])] } := by
    intro k
    induction k with
    | zero => intro vs _; simp [tryFromLoop]
    | succ k ih =>
      intro vs hvs
      simp only [List.replicate_succ, tryFromLoop, hp]
      have hfull : Header.full { fields := [([120], vs)] } (.header [120] [49]) = false := by
        simp [Header.full, hmMaxEntries]
      rw [hfull]
      simp only [Bool.false_eq_true, if_false, Header.add, hmAppend, if_true]
      rw [ih (vs ++ [[49]]) (by simp)]
      simp
  have hfull0 : Header.full {} (.header [120] [49]) = false := by decide +kernel
  simp only [recvTrailers, tryFrom_eq_loop, List.replicate_succ, tryFromLoop, hp, hfull0,
    Bool.false_eq_true, if_false, Header.add, hmAppend]
  rw [key k [[49]] (by simp)]
  simp [Res.bind, Header.intoTrailers]
example : recvResponse toy [(nStatus, [50, 48, 52]), ([120], [49])] = .ok (204, [([120], [[49]])]) := by decide +kernel
example : recvResponse toy [([120], [49])] = .err .missingStatus := by decide +kernel
example : recvResponse toy [(nStatus, [48, 57, 57])] = .err .invalidHeaderValue := by decide +kernel
example : recvTrailers toy [([120], [49])] = .ok [([120], [[49]])] := by decide +kernel
example : recvTrailers toy [(nStatus, [50, 48, 48]), ([120], [49])] = .err .invalidHeaderName := by decide +kernel
/-! ## reading R-12c: `:protocol` tokens written out; "parseable" without the crate -/

/-- The `Protocol` table read from `h3/src/ext.rs` on this run is the list of IANA upgrade tokens the
    specification writes out (`webtransport`, `connect-udp`, `connect-ip`, `websocket`): the oracle for
    `:protocol` does not take its word from the code. -/
theorem C12_protocols_are_iana_tokens : H3.Gen.Headers.protocols = protocolTokens := protocols_gen_eq_spec

example : [0x68, 0x32, 0x63] ∉ protocolTokens := by decide +kernel                                   -- h2c
example : [0x77, 0x65, 0x62, 0x73, 0x6f, 0x63, 0x6b, 0x65, 0x74] ∈ protocolTokens := by decide +kernel   -- websocket

/-- What h3 still delegates of the crate-independent necessary conditions of R-12c (`SyntaxOk`) after
    the D-12g fix: only "`:path` is not empty" (`PathAndQuery::from_str("")` fails).  The scheme grammar,
    the two authority conditions and "no `#` in the path" are h3's own check (`pseudo_value_syntax`,
    model `pseudoValueSyntax`) and need no law.  Checked against the real crate on every verdict table
    (`H3.Drv.C12.lawsOk`). -/
structure HttpSyntaxLaws (H : Http) : Prop where
  path_nonempty : H.parsePath [] = none

/-- **A request is handed over only if its `:scheme` is an RFC 3986 scheme, its `:authority` has at most
    one `@` and a numeric port, its `:path` has no `#` and is not empty under `http`/`https`** (reading
    R-12c; finding D-12g, repaired): `∀ H` with `HttpLaws` and `PathAndQuery::from_str("") = Err`, an
    accepted request satisfies `WellFormedRequestStrict`.  The first three classes hold for EVERY `H`,
    whatever its three parsers accept (`tryFrom_syntax`: `Field::parse` checks them itself before it
    delegates); only the empty path is still the crate's refusal (the real crate's parsers do not
    refuse what the conditions exclude, see `C12_syntax_refusal_is_h3s_own`). -/
theorem C12_accepted_request_syntax (H : Http) (L : HttpLaws H) (S : HttpSyntaxLaws H)
    (fs : List FieldLine) (r : RequestParts) (h : recvRequest H fs = .ok r) :
    WellFormedRequestStrict H fs := by
  have hw := (C12_accepted_request_wellformed H L fs r h).1
  refine ⟨hw, ?_, ?_⟩
  · obtain ⟨hd, ht, _⟩ := Res.bind_eq_ok h
    exact tryFrom_syntax ht
  · intro _ _ p hp e
    subst e
    have := fieldOk_path (hw.1 _ (mem_valuesOf.mp hp))
    rw [S.path_nonempty] at this; cases this

def laxSchemeByte (b : Nat) : Bool :=
  (65 ≤ b && b ≤ 90) || (97 ≤ b && b ≤ 122) || (48 ≤ b && b ≤ 57) || b == 0x2b || b == 0x2d || b == 0x2e || b == 0x7e
def laxAuthByte (b : Nat) : Bool :=
  (97 ≤ b && b ≤ 122) || (48 ≤ b && b ≤ 57) || b == 0x2e || b == 0x2d || b == 0x3a || b == 0x40
def laxAuthOk (v : Bytes) : Bool := !v.isEmpty && v.all laxAuthByte && decide ((v.filter (· == 0x3a)).length ≤ 1)

/-- An `Http` that answers as `http` 1.x does on the byte strings used below (checked against the real
    crate by the verdict tables of the correspondence run: `corpus/C12/d12g_syntax.txt`): `Scheme` checks
    only the byte set (letters, digits, `+`, `-`, `.` **and `~`**, `SCHEME_CHARS`; up to 64 bytes; the empty string passes),
    `Authority` a byte set and at most one `:` outside brackets (any number of `@`, anything after the
    `:`), `PathAndQuery` refuses the empty string, wants `/`, `?`, `#` or `*` first and DROPS everything
    from the first `#` on (an empty rest prints as `/`); `Uri::builder` wants scheme and path both or
    neither. -/
def lax : Http where
  parseScheme v := if decide (v.length ≤ 64) && v.all laxSchemeByte then some v else none
  parseAuthority v := if laxAuthOk v then some v else none
  parsePath v :=
    let p := v.takeWhile (· != 0x23)
    if v.isEmpty then none
    else if p.isEmpty then some [0x2f]
    else if p.head? == some 0x2f || p.head? == some 0x3f || p == [0x2a] then some p else none
  uriBuild s a p :=
    if laxAuthOk a && (s.isSome == p.isSome) then some { scheme := s, authority := some a, path := p } else none

theorem lax_laws : HttpLaws lax where
  authority_nonempty := by decide
  authority_as_str := by
    intro v a h; simp only [lax] at h; split at h <;> cases h; rfl
  uri_authority_nonempty := by intro s p; rfl
  uri_authority_parses := by
    intro s a p u h
    simp only [lax] at h ⊢
    split at h
    · rename_i hc; rw [if_pos ((Bool.and_eq_true _ _).mp hc).1]
    · cases h

def h1http : Bytes := [0x31, 0x68, 0x74, 0x74, 0x70]
def isOk {α : Type} : Res α → Bool
  | .ok _ => true
  | _ => false

theorem lax_syntax_laws : HttpSyntaxLaws lax where
  path_nonempty := by decide

/-- the six witness sections of D-12g: `:scheme: 1http`, an empty `:scheme`, `:scheme: h~p` (`~` is in
    `http`'s `SCHEME_CHARS`), `:authority: a@b@c`, `:authority: a.com:x`, `:path: /a#f` -/
def d12gWitnesses : List (List FieldLine) :=
  [[(nMethod, GET), (nScheme, h1http), (nAuthority, aCom), (nPath, slash)],
   [(nMethod, GET), (nScheme, []), (nAuthority, aCom), (nPath, slash)],
   [(nMethod, GET), (nScheme, [0x68, 0x7e, 0x70]), (nAuthority, aCom), (nPath, slash)],
   [(nMethod, GET), (nScheme, sHttps), (nAuthority, [97, 64, 98, 64, 99]), (nPath, slash)],
   [(nMethod, GET), (nScheme, sHttps), (nAuthority, aCom ++ [58, 120]), (nPath, slash)],
   [(nMethod, GET), (nScheme, sHttps), (nAuthority, aCom), (nPath, [47, 97, 35, 102])]]

/-- `Field.parse` as it was BEFORE the D-12g fix (the shape the translator answers
    `pseudoSyntaxChecked = false` for): a pseudo-header value goes to the `http` parser at once. -/
def parseDelegating (H : Http) (n v : Bytes) : Option Bytes :=
  if n = nScheme then H.parseScheme v else if n = nAuthority then H.parseAuthority v
  else if n = nPath then H.parsePath v else some v

/-- **D-12g: the refusal is h3's own, and was missing.**  On `lax`, an `Http` that answers as the real
    crate does (byte-set checks only, `~` a scheme byte, the fragment dropped): every value of the six
    witness sections is ACCEPTED by the crate's parser (so the code before the fix, which only
    delegated, handed the sections over: they are `WellFormedRequest`, the oracle without `SyntaxOk`),
    none satisfies `SyntaxOk`, the crate's `PathAndQuery` turns `/a#f` into `/a` — a value the peer never
    sent —, and the model of the repaired code refuses each with `InvalidHeaderValue`. -/
theorem C12_syntax_refusal_is_h3s_own :
    HttpLaws lax ∧ HttpSyntaxLaws lax ∧
    (∀ fs ∈ d12gWitnesses,
      (∀ f ∈ fs, (parseDelegating lax f.1 f.2).isSome) ∧ WellFormedRequest lax fs ∧ ¬ SyntaxOk fs ∧
      recvRequest lax fs = .err .invalidHeaderValue) ∧
    lax.parsePath [47, 97, 35, 102] = some [47, 97] := by
  refine ⟨lax_laws, lax_syntax_laws, ?_, ?_⟩
  · decide +kernel
  · decide +kernel

/-- non-vacuity: an `Http` that knows one scheme, one authority and one path satisfies both sets of
    laws, and the request it accepts is strictly well-formed (on `lax`: below, `laxReq`). -/
def tiny : Http where
  parseScheme v := if v = sHttps then some v else none
  parseAuthority v := if v = aCom then some v else none
  parsePath v := if v = slash then some v else none
  uriBuild s a p := if a = aCom then some { scheme := s, authority := some a, path := p } else none

theorem tiny_laws : HttpLaws tiny where
  authority_nonempty := by decide
  authority_as_str := by
    intro v a h; simp only [tiny] at h; split at h <;> cases h; rfl
  uri_authority_nonempty := by intro s p; rfl
  uri_authority_parses := by
    intro s a p u h
    simp only [tiny] at h ⊢
    split at h
    · rename_i hc; rw [if_pos hc]
    · cases h

theorem tiny_syntax_laws : HttpSyntaxLaws tiny where
  path_nonempty := by decide

example : isOk (recvRequest tiny [(nMethod, GET), (nScheme, sHttps), (nAuthority, aCom), (nPath, slash), ([120], [49])]) = true := by
  decide +kernel
example (r : RequestParts)
    (h : recvRequest tiny [(nMethod, GET), (nScheme, sHttps), (nAuthority, aCom), (nPath, slash), ([120], [49])] = .ok r) :
    SyntaxOk [(nMethod, GET), (nScheme, sHttps), (nAuthority, aCom), (nPath, slash), ([120], [49])] :=
  (C12_accepted_request_syntax tiny tiny_laws tiny_syntax_laws _ r h).2

/-! ### the main theorems on the instance that answers as `http` does (`lax`)

    The verdict tables of the correspondence run instantiate `H` by lookup; these examples instantiate
    it by a *function* with `http`'s behaviour on the bytes used, so that every law is used as a law. -/

def laxReq : List FieldLine :=
  [(nMethod, GET), (nScheme, sHttps), (nAuthority, aCom), (nPath, [47, 112, 63, 113]), ([120], [49]), (nHost, aCom), ([120], [50])]

example : isOk (recvRequest lax laxReq) = true := by decide +kernel
/-- `C12_accepted_request_wellformed` on `lax`: well-formed, and the method handed over is the `:method` value -/
example (r : RequestParts) (h : recvRequest lax laxReq = .ok r) :
    WellFormedRequest lax laxReq ∧ lastVal nMethod laxReq = some r.method :=
  let t := C12_accepted_request_wellformed lax lax_laws laxReq r h
  ⟨t.1, t.2.1⟩
/-- `C12_accepted_request_syntax` on `lax` — whose parsers do NOT refuse what `SyntaxOk` excludes -/
example (r : RequestParts) (h : recvRequest lax laxReq = .ok r) : WellFormedRequestStrict lax laxReq :=
  C12_accepted_request_syntax lax lax_laws lax_syntax_laws laxReq r h
/-- `C12_malformed_request_refused` on `lax`: `:authority: a.com` with `host: b.com`; a space in the
    authority (refused by the parser); an unknown pseudo-header field -/
example : ¬ WellFormedRequest lax [(nMethod, GET), (nAuthority, aCom), (nHost, [98])] := by decide +kernel
example : ∃ e, recvRequest lax [(nMethod, GET), (nAuthority, aCom), (nHost, [98])] = .err e :=
  let ⟨e, h, _⟩ := C12_malformed_request_refused lax lax_laws _ (by decide +kernel)
  ⟨e, h⟩
example : ∃ e, recvRequest lax [(nMethod, GET), (nAuthority, [97, 32, 98])] = .err e :=
  let ⟨e, h, _⟩ := C12_malformed_request_refused lax lax_laws _ (by decide +kernel)
  ⟨e, h⟩
example : ∃ e, recvRequest lax [(nMethod, GET), (nAuthority, aCom), ([58, 120], [49])] = .err e :=
  let ⟨e, h, _⟩ := C12_malformed_request_refused lax lax_laws _ (by decide +kernel)
  ⟨e, h⟩
/-- `C12_accepted_response_wellformed` / `C12_malformed_response_refused` on `lax` -/
example : recvResponse lax [(nStatus, [50, 48, 52]), ([120], [49])] = .ok (204, [([120], [[49]])]) := by decide +kernel
example : WellFormedResponse lax [(nStatus, [50, 48, 52]), ([120], [49])] :=
  (C12_accepted_response_wellformed lax _ 204 [([120], [[49]])] (by decide +kernel)).1
example : ∃ e, recvResponse lax [(nStatus, [50, 48, 52]), (nPath, slash)] = .err e :=
  let ⟨e, h, _⟩ := C12_malformed_response_refused lax _ (by decide +kernel)
  ⟨e, h⟩
/-- `C12_accepted_trailers_wellformed` / `C12_malformed_trailers_refused` on `lax` -/
example : WellFormedTrailers [([120], [49]), ([121], [])] :=
  (C12_accepted_trailers_wellformed lax _ [([120], [[49]]), ([121], [[]])] (by decide +kernel)).1
example : ∃ e, recvTrailers lax [([120], [49]), (nStatus, [50, 48, 48])] = .err e :=
  let ⟨e, h, _⟩ := C12_malformed_trailers_refused lax _ (by decide +kernel)
  ⟨e, h⟩
/-- `C12_no_panic` on `lax` -/
example : recvRequest lax laxReq ≠ .panic := (C12_no_panic lax laxReq).1

/-- sent: GET https://a.com/ with a two-valued header -/
def sampleHeader : Header :=
  { pseudo := { method := some GET, scheme := some sHttps, authority := some aCom, path := some slash, len := 4 },
    fields := [([120], [[49], [51]]), ([121], [[50]])] }
example : Header.request GET ⟨some sHttps, some aCom, some slash⟩ [([120], [[49], [51]]), ([121], [[50]])] none = .ok sampleHeader := by
  decide
example : sampleHeader.wireFields =
    [(nMethod, GET), (nScheme, sHttps), (nAuthority, aCom), (nPath, slash), ([120], [49]), ([120], [51]), ([121], [50])] := by decide
/-- plain CONNECT carries `:method` and `:authority` only; extended CONNECT all five -/
example : (Pseudo.request H3.Headers.mCONNECT ⟨none, some aCom, none⟩ none) =
    { method := some H3.Headers.mCONNECT, authority := some aCom, len := 4 } := by decide
example : pseudoList (Pseudo.request H3.Headers.mCONNECT ⟨some sHttps, some aCom, some slash⟩ (some [119, 115])) =
    [(nMethod, H3.Headers.mCONNECT), (nScheme, sHttps), (nAuthority, aCom), (nPath, slash), (nProtocol, [119, 115])] := by decide
example : (Header.response 404 []).wireFields = [(nStatus, [52, 48, 52])] := by decide

end H3.Props.C12
