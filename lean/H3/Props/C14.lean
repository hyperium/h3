import H3.Model.WriteBuf
import H3.Model.SendSide
import H3.Spec.Output
import H3.Lemmas.WriteBuf
import H3.Lemmas.WriteBufChunks
import H3.Lemmas.SendFrames
import H3.Lemmas.SendSide
import H3.Lemmas.SendSideX
/-! # C14 — everything an h3 endpoint writes is valid HTTP/3, however the transport takes it

Models: `H3.WriteBuf` (`h3/src/stream.rs` `WriteBuf`, its `From`
conversions and `Buf` impl, `write()`; `h3/src/proto/frame.rs` `Frame::encode`), `H3.SendSide`
(which call writes what on which stream).  Specification: `H3.Spec.Output` (RFC 9114 §6.2,
§7.1, §7.2 over the RFC 9000 §16 decoder `rfcDecode`). -/
namespace H3.Props.C14
open H3.Varint H3.WriteBuf H3.SendSide H3.Spec.Output H3.Gen.WriteBuf

/-- For every frame whose header can be encoded (no `write_var` panic, fits the array) and
    every acceptance script — any pattern of partial `poll_write`s, one byte at a time,
    `Pending` (0) anywhere: the `WriteBuf` exists, `remaining()` is exact before and after,
    the bytes handed to the transport followed by what is still in the buffer are
    `encodeFrame f ++ framePayload f` (each byte once, in order), and as soon as the script has
    accepted enough, `write()` returns having handed over exactly those bytes. -/
theorem C14_writebuf_is_header_then_payload (f : SFrame) (hdr : Bytes)
    (he : encodeFrame f = some hdr) (hfit : hdr.length ≤ WRITE_BUF_ENCODE_SIZE)
    (script : List Nat) :
    ∃ w, fromFrame f = some w ∧
      w.remaining = (hdr ++ (framePayload f).getD []).length ∧
      (∃ out w', w.drain script = some (out, w') ∧
        out ++ w'.view = hdr ++ (framePayload f).getD [] ∧ w'.remaining = w'.view.length) ∧
      ((hdr ++ (framePayload f).getD []).length ≤ (script.filter (0 < ·)).length →
        write (fromFrame f) script = .ready (hdr ++ (framePayload f).getD [])) := by
  obtain ⟨w, hw, hwf, hv⟩ := putOpt_new_view (p := framePayload f) he hfit
  have hw : fromFrame f = some w := hw
  refine ⟨w, hw, by rw [remaining_eq_view w hwf, hv], ?_, ?_⟩
  · obtain ⟨o, w', hd, hwf', hov⟩ := drain_spec w hwf script
    exact ⟨o, w', hd, by rw [hov, hv], remaining_eq_view w' hwf'⟩
  · intro hlen
    rw [hw, write_ready w hwf script (by rw [hv]; exact hlen), hv]

example : write (fromFrame (.data [0xaa, 0xbb, 0xcc])) [1, 0, 0, 2, 1, 0, 7] =
    .ready [0x00, 0x03, 0xaa, 0xbb, 0xcc] := by decide
example : write (fromFrame (.goaway 16384)) [1, 1, 1, 1, 1, 1] =
    .ready [0x07, 0x04, 0x80, 0x00, 0x40, 0x00] := by decide
-- a script that stops early leaves `write()` pending with the unsent rest in the buffer
example : (match write (fromFrame (.headers [1, 2, 3, 4])) [2, 1] with
    | .pending out w => (out, w.view)
    | _ => ([], [])) = ([0x01, 0x04, 1], [2, 3, 4]) := by decide

/-- The `Buf` view of *every* well-formed `WriteBuf` (all `From` conversions produce
    well-formed ones): `remaining` is the length of what is left; `chunk` is a prefix of it,
    non-empty while something is left; `advance(cnt)` with `cnt ≤ remaining` never panics and
    drops exactly `cnt` bytes — also when `cnt` exceeds the header part and continues in the
    payload; a frame without payload swallows any `cnt` silently. -/
theorem C14_buf_view (w : WB) (hwf : w.WF) :
    w.remaining = w.view.length ∧ (∃ t, w.view = w.chunk ++ t) ∧
    (w.view ≠ [] → w.chunk ≠ []) ∧
    (∀ cnt, cnt ≤ w.remaining →
      ∃ w', w.advance cnt = some w' ∧ w'.WF ∧ w'.view = w.view.drop cnt) ∧
    (w.payload = none → ∀ cnt, ∃ w', w.advance cnt = some w') :=
  ⟨remaining_eq_view w hwf, chunk_prefix w hwf, chunk_ne_nil w hwf,
   fun cnt h => advance_spec w hwf cnt h, fun hp cnt => advance_no_payload w hp cnt⟩

-- `advance` across the end of the header, and the payload's own panic beyond its end
example : ((fromFrame (.data [9, 8, 7])).bind (·.advance 3)).map (·.view) = some [8, 7] := by decide
example : ((fromFrame (.data [9, 8, 7])).bind (·.advance 6)) = none := by decide

/-- Chunking independence.  `Frame<B>` / `WriteBuf<B>` are generic in the payload `B: Buf`; for a
    payload handed over as ANY list of segments (a `Chain`, a deque of `Bytes`; segments may be
    empty, also the first) the DATA length field and the bytes handed to the transport depend only
    on the flattened payload: the conversion yields the `WriteBuf` of the flat payload with the
    payload left in segments (same header array: length = total of all segments, not of the first);
    `remaining()` is exact; under every acceptance script the run of the segmented buffer is a run
    of the FLAT buffer under a script of the same length (each poll accepting what was actually
    taken) — so every statement proved for all scripts about contiguous payloads
    (`C14_writebuf_is_header_then_payload`, `C14_program_output_valid`, whose `poll sid k` steps
    range over every `k`) covers segmented ones —, nothing is lost, repeated or reordered, and as
    soon as the script has accepted enough, `write()` returns having handed over exactly
    `header ++ flattened payload`. -/
theorem C14_payload_chunking_independent (segs : List Bytes) (hdr : Bytes)
    (he : encodeFrame (.data segs.flatten) = some hdr) (hfit : hdr.length ≤ WRITE_BUF_ENCODE_SIZE)
    (script : List Nat) :
    ∃ w, fromDataC segs = some w ∧ fromFrame (.data segs.flatten) = some w.flat ∧
      w.remaining = (hdr ++ segs.flatten).length ∧
      (∃ out w' script', w.drain script = some (out, w') ∧ script'.length = script.length ∧
        w.flat.drain script' = some (out, w'.flat) ∧
        out ++ w'.flat.view = hdr ++ segs.flatten ∧ w'.remaining = w'.flat.view.length) ∧
      ((hdr ++ segs.flatten).length ≤ (script.filter (0 < ·)).length →
        writeC (fromDataC segs) script = .ready (hdr ++ segs.flatten)) := by
  obtain ⟨wf, hwf0, hwf, hv⟩ := putOpt_new_view (p := framePayload (.data segs.flatten)) he hfit
  have hwf0 : fromFrame (.data segs.flatten) = some wf := hwf0
  -- the flat buffer exists, so the chunked one does, and flattens to it
  obtain ⟨w, hc, rfl⟩ := Option.map_eq_some_iff.mp ((fromDataC_flat segs).trans hwf0)
  simp only [framePayload, Option.getD_some] at hv
  refine ⟨w, hc, hwf0, by rw [← flat_remaining, remaining_eq_view _ hwf, hv], ?_, ?_⟩
  · obtain ⟨o, w', ks', hd, hl, hfd, hwf', hov⟩ := drainC_sim w hwf script
    exact ⟨o, w', ks', hd, hl, hfd, by rw [hov, hv],
      by rw [← flat_remaining, remaining_eq_view _ hwf']⟩
  · intro hlen
    rw [hc, writeC_ready w hwf script (by rw [hv]; exact hlen), hv]

/-- One `poll_write` over a segmented payload is one `poll_write` over the flat payload that
    accepts exactly the bytes taken (the step relation of `H3.SendSide`'s `poll sid k`, `k` = the
    number of bytes taken).  `w` is any segmented buffer: that of a `(StreamType, Frame::Data)` pair
    (`fromPairDataC`, flat by `fromPairDataC_flat`) as well as that of `fromDataC`. -/
theorem C14_chunked_poll_is_flat_poll (w : WBC) (hwf : w.flat.WF) (k : Nat) :
    ∃ o w', w.step k = some (o, w') ∧ w.flat.step o.length = some (o, w'.flat) ∧ w'.flat.WF ∧
      o.length ≤ k ∧ (0 < k → w.flat.view ≠ [] → o ≠ []) := by
  obtain ⟨o, w', h1, h2, h3, _, h5, h6⟩ := stepC_sim w hwf k
  exact ⟨o, w', h1, h2, h3, by omega, h6⟩

-- three segments, the first and the third empty: the length field counts all of them, the
-- transport gets header, then segment after segment; the same bytes as for the flat payload
example : writeC (fromDataC [[], [0xaa, 0xbb], [], [0xcc]]) [1, 0, 7, 7, 7] =
    .ready [0x00, 0x03, 0xaa, 0xbb, 0xcc] := by decide
example : (fromDataC [[0xaa], [0xbb, 0xcc]]).map (fun w => (w.remaining, w.chunk, (w.advance 3).map (·.chunk)))
    = some (5, [0x00, 0x03], some [0xbb, 0xcc]) := by decide
-- a script that stops inside the second segment
example : (match writeC (fromDataC [[1], [2, 3, 4]]) [2, 5, 2] with
    | .pending out w => (out, w.view)
    | _ => ([], [])) = ([0x00, 0x04, 1, 2, 3], [4]) := by decide
example : (fromPairDataC 0x21 [[], [7]]).map (·.flat.view) = some [0x21, 0x00, 0x01, 7] := by decide

/-- The stream-type prefix of `(StreamType, Frame)` pairs and of unidirectional stream headers
    precedes the frame: the view is `varint(type) ++ header ++ payload`, under every script. -/
theorem C14_pair_is_type_then_frame (ty : Nat) (f : SFrame) (w : WB)
    (h : fromPair ty f = some w) (script : List Nat) :
    ∃ hdr, ty < 2^62 ∧ encodeFrame f = some hdr ∧
      ∃ out w', w.drain script = some (out, w') ∧
        out ++ w'.view = encode ty ++ hdr ++ (framePayload f).getD [] := by
  obtain ⟨hb, hty, hhb, hwf, hv⟩ := fromPair_spec h
  obtain ⟨o, w', hd, _, hov⟩ := drain_spec w hwf script
  exact ⟨hb, hty, hhb, o, w', hd, by rw [hov, hv]⟩

example : ((fromPair 0x21 (.grease 0x40)).map (·.view)) =
    some [0x21, 0x40, 0x40, 0x06, 103, 114, 101, 97, 115, 101] := by decide

/-- Every `From` conversion yields a well-formed `WriteBuf` (so `C14_buf_view` and the drain
    theorems apply to it) whose content is what the conversion is documented to encode: the
    stream type as a varint; a unidirectional header (`00` + SETTINGS frame, `02`, `03`,
    `0x54` + session id); the WebTransport bidirectional header `0x41` + session id; a frame
    header followed by the payload; stream type, frame header, payload.  A conversion that
    returns nothing is a panic (`write_var` ≥ 2^62 or the header array overflowing). -/
theorem C14_conversions (w : WB) :
    (∀ ty, fromStreamType ty = some w → w.WF ∧ ty < 2^62 ∧ w.view = encode ty) ∧
    (∀ h, fromUniHeader h = some w → w.WF ∧ encodeUniHeader h = some w.view) ∧
    (∀ sid, fromBidiHeader sid = some w → w.WF ∧ sid < 2^62 ∧ w.view = encode 0x41 ++ encode sid) ∧
    (∀ f, fromFrame f = some w →
      w.WF ∧ ∃ hdr, encodeFrame f = some hdr ∧ w.view = hdr ++ (framePayload f).getD []) ∧
    (∀ ty f, fromPair ty f = some w →
      w.WF ∧ ty < 2^62 ∧
      ∃ hdr, encodeFrame f = some hdr ∧ w.view = encode ty ++ hdr ++ (framePayload f).getD []) := by
  refine ⟨?_, ?_, ?_, ?_, ?_⟩
  · intro ty h
    obtain ⟨bs, hbs, hwf, hv⟩ := putOpt_new h
    obtain ⟨hty, rfl⟩ := writeVar_some hbs
    exact ⟨hwf, hty, by rw [hv]; simp⟩
  · exact fun h hh => fromUniHeader_spec hh
  · intro sid h
    obtain ⟨bs, hbs, hwf, hv⟩ := putOpt_new h
    obtain ⟨_, hlt, rfl⟩ := writeVar2_some hbs
    exact ⟨hwf, hlt, by rw [hv]; exact List.append_nil _⟩
  · intro f h
    obtain ⟨bs, hbs, hwf, hv⟩ := putOpt_new h
    exact ⟨hwf, bs, hbs, hv⟩
  · intro ty f h
    obtain ⟨hb, hty, hhb, hwf, hv⟩ := fromPair_spec h
    exact ⟨hwf, hty, hb, hhb, hv⟩

example : (fromUniHeader (.webTransportUni 16384)).map (·.view) =
    some [0x40, 0x54, 0x80, 0x00, 0x40, 0x00] := by decide
example : fromStreamType (2^62) = none := by decide
-- nine maximal entries do not fit the 64-byte array: `WriteBuf::from` would panic; no
-- configuration produces such a `Settings` (`C14_setup_never_panics`)
example : fromFrame (.settings ((List.range 9).map (fun i => (2^61 + i, 2^61)))) = none := by
  decide +kernel

/-- `write_var` never panics on a frame all of whose integers are below 2^62 (for the variants without a
    length field this is `encodeFrame_total`), and for every frame with a length field (all but the
    WebTransport stream header; PUSH_PROMISE see below) the bytes written — header then payload — read
    back under the *specification's* decoder as the frame's type, then a length, then exactly that many
    bytes, whatever follows them. -/
theorem C14_frame_header_valid (f : SFrame) (hb : Bounded f) (hl : HasLength f) (rest : Bytes) :
    ∃ hdr p, encodeFrame f = some hdr ∧ hdr ++ (framePayload f).getD [] = wire (frameTypeOf f) p ∧
      rfcDecode (hdr ++ (framePayload f).getD [] ++ rest)
        = some (frameTypeOf f, encode p.length ++ p ++ rest) ∧
      rfcDecode (encode p.length ++ p ++ rest) = some (p.length, p ++ rest) ∧
      (p ++ rest).length = p.length + rest.length := by
  obtain ⟨hdr, he, hw, hty, hp, _⟩ := encodeFrame_eq f hb hl
  obtain ⟨e1, e2⟩ := rfc_wire _ _ rest hty hp
  simp only [List.append_assoc] at e1 e2 ⊢
  exact ⟨hdr, bodyOf f, he, hw, by rw [← List.append_assoc, hw]; exact e1, e2, by simp⟩

example : rfcDecode [0x00, 0x03, 0xaa, 0xbb, 0xcc, 0x01] = some (0, [0x03, 0xaa, 0xbb, 0xcc, 0x01]) := by
  decide
example : encodeFrame (.goaway (2^62)) = none := by decide

/-- Latent (not reachable through the API: h3 never sends PUSH_PROMISE and offers no way to
    build one): `PushPromise::encode` copies the field section into the header array although
    `payload()` yields it as well, so the length field does not cover the bytes that follow. -/
theorem C14_push_promise_latent :
    (fromFrame (.pushPromise 134 [0xaa, 0xbb, 0xcc])).map (·.view)
      = some [0x05, 0x05, 0x40, 0x86, 0xaa, 0xbb, 0xcc, 0xaa, 0xbb, 0xcc] := by decide

/-- Connection setup cannot panic: for every configuration whose two numeric settings are
    representable (C13's domain) and every grease draw, the stream type and the SETTINGS frame
    fit the `WRITE_BUF_ENCODE_SIZE`-byte header array (at most 42 bytes) and the three initial
    `WriteBuf`s exist. -/
theorem C14_setup_never_panics (server : Bool) (cfg : Config) (gN : Nat) (hm : cfg.mfs < 2^62)
    (hw : cfg.wts < 2^62) (hg : gN < GREASE_RANGE_END) :
    (init server cfg gN).isSome = true ∧
    ∃ w, fromUniHeader (.control (configSettings cfg gN)) = some w ∧ w.view.length ≤ 42 :=
  ⟨init_isSome server cfg gN hm hw hg, control_header_fits cfg gN hm hw hg⟩

/-- The run theorem over the EXTENDED machine: besides the writing calls of
    `C14_program_output_valid`, in any order and number, `stop_stream(code)`, the peer's
    STOP_SENDING on any stream, a call abandoned in mid-write with its handle, `stop_sending`, the
    peer's RESET_STREAM, `split`, `SendRequest::clone` and requests through any clone (each with
    its own copy of the grease flag).  For every run: every stream still live satisfies the output
    specification as before; every stream whose send side was ended by one of these satisfies it
    as it stands — it may end inside a frame: a PREFIX of valid output, and a whole number of
    frames if it had been finished —; h3 resets request streams only (never a control or QPACK
    stream); and a live request stream on which no write is in flight holds a whole number of
    frames whether finished or not (the `length` field of its last DATA / HEADERS frame equals the
    bytes that follow). -/
theorem C14_program_output_valid_ext (server : Bool) (cfg : Config) (gN : Nat) (st0 : State)
    (h0 : init server cfg gN = some st0) (steps : List XStep) :
    (∀ e ∈ (xrun { st := st0 } steps).st.streams,
      checkStream { server := server, wt := cfg.wt } e.1 e.2.log e.2.fin = none ∧
      (e.2.kind = .request → e.2.cur = none → checkRequest e.2.log true = none)) ∧
    (∀ e ∈ (xrun { st := st0 } steps).frozen,
      checkStream { server := server, wt := cfg.wt } e.1 e.2.1.log e.2.1.fin = none ∧
      (e.2.2.isSome = true → e.1 % 4 = 0)) := by
  have hx0 : XInv { st := st0 } :=
    ⟨init_inv server cfg gN st0 h0, fun e he => by cases he⟩
  have hinv := xrun_inv _ steps hx0
  have hcx : cxOf (xrun { st := st0 } steps).st = { server := server, wt := cfg.wt } := by
    rw [xrun_cx]; exact init_cx server cfg gN st0 h0
  refine ⟨?_, ?_⟩
  · intro e he
    have hs := hinv.1 e he
    rw [hcx] at hs
    exact ⟨sinv_valid _ _ _ hs, sinv_idle_request_whole _ _ _ hs⟩
  · intro e he
    have := hinv.2 e he
    rw [hcx] at this
    exact this

/-- the machine of `C14_program_output_valid` is the extended one restricted to writing calls -/
theorem C14_ext_conservative (st : State) (steps : List Step) :
    (xrun { st := st } (steps.map .api)).st = run st steps ∧
    (xrun { st := st } (steps.map .api)).frozen = [] := by
  induction steps generalizing st with
  | nil => exact ⟨rfl, rfl⟩
  | cons s r ih =>
    have := ih (step st s)
    -- `frozen` is still `[]`, so `isFrozen` answers `false` and `xstep _ (.api s)` is `step` on `st`
    simpa [xrun, run, xstep, isFrozen] using this

/-- For every role, every configuration, every grease draw and every run of the machine — any
    list of API calls (send_request / accept + send_response, send_data with any buffer
    including the empty one, send_trailers, finish, shutdown with any id, the grease stream)
    interleaved in any way with single transport polls that accept any number of bytes
    (0 = `Pending`): the byte log of every stream satisfies the output specification for its
    stream id — a prefix of valid output while the stream is open, a whole number of frames
    once it is finished.  In particular: unidirectional streams begin with a legal type; the
    control stream is `00`, SETTINGS (pairs, no HTTP/2 setting, nothing repeated, every
    non-defined id of the reserved form), then only GOAWAYs; request streams hold only
    HEADERS, DATA and reserved-type frames each followed by exactly `length` bytes; no
    HTTP/2 frame type anywhere; control and QPACK streams are never finished. -/
theorem C14_program_output_valid (server : Bool) (cfg : Config) (gN : Nat) (st0 : State)
    (h0 : init server cfg gN = some st0) (steps : List Step) :
    ∀ e ∈ (run st0 steps).streams,
      checkStream { server := server, wt := cfg.wt } e.1 e.2.log e.2.fin = none := by
  have h := (C14_program_output_valid_ext server cfg gN st0 h0 (steps.map .api)).1
  rw [(C14_ext_conservative st0 steps).1] at h
  exact fun e he => (h e he).1

/-- the configuration of a concrete client run, `demoSteps`: the control header trickles out (3 bytes,
    `Pending`, the rest), the request's HEADERS frame goes out one byte at a time, an empty and a two-byte
    DATA frame follow, the grease frame of `finish` and the GOAWAY on the control stream are both cut short -/
def demoCfg : Config := { grease := true, mfs := 100, wt := false, ec := true, dg := false, wts := 0 }
def demoSteps : List Step :=
  [.poll 2 3, .poll 2 0, .poll 2 1000, .poll 6 1, .poll 10 1,
   .sendRequest 0 [0, 0, 0xd1], .poll 0 1, .poll 0 1, .poll 0 1, .poll 0 0, .poll 0 1, .poll 0 1,
   .sendData 0 [], .poll 0 1, .poll 0 1, .sendData 0 [7, 8], .poll 0 1000, .poll 0 1000,
   .finish 0 5, .poll 0 4, .goaway 0, .poll 2 2]

example : ((init false demoCfg 2).map (fun s => (run s demoSteps).streams.map
      (fun e => (e.1, e.2.log, e.2.fin, e.2.cur.isSome)))) =
    some [(2, [0x00, 0x04, 0x14, 0x40, 0x5f, 0x00, 0x06, 0x40, 0x64, 0x08, 0x01,
               0xab, 0x60, 0x37, 0x42, 0x00, 0x33, 0x00, 0xab, 0x60, 0x37, 0x43, 0x00,
               0x07, 0x01], false, true),
          (6, [0x02], false, false), (10, [0x03], false, false),
          (0, [0x01, 0x03, 0, 0, 0xd1, 0x00, 0x00, 0x00, 0x02, 7, 8, 0x40, 0xbc, 0x06, 103],
              false, true)] := by decide +kernel

-- the specification does reject what it should
example : checkStream ⟨true, false⟩ 3 [0x00, 0x04, 0x02, 0x02, 0x00] false = some (.h2Setting 2) := by
  decide
example : checkStream ⟨true, false⟩ 3 [0x00, 0x07, 0x01, 0x00] false = some (.missingSettings 7) := by
  decide
example : checkStream ⟨false, false⟩ 2 [0x00, 0x04, 0x00, 0x04, 0x00] false
    = some (.frameNotAllowed 4) := by decide
example : checkStream ⟨true, false⟩ 0 [0x01, 0x01, 0xaa, 0x06, 0x00] false = some (.h2Frame 6) := by
  decide
example : checkStream ⟨true, false⟩ 0 [0x00, 0x05, 0x01] true = some .truncated := by decide
example : checkStream ⟨true, false⟩ 0 [0x00, 0x05, 0x01] false = none := by decide
example : checkStream ⟨true, false⟩ 0 [0x22, 0x00] false = some (.frameNotAllowed 0x22) := by decide
example : checkStream ⟨true, false⟩ 7 [0x04] false = some (.badStreamType 4) := by decide
example : checkStream ⟨true, false⟩ 3 [0x00] true = some .criticalClosed := by decide

/-- Every identifier a `grease()` function can return — for every draw of
    `fastrand::u64(0..GREASE_RANGE_END)` — is computed without `u64` wrap, is of the form
    `0x1f * N + 0x21`, is below 2^62 (so `write_var` accepts it), and never equals a frame
    type, setting identifier or stream type that h3 defines, nor an HTTP/2-reserved frame type
    or setting. -/
theorem C14_grease_ids (n : Nat) (hn : n < GREASE_RANGE_END) :
    n * 0x1f + 0x21 < 2^64 ∧ greaseId n = 0x1f * n + 0x21 ∧ greaseId n < 2^62 ∧
    isReserved (greaseId n) = true ∧
    (∀ e ∈ H3.Gen.Consts.frameTypes, greaseId n ≠ e.2) ∧
    (∀ e ∈ H3.Gen.Consts.settingIds, greaseId n ≠ e.2) ∧
    (∀ t ∈ [H3.Gen.Consts.STREAM_CONTROL, H3.Gen.Consts.STREAM_PUSH, H3.Gen.Consts.STREAM_ENCODER,
            H3.Gen.Consts.STREAM_DECODER, H3.Gen.Consts.STREAM_WEBTRANSPORT_BIDI,
            H3.Gen.Consts.STREAM_WEBTRANSPORT_UNI], greaseId n ≠ t) ∧
    (∀ t ∈ H3.Spec.Framing.h2Types, greaseId n ≠ t) ∧
    (∀ t ∈ H3.Spec.Framing.h2Settings, greaseId n ≠ t) := by
  have hlt := greaseId_lt n hn
  have hres := greaseId_reserved n
  have f1 : ∀ e ∈ H3.Gen.Consts.frameTypes, isReserved e.2 = false := by decide
  have f2 : ∀ e ∈ H3.Gen.Consts.settingIds, isReserved e.2 = false := by decide
  have f3 : ∀ t ∈ [H3.Gen.Consts.STREAM_CONTROL, H3.Gen.Consts.STREAM_PUSH,
      H3.Gen.Consts.STREAM_ENCODER, H3.Gen.Consts.STREAM_DECODER,
      H3.Gen.Consts.STREAM_WEBTRANSPORT_BIDI, H3.Gen.Consts.STREAM_WEBTRANSPORT_UNI],
      isReserved t = false := by decide
  have f4 : ∀ t ∈ H3.Spec.Framing.h2Types, isReserved t = false := by decide
  have f5 : ∀ t ∈ H3.Spec.Framing.h2Settings, isReserved t = false := by decide
  refine ⟨?_, ?_, hlt, hres, fun e he => reserved_ne hres (f1 e he),
    fun e he => reserved_ne hres (f2 e he), fun t ht => reserved_ne hres (f3 t ht),
    fun t ht => reserved_ne hres (f4 t ht), fun t ht => reserved_ne hres (f5 t ht)⟩
  · unfold GREASE_RANGE_END at hn; omega
  · unfold greaseId GREASE_MUL GREASE_ADD; omega

-- the largest draw
example : greaseId (GREASE_RANGE_END - 1) = 4611686018427387871 ∧
    writeVar (greaseId (GREASE_RANGE_END - 1)) = some [0xff, 0xff, 0xff, 0xff, 0xff, 0xff, 0xff, 0xdf] := by
  decide
example : isReserved 0x21 = true ∧ isReserved 0x41 = false ∧ isReserved 0x5f = true := by decide

-- a client: the request's DATA frame is cut by the peer's STOP_SENDING after 4 of its 5 bytes (the
-- stream stays a prefix of valid output and never moves again, later calls write nothing), a
-- second request through a clone made before the first request carries its own grease frame
def demoXSteps : List XStep :=
  [.api (.poll 2 1000), .api (.poll 6 1), .api (.poll 10 1),
   .cloneSender 0, .sendRequestVia 0 0 [0xd1], .api (.poll 0 100), .api (.poll 0 100),
   .api (.sendData 0 [7, 8, 9]), .api (.poll 0 100), .api (.poll 0 2), .peerStop 0 268,
   .api (.poll 0 100), .api (.sendData 0 [1]), .api (.finish 0 5),
   .sendRequestVia 1 4 [0xd1], .api (.poll 4 100), .api (.poll 4 100), .api (.finish 4 5),
   .api (.poll 4 100), .stopStream 4 268, .stopStream 2 1]

def demoX : Option XState := (init false demoCfg 2).map (fun s => xrun { st := s } demoXSteps)

example : demoX.map (fun x => x.st.streams.map (·.1)) = some [2, 6, 10] := by decide +kernel
example : demoX.map (fun x => x.frozen.map (fun e => (e.1, e.2.1.log))) =
    some [(0, [0x01, 0x01, 0xd1, 0x00, 0x03, 7, 8]),
          (4, [0x01, 0x01, 0xd1, 0x40, 0xbc, 0x06, 103, 114, 101, 97, 115, 101])] := by decide +kernel
example : demoX.map (fun x => x.frozen.map (fun e => (e.2.1.fin, e.2.2))) =
    some [(false, none), (true, some 268)] := by decide +kernel
example : demoX.map (·.handles) = some [false, false] := by decide +kernel

end H3.Props.C14
