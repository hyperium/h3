import H3.Model.StreamId
import H3.Model.Varint
import H3.Lemmas.VarintSpec
import H3.Lemmas.StreamId
/-! # C16 — variable-length integers and stream-ID arithmetic match RFC 9000

The property theorems, and `streamid_add`, the hypothesis-free form of the last one.  Models: `H3.Varint` (`proto/varint.rs`), `H3.StreamId`
(`proto/stream.rs`, `proto/push.rs`, `webtransport/session_id.rs`). -/
namespace H3.Props.C16
open H3.Varint H3.StreamId

/-- Round trip for every value below 2^62, with any bytes following; the encoding has the
    length `size` reports and consists of bytes. -/
theorem C16_decode_encode (x : Nat) (hx : x < 2^62) (rest : Bytes) :
    decode (encode x ++ rest) = .ok x rest ∧ (encode x).length = size x ∧ WF (encode x) :=
  decode_encode x hx rest

example : decode (encode 16384 ++ [7]) = .ok 16384 [7] := by decide

/-- `write_var` (used for every frame type, length and id on the wire) panics exactly for
    values the checked constructor refuses, and otherwise writes `encode`. -/
theorem C16_write_var (x : Nat) :
    writeVar x = if x < 2^62 then some (encode x) else none := by
  by_cases h : x < 2^62
  · rw [if_pos h, writeVar_eq x h]
  · rw [if_neg h, writeVar_none x h]

/-- The encoder uses the shortest of the four forms: `size x` is in {1,2,4,8}, is big enough
    (`x < 2^(8·size−2)`), and no shorter form is. -/
theorem C16_encode_shortest (x : Nat) (hx : x < 2^62) :
    (size x = 1 ∨ size x = 2 ∨ size x = 4 ∨ size x = 8) ∧ x < 2 ^ (8 * size x - 2) ∧
    ∀ n, (n = 1 ∨ n = 2 ∨ n = 4 ∨ n = 8) → x < 2 ^ (8 * n - 2) → size x ≤ n := by
  unfold size
  by_cases h6 : x < 2^6
  · rw [if_pos h6]
    refine ⟨by simp, by simpa using h6, ?_⟩
    rintro n (rfl | rfl | rfl | rfl) _ <;> omega
  · rw [if_neg h6]
    by_cases h14 : x < 2^14
    · rw [if_pos h14]
      refine ⟨by simp, by simpa using h14, ?_⟩
      rintro n (rfl | rfl | rfl | rfl) h <;> simp at h <;> omega
    · rw [if_neg h14]
      by_cases h30 : x < 2^30
      · rw [if_pos h30]
        refine ⟨by simp, by simpa using h30, ?_⟩
        rintro n (rfl | rfl | rfl | rfl) h <;> simp at h <;> omega
      · rw [if_neg h30]
        refine ⟨by simp, by simpa using hx, ?_⟩
        rintro n (rfl | rfl | rfl | rfl) h <;> simp at h <;> omega

/-- `VarInt::size` agrees and never reaches `unreachable!` below 2^62. -/
theorem C16_size_total (x : Nat) (hx : x < 2^62) : size? x = some (size x) :=
  size_eq_of_lt hx

/-- `encoded_size(first)` is the RFC length for every first byte. -/
theorem C16_encoded_size (b0 : Nat) (h : b0 < 256) :
    encodedSize b0 = rfcLen b0 ∧
    (encodedSize b0 = 1 ∨ encodedSize b0 = 2 ∨ encodedSize b0 = 4 ∨ encodedSize b0 = 8) := by
  refine ⟨rfl, ?_⟩
  unfold encodedSize
  have : b0 / 64 = 0 ∨ b0 / 64 = 1 ∨ b0 / 64 = 2 ∨ b0 / 64 = 3 := by omega
  rcases this with h | h | h | h <;> simp [h]

/-- Decoding is total and is the RFC 9000 §16 function on *every* byte string: when the
    announced length is present the result is the RFC value (minimal or not) and exactly that
    many bytes are consumed; otherwise `UnexpectedEnd`; the value is always below 2^62. -/
theorem C16_decode_total (bs : Bytes) (hwf : WF bs) :
    (∀ v r, rfcDecode bs = some (v, r) → decode bs = .ok v r ∧ v < 2^62) ∧
    (rfcDecode bs = none → ∃ k, decode bs = .endOf k) :=
  decode_total bs hwf

-- a non-minimal two-byte encoding of 5 is accepted with its RFC value
example : decode [0x40, 0x05, 9] = .ok 5 [9] := by decide
example : decode [0xc0, 0, 0] = .endOf 3 := by decide

/-- The checked constructors accept exactly the values below 2^62. -/
theorem C16_from_u64_iff (x : Nat) :
    (fromU64 x = some x ↔ x < 2^62) ∧ (fromU64 x = none ↔ 2^62 ≤ x) ∧
    (tryFrom x = some x ↔ x < 2^62) ∧ (tryFrom x = none ↔ 2^62 ≤ x) ∧
    (pushTryFrom x = some x ↔ x < 2^62) := by
  unfold pushTryFrom fromU64 tryFrom VARINT_MAX
  -- each conjunct reads off one `if`; its test is `x < 2^62`, for `tryFrom` as `x > VARINT_MAX = 2^62 - 1`
  refine ⟨?_, ?_, ?_, ?_, ?_⟩ <;> split <;> simp <;> omega

/-- Initiator, direction and index are the RFC 9000 §2.1 ones. -/
theorem C16_streamid_kinds (id : Nat) :
    (isRequest id = true ↔ rfcKind id = .clientBidi) ∧
    (isPush id = true ↔ rfcKind id = .serverUni) ∧
    (initiator id = 0 ↔ (rfcKind id = .clientBidi ∨ rfcKind id = .clientUni)) ∧
    (dir id = 0 ↔ (rfcKind id = .clientBidi ∨ rfcKind id = .serverBidi)) ∧
    id = 4 * index id + id % 4 := by
  -- everything but the index is a function of `id % 4`, a number below 4
  have hi : initiator id = id % 4 % 2 := by unfold initiator; omega
  have hd : dir id = id % 4 / 2 := by unfold dir; omega
  have hm : id % 4 < 4 := Nat.mod_lt _ (by decide)
  simp only [isRequest, isPush, hi, hd, rfcKind]
  refine ⟨?_, ?_, ?_, ?_, by unfold index; omega⟩ <;>
    (revert hm; generalize id % 4 = m; revert m; decide)

/-- `add` for every stream ID and every `rhs`: the index saturates at 2^60 − 1 whatever the operands -/
theorem streamid_add (id n : Nat) :
    (add id n) % 4 = id % 4 ∧ index (add id n) = min (index id + n) (2^60 - 1) ∧ add id n < 2^62 ∧
    (min (satAdd (index id) n) (VARINT_MAX / 4)) * 4 < 2^64 := by
  have hv : min (satAdd (id / 4) n) (VARINT_MAX / 4) ≤ 2^60 - 1 := Nat.min_le_right _ _
  rw [add_eq]
  simp only [index]
  refine ⟨?_, ?_, ?_, ?_⟩ <;> omega

/-- Advancing a stream ID by `n` requests: same kind, index advanced by `n` but saturating
    at the largest index (2^60 − 1), result a valid stream ID, no `u64` wrap in
    `StreamId::new`'s shift. -/
theorem C16_streamid_add_saturates (id n : Nat) (hid : id < 2^62) (hn : n < 2^64) :
    let r := add id n
    r % 4 = id % 4 ∧ index r = min (index id + n) (2^60 - 1) ∧ r < 2^62 ∧
    (min (satAdd (index id) n) (VARINT_MAX / 4)) * 4 < 2^64 :=
  streamid_add id n

example : add 4 18446744073709551615 = 4611686018427387900 := by decide
example : add 7 1 = 11 := by decide

end H3.Props.C16
