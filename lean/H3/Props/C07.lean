import H3.Lemmas.Iso
import H3.Lemmas.IsoLift
import H3.Lemmas.IsoPolled
import H3.Lemmas.IsoFault
import H3.Props.C03
/-! # C07 — faults confined to one request never harm the connection or other requests

Model: `H3.Iso` — the product of any number of request machines (receive half = the `H3.ReqRecv`
machine over the `FrameStream` model, unchanged; a small send half) with the ONE thing they share,
the connection error cell, plus the driver that closes the connection when it finds the cell filled.
A history is a list of `(stream, event)` pairs and driver polls in any order; an event is a peer
event (chunk / FIN / RESET c / STOP_SENDING c / a grant of write credit) or one poll of an application call on that stream's
handle.  Nothing bounds the number of streams or the length of the history.

Vocabulary.  `StreamScoped cfg hist`: no stream of the history is, run on its own, told a
connection-level error — the histories of the property: any subset of the streams may suffer
stream-scoped faults (RESET, STOP_SENDING, malformed message, oversized section, FIN before
HEADERS) at any point; excluded are only connection-level protocol violations (bad frame sequence,
bad frame encoding, QPACK failure), which are allowed — required — to close the connection.
`view j x`: what a run looks like from stream `j` — its final state and what its application saw.
A *valid message* (healthy stream) is a statement about the wire bytes through the reference automaton
of C02 (`msgToks`); `follows` = the application makes the calls of the documented receive pattern,
each polled again while it answers `Pending`; `digest` = its answers with `Pending` left out
(`H3/Lemmas/IsoLift.lean`, `IsoPolled*.lean`). -/
namespace H3.Props.C07
open H3.Iso H3.Gen.Consts
open H3.ReqRecv (FSt fsSrc first)

/-- the calls that write a frame on the stream -/
def isWrite : Call → Bool
  | .sendHead _ | .sendData _ | .sendTrailers _ => true
  | _ => false

/-- `FaultStep cfg r ev o`: in request state `r` the event `ev` is a stream-scoped fault transition,
    and `o` is what the application must be told.  `r` is ANY state of the request that fits the
    side condition: in the RESET cases `s` is any state of the frame stream — any buffered bytes,
    any position inside a frame header (`expected`), any position inside a DATA payload
    (`remaining`) — so the RESET comes at any point of the byte stream, with any code. -/
inductive FaultStep (cfg : Cfg) : Req → StreamEv → Obs → Prop
  /-- the peer's RESET_STREAM arrives -/
  | resetArrives (r : Req) (c : Nat) : FaultStep cfg r (.peer (.reset c)) .quiet
  /-- the peer's STOP_SENDING arrives -/
  | stopArrives (r : Req) (c : Nat) : FaultStep cfg r (.peer (.stop c)) .quiet
  /-- `resolve_request` / `recv_response` meets the RESET ⇒ `RemoteTerminate{c}` -/
  | resetHead (r : Req) (s : H3.FS.St) (c : Nat) (rest : List H3.FS.Ev) :
      r.rx.src = (s, .reset c :: rest) → s.eos = false → s.remaining = 0 → live cfg r .head →
      FaultStep cfg r (.call .head) (.ans (.res (.errReset c)))
  /-- `recv_data` meets the RESET, between frames or inside a DATA payload ⇒ `RemoteTerminate{c}` -/
  | resetData (r : Req) (s : H3.FS.St) (c : Nat) (rest : List H3.FS.Ev) :
      r.rx.src = (s, .reset c :: rest) → s.eos = false → live cfg r .data →
      FaultStep cfg r (.call .data) (.ans (.res (.errReset c)))
  /-- `recv_trailers` meets the RESET — reading the trailers' frame, or (trailer block already in
      hand) looking at what follows it ⇒ `RemoteTerminate{c}` -/
  | resetTrailers (r : Req) (s : H3.FS.St) (c : Nat) (rest : List H3.FS.Ev) :
      r.rx.src = (s, .reset c :: rest) → s.eos = false → s.remaining = 0 → live cfg r .trailers →
      FaultStep cfg r (.call .trailers) (.ans (.res (.errReset c)))
  /-- the documented body loop meets the RESET in `recv_data` -/
  | resetBody (r : Req) (s : H3.FS.St) (c : Nat) (rest : List H3.FS.Ev) (fuel : Nat) :
      r.rx.src = (s, .reset c :: rest) → s.eos = false → r.atTrailers = false → live cfg r (.body (fuel + 1)) →
      FaultStep cfg r (.call (.body (fuel + 1))) (.body [.errReset c] none)
  /-- the documented body loop, arrived at `recv_trailers`, suffers whatever `recv_trailers` suffers -/
  | bodyAtTrailers (r : Req) (a : Ans) (fuel : Nat) :
      FaultStep cfg r (.call .trailers) (.ans a) → r.atTrailers = true → live cfg r (.body fuel) →
      FaultStep cfg r (.call (.body fuel)) (.body [] (some a))
  /-- `send_response` / `send_data` / `send_trailers` after the peer's STOP_SENDING ⇒
      `RemoteTerminate{c}` -/
  | stopSend (r : Req) (c : Nat) (call : Call) :
      r.snd.stopped = some c → r.snd.fin = false → isWrite call = true → live cfg r call →
      FaultStep cfg r (.call call) (.ans (.res (.errReset c)))
  /-- the head is validly encoded but the message is malformed ⇒ stream error H3_MESSAGE_ERROR -/
  | malformedHead (r : Req) (enc : Bytes) (s' : FSt) :
      fsSrc.pollNext r.rx.src = (.frame (.headers enc), s') → cfg.hdr.head enc = .malformed →
      live cfg r .head →
      FaultStep cfg r (.call .head) (.ans (.res (.errStream CODE_H3_MESSAGE_ERROR)))
  /-- the trailer section (remembered by `recv_data`, stream at its end) is malformed ⇒
      H3_MESSAGE_ERROR -/
  | malformedTrailers (r : Req) (enc : Bytes) :
      r.rx.trailers = some enc → fsSrc.isEos r.rx.src = true → cfg.hdr.trailer enc = .malformed →
      live cfg r .trailers →
      FaultStep cfg r (.call .trailers) (.ans (.res (.errStream CODE_H3_MESSAGE_ERROR)))
  /-- the same when the end of the stream is only found by the look at the frame after the trailers -/
  | malformedTrailersFin (r : Req) (enc : Bytes) (s' : FSt) :
      r.rx.trailers = some enc → fsSrc.isEos r.rx.src = false → fsSrc.pollNext r.rx.src = (.none, s') →
      cfg.hdr.trailer enc = .malformed → live cfg r .trailers →
      FaultStep cfg r (.call .trailers) (.ans (.res (.errStream CODE_H3_MESSAGE_ERROR)))
  /-- client: the response head is over the limit ⇒ header-too-big -/
  | tooBigHeadClient (r : Req) (enc : Bytes) (s' : FSt) :
      cfg.role = .client → fsSrc.pollNext r.rx.src = (.frame (.headers enc), s') →
      cfg.hdr.head enc = .tooBig → live cfg r .head →
      FaultStep cfg r (.call .head) (.ans .tooBig)
  /-- server: the request head is over the limit, the 431 is written ⇒ header-too-big -/
  | tooBigHeadServer (r : Req) (enc : Bytes) (s' : FSt) (fs : Bytes) (w : H3.WriteBuf.WB) :
      cfg.role = .server → fsSrc.pollNext r.rx.src = (.frame (.headers enc), s') →
      cfg.hdr.head enc = .tooBig → cfg.resp431 = some fs → H3.WriteBuf.fromFrame (.headers fs) = some w →
      r.snd.stopped = none → r.snd.fin = false → r.snd.writing = none → live cfg r .head →
      FaultStep cfg r (.call .head) (.ans .tooBig)
  /-- server: over the limit, and the 431 itself exceeds the client's limit ⇒ header-too-big -/
  | tooBigHeadServerRefused (r : Req) (enc : Bytes) (s' : FSt) :
      cfg.role = .server → fsSrc.pollNext r.rx.src = (.frame (.headers enc), s') →
      cfg.hdr.head enc = .tooBig → cfg.resp431 = none → live cfg r .head →
      FaultStep cfg r (.call .head) (.ans .tooBig)
  /-- server: over the limit, and the peer has stopped the stream: `send_response(431).await?`
      returns the send error `RemoteTerminate{c}` -/
  | tooBigHeadServerStopped (r : Req) (enc : Bytes) (s' : FSt) (fs : Bytes) (c : Nat) :
      cfg.role = .server → fsSrc.pollNext r.rx.src = (.frame (.headers enc), s') →
      cfg.hdr.head enc = .tooBig → cfg.resp431 = some fs → r.snd.stopped = some c → r.snd.fin = false →
      live cfg r .head →
      FaultStep cfg r (.call .head) (.ans (.res (.errReset c)))
  /-- the trailer section is over the limit ⇒ header-too-big -/
  | tooBigTrailers (r : Req) (enc : Bytes) :
      r.rx.trailers = some enc → fsSrc.isEos r.rx.src = true → cfg.hdr.trailer enc = .tooBig →
      live cfg r .trailers →
      FaultStep cfg r (.call .trailers) (.ans .tooBig)
  | tooBigTrailersFin (r : Req) (enc : Bytes) (s' : FSt) :
      r.rx.trailers = some enc → fsSrc.isEos r.rx.src = false → fsSrc.pollNext r.rx.src = (.none, s') →
      cfg.hdr.trailer enc = .tooBig → live cfg r .trailers →
      FaultStep cfg r (.call .trailers) (.ans .tooBig)
  /-- server: the stream ends before any HEADERS ⇒ stream error H3_REQUEST_INCOMPLETE -/
  | finFirst (r : Req) (s' : FSt) :
      cfg.role = .server → fsSrc.pollNext r.rx.src = (.none, s') → live cfg r .head →
      FaultStep cfg r (.call .head) (.ans (.res (.errStream CODE_H3_REQUEST_INCOMPLETE)))
  /-- client: the response stream ends before any HEADERS ⇒ stream error H3_MESSAGE_ERROR (the
      response is missing: "an invalid sequence of HTTP messages", RFC 9114 §4.1.2; repaired by
      132f8d8 — before, the connection error H3_FRAME_UNEXPECTED: finding D-07a) -/
  | finFirstClient (r : Req) (s' : FSt) :
      cfg.role = .client → fsSrc.pollNext r.rx.src = (.none, s') → live cfg r .head →
      FaultStep cfg r (.call .head) (.ans (.res (.errStream CODE_H3_MESSAGE_ERROR)))

/-- `writing := none`: a write that was waiting for credit is dropped -/
theorem step_write_stopped (cfg : Cfg) (cell : Option Nat) (r : Req) (c : Nat) (call : Call)
    (hs : r.snd.stopped = some c) (hfin : r.snd.fin = false) (hw : isWrite call = true) (hl : live cfg r call) :
    Req.step cfg cell r (.call call) =
      ({ r with snd := { r.snd with writing := none } }, cell, .ans (.res (.errReset c))) := by
  rw [Req.step_live cfg cell r _ hl]
  cases call with
  | sendHead _ | sendData _ | sendTrailers _ => simp [stepSend, write_stopped _ _ _ c hs hfin]
  | _ => cases hw

/-- what the application is told; that the cell stays as it was then follows from `Req.step_cell_ok`, since
    none of these answers is a connection error (`fault_not_conn`) -/
theorem fault_obs (cfg : Cfg) (r : Req) (ev : StreamEv) (o : Obs) (hf : FaultStep cfg r ev o)
    (cell : Option Nat) : (Req.step cfg cell r ev).2.2 = o := by
  induction hf with
  | resetArrives c => rfl
  | stopArrives c => rfl
  | resetBody s c rest fuel hsrc he hat hl =>
    rw [Req.step_live cfg cell r _ hl]
    exact stepBody_reset cfg fuel cell r s c rest hat hsrc he
  | bodyAtTrailers a fuel hft hat hl ih =>
    have hlt : live cfg r .trailers := live_of_live hl nofun nofun
    rw [Req.step_live cfg cell r _ hlt, stepTrailers_obs, Obs.ans.injEq] at ih
    rw [Req.step_live cfg cell r _ hl, ← ih]
    exact stepBody_atTrailers cfg fuel cell r hat
  | resetHead s c rest hsrc he hr hl =>
    rw [Req.step_live cfg cell r _ hl]
    exact stepHead_reset cfg cell r c (s, .reset c :: rest) (by rw [hsrc]; exact fs_next_reset s c rest he hr)
  | resetData s c rest hsrc he hl =>
    rw [Req.step_live cfg cell r _ hl, stepData_reset cell r s c rest hsrc he]
  | resetTrailers s c rest hsrc he hr hl =>
    have hsrc' : (load cell r.rx).src = (s, .reset c :: rest) := hsrc
    rw [Req.step_live cfg cell r _ hl, stepTrailers_obs, trailersPoll_reset cfg _ c (s, .reset c :: rest)
      (by rw [hsrc']; exact fs_isEos_false s _ he) (by rw [hsrc']; exact fs_next_reset s c rest he hr)]
  | stopSend c call hs hfin hw hl => rw [step_write_stopped cfg cell r c call hs hfin hw hl]
  | malformedHead enc s' hn hm hl =>
    rw [Req.step_live cfg cell r _ hl, stepHead_malformed cfg cell r enc s' hn hm]
  | malformedTrailers enc ht he hm hl =>
    rw [Req.step_live cfg cell r _ hl, stepTrailers_obs, (trailersPoll_block cfg (load cell r.rx) enc ht (Or.inl he)).1 hm]
  | tooBigHeadClient enc s' hrole hn hm hl =>
    rw [Req.step_live cfg cell r _ hl, stepHead_tooBig_client cfg cell r enc s' hrole hn hm]
  | tooBigHeadServer enc s' fs w hrole hn hm h431 hw hs hfin hw0 hl =>
    rw [Req.step_live cfg cell r _ hl, stepHead_tooBig_server cfg cell r enc s' hrole hn hm]
    simp [tooBigServer, h431, write_ok _ _ w hs hfin hw0 hw]
  | tooBigHeadServerRefused enc s' hrole hn hm h431 hl =>
    rw [Req.step_live cfg cell r _ hl, stepHead_tooBig_server cfg cell r enc s' hrole hn hm]
    simp [tooBigServer, h431]
  | tooBigHeadServerStopped enc s' fs c hrole hn hm h431 hs hfin hl =>
    rw [Req.step_live cfg cell r _ hl, stepHead_tooBig_server cfg cell r enc s' hrole hn hm]
    simp [tooBigServer, h431, write_stopped _ _ _ c hs hfin]
  | tooBigTrailers enc ht he hm hl =>
    rw [Req.step_live cfg cell r _ hl, stepTrailers_obs, (trailersPoll_block cfg (load cell r.rx) enc ht (Or.inl he)).2 hm]
  | malformedTrailersFin enc s' ht he hn hm hl =>
    rw [Req.step_live cfg cell r _ hl, stepTrailers_obs, (trailersPoll_block cfg (load cell r.rx) enc ht (Or.inr ⟨s', hn⟩)).1 hm]
  | tooBigTrailersFin enc s' ht he hn hm hl =>
    rw [Req.step_live cfg cell r _ hl, stepTrailers_obs, (trailersPoll_block cfg (load cell r.rx) enc ht (Or.inr ⟨s', hn⟩)).2 hm]
  | finFirst s' hrole hn hl =>
    rw [Req.step_live cfg cell r _ hl, stepHead_finFirst cfg cell r s' hrole hn]
  | finFirstClient s' hrole hn hl =>
    rw [Req.step_live cfg cell r _ hl, stepHead_finFirst_client cfg cell r s' hrole hn]

theorem fault_not_conn (cfg : Cfg) (r : Req) (ev : StreamEv) (o : Obs) (hf : FaultStep cfg r ev o) :
    o.isConn = false := by
  induction hf with
  | bodyAtTrailers a fuel hft hat hl ih => simpa [Obs.isConn, optConn] using ih
  | _ => rfl

/-- **C07, per transition.** Every stream-scoped fault transition — the peer's RESET with any code
    arriving, and being met at any point of the byte stream by `resolve_request`/`recv_response`,
    `recv_data` or `recv_trailers`; STOP_SENDING with any code arriving, and being met by a send
    call; a validly encoded but malformed head or trailer section; a head or trailer section over
    the limit (server: with the 431 written, refused, or stopped); FIN before HEADERS, on a server
    (H3_REQUEST_INCOMPLETE) and on a client (the response is missing: H3_MESSAGE_ERROR) —
    taken on stream `i` of ANY connection state: tells the application of stream `i` exactly the
    fitting stream-level error (`RemoteTerminate{c}` / H3_MESSAGE_ERROR / header-too-big /
    H3_REQUEST_INCOMPLETE), never a connection error; leaves the error cell exactly as it was (so
    empty stays empty); calls `close` neither in the step nor in a driver poll following it; and
    leaves the state of every other stream untouched. -/
theorem C07_stream_fault_is_local (cfg : Cfg) (c : Conn) (i : Nat) (ev : StreamEv) (o : Obs)
    (hf : FaultStep cfg (c.get i) ev o) :
    (step cfg c (i, ev)).2 = o ∧ o.isConn = false ∧
    (step cfg c (i, ev)).1.cell = c.cell ∧
    (step cfg c (i, ev)).1.closed = c.closed ∧
    (c.cell = none → (drive (step cfg c (i, ev)).1).closed = c.closed) ∧
    ∀ j, j ≠ i → (step cfg c (i, ev)).1.get j = c.get j := by
  have h := fault_obs cfg (c.get i) ev o hf c.cell
  have hnc := fault_not_conn cfg _ ev o hf
  have hcell : (step cfg c (i, ev)).1.cell = c.cell :=
    Req.step_cell_ok cfg c.cell (c.get i) ev (by rw [h]; exact hnc)
  refine ⟨h, hnc, hcell, rfl, ?_, fun j hj => step_other cfg c i j ev hj⟩
  · intro hc
    rw [drive_of_empty _ (by rw [hcell, hc])]
    rfl

/-- **What h3 does on the faulted stream itself** (as the code does): a malformed head ⇒
    STOP_SENDING(H3_MESSAGE_ERROR), and on a server also RESET_STREAM(H3_MESSAGE_ERROR) and the
    resolver is gone; FIN before HEADERS ⇒ on a server RESET_STREAM(H3_REQUEST_INCOMPLETE), on a client
    nothing is sent (the receive side is over) and the handle stays; an oversized response
    ⇒ STOP_SENDING(H3_REQUEST_CANCELLED); an oversized request ⇒ the 431 HEADERS frame appended to
    what was written on THAT stream, no reset; a RESET met by `recv_data`, a STOP_SENDING met by a send
    call ⇒ nothing is sent, nothing written, a write that was waiting for credit is dropped (`first old c` =
    `c` unless one was sent before). -/
theorem C07_fault_reaction (cfg : Cfg) (cell : Option Nat) (r : Req) :
    (∀ enc s', fsSrc.pollNext r.rx.src = (.frame (.headers enc), s') → cfg.hdr.head enc = .malformed →
      live cfg r .head →
      let r' := (Req.step cfg cell r (.call .head)).1
      r'.rx.env.stop = first r.rx.env.stop CODE_H3_MESSAGE_ERROR ∧
      r'.rx.env.rst = (if cfg.role = .server then first r.rx.env.rst CODE_H3_MESSAGE_ERROR else r.rx.env.rst) ∧
      r'.snd = r.snd ∧ r'.gone = (cfg.role == .server)) ∧
    (∀ s', cfg.role = .server → fsSrc.pollNext r.rx.src = (.none, s') → live cfg r .head →
      let r' := (Req.step cfg cell r (.call .head)).1
      r'.rx.env.rst = first r.rx.env.rst CODE_H3_REQUEST_INCOMPLETE ∧ r'.rx.env.stop = r.rx.env.stop ∧
      r'.snd = r.snd ∧ r'.gone = true) ∧
    (∀ s', cfg.role = .client → fsSrc.pollNext r.rx.src = (.none, s') → live cfg r .head →
      let r' := (Req.step cfg cell r (.call .head)).1
      r'.rx.env.rst = r.rx.env.rst ∧ r'.rx.env.stop = r.rx.env.stop ∧ r'.snd = r.snd ∧ r'.gone = false) ∧
    (∀ enc s', cfg.role = .client → fsSrc.pollNext r.rx.src = (.frame (.headers enc), s') →
      cfg.hdr.head enc = .tooBig → live cfg r .head →
      let r' := (Req.step cfg cell r (.call .head)).1
      r'.rx.env.stop = first r.rx.env.stop CODE_H3_REQUEST_CANCELLED ∧ r'.rx.env.rst = r.rx.env.rst ∧
      r'.snd = r.snd) ∧
    (∀ enc s' fs w, cfg.role = .server → fsSrc.pollNext r.rx.src = (.frame (.headers enc), s') →
      cfg.hdr.head enc = .tooBig → cfg.resp431 = some fs → H3.WriteBuf.fromFrame (.headers fs) = some w →
      r.snd.stopped = none → r.snd.fin = false → r.snd.writing = none → live cfg r .head →
      let r' := (Req.step cfg cell r (.call .head)).1
      r'.snd.tx = r.snd.tx ++ w.view ∧ r'.rx.env.rst = r.rx.env.rst ∧ r'.rx.env.stop = r.rx.env.stop ∧
      r'.gone = true) ∧
    (∀ s c rest, r.rx.src = (s, .reset c :: rest) → s.eos = false → live cfg r .data →
      let r' := (Req.step cfg cell r (.call .data)).1
      r'.rx.env.rst = r.rx.env.rst ∧ r'.rx.env.stop = r.rx.env.stop ∧ r'.snd = r.snd) ∧
    (∀ c call, r.snd.stopped = some c → r.snd.fin = false → isWrite call = true → live cfg r call →
      (Req.step cfg cell r (.call call)).1 = { r with snd := { r.snd with writing := none } }) := by
  refine ⟨?_, ?_, ?_, ?_, ?_, ?_, ?_⟩
  · intro enc s' hn hm hl
    rw [Req.step_live cfg cell r _ hl, stepHead_malformed cfg cell r enc s' hn hm]
    exact ⟨rfl, rfl, rfl, rfl⟩
  · intro s' hrole hn hl
    rw [Req.step_live cfg cell r _ hl, stepHead_finFirst cfg cell r s' hrole hn]
    exact ⟨rfl, rfl, rfl, rfl⟩
  · intro s' hrole hn hl
    rw [Req.step_live cfg cell r _ hl, stepHead_finFirst_client cfg cell r s' hrole hn]
    exact ⟨rfl, rfl, rfl, rfl⟩
  · intro enc s' hrole hn hm hl
    rw [Req.step_live cfg cell r _ hl, stepHead_tooBig_client cfg cell r enc s' hrole hn hm]
    exact ⟨rfl, rfl, rfl⟩
  · intro enc s' fs w hrole hn hm h431 hw hs hfin hw0 hl
    rw [Req.step_live cfg cell r _ hl, stepHead_tooBig_server cfg cell r enc s' hrole hn hm]
    simp [tooBigServer, h431, write_ok _ _ w hs hfin hw0 hw, unload]
  · intro s c rest hsrc he hl
    rw [Req.step_live cfg cell r _ hl, stepData_reset cell r s c rest hsrc he]
    exact ⟨rfl, rfl, rfl⟩
  · intro c call hs hfin hw hl
    rw [step_write_stopped cfg cell r c call hs hfin hw hl]

/-- **Only a connection-level answer writes the cell.** Whatever the state, whatever the event:
    if the step on stream `i` does not tell its application `StreamError::ConnectionError`, the
    shared cell is exactly as before; and a step never touches another stream, never calls `close`. -/
theorem C07_only_connection_errors_write_cell (cfg : Cfg) (c : Conn) (i : Nat) (ev : StreamEv) :
    ((step cfg c (i, ev)).2.isConn = false → (step cfg c (i, ev)).1.cell = c.cell) ∧
    (step cfg c (i, ev)).1.closed = c.closed ∧
    ∀ j, j ≠ i → (step cfg c (i, ev)).1.get j = c.get j :=
  ⟨Req.step_cell_ok cfg c.cell (c.get i) ev, rfl, fun j hj => step_other cfg c i j ev hj⟩

/-- No stream of the history is, run on its own, told a connection-level error. -/
def StreamScoped (cfg : Cfg) (hist : List HEv) : Prop :=
  ∀ i ∈ sidsOf hist, ∀ o ∈ (Req.run cfg none {} (proj i hist)).2.2, o.isConn = false

instance (cfg : Cfg) (hist : List HEv) : Decidable (StreamScoped cfg hist) := by
  unfold StreamScoped; exact inferInstance

theorem quiet_of_streamScoped (cfg : Cfg) (hist : List HEv) (hs : StreamScoped cfg hist) :
    QuietHist cfg {} hist :=
  .of_sids cfg {} hist fun i hi => quiet_of_no_connErr cfg _ _ (hs i hi)

theorem scoped_view (cfg : Cfg) (hist : List HEv) (hs : StreamScoped cfg hist) (j : Nat) :
    (run cfg {} hist).1.get j = (Req.run cfg none {} (proj j hist)).1 ∧
    obsOf j (run cfg {} hist).2 = (Req.run cfg none {} (proj j hist)).2.2 ∧
    (run cfg {} hist).1.cell = none ∧ (run cfg {} hist).1.closed = [] := by
  obtain ⟨hcell, hclosed, hview⟩ := run_decomposes cfg hist {} rfl rfl (quiet_of_streamScoped cfg hist hs)
  have hv := (hview j).1
  simp only [view, Prod.mk.injEq] at hv
  exact ⟨hv.1, hv.2, hcell, hclosed⟩

theorem streamScoped_prefix (cfg : Cfg) (pre suf : List HEv) (hs : StreamScoped cfg (pre ++ suf)) :
    StreamScoped cfg pre := by
  intro i _ o ho
  by_cases hi : i ∈ sidsOf (pre ++ suf)
  · exact hs i hi o (by rw [proj_append, Req.run_append]; exact List.mem_append_left _ ho)
  · have hn := proj_nil_of_not_mem i _ hi
    rw [proj_append, List.append_eq_nil_iff] at hn
    rw [hn.1] at ho
    cases ho

/-- **C07, non-interference.** In every history of any length over any number of streams in which
    no stream is told a connection-level error — whatever stream-scoped faults hit whichever
    streams, at whatever points, under whatever interleaving of all tasks and deliveries — what the
    run looks like from ANY stream `j` (its final state, everything its application saw, in order)
    (a) is the run of `j`'s own events alone, a function of `j`'s own events only; (b) is what `j`
    sees in the history that contains nothing but `j`'s events; (c) is the same with and without the
    faulted streams: for every set `F` of streams not containing `j`, removing the streams of `F`
    from the history altogether changes nothing for `j`; (d) is the same with and without the
    faults: any other such history with the same events on `j` — different faults, other streams,
    another interleaving — looks the same from `j`. -/
theorem C07_neighbours_unaffected (cfg : Cfg) (hist : List HEv) (hs : StreamScoped cfg hist) (j : Nat) :
    view j (run cfg {} hist) =
      ((Req.run cfg none {} (proj j hist)).1, (Req.run cfg none {} (proj j hist)).2.2) ∧
    view j (run cfg {} hist) = view j (run cfg {} (only j hist)) ∧
    (∀ F : Nat → Bool, F j = false → view j (run cfg {} hist) = view j (run cfg {} (without F hist))) ∧
    (∀ hist', StreamScoped cfg hist' → proj j hist' = proj j hist →
      view j (run cfg {} hist') = view j (run cfg {} hist)) := by
  have hq := quiet_of_streamScoped cfg hist hs
  have main : ∀ h', QuietHist cfg {} h' → proj j h' = proj j hist →
      view j (run cfg {} h') = view j (run cfg {} hist) := by
    intro h' hq' hp
    rw [((run_decomposes cfg h' {} rfl rfl hq').2.2 j).1, ((run_decomposes cfg hist {} rfl rfl hq).2.2 j).1, hp]
  refine ⟨((run_decomposes cfg hist {} rfl rfl hq).2.2 j).1, ?_, ?_, ?_⟩
  · refine (main (only j hist) ?_ ?_).symm
    · intro i
      rw [proj_only]
      by_cases hi : j = i
      · subst hi; rw [if_pos rfl]; exact hq j
      · rw [if_neg hi]; trivial
    · rw [proj_only, if_pos rfl]
  · intro F hF
    refine (main (without F hist) ?_ ?_).symm
    · intro i
      rw [proj_without]
      by_cases hi : F i = true
      · rw [if_pos hi]; trivial
      · rw [if_neg hi]; exact hq i
    · rw [proj_without, hF]; rfl
  · intro h' hs' hp
    exact main h' (quiet_of_streamScoped cfg h' hs') hp

/-- **C07, every interleaving.** Two histories with the same events per stream in the same
    per-stream order — i.e. any two interleavings of the same tasks and deliveries, in particular
    any permutation of a history that keeps each stream's own order — look the same from every
    stream, leave the same cell and the same `close` calls.  (Steps of different streams commute
    because none of them writes the cell and each touches only its own stream's state.) -/
theorem C07_interleaving_irrelevant (cfg : Cfg) (h₁ h₂ : List HEv) (hs : StreamScoped cfg h₁)
    (hp : ∀ j, proj j h₁ = proj j h₂) :
    (∀ j, view j (run cfg {} h₁) = view j (run cfg {} h₂)) ∧
    (run cfg {} h₁).1.cell = (run cfg {} h₂).1.cell ∧
    (run cfg {} h₁).1.closed = (run cfg {} h₂).1.closed := by
  have hq₁ := quiet_of_streamScoped cfg h₁ hs
  have hq₂ := quietHist_congr cfg {} h₁ h₂ hp hq₁
  obtain ⟨a1, a2, a3⟩ := run_decomposes cfg h₁ {} rfl rfl hq₁
  obtain ⟨b1, b2, b3⟩ := run_decomposes cfg h₂ {} rfl rfl hq₂
  refine ⟨fun j => ?_, by rw [a1, b1], by rw [a2, b2]⟩
  rw [(a3 j).1, (b3 j).1, hp j]

/-- the generator of those permutations: swapping two adjacent events of different streams (or an
    event and a driver poll) anywhere in a history changes nothing for any stream -/
theorem C07_adjacent_swap (cfg : Cfg) (a b : List HEv) (x y : HEv) (hxy : independent x y = true)
    (hs : StreamScoped cfg (a ++ x :: y :: b)) (j : Nat) :
    view j (run cfg {} (a ++ x :: y :: b)) = view j (run cfg {} (a ++ y :: x :: b)) :=
  (C07_interleaving_irrelevant cfg _ _ hs (fun k => proj_swap k x y hxy a b)).1 j

/-- **C07, the connection stays open.** In such a history, at every point of it (after every
    prefix, driver polls included wherever they fall), the error cell is empty and `close` has
    never been called. -/
theorem C07_connection_stays_open (cfg : Cfg) (hist : List HEv) (hs : StreamScoped cfg hist)
    (pre suf : List HEv) (hsplit : hist = pre ++ suf) :
    (run cfg {} pre).1.cell = none ∧ (run cfg {} pre).1.closed = [] :=
  (scoped_view cfg pre (streamScoped_prefix cfg pre suf (hsplit ▸ hs)) 0).2.2

/-! ### whole histories of the property's quantifier are `StreamScoped`

`StreamScoped` is a statement about the model's own run.  The property quantifies over INPUTS: what the
peer does to each request and which calls the application makes.  `DocStream cfg evs` says of the events
`evs` of one request stream, without looking at any answer but to know where the documented call
pattern stands:

* transport (`DelivR`): non-empty chunks carrying a prefix of the bytes `w` of a validly framed message
  — `Wire w T`: the reference automaton of C02 reads `w` as complete frames, tokens `T = msgToks h ds tr`
  (`U* H (U|D)* (H U*)?`: head block `h`, DATA payloads `ds`, trailer block `tr`) or `T = []` (nothing
  but frames of unknown type: the stream is abandoned before its headers); then nothing yet, or FIN —
  only with all of `w` delivered, i.e. on the last frame boundary of the message —, or RESET with ANY
  code after ANY prefix (any byte offset); STOP_SENDING with any code and credit grants anywhere;
* header oracle: for the head block and for the trailer block any answer but a QPACK decoding failure —
  well-formed, validly encoded but malformed, over the size limit (positional: the head block is judged
  as a head, the trailer block as trailers);
* calls (`obeys`, reading R-07): `resolve_request` / `recv_response` polled until it answers, then
  `recv_data` (call by call, or as the body task) until it answers something else than data, then after
  a clean end `recv_trailers`; every call polled again while it answers `Pending`; NO receive call after
  one has answered an error — the documented pattern ends there; `send_response` / `send_data` /
  `send_trailers` / `finish` at any time, before and after any fault.

This covers every fault class of the property: RESET (any code, any offset, before / between / inside /
after the calls), STOP_SENDING (any code, any time), malformed or oversized head or trailers, FIN before
HEADERS (bare, or behind unknown frames), and the healthy stream; at most one receive-side fault can
manifest per stream because the pattern ends with the first error (a STOP_SENDING may come on top). -/

section Documented
open H3.ReqRecv

/-- a request stream of the property's quantifier: a statement about its input -/
def DocStream (cfg : Cfg) (evs : List StreamEv) : Prop :=
  ∃ (w : FS.Bytes) (T : List RefTok) (h : ReqRecv.Bytes) (ds : List ReqRecv.Bytes) (tr : Option ReqRecv.Bytes),
    Wire w T ∧ (T = [] ∨ T = msgToks h ds tr) ∧
    cfg.hdr.head h ≠ .qpack ∧ (∀ t, tr = some t → cfg.hdr.trailer t ≠ .qpack) ∧
    DelivR w (fsScript (peersOf evs)) ∧ obeys cfg .head none {} evs = true

/-- a stream carrying (a prefix of) a message with a head -/
theorem docStream_of_message (cfg : Cfg) (evs : List StreamEv) (w : FS.Bytes) (h : ReqRecv.Bytes)
    (ds : List ReqRecv.Bytes) (tr : Option ReqRecv.Bytes)
    (hrun : H3.FS.run H3.FS.frameDec (.hdr []) w = (.hdr [], msgToks h ds tr))
    (hlen : ∀ d ∈ ds, d.length < H3.FS.USIZE_MAX)
    (hh : cfg.hdr.head h ≠ .qpack) (htr : ∀ t, tr = some t → cfg.hdr.trailer t ≠ .qpack)
    (hdel : DelivR w (fsScript (peersOf evs))) (hob : obeys cfg .head none {} evs = true) : DocStream cfg evs :=
  ⟨w, msgToks h ds tr, h, ds, tr, ⟨hrun, noRaw_of_msgToks w _ h ds tr hrun hlen⟩, Or.inr rfl, hh, htr, hdel, hob⟩

/-- a stream carrying frames of unknown type only (abandoned before its headers) -/
theorem docStream_of_unknown (cfg : Cfg) (evs : List StreamEv) (w : FS.Bytes)
    (hrun : H3.FS.run H3.FS.frameDec (.hdr []) w = (.hdr [], []))
    (hdel : DelivR w (fsScript (peersOf evs))) (hob : obeys cfg .head none {} evs = true)
    (hh : cfg.hdr.head [] ≠ .qpack) : DocStream cfg evs :=
  ⟨w, [], [], [], none, ⟨hrun, fun f hf => by rw [hrun] at hf; cases hf⟩, Or.inl rfl, hh,
    (fun t ht => by cases ht), hdel, hob⟩

/-- **C07, one stream of the quantifier.**  Whatever the peer does to the stream within the property's
    fault classes, at whatever point, and whenever the application's documented calls are polled: no
    call on the stream ever answers a connection-level error — every fault is reported as a
    stream-level error (`C07_stream_fault_is_local` names the code) or not at all. -/
theorem C07_documented_stream_never_told_connection_error (cfg : Cfg) (evs : List StreamEv)
    (hd : DocStream cfg evs) : ∀ o ∈ (Req.run cfg none {} evs).2.2, o.isConn = false := by
  obtain ⟨w, T, h, ds, tr, hw, hT, hh, htr, hdel, hob⟩ := hd
  have hfirst : ∀ f, [FS.Tok.frame f] <+: T → f = .headers h := by
    intro f hp
    rcases hT with rfl | rfl
    · simpa using hp.length_le
    · exact first_frame_is_head hp
  have hbody : T ≠ [] → T = msgToks h ds tr := by
    intro hne
    rcases hT with rfl | rfl
    · exact absurd rfl hne
    · rfl
  exact robust_run hw hfirst hbody cfg hh htr evs .head [] {} (rinvR_init w T h ds tr)
    (by rw [List.nil_append]; exact hdel) hob

/-- **C07, whole histories.**  A history — any number of streams, any length, any interleaving of all
    tasks, deliveries and driver polls — every stream of which is a stream of the property's quantifier
    (`DocStream`: a hypothesis about the input only) IS `StreamScoped`. -/
theorem C07_documented_histories_are_stream_scoped (cfg : Cfg) (hist : List HEv)
    (hd : ∀ i ∈ sidsOf hist, DocStream cfg (proj i hist)) : StreamScoped cfg hist :=
  fun i hi => C07_documented_stream_never_told_connection_error cfg (proj i hist) (hd i hi)

/-- **C07, unconditionally on the property's quantifier: the connection stays open.**  After every prefix
    of such a history the error cell is empty and `close` has never been called. -/
theorem C07_connection_stays_open_documented (cfg : Cfg) (hist : List HEv)
    (hd : ∀ i ∈ sidsOf hist, DocStream cfg (proj i hist)) (pre suf : List HEv) (hsplit : hist = pre ++ suf) :
    (run cfg {} pre).1.cell = none ∧ (run cfg {} pre).1.closed = [] :=
  C07_connection_stays_open cfg hist (C07_documented_histories_are_stream_scoped cfg hist hd) pre suf hsplit

/-- **C07, unconditionally on the property's quantifier: the neighbours are unaffected.**  What such a
    history looks like from any stream `j` is the run of `j`'s own events alone; it is the same with any
    set of other streams (the faulted ones, say) removed from the history; and the same in any other such
    history with the same events on `j`. -/
theorem C07_neighbours_unaffected_documented (cfg : Cfg) (hist : List HEv)
    (hd : ∀ i ∈ sidsOf hist, DocStream cfg (proj i hist)) (j : Nat) :
    view j (run cfg {} hist) =
      ((Req.run cfg none {} (proj j hist)).1, (Req.run cfg none {} (proj j hist)).2.2) ∧
    (∀ F : Nat → Bool, F j = false → view j (run cfg {} hist) = view j (run cfg {} (without F hist))) ∧
    (∀ hist', (∀ i ∈ sidsOf hist', DocStream cfg (proj i hist')) → proj j hist' = proj j hist →
      view j (run cfg {} hist') = view j (run cfg {} hist)) := by
  have h := C07_neighbours_unaffected cfg hist (C07_documented_histories_are_stream_scoped cfg hist hd) j
  exact ⟨h.1, h.2.2.1, fun hist' hd' hp =>
    h.2.2.2 hist' (C07_documented_histories_are_stream_scoped cfg hist' hd') hp⟩

end Documented

section Healthy
open H3.ReqRecv H3.Props.C03

/-- From the outcome of the documented pattern over stream `j`'s own transport script (a statement
    about `ReqRecv.documented`, C03's subject) to what `j`'s application observes inside the product,
    under arbitrary interleaving with all other streams. -/
theorem healthy_of_outcome (cfg : Cfg) (hist : List HEv) (hs : StreamScoped cfg hist) (j : Nat)
    (ps : List Peer) (fuel : Nat)
    (hj : proj j hist = ps.map .peer ++ [.call .head, .call (.body fuel)])
    (h body : ReqRecv.Bytes) (tr : Option ReqRecv.Bytes)
    (hdel : observe (documented cfg.role fsSrc cfg.hdr.base fuel { src := ({}, fsScript ps) }) =
      { calls := [.head h, .body body, .bodyEnd, trObs tr], connError := none, streamReset := none })
    (hh : cfg.hdr.head h ≠ .tooBig) (htr : ∀ t, tr = some t → cfg.hdr.trailer t ≠ .tooBig) :
    ∃ rs : List Res,
      obsOf j (run cfg {} hist).2 =
        List.replicate ps.length .quiet ++
          [.ans (.res (.head h)),
           .body rs (some (.res (trRes tr)))] ∧
      bodyBytes rs = body ∧ rs.getLast? = some .end_ ∧
      ((run cfg {} hist).1.get j).rx.env.rst = none ∧
      (run cfg {} hist).1.cell = none ∧ (run cfg {} hist).1.closed = [] := by
  obtain ⟨hget, hobs, hcell, hclosed⟩ := scoped_view cfg hist hs j
  obtain ⟨t1, t2, t3, t4, t5, t6⟩ := observe_delivered _ h body tr hdel
  -- the product's run of stream j alone is that trace
  have hdoc := run_documented cfg ps fuel h t1 hh
    (fun t ht => htr t (trRes_trailers (Option.some.inj (t4.symm.trans ht))))
  simp only at hdoc
  obtain ⟨d1, _, d3⟩ := hdoc
  rw [← hj] at d1 d3
  refine ⟨_, ?_, t2, t3, ?_, hcell, hclosed⟩
  · rw [hobs, d1, t4]; rfl
  · rw [hget, d3]
    exact t6

/-- **C07 composed with C03, the frame-layer hypothesis gone.**  A healthy stream `j` of ANY
    history in which no stream is told a connection-level error.  Its own transport events are: the
    bytes `w = cs.flatten` of a valid message cut into non-empty chunks `cs` in ANY way, then FIN;
    its application then runs the documented receive pattern (head, then the body loop and the
    trailers).  "Valid message" is a statement about the wire bytes alone, through the reference
    automaton of C02: over `w` it ends on a frame boundary and emits HEADERS `h`, DATA frames with
    payloads `ds` (any number, any lengths, zero included), HEADERS `t` iff there are trailers
    (`msgToks`; frames of unknown type anywhere leave no token).  Then — whatever happens on the
    other streams (resets, STOP_SENDING, malformed or oversized messages, abandoned streams), in
    whatever interleaving with them and with the driver's polls — `j`'s application is given: the
    head `h`; as body exactly `ds.flatten`, the concatenation of the DATA payloads of ITS stream,
    in order, each byte once; then the end of the body; then the trailers iff present; h3 resets
    nothing on it; the cell is empty and `close` was never called.

    Hypotheses that remain (none about the frame layer: `FrameSim` is discharged by
    `C03_frame_layer_simulation`/`lift_exists` for every script): chunks are non-empty (`ScriptOK`,
    a QUIC read never returns zero bytes); no DATA frame announces `usize::MAX` bytes (`NoRaw`; a
    varint cannot); the header oracle accepts the head block as a head and the trailer block as
    trailers, within the limit (positional, as C03's `HdrsOk`: nothing is asked of a block in the
    other position); the loop bound of the `body` call is at least the model's own `fsFuel`.
    Still inherited from C03's `documented`: within stream `j` itself the deliveries precede the
    polls — `C07_healthy_stream_delivers_polled` removes that. -/
theorem C07_healthy_stream_delivers (cfg : Cfg) (hist : List HEv) (hs : StreamScoped cfg hist) (j : Nat)
    (cs : List ReqRecv.Bytes) (fuel : Nat) (h : ReqRecv.Bytes) (ds : List ReqRecv.Bytes) (tr : Option ReqRecv.Bytes)
    (hj : proj j hist = (cs.map Peer.chunk ++ [Peer.fin]).map StreamEv.peer ++ [.call .head, .call (.body fuel)])
    (hne : ∀ b ∈ cs, b ≠ [])
    (hmsg : H3.FS.run H3.FS.frameDec (.hdr []) cs.flatten = (.hdr [], msgToks h ds tr))
    (hlen : ∀ d ∈ ds, d.length < H3.FS.USIZE_MAX)
    (hh : cfg.hdr.head h = .ok) (hT : ∀ t, tr = some t → cfg.hdr.trailer t = .ok)
    (hfuel : fsFuel ({}, cs.map H3.FS.Ev.chunk ++ [H3.FS.Ev.fin]) ≤ fuel) :
    ∃ rs : List Res,
      obsOf j (run cfg {} hist).2 =
        List.replicate (cs.length + 1) .quiet ++
          [.ans (.res (.head h)),
           .body rs (some (.res (trRes tr)))] ∧
      bodyBytes rs = ds.flatten ∧ rs.getLast? = some .end_ ∧
      ((run cfg {} hist).1.get j).rx.env.rst = none ∧
      (run cfg {} hist).1.cell = none ∧ (run cfg {} hist).1.closed = [] := by
  have hacc := chunked_outcome_fin_fuel cfg.role cfg.hdr.base (cs.map H3.FS.Ev.chunk) [] fuel
    (onlyChunks_map cs) (scriptOK_chunks_fin cs hne)
    (by rw [evBytes_chunks]; exact noRaw_of_msgToks _ _ h ds tr hmsg hlen)
    (by
      rw [evBytes_chunks, hmsg, kindsOf_msgToks]
      exact hdrsOkK_msgKinds _ h ds tr (base_of_ok hh) (fun t ht => base_of_ok (hT t ht)))
    (by rw [evBytes_chunks, hmsg]) hfuel
  rw [evBytes_chunks, hmsg, kindsOf_msgToks, spec_msgKinds] at hacc
  simp only [H3.Spec.ReqSeq.Expect.accepts, List.mem_singleton] at hacc
  rw [← fsScript_chunks_fin] at hacc
  have hres := healthy_of_outcome cfg hist hs j (cs.map Peer.chunk ++ [Peer.fin]) fuel hj h ds.flatten tr hacc
    (by rw [hh]; simp)
    (by intro t ht; rw [hT t ht]; simp)
  simpa using hres

/-- **C07 composed with C03, conditional on the frame-layer interface** (`FrameSim` is a hypothesis;
    `C07_healthy_stream_delivers` proves the same conclusion without it).  A healthy
    stream `j` of such a history — its own events are: the peer delivers `ps` (any chunking), then
    the application runs the documented receive pattern (head, then the body loop and the trailers)
    — where the bytes delivered are, for the frame layer, a frame sequence `toks` ended by FIN that
    is a valid message `U* H (U|D)* (H U*)?` within the size limit: stream `j`'s application is
    given the head, then as body exactly the concatenation of the DATA payloads of ITS stream, in
    order, each byte once, then the end of the body, then the trailers iff present; h3 resets
    nothing on it; the cell is empty and `close` was never called — whatever happened on the other
    streams, in whatever interleaving with them.

    Gaps against the full statement: (1) `FrameSim` — that the `FrameStream` model hands the request
    layer the frames of the bytes — is a hypothesis here (closed in `C07_healthy_stream_delivers`);
    (2) within stream `j` itself the deliveries precede the polls (closed in
    `C07_healthy_stream_delivers_polled`). -/
theorem C07_healthy_stream_delivers_partial (cfg : Cfg) (hist : List HEv) (hs : StreamScoped cfg hist) (j : Nat)
    (ps : List Peer) (fuel : Nat)
    (hj : proj j hist = ps.map .peer ++ [.call .head, .call (.body fuel)])
    {R : FSt → TS → Prop} (sim : FrameSim fsSrc tokSrc R) (toks : List Tok)
    (hR : R ({}, fsScript ps) (TS.ofToks toks .fin))
    (pre mid post : List Tok) (h : ReqRecv.Bytes) (tr : Option ReqRecv.Bytes)
    (hpre : ∀ t ∈ pre, isU t = true) (hmid : ∀ t ∈ mid, isUD t = true) (hpost : ∀ t ∈ post, isU t = true)
    (htoks : toks = pre ++ .headers h :: (mid ++ (match tr with | none => [] | some t => .headers t :: post)))
    (hwf : ∀ tok ∈ toks, TokWF tok ∧ HdrOk cfg.hdr.base tok) (hfuel : answers toks .fin + 2 ≤ fuel)
    (hh : cfg.hdr.head h ≠ .tooBig) (htr : ∀ t, tr = some t → cfg.hdr.trailer t ≠ .tooBig) :
    ∃ rs : List Res,
      obsOf j (run cfg {} hist).2 =
        List.replicate ps.length .quiet ++
          [.ans (.res (.head h)),
           .body rs (some (.res (trRes tr)))] ∧
      bodyBytes rs = payloads mid ∧ rs.getLast? = some .end_ ∧
      ((run cfg {} hist).1.get j).rx.env.rst = none ∧
      (run cfg {} hist).1.cell = none ∧ (run cfg {} hist).1.closed = [] := by
  -- C03: the documented pattern over the chunks is the one over the frames, which delivers
  have hwf1 : ∀ tok ∈ toks, TokWF tok := fun t ht => (hwf t ht).1
  have hlift := (C03_lifted_to_chunks fsSrc R sim cfg.role cfg.hdr.base ({}, fsScript ps) toks .fin fuel hR hwf1
    (hdrsOk_of_hdrOk _ _ (fun t ht => (hwf t ht).2)) hfuel).1
  have hdel := C03_valid_message_delivered cfg.role cfg.hdr.base pre mid post h tr fuel hpre hmid hpost toks htoks
    hwf1 (hwf (.headers h) (by rw [htoks]; simp)).2.1
    (fun t ht => (hwf (.headers t) (by rw [htoks, ht]; simp)).2.2) hfuel
  rw [← hlift] at hdel
  have hdel' : observe (documented cfg.role fsSrc cfg.hdr.base fuel { src := ({}, fsScript ps) }) =
      { calls := [.head h, .body (payloads mid), .bodyEnd, trObs tr]
        connError := none, streamReset := none } := by
    cases tr <;> exact hdel
  exact healthy_of_outcome cfg hist hs j ps fuel hj h (payloads mid) tr hdel' hh htr

/-! #### the stream's own polls interleaved with its own deliveries

The realistic schedule: the application's task is polled, answers `Pending`, more bytes arrive, it
is polled again.  `follows cfg fuel .head none {} evs` (decidable): every call among the events
`evs` of the stream is the one the documented pattern makes at that point, given what the
application has been answered so far — `resolve_request`/`recv_response` polled until it answers,
then the body task (`recv_data` until it answers something else than data, `recv_trailers` after a
clean end) polled until it completes, nothing after —, peer events anywhere in between.
`digest obs`: what the application has been given, the `Pending` answers left out. -/

/-- **C07, a healthy stream under every schedule of its own task** (`C07_healthy_stream_delivers`
    without its order "within stream `j` the deliveries precede the polls").  A healthy stream `j` of ANY history in which no stream is
    told a connection-level error: its transport events are the bytes of a valid message cut into
    non-empty chunks `cs` in any way, then FIN; its application follows the documented receive
    pattern, every call polled again while it answers `Pending`; deliveries and polls of `j` are
    interleaved in ANY way (and with every other stream's events, faults and driver polls); the last
    poll of the body task comes after FIN.  Then, the `Pending` answers left out, `j`'s application
    has been given: the head `h`, once; by the `recv_data` calls pieces `ps` with
    `ps.flatten = ds.flatten` — exactly the DATA payloads of ITS stream, in order, each byte once —
    then the end of the body, once; by `recv_trailers` the trailers iff present; no error; h3 has
    neither reset nor stopped the stream; the cell is empty, `close` was never called.  This is the
    digest of the run with all deliveries first (`C07_healthy_stream_delivers`), for every schedule.

    Hypotheses that remain: chunks non-empty; no DATA frame of `usize::MAX` bytes; the oracle accepts
    the head block as a head and the trailer block as trailers, within the limit (nothing is asked
    about the blocks in the other position); the loop bound of a `body` poll exceeds the number of
    frame-layer tokens of the message. -/
theorem C07_healthy_stream_delivers_polled (cfg : Cfg) (hist : List HEv) (hs : StreamScoped cfg hist) (j : Nat)
    (cs : List ReqRecv.Bytes) (fuel : Nat) (h : ReqRecv.Bytes) (ds : List ReqRecv.Bytes) (tr : Option ReqRecv.Bytes)
    (hpeers : peersOf (proj j hist) = cs.map Peer.chunk ++ [Peer.fin])
    (hfollow : follows cfg fuel .head none {} (proj j hist) = true)
    (hlast : (proj j hist).getLast? = some (.call (.body fuel)))
    (hne : ∀ b ∈ cs, b ≠ [])
    (hmsg : H3.FS.run H3.FS.frameDec (.hdr []) cs.flatten = (.hdr [], msgToks h ds tr))
    (hlen : ∀ d ∈ ds, d.length < H3.FS.USIZE_MAX)
    (hh : cfg.hdr.head h = .ok) (hT : ∀ t, tr = some t → cfg.hdr.trailer t = .ok)
    (hfuel : (msgToks h ds tr).length < fuel) :
    ∃ ps : List ReqRecv.Bytes, ps.flatten = ds.flatten ∧
      (digest (obsOf j (run cfg {} hist).2)).heads = [.res (.head h)] ∧
      (digest (obsOf j (run cfg {} hist).2)).body = ps.map .data ++ [.end_] ∧
      (digest (obsOf j (run cfg {} hist).2)).trailers = [.res (trRes tr)] ∧
      ((run cfg {} hist).1.get j).rx.env = {} ∧
      (run cfg {} hist).1.cell = none ∧ (run cfg {} hist).1.closed = [] := by
  obtain ⟨hget, hobs, hcell, hclosed⟩ := scoped_view cfg hist hs j
  have hscript : fsScript (peersOf (proj j hist)) = cs.map H3.FS.Ev.chunk ++ [H3.FS.Ev.fin] := by
    rw [hpeers, fsScript_chunks_fin]
  -- from the start of the stream: phase `.head`, nothing delivered, no body bytes, fresh request, empty digest
  obtain ⟨ph', b', _, hr, hgok, hdone⟩ := polled_run ⟨hmsg, noRaw_of_msgToks _ _ h ds tr hmsg hlen⟩ cfg hh hT fuel hfuel
    cs hne rfl (proj j hist) .head [] [] {} {} (rinv_init _ h ds tr) rfl
    (by rw [List.nil_append, hscript]; exact List.prefix_refl _) hfollow
  have hph : ph' = .done := hdone (by rw [List.nil_append, hscript]; simp) hlast
  subst hph
  obtain ⟨h1, ⟨ps, h2, h3⟩, h4⟩ := hgok
  rw [hget, digest, hobs]
  exact ⟨ps, h3, h1, h2, h4, hr.2.1, hcell, hclosed⟩

/-- **... and at every point before that**: whatever part of the stream's events has arrived (`cs`
    is the whole cutting; the events of `j` in `hist` carry a prefix of it, FIN or not), whatever the
    application's task has been polled so far: it has been given nothing, or the head `h` and pieces
    `ps` whose concatenation is a PREFIX of the stream's own DATA payloads `ds.flatten`; the end of
    the body has been reported only with all of them handed over; trailers only after that, and only
    the stream's own; never an error; nothing reset or stopped on `j`; connection open. -/
theorem C07_healthy_stream_prefix_polled (cfg : Cfg) (hist : List HEv) (hs : StreamScoped cfg hist) (j : Nat)
    (cs : List ReqRecv.Bytes) (fuel : Nat) (h : ReqRecv.Bytes) (ds : List ReqRecv.Bytes) (tr : Option ReqRecv.Bytes)
    (hpeers : fsScript (peersOf (proj j hist)) <+: cs.map H3.FS.Ev.chunk ++ [H3.FS.Ev.fin])
    (hfollow : follows cfg fuel .head none {} (proj j hist) = true)
    (hne : ∀ b ∈ cs, b ≠ [])
    (hmsg : H3.FS.run H3.FS.frameDec (.hdr []) cs.flatten = (.hdr [], msgToks h ds tr))
    (hlen : ∀ d ∈ ds, d.length < H3.FS.USIZE_MAX)
    (hh : cfg.hdr.head h = .ok) (hT : ∀ t, tr = some t → cfg.hdr.trailer t = .ok)
    (hfuel : (msgToks h ds tr).length < fuel) :
    let g := digest (obsOf j (run cfg {} hist).2)
    (∃ ps : List ReqRecv.Bytes, ps.flatten <+: ds.flatten ∧
      ((g.heads = [] ∧ g.body = [] ∧ g.trailers = []) ∨
       (g.heads = [.res (.head h)] ∧ g.body = ps.map .data ∧ g.trailers = []) ∨
       (g.heads = [.res (.head h)] ∧ g.body = ps.map .data ++ [.end_] ∧ ps.flatten = ds.flatten ∧
          (g.trailers = [] ∨ g.trailers = [.res (trRes tr)])))) ∧
    ((run cfg {} hist).1.get j).rx.env = {} ∧
    (run cfg {} hist).1.cell = none ∧ (run cfg {} hist).1.closed = [] := by
  intro g
  obtain ⟨hget, hobs, hcell, hclosed⟩ := scoped_view cfg hist hs j
  have hw : Wire cs.flatten (msgToks h ds tr) := ⟨hmsg, noRaw_of_msgToks _ _ h ds tr hmsg hlen⟩
  obtain ⟨ph', b', _, hr, hgok, _⟩ := polled_run hw cfg hh hT fuel hfuel cs hne rfl (proj j hist) .head [] [] {} {}
    (rinv_init _ h ds tr) rfl (by rw [List.nil_append]; exact hpeers) hfollow
  have hpre := rinv_prefix hw hr
  rw [hget]
  have hgd : g = List.foldl Dig.add {} (Req.run cfg none {} (proj j hist)).2.2 := congrArg digest hobs
  rw [hgd]
  refine ⟨?_, hr.2.1, hcell, hclosed⟩
  cases ph' with
  | head =>
    rw [show List.foldl Dig.add {} _ = {} from hgok]
    exact ⟨[], List.nil_prefix, Or.inl ⟨rfl, rfl, rfl⟩⟩
  | body =>
    obtain ⟨h1, ⟨ps, h2, h3⟩, h4⟩ := hgok
    exact ⟨ps, by rw [h3]; exact hpre, Or.inr (Or.inl ⟨h1, h2, h4⟩)⟩
  | trailers =>
    obtain ⟨h1, ⟨ps, h2, h3⟩, h4⟩ := hgok
    exact ⟨ps, by rw [h3]; exact List.prefix_refl _, Or.inr (Or.inr ⟨h1, h2, h3, Or.inl h4⟩)⟩
  | done =>
    obtain ⟨h1, ⟨ps, h2, h3⟩, h4⟩ := hgok
    exact ⟨ps, by rw [h3]; exact List.prefix_refl _, Or.inr (Or.inr ⟨h1, h2, h3, Or.inr h4⟩)⟩

/-- **Neither the cutting nor the schedule of its own task matters.**  Two runs of a healthy stream
    carrying the same message bytes — in different histories, on different stream ids, with
    different neighbours and faults, the bytes cut differently, the task polled at different moments
    (in particular: polled only after everything has arrived, as in `C07_healthy_stream_delivers`,
    versus polled after every chunk) — give the application the same head, the same body bytes and
    the same trailers. -/
theorem C07_healthy_stream_schedule_irrelevant (cfg : Cfg) (hist₁ hist₂ : List HEv)
    (hs₁ : StreamScoped cfg hist₁) (hs₂ : StreamScoped cfg hist₂) (j₁ j₂ : Nat)
    (cs₁ cs₂ : List ReqRecv.Bytes) (fuel₁ fuel₂ : Nat) (h : ReqRecv.Bytes) (ds : List ReqRecv.Bytes) (tr : Option ReqRecv.Bytes)
    (hbytes : cs₂.flatten = cs₁.flatten)
    (hp₁ : peersOf (proj j₁ hist₁) = cs₁.map Peer.chunk ++ [Peer.fin])
    (hp₂ : peersOf (proj j₂ hist₂) = cs₂.map Peer.chunk ++ [Peer.fin])
    (hf₁ : follows cfg fuel₁ .head none {} (proj j₁ hist₁) = true)
    (hf₂ : follows cfg fuel₂ .head none {} (proj j₂ hist₂) = true)
    (hl₁ : (proj j₁ hist₁).getLast? = some (.call (.body fuel₁)))
    (hl₂ : (proj j₂ hist₂).getLast? = some (.call (.body fuel₂)))
    (hne₁ : ∀ b ∈ cs₁, b ≠ []) (hne₂ : ∀ b ∈ cs₂, b ≠ [])
    (hmsg : H3.FS.run H3.FS.frameDec (.hdr []) cs₁.flatten = (.hdr [], msgToks h ds tr))
    (hlen : ∀ d ∈ ds, d.length < H3.FS.USIZE_MAX)
    (hh : cfg.hdr.head h = .ok) (hT : ∀ t, tr = some t → cfg.hdr.trailer t = .ok)
    (hfuel₁ : (msgToks h ds tr).length < fuel₁) (hfuel₂ : (msgToks h ds tr).length < fuel₂) :
    let g₁ := digest (obsOf j₁ (run cfg {} hist₁).2)
    let g₂ := digest (obsOf j₂ (run cfg {} hist₂).2)
    g₁.heads = g₂.heads ∧ bodyBytes g₁.body = bodyBytes g₂.body ∧ g₁.trailers = g₂.trailers := by
  intro g₁ g₂
  obtain ⟨ps₁, a1, a2, a3, a4, _⟩ := C07_healthy_stream_delivers_polled cfg hist₁ hs₁ j₁ cs₁ fuel₁ h ds tr hp₁ hf₁ hl₁
    hne₁ hmsg hlen hh hT hfuel₁
  obtain ⟨ps₂, b1, b2, b3, b4, _⟩ := C07_healthy_stream_delivers_polled cfg hist₂ hs₂ j₂ cs₂ fuel₂ h ds tr hp₂ hf₂ hl₂
    hne₂ (by rw [hbytes]; exact hmsg) hlen hh hT hfuel₂
  refine ⟨a2.trans b2.symm, ?_, a4.trans b4.symm⟩
  show bodyBytes (digest _).body = bodyBytes (digest _).body
  rw [a3, b3, bodyBytes_data_append, bodyBytes_data_append, a1, b1]

/-- **Polled again after every `Pending` = everything delivered first.**  Stream `j₁` of `hist₁`:
    deliveries and polls of the documented pattern interleaved in ANY way (as in
    `C07_healthy_stream_delivers_polled`).  Stream `j₂` of `hist₂`: the same bytes (cut the same way or
    another), all delivered before the head call and the body task are polled once each (the schedule
    of `C07_healthy_stream_delivers`; that it follows the pattern is `follows_delivered_first`: with
    FIN there the head call answers at once).  The two applications are given the same head, the same
    body bytes, the same trailers. -/
theorem C07_healthy_stream_polled_as_delivered_first (cfg : Cfg) (hist₁ hist₂ : List HEv)
    (hs₁ : StreamScoped cfg hist₁) (hs₂ : StreamScoped cfg hist₂) (j₁ j₂ : Nat)
    (cs₁ cs₂ : List ReqRecv.Bytes) (fuel₁ fuel₂ : Nat) (h : ReqRecv.Bytes) (ds : List ReqRecv.Bytes) (tr : Option ReqRecv.Bytes)
    (hbytes : cs₂.flatten = cs₁.flatten)
    (hp₁ : peersOf (proj j₁ hist₁) = cs₁.map Peer.chunk ++ [Peer.fin])
    (hf₁ : follows cfg fuel₁ .head none {} (proj j₁ hist₁) = true)
    (hl₁ : (proj j₁ hist₁).getLast? = some (.call (.body fuel₁)))
    (hj₂ : proj j₂ hist₂ =
      (cs₂.map Peer.chunk ++ [Peer.fin]).map StreamEv.peer ++ [.call .head, .call (.body fuel₂)])
    (hne₁ : ∀ b ∈ cs₁, b ≠ []) (hne₂ : ∀ b ∈ cs₂, b ≠ [])
    (hmsg : H3.FS.run H3.FS.frameDec (.hdr []) cs₁.flatten = (.hdr [], msgToks h ds tr))
    (hlen : ∀ d ∈ ds, d.length < H3.FS.USIZE_MAX)
    (hh : cfg.hdr.head h = .ok) (hT : ∀ t, tr = some t → cfg.hdr.trailer t = .ok)
    (hfuel₁ : (msgToks h ds tr).length < fuel₁) (hfuel₂ : (msgToks h ds tr).length < fuel₂) :
    let g₁ := digest (obsOf j₁ (run cfg {} hist₁).2)
    let g₂ := digest (obsOf j₂ (run cfg {} hist₂).2)
    g₁.heads = g₂.heads ∧ bodyBytes g₁.body = bodyBytes g₂.body ∧ g₁.trailers = g₂.trailers := by
  have hw₂ : Wire cs₂.flatten (msgToks h ds tr) := by
    rw [hbytes]; exact ⟨hmsg, noRaw_of_msgToks _ _ h ds tr hmsg hlen⟩
  exact C07_healthy_stream_schedule_irrelevant cfg hist₁ hist₂ hs₁ hs₂ j₁ j₂ cs₁ cs₂ fuel₁ fuel₂ h ds tr hbytes hp₁
    (by rw [hj₂]; exact peersOf_peers_calls _ [.head, .body fuel₂]) hf₁
    (by rw [hj₂]; exact follows_delivered_first hw₂ cfg hh fuel₂ cs₂ hne₂ rfl) hl₁
    (by rw [hj₂]; simp) hne₁ hne₂ hmsg hlen hh hT hfuel₁ hfuel₂

end Healthy

/-! ### non-vacuity

`hist₃`: three concurrent requests, one RESET, one malformed, interleaved; after it one state or history per fault
class, the contrast (`histBad`), the healthy-stream theorems on concrete cuttings and schedules, `DocStream` instances. -/

/-- header oracle of the examples: block `ee` is a validly encoded malformed message, `ff` is over
    the limit, `fe` does not decode; everything else is fine -/
def hdr₃ : Hdr where
  head := fun b => if b = [0xee] then .malformed else if b = [0xff] then .tooBig else if b = [0xfe] then .qpack else .ok
  trailer := fun b => if b = [0xee] then .malformed else if b = [0xff] then .tooBig else .ok

def srv : Cfg := { role := .server, hdr := hdr₃ }
def cli : Cfg := { role := .client, hdr := hdr₃ }

def on (sid : Nat) (ev : StreamEv) : HEv := .on sid ev
def chunk (sid : Nat) (b : Bytes) : HEv := .on sid (.peer (.chunk b))

/-- stream 0 healthy (the message of C03's `script₁`: HEADERS aa bb, DATA(0), DATA c1 c2 cut in two,
    a grease frame, FIN), stream 4 reset with code 7 inside its second DATA payload after the
    application has begun to read, stream 8 a malformed head; events interleaved, driver polls in
    between -/
def hist₃ : List HEv :=
  [ chunk 0 [0x01, 0x02, 0xaa, 0xbb, 0x00, 0x00, 0x00],
    chunk 4 [0x01, 0x02, 0xaa, 0xbb, 0x00, 0x01, 0x31, 0x00, 0x05, 0x32],
    chunk 8 [0x01, 0x01],
    on 4 (.call .head),
    .drive,
    chunk 0 [0x02, 0xc1],
    on 8 (.call .head),
    on 4 (.call (.body 20)),
    chunk 8 [0xee, 0x00, 0x01, 0x55],
    on 8 (.peer .fin),
    on 4 (.peer (.reset 7)),
    chunk 0 [0xc2, 0x21, 0x00],
    on 8 (.call .head),
    on 4 (.call (.body 20)),
    .drive,
    on 0 (.peer .fin),
    on 8 (.call .data),
    on 0 (.call .head),
    on 4 (.call (.sendHead [0x00, 0x00, 0xd9])),
    on 0 (.call (.body 20)),
    on 0 (.call (.sendHead [0x00, 0x00, 0xd9])),
    on 0 (.call (.sendData [0x68, 0x69])),
    on 0 (.call .finish),
    .drive ]

/-- evaluated once; several examples below use it -/
theorem hist₃_scoped : StreamScoped srv hist₃ := by decide +kernel

example : StreamScoped srv hist₃ := hist₃_scoped

-- the healthy stream: head, the two body bytes of ITS stream, end, no trailers; its reply written
example : obsOf 0 (run srv {} hist₃).2 =
    [.quiet, .quiet, .quiet, .quiet, .ans (.res (.head [0xaa, 0xbb])),
     .body [.data [0xc1], .data [0xc2], .end_] (some (.res .noTrailers)), .ok, .ok, .ok] :=
  (scoped_view srv hist₃ hist₃_scoped 0).2.1.trans (by decide +kernel)
example : ((run srv {} hist₃).1.get 0).snd =
    { tx := [0x01, 0x03, 0x00, 0x00, 0xd9, 0x00, 0x02, 0x68, 0x69], stopped := none, fin := true } := by
  rw [(scoped_view srv hist₃ hist₃_scoped 0).1]; decide +kernel
-- the reset stream: what it had read, then RemoteTerminate{7}; nothing sent against it
example : obsOf 4 (run srv {} hist₃).2 =
    [.quiet, .ans (.res (.head [0xaa, 0xbb])), .body [.data [0x31], .data [0x32], .pending] none, .quiet,
     .body [.errReset 7] none, .ok] := (scoped_view srv hist₃ hist₃_scoped 4).2.1.trans (by decide +kernel)
example : ((run srv {} hist₃).1.get 4).rx.env = {} := by
  rw [(scoped_view srv hist₃ hist₃_scoped 4).1]; decide +kernel
-- the malformed stream: pending, then H3_MESSAGE_ERROR, reset and stop with that code, handle gone
example : obsOf 8 (run srv {} hist₃).2 =
    [.quiet, .ans (.res .pending), .quiet, .quiet, .ans (.res (.errStream 270)), .noHandle] :=
  (scoped_view srv hist₃ hist₃_scoped 8).2.1.trans (by decide +kernel)
example : ((run srv {} hist₃).1.get 8).rx.env = { cell := none, rst := some 270, stop := some 270 } := by
  rw [(scoped_view srv hist₃ hist₃_scoped 8).1]; decide +kernel
example : (run srv {} hist₃).1.cell = none ∧ (run srv {} hist₃).1.closed = [] :=
  (scoped_view srv hist₃ hist₃_scoped 0).2.2
-- … and from stream 0 the run looks like the one without streams 4 and 8
example : view 0 (run srv {} hist₃) = view 0 (run srv {} (without (fun s => s == 4 || s == 8) hist₃)) :=
  (C07_neighbours_unaffected srv hist₃ hist₃_scoped 0).2.2.1 _ rfl

/-! every interleaving: the same events, the streams served one after the other instead -/
def hist₃seq : List HEv :=
  (only 8 hist₃ ++ [.drive] ++ only 0 hist₃ ++ only 4 hist₃)

example : hist₃seq ≠ hist₃ := by decide +kernel
theorem hist₃seq_proj (k : Nat) : proj k hist₃ = proj k hist₃seq := by
  have hs : ∀ i ∈ sidsOf hist₃, i = 8 ∨ i = 0 ∨ i = 4 := by decide +kernel
  have hd : proj k [HEv.drive] = [] := rfl
  simp only [hist₃seq, proj_append, proj_only, hd, List.append_nil]
  by_cases h : k = 8 ∨ k = 0 ∨ k = 4
  · rcases h with rfl | rfl | rfl <;> simp
  · rw [proj_nil_of_not_mem k hist₃ (fun hk => h (hs k hk))]
    have h8 : ¬ 8 = k := fun e => h (Or.inl e.symm)
    have h0 : ¬ 0 = k := fun e => h (Or.inr (Or.inl e.symm))
    have h4 : ¬ 4 = k := fun e => h (Or.inr (Or.inr e.symm))
    simp [h8, h0, h4]
example : ∀ j ∈ [0, 4, 8, 12], view j (run srv {} hist₃) = view j (run srv {} hist₃seq) :=
  fun j _ => (C07_interleaving_irrelevant srv hist₃ hist₃seq hist₃_scoped hist₃seq_proj).1 j
example (j : Nat) : view j (run srv {} hist₃) = view j (run srv {} hist₃seq) :=
  (C07_interleaving_irrelevant srv hist₃ hist₃seq hist₃_scoped hist₃seq_proj).1 j
-- at every point of the history the connection is open
example : ∀ n ∈ List.range 25, (run srv {} (hist₃.take n)).1.cell = none ∧ (run srv {} (hist₃.take n)).1.closed = [] :=
  fun n _ => C07_connection_stays_open srv hist₃ hist₃_scoped _ _ (List.take_append_drop n hist₃).symm
example : (run srv {} (hist₃.take 13)).1.closed = [] :=
  (C07_connection_stays_open srv hist₃ hist₃_scoped (hist₃.take 13) (hist₃.drop 13)
    (List.take_append_drop 13 hist₃).symm).2

/-! the fault transitions are transitions of reachable states -/

/-- after the RESET has arrived on stream 4 (the body task has read `31 32` and is waiting inside
    the second DATA payload) -/
def c₁ : Conn := (run srv {} (hist₃.take 11)).1

example : FaultStep srv (c₁.get 4) (.call .data) (.ans (.res (.errReset 7))) :=
  .resetData _ (c₁.get 4).rx.src.1 7 [] (by decide +kernel) (by decide +kernel) (by decide +kernel)
example : (c₁.get 4).rx.src.1.remaining = 4 := by decide +kernel
theorem c₁_malformed : FaultStep srv (c₁.get 8) (.call .head) (.ans (.res (.errStream 270))) :=
  .malformedHead _ [0xee] (fsSrc.pollNext (c₁.get 8).rx.src).2 (by decide +kernel) (by decide +kernel)
    (by decide +kernel)

example : FaultStep srv (c₁.get 8) (.call .head) (.ans (.res (.errStream 270))) := c₁_malformed
example : (step srv c₁ (8, .call .head)).2 = .ans (.res (.errStream 270)) ∧
    (step srv c₁ (8, .call .head)).1.cell = none ∧ (step srv c₁ (8, .call .head)).1.get 0 = c₁.get 0 :=
  let h := C07_stream_fault_is_local srv c₁ 8 (.call .head) _ c₁_malformed
  ⟨h.1, h.2.2.1.trans (by decide +kernel), h.2.2.2.2.2 0 (by decide)⟩

-- the same RESET met by the documented body loop
example : FaultStep srv (c₁.get 4) (.call (.body 20)) (.body [.errReset 7] none) :=
  .resetBody _ (c₁.get 4).rx.src.1 7 [] 19 (by decide +kernel) (by decide +kernel) (by decide +kernel)
    (by decide +kernel)

/-- a RESET after the trailers' frame, met by the body task waiting inside `recv_trailers` -/
def c₃ : Conn :=
  (run srv {} [chunk 20 [0x01, 0x01, 0xaa, 0x01, 0x01, 0xab], on 20 (.call .head), on 20 (.call (.body 9)),
               on 20 (.peer (.reset 3))]).1

example : (c₃.get 20).atTrailers = true ∧ (c₃.get 20).rx.trailers = some [0xab] := by decide +kernel
example : FaultStep srv (c₃.get 20) (.call (.body 9)) (.body [] (some (.res (.errReset 3)))) :=
  .bodyAtTrailers _ _ 9
    (.resetTrailers _ (c₃.get 20).rx.src.1 3 [] (by decide +kernel) (by decide +kernel) (by decide +kernel)
      (by decide +kernel))
    (by decide +kernel) (by decide +kernel)
example : (step srv c₃ (20, .call (.body 9))).2 = .body [] (some (.res (.errReset 3))) := by decide +kernel

/-- malformed trailers (block `ee`), met by the body task inside `recv_trailers` once FIN arrives -/
def c₄ : Conn :=
  (run srv {} [chunk 24 [0x01, 0x01, 0xaa, 0x01, 0x01, 0xee], on 24 (.call .head), on 24 (.call (.body 9)),
               on 24 (.peer .fin)]).1

example : FaultStep srv (c₄.get 24) (.call (.body 9)) (.body [] (some (.res (.errStream 270)))) :=
  .bodyAtTrailers _ _ 9
    (.malformedTrailersFin _ [0xee] (fsSrc.pollNext (c₄.get 24).rx.src).2 (by decide +kernel) (by decide +kernel)
      (by decide +kernel) (by decide +kernel) (by decide +kernel))
    (by decide +kernel) (by decide +kernel)
example : ((step srv c₄ (24, .call (.body 9))).1.get 24).rx.env = { cell := none, rst := none, stop := some 270 } := by
  decide +kernel

/-- FIN before HEADERS (stream 12); an oversized request (stream 16) -/
def c₂ : Conn := (run srv {} [on 12 (.peer .fin), chunk 16 [0x01, 0x01, 0xff, 0x00]]).1

example : FaultStep srv (c₂.get 12) (.call .head) (.ans (.res (.errStream 269))) :=
  .finFirst _ (fsSrc.pollNext (c₂.get 12).rx.src).2 rfl (by decide +kernel) (by decide +kernel)
example : FaultStep srv (c₂.get 16) (.call .head) (.ans .tooBig) :=
  .tooBigHeadServer _ [0xff] (fsSrc.pollNext (c₂.get 16).rx.src).2 _ _ rfl (by decide +kernel) (by decide +kernel)
    rfl rfl (by decide +kernel) (by decide +kernel) (by decide +kernel) (by decide +kernel)
example : (run srv c₂ [on 12 (.call .head), on 16 (.call .head), .drive]).2 =
    [(12, .ans (.res (.errStream 269))), (16, .ans .tooBig)] := by decide +kernel
example : ((run srv c₂ [on 12 (.call .head), on 16 (.call .head), .drive]).1.get 16).snd.tx =
    [0x01, 0x08, 0x00, 0x00, 0x5f, 0x09, 0x83, 0x69, 0x90, 0xff] := by decide +kernel
example : ((run srv c₂ [on 12 (.call .head), on 16 (.call .head), .drive]).1.get 12).rx.env.rst = some 269 := by
  decide +kernel
example : (run srv c₂ [on 12 (.call .head), on 16 (.call .head), .drive]).1.closed = [] := by decide +kernel

/-- client: an oversized response on request 0; STOP_SENDING (code 9) on request 4, met by its next `send_data` -/
def histC : List HEv :=
  [ on 0 (.call (.sendHead [0x00, 0x00, 0xd1])), on 4 (.call (.sendHead [0x00, 0x00, 0xd1])),
    on 4 (.peer (.stop 9)), chunk 0 [0x01, 0x01, 0xff], on 4 (.call (.sendData [1, 2, 3])),
    chunk 4 [0x01, 0x01, 0xaa, 0x00, 0x01, 0x07], on 0 (.call .head), on 4 (.peer .fin), on 4 (.call .head),
    on 4 (.call (.body 9)), on 4 (.call .finish), .drive ]
example : StreamScoped cli histC := by decide +kernel
example : (run cli {} histC).2 =
    [(0, .ok), (4, .ok), (4, .quiet), (0, .quiet), (4, .ans (.res (.errReset 9))), (4, .quiet), (0, .ans .tooBig),
     (4, .quiet), (4, .ans (.res (.head [0xaa]))), (4, .body [.data [7], .end_] (some (.res .noTrailers))), (4, .ok)] := by
  decide +kernel
example : ((run cli {} histC).1.get 0).rx.env.stop = some 268 := by decide +kernel
example : FaultStep cli ((run cli {} (histC.take 4)).1.get 4) (.call (.sendData [1, 2, 3])) (.ans (.res (.errReset 9))) :=
  .stopSend _ 9 _ (by decide +kernel) (by decide +kernel) rfl (by decide +kernel)

/-- client: the response stream of request 0 ends before any HEADERS while request 4 is answered -/
def histF : List HEv :=
  [ on 0 (.call (.sendHead [0x00, 0x00, 0xd1])), on 4 (.call (.sendHead [0x00, 0x00, 0xd1])), on 0 (.peer .fin),
    chunk 4 [0x01, 0x01, 0xaa, 0x00, 0x01, 0x07], on 0 (.call .head), .drive, on 4 (.peer .fin), on 4 (.call .head),
    on 4 (.call (.body 9)), .drive ]
example : FaultStep cli ((run cli {} (histF.take 4)).1.get 0) (.call .head) (.ans (.res (.errStream 270))) :=
  .finFirstClient _ (fsSrc.pollNext ((run cli {} (histF.take 4)).1.get 0).rx.src).2 rfl (by decide +kernel)
    (by decide +kernel)
example : StreamScoped cli histF := by decide +kernel
example : (run cli {} histF).2 =
    [(0, .ok), (4, .ok), (0, .quiet), (4, .quiet), (0, .ans (.res (.errStream 270))), (4, .quiet),
     (4, .ans (.res (.head [0xaa]))), (4, .body [.data [7], .end_] (some (.res .noTrailers)))] := by decide +kernel
example : ((run cli {} histF).1.get 0).rx.env = {} ∧ (run cli {} histF).1.closed = [] := by decide +kernel

/-! the contrast: a connection-level protocol violation (DATA before HEADERS) is NOT stream-scoped:
    the cell is written and the driver closes the connection with H3_FRAME_UNEXPECTED (the
    neighbour's calls still answer from its own stream; it goes down with the connection) -/
def histBad : List HEv :=
  [ chunk 0 [0x01, 0x02, 0xaa, 0xbb], chunk 4 [0x00, 0x01, 0x31], on 4 (.call .head), .drive, on 0 (.call .head),
    on 0 (.call .data) ]
example : ¬ StreamScoped srv histBad := by decide +kernel
example : (run srv {} histBad).2 =
    [(0, .quiet), (4, .quiet), (4, .ans (.res (.errConn 261))), (0, .ans (.res (.head [0xaa, 0xbb]))),
     (0, .ans (.res .pending))] := by decide +kernel
example : (run srv {} histBad).1.cell = some 261 ∧ (run srv {} histBad).1.closed = [261] := by decide +kernel

/-! `C07_healthy_stream_delivers_partial` applies: stream 0 of `hist₃` up to its `body` call carries C03's
    `script₁`, for which the frame-layer interface is established (`C03.simS`) -/
theorem hist₃_take_scoped : StreamScoped srv (hist₃.take 20) :=
  streamScoped_prefix srv _ (hist₃.drop 20) ((List.take_append_drop 20 hist₃).symm ▸ hist₃_scoped)

section
open H3.ReqRecv H3.Props.C03
def ps₀ : List Peer :=
  [.chunk [0x01, 0x02, 0xaa, 0xbb, 0x00, 0x00, 0x00], .chunk [0x02, 0xc1], .chunk [0xc2, 0x21, 0x00], .fin]

example : ∃ rs : List Res,
    obsOf 0 (run srv {} (hist₃.take 20)).2 =
      List.replicate 4 .quiet ++ [.ans (.res (.head [0xaa, 0xbb])), .body rs (some (.res .noTrailers))] ∧
    bodyBytes rs = [0xc1, 0xc2] ∧ rs.getLast? = some .end_ ∧
    ((run srv {} (hist₃.take 20)).1.get 0).rx.env.rst = none ∧
    (run srv {} (hist₃.take 20)).1.cell = none ∧ (run srv {} (hist₃.take 20)).1.closed = [] :=
  C07_healthy_stream_delivers_partial srv (hist₃.take 20) hist₃_take_scoped 0 ps₀ 20 (by decide +kernel) simS toksS
    (by decide +kernel) [] [.data 0 [], .data 2 [[0xc1], [0xc2]], .unknown 0x21 []] [] [0xaa, 0xbb] none
    (by simp) (by decide) (by simp) rfl (by simp [toksS, TokWF, HdrOk, Hdr.base, srv, hdr₃, HClass.base])
    (by decide) (by decide) (by simp)
end

/-! `C07_healthy_stream_delivers` applies to stream 0 of the same three-stream history (stream 4 RESET
    with code 7 inside a DATA payload, stream 8 a malformed head, driver polls in between): every
    hypothesis is a decidable statement about stream 0's own twelve bytes — no frame-layer interface
    is assumed.  `cs₀` is ONE cutting of these bytes; the theorem holds for every cutting. -/
section
open H3.ReqRecv
def cs₀ : List ReqRecv.Bytes := [[0x01, 0x02, 0xaa, 0xbb, 0x00, 0x00, 0x00], [0x02, 0xc1], [0xc2, 0x21, 0x00]]

theorem hist₃_take_proj : proj 0 (hist₃.take 20) =
    (cs₀.map Peer.chunk ++ [Peer.fin]).map StreamEv.peer ++ [.call .head, .call (.body 20)] := by decide +kernel

theorem msg₀ :
    H3.FS.run H3.FS.frameDec (.hdr []) cs₀.flatten = (.hdr [], msgToks [0xaa, 0xbb] [[], [0xc1, 0xc2]] none) := by
  decide +kernel

example : H3.FS.run H3.FS.frameDec (.hdr []) cs₀.flatten = (.hdr [], msgToks [0xaa, 0xbb] [[], [0xc1, 0xc2]] none) :=
  msg₀

example : ∃ rs : List Res,
    obsOf 0 (run srv {} (hist₃.take 20)).2 =
      List.replicate 4 .quiet ++ [.ans (.res (.head [0xaa, 0xbb])), .body rs (some (.res .noTrailers))] ∧
    bodyBytes rs = [0xc1, 0xc2] ∧ rs.getLast? = some .end_ ∧
    ((run srv {} (hist₃.take 20)).1.get 0).rx.env.rst = none ∧
    (run srv {} (hist₃.take 20)).1.cell = none ∧ (run srv {} (hist₃.take 20)).1.closed = [] :=
  C07_healthy_stream_delivers srv (hist₃.take 20) hist₃_take_scoped 0 cs₀ 20 [0xaa, 0xbb] [[], [0xc1, 0xc2]] none
    hist₃_take_proj (by decide) msg₀ (by decide)
    (by decide) (by intro t ht; cases ht)
    (by decide)

/-- the same bytes cut per byte on stream 0, with trailers `[0xab]` appended, neighbours as before -/
def hist₄ : List HEv :=
  [ chunk 4 [0x01, 0x02, 0xaa, 0xbb, 0x00, 0x05, 0x32], chunk 0 [0x01], chunk 8 [0x01, 0x01, 0xee], chunk 0 [0x02],
    on 4 (.call .head), chunk 0 [0xaa], on 8 (.call .head), chunk 0 [0xbb], .drive, on 4 (.peer (.reset 7)),
    chunk 0 [0x00], chunk 0 [0x02], on 4 (.call (.body 9)), chunk 0 [0xc1], chunk 0 [0xc2], chunk 0 [0x01], chunk 0 [0x01],
    chunk 0 [0xab], on 0 (.peer .fin), .drive, on 0 (.call .head), on 8 (.call .data), on 0 (.call (.body 40)) ]

theorem hist₄_scoped : StreamScoped srv hist₄ := by decide +kernel

example : ∃ rs : List Res,
    obsOf 0 (run srv {} hist₄).2 =
      List.replicate 12 .quiet ++ [.ans (.res (.head [0xaa, 0xbb])), .body rs (some (.res (.trailers [0xab])))] ∧
    bodyBytes rs = [0xc1, 0xc2] ∧ rs.getLast? = some .end_ ∧
    ((run srv {} hist₄).1.get 0).rx.env.rst = none ∧
    (run srv {} hist₄).1.cell = none ∧ (run srv {} hist₄).1.closed = [] :=
  C07_healthy_stream_delivers srv hist₄ hist₄_scoped 0
    [[0x01], [0x02], [0xaa], [0xbb], [0x00], [0x02], [0xc1], [0xc2], [0x01], [0x01], [0xab]] 40 [0xaa, 0xbb]
    [[0xc1, 0xc2]] (some [0xab])
    (by decide +kernel) (by decide) (by decide +kernel) (by decide)
    (by decide) (by intro t ht; simp only [Option.some.injEq] at ht; subst ht; decide)
    (by decide)
example : obsOf 4 (run srv {} hist₄).2 =
    [.quiet, .ans (.res (.head [0xaa, 0xbb])), .quiet, .body [.errReset 7] none] :=
  (scoped_view srv hist₄ hist₄_scoped 4).2.1.trans (by decide +kernel)
example : obsOf 8 (run srv {} hist₄).2 = [.quiet, .ans (.res (.errStream 270)), .noHandle] :=
  (scoped_view srv hist₄ hist₄_scoped 8).2.1.trans (by decide +kernel)

/-! `C07_healthy_stream_delivers_polled`: stream 0's task is polled BETWEEN its deliveries — the head
    call answers `Pending` on a cut frame header, the body task answers `Pending` three times (on a
    cut DATA header, inside a DATA payload, at the grease frame waiting for FIN) — while stream 4 is
    reset inside a DATA payload and stream 8 carries a malformed head. -/
def hist₅ : List HEv :=
  [ chunk 0 [0x01],
    on 0 (.call .head),
    chunk 4 [0x01, 0x02, 0xaa, 0xbb, 0x00, 0x05, 0x32],
    chunk 8 [0x01, 0x01],
    chunk 0 [0x02, 0xaa, 0xbb, 0x00, 0x00, 0x00],
    on 4 (.call .head),
    on 0 (.call .head),
    .drive,
    on 0 (.call (.body 20)),
    chunk 0 [0x02, 0xc1],
    on 8 (.call .head),
    on 0 (.call (.body 20)),
    on 4 (.peer (.reset 7)),
    chunk 0 [0xc2, 0x21, 0x00],
    on 0 (.call (.body 20)),
    chunk 8 [0xee],
    on 8 (.peer .fin),
    on 8 (.call .head),
    on 4 (.call (.body 20)),
    on 0 (.peer .fin),
    .drive,
    on 0 (.call (.body 20)) ]

def cs₅ : List ReqRecv.Bytes := [[0x01], [0x02, 0xaa, 0xbb, 0x00, 0x00, 0x00], [0x02, 0xc1], [0xc2, 0x21, 0x00]]

/-! four facts about `hist₅`, each evaluated once for the examples below -/
theorem hist₅_scoped : StreamScoped srv hist₅ := by decide +kernel

theorem hist₅_peers : peersOf (proj 0 hist₅) = cs₅.map Peer.chunk ++ [Peer.fin] := by decide +kernel

theorem hist₅_follows : follows srv 20 .head none {} (proj 0 hist₅) = true := by decide +kernel

theorem hist₅_last : (proj 0 hist₅).getLast? = some (.call (.body 20)) := by decide +kernel

-- what stream 0's application sees, `Pending` answers included
example : obsOf 0 (run srv {} hist₅).2 =
    [.quiet, .ans (.res .pending), .quiet, .ans (.res (.head [0xaa, 0xbb])), .body [.pending] none, .quiet,
     .body [.data [0xc1], .pending] none, .quiet, .body [.data [0xc2], .pending] none, .quiet,
     .body [.end_] (some (.res .noTrailers))] := (scoped_view srv hist₅ hist₅_scoped 0).2.1.trans (by decide +kernel)
example : follows srv 20 .head none {} (proj 0 hist₅) = true := hist₅_follows
example : obsOf 4 (run srv {} hist₅).2 =
    [.quiet, .ans (.res (.head [0xaa, 0xbb])), .quiet, .body [.errReset 7] none] :=
  (scoped_view srv hist₅ hist₅_scoped 4).2.1.trans (by decide +kernel)
example : obsOf 8 (run srv {} hist₅).2 = [.quiet, .ans (.res .pending), .quiet, .quiet, .ans (.res (.errStream 270))] :=
  (scoped_view srv hist₅ hist₅_scoped 8).2.1.trans (by decide +kernel)

example : ∃ ps : List ReqRecv.Bytes, ps.flatten = [0xc1, 0xc2] ∧
    (digest (obsOf 0 (run srv {} hist₅).2)).heads = [.res (.head [0xaa, 0xbb])] ∧
    (digest (obsOf 0 (run srv {} hist₅).2)).body = ps.map .data ++ [.end_] ∧
    (digest (obsOf 0 (run srv {} hist₅).2)).trailers = [.res .noTrailers] ∧
    ((run srv {} hist₅).1.get 0).rx.env = {} ∧
    (run srv {} hist₅).1.cell = none ∧ (run srv {} hist₅).1.closed = [] :=
  C07_healthy_stream_delivers_polled srv hist₅ hist₅_scoped 0 cs₅ 20 [0xaa, 0xbb] [[], [0xc1, 0xc2]] none
    hist₅_peers hist₅_follows hist₅_last (by decide) msg₀ (by decide)
    (by decide) (by intro t ht; cases ht) (by decide)

-- ... and after every prefix of that history (FIN not there yet, the task in the middle of the body)
example : ∀ n ∈ List.range 23, follows srv 20 .head none {} (proj 0 (hist₅.take n)) = true ∧
    StreamScoped srv (hist₅.take n) := fun n _ =>
  have e := List.take_append_drop n hist₅
  ⟨follows_prefix srv 20 _ (proj 0 (hist₅.drop n)) _ _ _ (by rw [← proj_append, e]; exact hist₅_follows),
    streamScoped_prefix srv _ (hist₅.drop n) (by rw [e]; exact hist₅_scoped)⟩
theorem hist₅_take_scoped : StreamScoped srv (hist₅.take 15) :=
  streamScoped_prefix srv _ (hist₅.drop 15) ((List.take_append_drop 15 hist₅).symm ▸ hist₅_scoped)

example : (digest (obsOf 0 (run srv {} (hist₅.take 15)).2)).body = [.data [0xc1], .data [0xc2]] := by
  rw [(scoped_view srv _ hist₅_take_scoped 0).2.1]; decide +kernel
example :
    let g := digest (obsOf 0 (run srv {} (hist₅.take 15)).2)
    (∃ ps : List ReqRecv.Bytes, ps.flatten <+: [0xc1, 0xc2] ∧
      ((g.heads = [] ∧ g.body = [] ∧ g.trailers = []) ∨
       (g.heads = [.res (.head [0xaa, 0xbb])] ∧ g.body = ps.map .data ∧ g.trailers = []) ∨
       (g.heads = [.res (.head [0xaa, 0xbb])] ∧ g.body = ps.map .data ++ [.end_] ∧ ps.flatten = [0xc1, 0xc2] ∧
          (g.trailers = [] ∨ g.trailers = [.res .noTrailers])))) ∧
    ((run srv {} (hist₅.take 15)).1.get 0).rx.env = {} ∧
    (run srv {} (hist₅.take 15)).1.cell = none ∧ (run srv {} (hist₅.take 15)).1.closed = [] :=
  C07_healthy_stream_prefix_polled srv (hist₅.take 15) hist₅_take_scoped 0 cs₅ 20 [0xaa, 0xbb] [[], [0xc1, 0xc2]] none
    (by decide +kernel) (by decide +kernel) (by decide) msg₀ (by decide)
    (by decide) (by intro t ht; cases ht) (by decide)

-- the polled run of `hist₅` and the deliveries-first run of `hist₃` (another cutting): the same head, body, trailers
example :
    (digest (obsOf 0 (run srv {} (hist₃.take 20)).2)).heads = (digest (obsOf 0 (run srv {} hist₅).2)).heads ∧
    bodyBytes (digest (obsOf 0 (run srv {} (hist₃.take 20)).2)).body = bodyBytes (digest (obsOf 0 (run srv {} hist₅).2)).body ∧
    (digest (obsOf 0 (run srv {} (hist₃.take 20)).2)).trailers = (digest (obsOf 0 (run srv {} hist₅).2)).trailers :=
  C07_healthy_stream_schedule_irrelevant srv (hist₃.take 20) hist₅ hist₃_take_scoped hist₅_scoped 0 0 cs₀ cs₅ 20 20
    [0xaa, 0xbb] [[], [0xc1, 0xc2]] none (by decide) (by decide +kernel) hist₅_peers (by decide +kernel)
    hist₅_follows (by decide +kernel) hist₅_last (by decide) (by decide) msg₀ (by decide)
    (by decide) (by intro t ht; cases ht) (by decide) (by decide)

example :
    (digest (obsOf 0 (run srv {} hist₅).2)).heads = (digest (obsOf 0 (run srv {} (hist₃.take 20)).2)).heads ∧
    bodyBytes (digest (obsOf 0 (run srv {} hist₅).2)).body = bodyBytes (digest (obsOf 0 (run srv {} (hist₃.take 20)).2)).body ∧
    (digest (obsOf 0 (run srv {} hist₅).2)).trailers = (digest (obsOf 0 (run srv {} (hist₃.take 20)).2)).trailers :=
  C07_healthy_stream_polled_as_delivered_first srv hist₅ (hist₃.take 20) hist₅_scoped hist₃_take_scoped 0 0 cs₅ cs₀ 20 20
    [0xaa, 0xbb] [[], [0xc1, 0xc2]] none (by decide) hist₅_peers hist₅_follows hist₅_last
    hist₃_take_proj (by decide) (by decide) msg₀ (by decide)
    (by decide) (by intro t ht; cases ht) (by decide) (by decide)

/-! the whole-history theorems apply to `hist₅` with NO hypothesis about the run: each of its three streams
    is a stream of the quantifier — stream 0 a valid message polled between its deliveries, stream 4 RESET
    with code 7 inside its DATA payload (`w` = what was delivered plus the four payload bytes that never
    came), stream 8 a validly encoded malformed head -/
theorem doc₅_0 : DocStream srv (proj 0 hist₅) :=
  docStream_of_message srv _ cs₅.flatten [0xaa, 0xbb] [[], [0xc1, 0xc2]] none msg₀ (by decide) (by decide)
    (by intro t ht; cases ht) (Or.inl ⟨cs₅, by decide, Or.inr ⟨by rw [hist₅_peers, fsScript_chunks_fin], rfl⟩⟩)
    (by decide +kernel)

theorem doc₅_4 : DocStream srv (proj 4 hist₅) :=
  docStream_of_message srv _ [0x01, 0x02, 0xaa, 0xbb, 0x00, 0x05, 0x32, 0, 0, 0, 0] [0xaa, 0xbb] [[0x32, 0, 0, 0, 0]] none
    (by decide +kernel) (by decide) (by decide) (by intro t ht; cases ht)
    (Or.inr ⟨7, [[0x01, 0x02, 0xaa, 0xbb, 0x00, 0x05, 0x32]], by decide, by decide +kernel, by decide +kernel⟩)
    (by decide +kernel)

theorem doc₅_8 : DocStream srv (proj 8 hist₅) :=
  docStream_of_message srv _ [0x01, 0x01, 0xee] [0xee] [] none (by decide +kernel) (by decide) (by decide)
    (by intro t ht; cases ht) (Or.inl ⟨[[0x01, 0x01], [0xee]], by decide, Or.inr ⟨by decide +kernel, rfl⟩⟩)
    (by decide +kernel)

theorem hist₅_documented : ∀ i ∈ sidsOf hist₅, DocStream srv (proj i hist₅) := by
  intro i hi
  have h3 : ∀ i ∈ sidsOf hist₅, i = 0 ∨ i = 4 ∨ i = 8 := by decide +kernel
  rcases h3 i hi with rfl | rfl | rfl
  · exact doc₅_0
  · exact doc₅_4
  · exact doc₅_8

example : ∀ o ∈ (Req.run srv none {} (proj 4 hist₅)).2.2, o.isConn = false :=
  C07_documented_stream_never_told_connection_error srv _ doc₅_4
example : StreamScoped srv hist₅ := C07_documented_histories_are_stream_scoped srv hist₅ hist₅_documented
example : (run srv {} (hist₅.take 19)).1.cell = none ∧ (run srv {} (hist₅.take 19)).1.closed = [] :=
  C07_connection_stays_open_documented srv hist₅ hist₅_documented (hist₅.take 19) (hist₅.drop 19)
    (List.take_append_drop 19 hist₅).symm
example : view 0 (run srv {} hist₅) = view 0 (run srv {} (without (fun s => s == 4 || s == 8) hist₅)) :=
  (C07_neighbours_unaffected_documented srv hist₅ hist₅_documented 0).2.1 _ rfl

/-! R-07 in the hypothesis: `hist₃` is `StreamScoped` too, but its stream 8 is not a documented stream —
    its application calls `recv_data` after `resolve_request` has failed (`on 8 (.call .data)`) -/
example : obeys srv .head none {} (proj 8 hist₃) = false := by decide +kernel
example : obeys srv .head none {} (proj 8 (hist₃.take 16)) = true := by decide +kernel

/-- a client stream under write back-pressure (4 bytes of credit): the request head waits for credit and
    is polled again after the grant; the response is read call by call (`recv_data`, `recv_trailers`); the
    peer asks to stop sending and the next `send_data` reports it; a response stream that ends before
    any HEADERS (stream 4, `T = []`) -/
def cliW : Cfg := { role := .client, hdr := hdr₃, wc := some 4 }
def histG : List HEv :=
  [ on 0 (.call (.sendHead [0x00, 0x00, 0xd1])), on 4 (.call (.sendHead [0x00, 0x00, 0xd1])), on 0 (.peer (.grant 9)),
    on 0 (.call (.sendHead [0x00, 0x00, 0xd1])), chunk 0 [0x01, 0x01, 0xaa, 0x00], on 0 (.call .head), on 0 (.call .data),
    on 4 (.peer (.grant 1)), on 4 (.call (.sendHead [0x00, 0x00, 0xd1])), chunk 4 [0x21, 0x02, 0x07], on 4 (.call .head),
    chunk 0 [0x02, 0xc1], on 0 (.call .data), on 0 (.call .data), chunk 0 [0xc2], on 0 (.peer (.stop 9)),
    on 0 (.call .data), chunk 4 [0x08], on 4 (.peer .fin), on 0 (.peer .fin), on 0 (.call .data), on 4 (.call .head),
    on 0 (.call .trailers), on 0 (.call (.sendData [1])), .drive ]
example : (run cliW {} histG).2 =
    [(0, .ans (.res .pending)), (4, .ans (.res .pending)), (0, .quiet), (0, .ok), (0, .quiet), (0, .ans (.res (.head [0xaa]))),
     (0, .ans (.res .pending)), (4, .quiet), (4, .ok), (4, .quiet), (4, .ans (.res .pending)), (0, .quiet),
     (0, .ans (.res (.data [0xc1]))), (0, .ans (.res .pending)), (0, .quiet), (0, .quiet), (0, .ans (.res (.data [0xc2]))),
     (4, .quiet), (4, .quiet), (0, .quiet), (0, .ans (.res .end_)), (4, .ans (.res (.errStream 270))),
     (0, .ans (.res .noTrailers)), (0, .ans (.res (.errReset 9)))] := by decide +kernel
example : ((run cliW {} (histG.take 2)).1.get 0).snd =
    { tx := [0x01, 0x03, 0x00, 0x00], granted := 0, writing := some [0xd1] } := by decide +kernel
theorem docG_0 : DocStream cliW (proj 0 histG) :=
  docStream_of_message cliW _ [0x01, 0x01, 0xaa, 0x00, 0x02, 0xc1, 0xc2] [0xaa] [[0xc1, 0xc2]] none (by decide +kernel)
    (by decide) (by decide) (by intro t ht; cases ht)
    (Or.inl ⟨[[0x01, 0x01, 0xaa, 0x00], [0x02, 0xc1], [0xc2]], by decide, Or.inr ⟨by decide +kernel, rfl⟩⟩)
    (by decide +kernel)
theorem docG_4 : DocStream cliW (proj 4 histG) :=
  docStream_of_unknown cliW _ [0x21, 0x02, 0x07, 0x08] (by decide +kernel)
    (Or.inl ⟨[[0x21, 0x02, 0x07], [0x08]], by decide, Or.inr ⟨by decide +kernel, rfl⟩⟩) (by decide +kernel) (by decide)
example : StreamScoped cliW histG :=
  C07_documented_histories_are_stream_scoped cliW histG (by
    intro i hi
    have h2 : ∀ i ∈ sidsOf histG, i = 0 ∨ i = 4 := by decide +kernel
    rcases h2 i hi with rfl | rfl
    · exact docG_0
    · exact docG_4)

-- trailers, per-byte cutting, a poll after every byte; the block is remembered while `recv_trailers` waits for FIN
def hist₆ : List HEv :=
  ([0x01, 0x02, 0xaa, 0xbb].flatMap fun b => [chunk 0 [b], on 0 (.call .head)]) ++
  [ chunk 4 [0x01, 0x01, 0xee], on 4 (.call .head) ] ++
  ([0x00, 0x02, 0xc1, 0xc2, 0x01, 0x01, 0xab].flatMap fun b => [chunk 0 [b], on 0 (.call (.body 9)), .drive]) ++
  [ on 0 (.peer .fin), on 0 (.call (.body 9)) ]

example : obsOf 0 (run cli {} hist₆).2 =
    [.quiet, .ans (.res .pending), .quiet, .ans (.res .pending), .quiet, .ans (.res .pending), .quiet,
     .ans (.res (.head [0xaa, 0xbb])),
     .quiet, .body [.pending] none, .quiet, .body [.pending] none, .quiet, .body [.data [0xc1], .pending] none,
     .quiet, .body [.data [0xc2], .pending] none, .quiet, .body [.pending] none, .quiet, .body [.pending] none,
     .quiet, .body [.end_] (some (.res .pending)), .quiet, .body [] (some (.res (.trailers [0xab])))] := by
  decide +kernel

example : ∃ ps : List ReqRecv.Bytes, ps.flatten = [0xc1, 0xc2] ∧
    (digest (obsOf 0 (run cli {} hist₆).2)).heads = [.res (.head [0xaa, 0xbb])] ∧
    (digest (obsOf 0 (run cli {} hist₆).2)).body = ps.map .data ++ [.end_] ∧
    (digest (obsOf 0 (run cli {} hist₆).2)).trailers = [.res (.trailers [0xab])] ∧
    ((run cli {} hist₆).1.get 0).rx.env = {} ∧
    (run cli {} hist₆).1.cell = none ∧ (run cli {} hist₆).1.closed = [] :=
  C07_healthy_stream_delivers_polled cli hist₆ (by decide +kernel) 0
    [[0x01], [0x02], [0xaa], [0xbb], [0x00], [0x02], [0xc1], [0xc2], [0x01], [0x01], [0xab]] 9 [0xaa, 0xbb]
    [[0xc1, 0xc2]] (some [0xab])
    (by decide +kernel) (by decide +kernel) (by decide +kernel) (by decide) (by decide +kernel) (by decide)
    (by decide) (by intro t ht; cases ht; decide) (by decide)
end

end H3.Props.C07
