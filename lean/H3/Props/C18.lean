import H3.Model.Datagram
import H3.Lemmas.VarintSpec
import H3.Lemmas.BufCursor
/-! # C18 — HTTP Datagrams carry their stream ID and payload unchanged

Model: `H3.Datagram` (`h3-datagram`: `Datagram::{new,encode,decode}`, `EncodedDatagram` as a `Buf` over a
contiguous or a chunked payload, the error arms of `send_datagram`).  Specification: RFC 9297 §2.1, the varint
(`H3.Varint.encode`, RFC 9000 §16) of the quarter stream ID followed by the payload. -/
namespace H3.Props.C18
open H3.Datagram
abbrev Bytes := Varint.Bytes

private theorem view_encode (sid : Nat) (hs : sid < 2^62) (p : Bytes) :
    (encode sid p).view = Varint.encode (sid / 4) ++ p := by
  have hq : sid / 4 < 2^62 := by omega
  have hl := Varint.encode_length_eq_size _ hq
  simp [encode, Enc.view, intoArray, ← hl]

/-- The bytes of an encoded datagram are the varint of S/4 followed by P (RFC 9297 §2.1). -/
theorem C18_encode_bytes (sid : Nat) (hs : sid < 2^62) (h4 : sid % 4 = 0) (p : Bytes) :
    new sid p = some (sid, p) ∧
    (encode sid p).view = Varint.encode (sid / 4) ++ p ∧
    (encode sid p).remaining = (Varint.encode (sid / 4) ++ p).length := by
  refine ⟨by simp [new, h4], view_encode sid hs p, ?_⟩
  have hq : sid / 4 < 2^62 := by omega
  simp [encode, Enc.remaining, Varint.encode_length_eq_size _ hq]

/-- Well-formedness kept by every `advance`: the cursor stays inside the header. -/
def EncWF (e : Enc) : Prop := e.pos ≤ e.len ∧ e.len ≤ e.hdr.length

theorem encode_wf (sid : Nat) (p : Bytes) : EncWF (encode sid p) := by
  have := Varint.size_le_8 (sid / 4)
  simp [EncWF, encode, intoArray]; omega

/-- The `Buf` view: `remaining` is the length of what is left, `chunk` is a prefix of it that
    is non-empty whenever something is left, and `advance k` drops exactly `k` bytes — so any
    consumer, whatever its chunk/advance pattern, reads exactly `view`. -/
theorem C18_buf_view (e : Enc) (hwf : EncWF e) :
    e.remaining = e.view.length ∧
    (∃ t, e.view = e.chunk ++ t) ∧ (e.view ≠ [] → e.chunk ≠ []) ∧
    ∀ k, k ≤ e.remaining → EncWF (e.advance k) ∧ (e.advance k).view = e.view.drop k := by
  have hl : (e.hdr.take e.len).length = e.len := by rw [List.length_take]; exact Nat.min_eq_left hwf.2
  have hc : e.chunk = curChunk (e.hdr.take e.len) e.payload e.pos := by
    unfold Enc.chunk curChunk; rw [hl]
  refine ⟨by rw [Enc.remaining, Enc.view, List.length_append, List.length_drop, hl],
    by rw [hc]; exact cur_prefix _ _ _, by rw [hc]; exact cur_ne _ _ _, fun k _ => ?_⟩
  unfold Enc.view
  rw [cur_drop, hl]
  unfold Enc.advance EncWF
  by_cases hr : e.len - e.pos > 0
  · rw [if_pos hr]
    exact ⟨⟨by simp only; omega, hwf.2⟩, rfl⟩
  · rw [if_neg hr, show min k (e.len - e.pos) = 0 by omega]
    exact ⟨hwf, rfl⟩

/-- Every consumption pattern (any sequence of "take k bytes of the current chunk") yields a
    prefix of the wire bytes, in order, nothing twice. -/
theorem C18_consume_prefix (e : Enc) (hwf : EncWF e) (ks : List Nat) :
    ∃ t, e.view = consume e ks ++ t := by
  induction ks generalizing e with
  | nil => exact ⟨e.view, rfl⟩
  | cons k ks ih =>
    obtain ⟨hrem, ⟨t, ht⟩, _, hadv⟩ := C18_buf_view e hwf
    have hk : min k e.chunk.length ≤ e.remaining := by
      rw [hrem, ht, List.length_append]; omega
    obtain ⟨hwf', hv'⟩ := hadv _ hk
    obtain ⟨t', ht'⟩ := ih (e.advance (min k e.chunk.length)) hwf'
    refine ⟨t', ?_⟩
    rw [consume, List.append_assoc, ← ht', hv', ht, List.take_eq_take_min]
    exact (take_chunk _ t (Nat.min_le_right ..)).symm

/-- Decoding what was encoded gives S and P back. -/
theorem C18_decode_encode (sid : Nat) (hs : sid < 2^62) (h4 : sid % 4 = 0) (p : Bytes) :
    decode (encode sid p).view = .ok sid p := by
  have hq : sid / 4 < 2^62 := by omega
  rw [view_encode sid hs p, decode, (H3.Varint.decode_encode _ hq p).1]
  have : ¬ (sid / 4 * 4 > 2^62 - 1) := by omega
  simp only [this, if_false]
  congr 1; omega

/-- Decoding is total: H3_DATAGRAM_ERROR exactly when the integer is truncated or the
    stream ID would exceed 2^62−1; otherwise stream ID = 4·q and the payload is the rest; the
    multiplication cannot wrap in `u64`. -/
theorem C18_decode_total (bs : Bytes) (hwf : Varint.WF bs) :
    (Varint.rfcDecode bs = none → decode bs = .datagramError) ∧
    (∀ q rest, Varint.rfcDecode bs = some (q, rest) →
      q * 4 < 2^64 ∧
      decode bs = if q * 4 > 2^62 - 1 then .datagramError else .ok (4 * q) rest) := by
  obtain ⟨h1, h2⟩ := H3.Varint.decode_total bs hwf
  constructor
  · intro h; obtain ⟨k, hk⟩ := h2 h; simp [decode, hk]
  · intro q rest h
    obtain ⟨hd, hq⟩ := h1 q rest h
    refine ⟨by omega, ?_⟩
    simp only [decode, hd]
    split
    · rfl
    · congr 1; omega


def NoEmpty (cs : List Bytes) : Prop := ∀ c ∈ cs, c ≠ []

/-- the one-chunk datagram with the same bytes -/
def flat (e : EncM) : Enc := { hdr := e.hdr, len := e.len, pos := e.pos, payload := e.payload.flatten }

private theorem advChunks_flatten (cs : List Bytes) (k : Nat) :
    (advChunks cs k).flatten = cs.flatten.drop k := by
  induction cs generalizing k with
  | nil => simp [advChunks]
  | cons c cs ih =>
    unfold advChunks
    by_cases h : k < c.length
    · rw [if_pos h]
      simp only [List.flatten_cons]
      rw [List.drop_append_of_le_length (by omega)]
    · rw [if_neg h, ih]
      simp only [List.flatten_cons]
      rw [List.drop_append]
      have : List.drop k c = [] := List.drop_eq_nil_of_le (by omega)
      rw [this]; rfl

private theorem advChunks_noEmpty (cs : List Bytes) (k : Nat) (h : NoEmpty cs) : NoEmpty (advChunks cs k) := by
  induction cs generalizing k with
  | nil => simpa [advChunks] using h
  | cons c cs ih =>
    unfold advChunks
    by_cases hk : k < c.length
    · rw [if_pos hk]
      intro x hx
      rcases List.mem_cons.mp hx with rfl | hx
      · intro h0
        have := congrArg List.length h0
        simp at this; omega
      · exact h x (List.mem_cons_of_mem _ hx)
    · rw [if_neg hk]
      exact ih _ (fun x hx => h x (List.mem_cons_of_mem _ hx))

private theorem flat_advance (e : EncM) (k : Nat) : flat (e.advance k) = (flat e).advance k := by
  unfold EncM.advance Enc.advance flat
  by_cases hr : e.len - e.pos > 0
  · simp only [hr, if_true, advChunks_flatten]
  · simp only [hr, if_false, advChunks_flatten]

private theorem chunkM_prefix (e : EncM) (hwf : EncWF (flat e)) (hne : NoEmpty e.payload) :
    (∃ t, e.view = e.chunk ++ t) ∧ (e.view ≠ [] → e.chunk ≠ []) := by
  obtain ⟨_, hp, hn, _⟩ := C18_buf_view (flat e) hwf
  unfold EncM.chunk
  by_cases hr : e.len - e.pos > 0
  · -- in the header the chunk is the one-chunk datagram's
    rw [if_pos hr, ← show (flat e).chunk = (e.hdr.take e.len).drop e.pos from if_pos hr]
    exact ⟨hp, hn⟩
  · have hz : (e.hdr.take e.len).drop e.pos = [] :=
      cur_done (by rwa [List.length_take, Nat.min_eq_left (show e.len ≤ e.hdr.length from hwf.2)])
    unfold EncM.view
    rw [if_neg hr, hz]
    cases hp : e.payload with
    | nil => exact ⟨⟨[], rfl⟩, fun h => absurd rfl h⟩
    | cons c cs => exact ⟨⟨cs.flatten, rfl⟩, fun _ => hne c (by rw [hp]; exact List.mem_cons_self)⟩

private theorem advanceM_spec (e : EncM) (hwf : EncWF (flat e)) (hne : NoEmpty e.payload) (n : Nat)
    (hn : n ≤ e.chunk.length) :
    EncWF (flat (e.advance n)) ∧ NoEmpty (e.advance n).payload ∧
      (e.advance n).view = e.view.drop n := by
  obtain ⟨⟨t, ht⟩, _⟩ := chunkM_prefix e hwf hne
  obtain ⟨hrem, _, _, hadv⟩ := C18_buf_view (flat e) hwf
  have hv : (flat e).view = e.view := rfl
  obtain ⟨hwf', hv'⟩ := hadv n (by rw [hrem, hv, ht, List.length_append]; omega)
  rw [← flat_advance] at hwf' hv'
  refine ⟨hwf', ?_, hv'⟩
  unfold EncM.advance
  by_cases hr : e.len - e.pos > 0
  · simp only [hr, if_true]; exact advChunks_noEmpty _ _ hne
  · simp only [hr, if_false]; exact advChunks_noEmpty _ _ hne

/-- every consumption pattern over the multi-chunk buffer yields a prefix of the one-chunk view -/
private theorem consumeM_prefix (e : EncM) (hwf : EncWF (flat e)) (hne : NoEmpty e.payload) (ks : List Nat) :
    ∃ t, e.view = consumeM e ks ++ t := by
  induction ks generalizing e with
  | nil => exact ⟨e.view, rfl⟩
  | cons k ks ih =>
    obtain ⟨⟨t, ht⟩, _⟩ := chunkM_prefix e hwf hne
    obtain ⟨hwf', hne', hv'⟩ := advanceM_spec e hwf hne _ (Nat.min_le_right k e.chunk.length)
    obtain ⟨t', ht'⟩ := ih _ hwf' hne'
    refine ⟨t', ?_⟩
    rw [consumeM, List.append_assoc, ← ht', hv', ht, List.take_eq_take_min]
    exact (take_chunk _ t (Nat.min_le_right ..)).symm

/-- reading chunk after chunk to the end (what `copy_to_bytes(remaining())` and `put` do) yields the whole view -/
private theorem drainM_all (f : Nat) (e : EncM) (hwf : EncWF (flat e)) (hne : NoEmpty e.payload)
    (hf : e.view.length < f) : drainM f e = e.view := by
  induction f generalizing e with
  | zero => omega
  | succ f ih =>
    obtain ⟨⟨t, ht⟩, hnz⟩ := chunkM_prefix e hwf hne
    unfold drainM
    by_cases hc : e.chunk = []
    · have : e.view = [] := Classical.byContradiction fun hv => hnz hv hc
      rw [hc, this]; rfl
    · obtain ⟨hwf', hne', hv'⟩ := advanceM_spec e hwf hne _ (Nat.le_refl _)
      have hpos : 0 < e.chunk.length := List.length_pos_iff.mpr hc
      have hle : e.chunk.length ≤ e.view.length := by rw [ht, List.length_append]; omega
      rw [if_neg (by simpa using hc), ih _ hwf' hne' (by rw [hv', List.length_drop]; omega), hv']
      rw [ht, List.drop_left]

/-- **The encoded datagram does not depend on how the payload `Buf` is chunked.** For every request stream id
    `sid < 2^62` divisible by four and every payload handed over as ANY list of non-empty chunks `cs`
    (`Chain`, `BufList`, …): `remaining()` is the length of `varint(sid/4) ++ cs.flatten` - header plus ALL
    chunks, not the current one; every chunk/advance pattern yields a prefix of exactly those bytes; reading
    chunk after chunk to the end (`copy_to_bytes(remaining())`, as h3-quinn does, or `put`) yields exactly
    those bytes; and they decode to `sid` and the flattened payload. So the wire datagram of a multi-chunk
    payload is the wire datagram of the same bytes in one piece (`C18_encode_bytes`). -/
theorem C18_payload_chunking_independent (sid : Nat) (hs : sid < 2^62) (h4 : sid % 4 = 0)
    (cs : List Bytes) (hne : ∀ c ∈ cs, c ≠ []) :
    (encodeM sid cs).view = (encode sid cs.flatten).view ∧
    (encodeM sid cs).view = Varint.encode (sid / 4) ++ cs.flatten ∧
    (encodeM sid cs).remaining = (Varint.encode (sid / 4) ++ cs.flatten).length ∧
    (∀ ks, ∃ t, Varint.encode (sid / 4) ++ cs.flatten = consumeM (encodeM sid cs) ks ++ t) ∧
    drainM ((encodeM sid cs).remaining + 1) (encodeM sid cs) = Varint.encode (sid / 4) ++ cs.flatten ∧
    decode (drainM ((encodeM sid cs).remaining + 1) (encodeM sid cs)) = .ok sid cs.flatten := by
  have hflat : flat (encodeM sid cs) = encode sid cs.flatten := rfl
  have hwf : EncWF (flat (encodeM sid cs)) := by rw [hflat]; exact encode_wf sid _
  have hv : (encodeM sid cs).view = Varint.encode (sid / 4) ++ cs.flatten := by
    have : (encodeM sid cs).view = (flat (encodeM sid cs)).view := rfl
    rw [this, hflat, view_encode sid hs]
  have hr : (encodeM sid cs).remaining = (Varint.encode (sid / 4) ++ cs.flatten).length := by
    have : (encodeM sid cs).remaining = (flat (encodeM sid cs)).remaining := rfl
    rw [this, hflat]; exact (C18_encode_bytes sid hs h4 _).2.2
  have hd : drainM ((encodeM sid cs).remaining + 1) (encodeM sid cs) = Varint.encode (sid / 4) ++ cs.flatten := by
    rw [drainM_all _ _ hwf hne (by rw [hr, hv]; omega), hv]
  refine ⟨by rw [hv, view_encode sid hs], hv, hr, ?_, hd, ?_⟩
  · intro ks
    obtain ⟨t, ht⟩ := consumeM_prefix _ hwf hne ks
    exact ⟨t, by rw [← hv]; exact ht⟩
  · rw [hd, ← view_encode sid hs]; exact C18_decode_encode sid hs h4 _

example : drainM 9 (encodeM 8 [[1, 2], [3], [4, 5, 6]]) = [2, 1, 2, 3, 4, 5, 6] := by decide
example : (encodeM 8 [[1, 2], [3], [4, 5, 6]]).remaining = 7 := by decide
example : consumeM (encodeM 8 [[1, 2], [3], [4, 5, 6]]) [1, 9, 9, 2] = [2, 1, 2, 3, 4, 5] := by decide

/-- a first error that came from the transport can be read off what the handles report: `Timeout` for
    the idle timeout, `Remote e` for every other -/
theorem convertOrigin_quic_inj {e e' : CE} (h : convertOrigin (.quic e) = convertOrigin (.quic e')) :
    e = e' := by
  cases e <;> cases e' <;> simp_all [convertOrigin]

/-- **The error arms of `send_datagram`.** `NotAvailable` and `TooLarge` are handed to the caller as what they
    are and are NOT connection errors (nothing is offered to the connection's error cell, the connection goes on,
    whatever the cell holds); a transport connection error is offered to the cell - what the driver and every
    other handle then report is `convertOrigin` of the FIRST stored error (C05) -; the three classes of answers are
    pairwise different, and while the connection has no error yet the answer tells which condition it was. -/
theorem C18_send_error_classes (cell : Option Origin) :
    handleSendError cell .notAvailable = (.notAvailable, none) ∧
    handleSendError cell .tooLarge = (.tooLarge, none) ∧
    (∀ e, ∃ c, handleSendError cell (.conn e) = (.conn c, some e)) ∧
    (∀ a b, (handleSendError cell a).1 = (handleSendError cell b).1 → a = b ∨ ∃ e e', a = .conn e ∧ b = .conn e') ∧
    (∀ a b, (handleSendError none a).1 = (handleSendError none b).1 → a = b) ∧
    (∀ a, (handleSendError cell a).2.isSome ↔ ∃ e, a = .conn e) := by
  refine ⟨rfl, rfl, fun e => ⟨_, rfl⟩, ?_, ?_, ?_⟩
  · intro a b h
    cases a <;> cases b <;> simp_all [handleSendError]
  · intro a b h
    cases a with
    | notAvailable => cases b <;> simp_all [handleSendError]
    | tooLarge => cases b <;> simp_all [handleSendError]
    | conn e =>
      cases b with
      | notAvailable => simp_all [handleSendError]
      | tooLarge => simp_all [handleSendError]
      | conn e' => rw [convertOrigin_quic_inj (SendErr.conn.inj h)]
  · intro a
    cases a <;> simp [handleSendError]

/-- **The sender's answer is the connection's outcome** (D-18b and D-05g, repaired): whatever the connection's error
    cell holds when the transport refuses a datagram with a connection error `e`, the error in the cell afterwards is
    the first one - the one that was there, else `e` (`cellAfter`, the `OnceLock`) -, and `send_datagram` answers
    exactly what the driver, `read_datagram` and every request handle report for it: `convertOrigin` of that winner.
    So an idle timeout that is the connection's first error is `Timeout` (not `Remote(Timeout)`), and behind an
    earlier error the sender names that error, not its own. -/
theorem C18_send_error_is_outcome (cell : Option Origin) (e : CE) :
    (handleSendError cell (.conn e)).1 = .conn (convertOrigin (cellAfter cell (.quic e))) ∧
    (cell = none → (handleSendError cell (.conn e)).1 = .conn (convertOrigin (.quic e))) ∧
    (∀ first, cell = some first → (handleSendError cell (.conn e)).1 = .conn (convertOrigin first)) ∧
    (handleSendError none (.conn .timeout)).1 = .conn .timeout := by
  refine ⟨rfl, ?_, ?_, rfl⟩
  · intro h; subst h; rfl
  · intro first h; subst h; rfl

example : (handleSendError none (.conn (.app 7))).1 = .conn (.remote (.app 7)) := rfl
example : (handleSendError none (.conn .timeout)).1 = .conn .timeout := rfl
example : (handleSendError (some (.internal 0x105)) (.conn .timeout)).1 = .conn (.local_ 0x105) := rfl
example : (handleSendError (some (.quic (.app 5))) (.conn .timeout)).1 = .conn (.remote (.app 5)) := rfl
example : (handleSendError (some (.quic .timeout)) .tooLarge) = (.tooLarge, none) := rfl

example : decode [0x01, 0x78, 0x79] = .ok 4 [0x78, 0x79] := by decide
example : (encode 4 [0x78, 0x79]).view = [0x01, 0x78, 0x79] := by decide
example : decode [0xff, 0xff, 0xff, 0xff, 0xff, 0xff, 0xff, 0xff] = .datagramError := by decide

end H3.Props.C18
