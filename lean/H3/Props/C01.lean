import H3.Lemmas.E2ECompose
import H3.Lemmas.E2EIso
import H3.Lemmas.E2ESplit
import H3.Lemmas.E2EInter
import H3.Lemmas.E2EPolls
import H3.Props.C12
/-! # C01 — end-to-end message fidelity (composition theorem)

The property theorems of C01, then (section `examples`) concrete messages, scripts, schedules and
histories that meet their hypotheses.  Glue: `H3.E2E` (`Model/E2E.lean`) — `Message`, `wire`, `sendAll`,
`recvPattern`, `deliver` — composing the component models `H3.Headers` (C12), `H3.Qpack` (C10/C11),
`H3.WriteBuf`/`H3.SendSide` (C14), `H3.FS` (C02) and `H3.ReqRecv` (C03).  What is composed:

* C14's domain through its lemmas (`polls_spec` from `step_spec`; `frameBytes_plain`, `fromFrame_*`;
  `rfc_wire`): header ++ payload, each byte once, under every acceptance script;
* C02 (the invariant `Inv` behind `C02_chunking_independent`, one call under it by cases: `pollNext_step`,
  `pollData_step`; `Frame.decode_wire` for `Frame::decode` on a frame of the sender): frames and payload
  bytes are a function of the bytes;
* C03: the request layer of `H3.ReqRecv`; the lifting to chunks is NOT taken from
  `C03_lifted_to_chunks` (conditional on `FrameSim`, and a `FrameSim` with the token source cannot
  hold for scripts with `pend`): `recvPattern_valid` proves the chunk-level statement of
  `C03_valid_message_delivered` directly from the C02 invariant, for every script, every call
  awaited;
* C10/C11 (`C10_own_encoding_exact_closed`, `C11_encode_then_rfc_decode_closed`): h3's decoder reads
  h3's encoding back as the same field list iff the size fits the limit;
* C12 (`C12_sent_order`, `wireFields_eq`): wire fields = pseudo list ++ map iteration; the
  completeness direction (own wire fields are accepted, with the same parts) is proved here
  (`recvRequest_sent`, `recvResponse_sent`, `recvTrailers_sent`).

* C07 (`H3.Iso`: the product of request machines sharing the error cell, deliveries and polls as
  events of one history, the driver's error side; `run_decomposes`, `polled_run` behind
  `C07_healthy_stream_delivers_polled`): `C01_end_to_end_interleaved`;
* `split()` (`Model/Split.lean`): `C01_split_anywhere`.

Assumptions that stay (each explicit in the statements): the `http` crate parameter `H` with the
laws `HttpLaws` (C12) and `HttpRoundTrip` — from which `HeadOk`/`PseudoBack` ("the head survives the
trip") are DERIVED for heads made of values of the crate (`HeadValues`, `C01_head_survives`); R-14 (calls
awaited: `Awaited`); R-T (transport chunks non-empty, a delivery that arrives after a poll shows as
`pend` in the script); the receiver's `max_field_section_size` (C10); a message the sender's own
`http::HeaderMap` can hold (`Holdable`: at most 24576 distinct names, any number of values — the
receiver's map has the same limit, `C01_field_count_refused`; the number of fields is no limit: D-01,
repaired). -/
namespace H3.Props.C01
open H3.E2E H3.Headers H3.FS H3.ReqRecv H3.WriteBuf H3.SendSide H3.Gen.WriteBuf
open H3.Spec.Framing (observe)

/-- **`wire_of_send`.**  For every well-formed message, whether or not this handle owes the
    connection's grease frame (`g`, draw `gN`), and for EVERY family of write-acceptance scripts —
    partial writes of any size, `Pending` (0) anywhere — under which each call completes before the
    next is made (R-14): after `send_request`/`send_response`, one `send_data` per piece,
    `send_trailers` if any, and `finish()`, the transport of the request stream has been handed
    exactly `wire m` (then the grease frame if owed), and the stream is finished.  `wire m` is a
    function of the message and the piece boundaries only.  The block of each HEADERS frame is what
    the send site writes when the section fits the peer's limit (C10 `sendSite`). -/
theorem C01_wire_of_send (m : Message) (h : Header) (hwf : WellFormed m h) (g : Bool) (gN : Nat)
    (hg : gN < GREASE_RANGE_END) (scripts : List (List Nat))
    (haw : Awaited (freshStream g) (callsOf (framesOf m h) gN scripts)) (applied : Option Nat)
    (hlim : sectionSize h.wireFields ≤ Qpack.peerLimit applied) :
    (sendAll (freshStream g) (callsOf (framesOf m h) gN scripts)).log =
      streamBytes m (if g then some gN else none) ∧
    (sendAll (freshStream g) (callsOf (framesOf m h) gN scripts)).fin = true ∧
    (sendAll (freshStream g) (callsOf (framesOf m h) gN scripts)).cur = none ∧
    Qpack.sendSite applied (qfields h.wireFields) = .written (fieldSection h) := by
  obtain ⟨a, b, c⟩ := sendAll_wellFormed m h hwf g gN hg scripts haw
  obtain ⟨h1, _⟩ := H3.Props.C11.C11_encode_then_rfc_decode_closed _
    (fun f hf => (qfields_encodable hwf.encodable f hf).writable)
  exact ⟨a, b, c, (H3.Props.C10.C10_send_exact _ applied _ _ h1).2.2.2.2.mp hlim⟩

/-- what the RFC 9114 §7.1 oracle must see of a body: per piece a DATA frame and, unless it is
    empty, its payload -/
def bodyObs : List (List Nat) → List Spec.Framing.Tok
  | [] => []
  | p :: r =>
    if p = [] then .frame (.data 0) :: bodyObs r else .frame (.data p.length) :: .data p :: bodyObs r

/-- **`wire_is_valid_message`.**  The stream bytes of a well-formed message (with or without the
    trailing grease frame), read by the RFC 9114 §7.1/§7.2 oracle `observe` and ended by FIN, are
    exactly: a HEADERS frame whose payload is the field section of head + fields, one DATA frame per
    piece with that piece as payload, the trailing HEADERS frame iff trailers were sent, and a clean
    end (`none_`) — nothing else, nothing truncated.  The field sections read back under the RFC
    9204 decoder as the field list the `Header` iterates, which is the pseudo-header fields followed
    by the map in iteration order (C11, C12). -/
theorem C01_wire_is_valid_message (m : Message) (h : Header) (hwf : WellFormed m h) (g : Option Nat)
    (hg : ∀ n, g = some n → n < GREASE_RANGE_END) :
    observe ((streamBytes m g).length + 1) (streamBytes m g) .fin =
      .frame (.headers (fieldSection h)) ::
        (bodyObs m.pieces ++
          (match m.trailers with
           | none => []
           | some t => [.frame (.headers (trailerSection t))]) ++ [.none_]) ∧
    Spec.Qpack.specDecode (fieldSection h) = .ok (H3.Qpack.Lemmas.pairs (qfields h.wireFields)) ∧
    h.wireFields = H3.Headers.pseudoList h.pseudo ++ hmIter h.fields ∧
    (∀ t, m.trailers = some t →
      Spec.Qpack.specDecode (trailerSection t) =
        .ok (H3.Qpack.Lemmas.pairs (qfields (hmIter (mapOf t))))) := by
  have hpl := all_plain m h hwf g hg
  have hobs := observe_wireOf .fin _ hpl ((streamBytes m g).length + 1) (by
    rw [streamBytes_eq m h hwf.header g]
    have := wireOf_length_ge _ hpl
    omega)
  rw [← streamBytes_eq m h hwf.header g] at hobs
  refine ⟨?_, ?_, (H3.Props.C12.C12_sent_order h).1, ?_⟩
  · rw [hobs]
    have hbody : ∀ (ps : List (List Nat)) (r : List SFrame), obsToks (ps.map .data ++ r) = bodyObs ps ++ obsToks r := by
      intro ps r
      induction ps with
      | nil => rfl
      | cons p ps ih =>
        by_cases hp : p = [] <;> simp [obsToks, bodyObs, hp, ih]
    have hgr : obsToks (greaseFrames g) = [] := by cases g <;> rfl
    simp only [framesOf, List.cons_append, List.append_assoc, obsToks, hbody]
    cases m.trailers with
    | none => simp [hgr, Spec.Framing.endTok]
    | some t => simp [obsToks, hgr, Spec.Framing.endTok]
  · exact (H3.Props.C11.C11_encode_then_rfc_decode_closed _
      (fun f hf => (qfields_encodable hwf.encodable f hf).writable)).2.1
  · intro t ht
    have := (H3.Props.C11.C11_encode_then_rfc_decode_closed _
      (fun f hf => (qfields_encodable (hwf.trailersEncodable t ht) f hf).writable)).2.1
    rw [(H3.Props.C12.C12_sent_response_trailer_values 0 (mapOf t)).2] at this
    unfold trailerSection fieldSection
    rw [(H3.Props.C12.C12_sent_response_trailer_values 0 (mapOf t)).2]
    exact this

/-- **`recv_of_wire`.**  Let `m` be a well-formed message — which includes that the sending
    application could hold its fields in an `http::HeaderMap` at all (`WellFormed.holdable`) — whose
    head survives the trip (`HeadOk`: the `http` round-trip assumptions, with `out` the head the
    application must get), within the receiver's `max_field_section_size = L` (`Fits`).  For EVERY
    transport script that carries exactly the stream bytes of `m` before its first FIN — cut into
    non-empty chunks in any way, `pend` (a poll that found nothing) anywhere, no reset — the
    documented receive pattern with every call awaited (`resolve_request` / `recv_response`;
    `recv_data` until `None`; `recv_trailers`) delivers: the head `out`; as body exactly the
    concatenation of the pieces sent; exactly one clean end of body (`ends = 1`, and it is the
    last answer of `recv_data`); the trailers as the map the sender filled, or `None` when none
    were sent; the error cell empty, nothing reset, nothing stopped.  The number of fields of a
    section is not limited (D-01, repaired). -/
theorem C01_recv_of_wire (H : Http) (role : Role) (m : Message) (h : Header) (out : HeadOut)
    (L : Nat) (hwf : WellFormed m h) (hfit : Fits m h L) (hhead : HeadOk H role m out)
    (g : Option Nat) (hg : ∀ n, g = some n → n < GREASE_RANGE_END)
    (script : List Ev) (hsc : ScriptOK script) (hnr : NoReset script) (hfin : hasFin script = true)
    (hbytes : evBytes (upToFin script) = streamBytes m g) :
    deliver H role L script =
      { head := some out, body := m.pieces.flatten, cleanEnd := true, ends := 1,
        trailers := some (m.trailers.map mapOf), env := {} } :=
  deliver_streamBytes H role m h out L hwf hfit hhead g hg script hsc hnr hfin hbytes

/-- The one limit that remains is `http::HeaderMap`'s, and it is the same on both sides: fields with
    more than 24576 distinct names (`ns`) cannot be held by the sending application's own map
    (`Holdable` fails, whatever the order of its `append`s), and a section that carries them as
    regular fields is refused by the receiver's `Header::try_from` (a `HeaderError`:
    H3_MESSAGE_ERROR on the stream, no panic) — so no message the property speaks of is lost to it.
    (Before the repair of D-01 the receiver refused every section of more than 24576 *fields*.) -/
theorem C01_field_count_refused (H : Http) (ns : List (List Nat)) (hnd : ns.Nodup)
    (hlen : hmMaxEntries < ns.length) :
    (∀ l : List FieldLine, (∀ n ∈ ns, ∃ v, (n, v) ∈ l) → ¬ Holdable l) ∧
    (∀ fs : List FieldLine, (∀ n ∈ ns, ¬ H3.Spec.Headers.IsPseudo n ∧ ∃ v, (n, v) ∈ fs) →
      (∃ e, recvRequest H fs = .err e) ∧ (∃ e, recvResponse H fs = .err e) ∧
      (∃ e, recvTrailers H fs = .err e)) := by
  refine ⟨?_, fun fs hocc => (H3.Props.C12.C12_map_capacity H fs).2.2.2 ns hnd hlen hocc⟩
  intro l hocc hhold
  obtain ⟨_, hc⟩ := holdable_tight hhold
  have := names_le_of_group (hmGroup_mapOf l) ns hnd hocc
  omega

/-- **Same method, scheme, authority and path; same values in the same per-name order.**  What
    `HeadOk` hands over, spelled out.  Requests: the method is the sender's; under the round-trip
    law `uri_parts` of the `http` crate the URI has the scheme the sender put in `:scheme` (the
    URI's own, `https` when it has none; none for a plain CONNECT), the authority the sender put in
    `:authority` (or `Host`), the path the sender put in `:path`; the `Protocol` is the sender's.
    Responses: the status is the sender's.  In both directions the header map is the map the
    application filled, and for every name its values are the submitted ones in the submitted
    order (repeated names included); the same holds for the trailers. -/
theorem C01_delivered_parts (H : Http) (R : HttpRoundTrip H) (role : Role) (m : Message) (out : HeadOut)
    (hhead : HeadOk H role m out) :
    (∀ p, out = .request p → ∃ method uri ext, m.head = .request method uri ext ∧
      p.method = method ∧
      p.uri.scheme = (Pseudo.request method uri ext).scheme ∧
      p.uri.authority = some (effAuthority uri.authority (hmGet (mapOf m.headers) nHost)) ∧
      p.uri.path = (Pseudo.request method uri ext).path ∧
      p.protocol = (Pseudo.request method uri ext).protocol ∧ p.headers = mapOf m.headers) ∧
    (∀ st hm, out = .response st hm → m.head = .response st ∧ hm = mapOf m.headers) ∧
    (∀ n, (hmIter (mapOf m.headers)).filter (fun f => f.1 = n) = m.headers.filter (fun f => f.1 = n)) ∧
    (∀ t n, m.trailers = some t →
      (hmIter (mapOf t)).filter (fun f => f.1 = n) = t.filter (fun f => f.1 = n)) := by
  refine ⟨?_, ?_, fun n => hmIter_mapOf_filter m.headers n, fun t n _ => hmIter_mapOf_filter t n⟩
  · intro p hp
    cases hhead with
    | request m method uri ext u hm hpb hb _ =>
      cases hp
      have hu := R.uri_parts _ _ _ _ hb
      refine ⟨method, uri, ext, hm, rfl, ?_, ?_, ?_, rfl, rfl⟩ <;> simp only [hu]
    | response m status hm h1 h2 => cases hp
  · intro st hmap hp
    cases hhead with
    | request m method uri ext u hm hpb hb _ => cases hp
    | response m status hm h1 h2 => cases hp; exact ⟨hm, rfl⟩

/-- the crate's own values satisfy `PseudoBack` for a request: from the round-trip laws, when the
    URI parts are values the crate's parsers produced (`∃ w, parse w = some v`) and — the caller's part
    since the D-12g fix: the crate's `Uri` accepts more than RFC 3986 — the target's scheme is an
    RFC 3986 scheme and its authority has at most one `@` and a numeric port (`hss`, `has`; that a
    `PathAndQuery` holds no `#` is a law of the crate, `HttpRoundTrip.path_print_no_fragment`) -/
theorem C01_pseudo_back_of_laws (H : Http) (L : HttpLaws H) (R : HttpRoundTrip H) (method : List Nat)
    (uri : UriParts) (ext : Option (List Nat)) (hm : validMethod method = true)
    (hs : ∀ s, (Pseudo.request method uri ext).scheme = some s → ∃ w, H.parseScheme w = some s)
    (ha : ∀ a, uri.authority = some a → ∃ w, H.parseAuthority w = some a)
    (hp : ∀ x, (Pseudo.request method uri ext).path = some x → ∃ w, H.parsePath w = some x)
    (hx : ∀ x, (Pseudo.request method uri ext).protocol = some x → parseProtocol x = some x)
    (hss : ∀ s, uri.scheme = some s → schemeSyntax s = true)
    (has : ∀ a, uri.authority = some a → authoritySyntax a = true) :
    PseudoBack H (Pseudo.request method uri ext) :=
  pseudoBack_of_laws H L R method uri ext hm hs ha hp hx hss has

/-- **The head survives the trip — from the laws of the `http` crate, not as a hypothesis.**  Let the
    head of `m` be made of values of the crate (`HeadValues`: a token as method; scheme, authority,
    path-and-query that the crate's own parsers produced; a `Protocol` h3 knows; `Host` values that
    agree; a status 100…999), and let the sender accept `m` (`headerOf m = ok`).  Under `HttpLaws`
    (C12) and `HttpRoundTrip` — parse-of-print is the identity for the crate's `Scheme`, `Authority`,
    `PathAndQuery`; scheme + authority + path always build, an authority alone builds (the
    authority-form target of a plain CONNECT); a built `Uri` has the parts it was built from —
    `HeadOk` holds, and what the receiving application is handed is `expectedHead m`: the same
    method, `:scheme` / `:authority` / `:path` as sent (`C01_delivered_parts`), the same `Protocol`,
    the header map the sender filled; resp. the same status. -/
theorem C01_head_survives (H : Http) (L : HttpLaws H) (R : HttpRoundTrip H) (role : Role) (m : Message)
    (h : Header) (hh : headerOf m = .ok h) (hv : HeadValues H role m) :
    HeadOk H role m (expectedHead m) :=
  headOk_of_values H L R role m h hh hv

/-- **`end_to_end`** (requests: `role = server`, the message head is a request; responses:
    `role = client`, the head is a status — `HeadValues` ties the two).  The sender submits `m` through
    awaited calls under ANY write-acceptance scripts; the transport carries what the sender's stream
    was handed, cut into ANY non-empty chunks, with `pend` anywhere, then FIN; the receiver follows
    the documented pattern.  Then the receiving application is handed the head `expectedHead m` (same
    method, scheme, authority, path / same status: `C01_delivered_parts`), the header values in the
    same per-name order, the identical body byte sequence, the same trailers, and exactly one clean
    end; no error is recorded on either side.  That the head survives is derived from the laws of
    the `http` crate (`C01_head_survives`); no hypothesis speaks about the receiver's parsers. -/
theorem C01_end_to_end (H : Http) (L' : HttpLaws H) (R : HttpRoundTrip H) (role : Role) (m : Message)
    (h : Header) (L : Nat) (hwf : WellFormed m h) (hfit : Fits m h L) (hv : HeadValues H role m)
    (g : Bool) (gN : Nat) (hg : gN < GREASE_RANGE_END) (scripts : List (List Nat))
    (haw : Awaited (freshStream g) (callsOf (framesOf m h) gN scripts))
    (script : List Ev) (hsc : ScriptOK script) (hnr : NoReset script) (hfin : hasFin script = true)
    (hbytes : evBytes (upToFin script) =
      (sendAll (freshStream g) (callsOf (framesOf m h) gN scripts)).log) :
    (sendAll (freshStream g) (callsOf (framesOf m h) gN scripts)).fin = true ∧
    deliver H role L script =
      { head := some (expectedHead m), body := m.pieces.flatten, cleanEnd := true, ends := 1,
        trailers := some (m.trailers.map mapOf), env := {} } := by
  obtain ⟨a, b, _⟩ := sendAll_wellFormed m h hwf g gN hg scripts haw
  exact ⟨b, deliver_streamBytes H role m h _ L hwf hfit (headOk_of_values H L' R role m h hwf.header hv) _
    (draw_ok g gN hg) script hsc hnr hfin (hbytes.trans a)⟩

/-  Full statement of the design (`interleaving_irrelevant`): every interleaving of client task,
    server task, drivers and deliveries is equivalent to a sequential one.  What is proved:
    `C01_interleaving_irrelevant_partial` (the machines' projections and commutations),
    `C01_split_anywhere` (split streams) and `C01_end_to_end_interleaved` (the link to delivery: in ANY
    interleaving each receiver's digest is its own message).  What really remains, hence `_partial`:
    (1) of the connection driver only the error side is a component of the product
    (`H3.Iso.HEv.drive`: it closes the connection when it finds the error cell filled — which never
    happens in these runs); its other work — control stream, SETTINGS (here the parameters `L` /
    `applied`, write-once), GOAWAY and the closing flag (C08/C09), accepting streams (C04) — is
    modelled in those properties' machines, not in this product; (2) real tokio/Quinn scheduling is
    not modelled: the granularity is one poll of one task or one transport event, wakers are not
    modelled (a task that is `Pending` is polled again by the schedule, R-T). -/

/-- **`interleaving_irrelevant`.**
    (a) Send side, the connection machine of C14 (`H3.SendSide.step`: API calls of any stream,
    GOAWAY, grease stream, transport polls of any stream, in any order): the record — byte log,
    buffer in flight, FIN — of request stream `sid` after ANY run is the result of the steps that
    address `sid`, in their order; so two runs with the same steps for `sid` give it the same log,
    whatever else is interleaved.
    (b) Receive side with scripted transports (a delivery that arrives after a poll is a `pend` in the
    stream's script), any number of request streams sharing the connection error cell: for ANY
    schedule of polls of their calls, if each stream run alone answers no connection error, then in
    the interleaved run each stream gets exactly the answers, and ends in exactly the state, of its
    isolated run, and the cell is untouched; two polls of different streams commute.  (The link to
    delivery, with deliveries as events of the history, is `C01_end_to_end_interleaved`.)
    (c) One request stream, whole or split (`H3.E2E.Handle`): a step of the task that owns the send
    side and a poll of the task that owns the receive side commute — same answer, same state of the
    receive machine (buffer, decoder, `remaining_data`, remembered trailers, error cell, events to
    come), same state of the send machine (bytes taken, buffer in flight, FIN, grease flag); for the
    split itself see `C01_split_anywhere`. -/
theorem C01_interleaving_irrelevant_partial :
    (∀ (st : State) (steps : List Step) (sid : Nat) (s : Stream), sid % 4 = 0 →
      getStream st.streams sid = some s →
      getStream (run st steps).streams sid = some (runS s (steps.filterMap (proj sid)))) ∧
    (∀ (st : State) (steps steps' : List Step) (sid : Nat) (s : Stream), sid % 4 = 0 →
      getStream st.streams sid = some s → steps.filterMap (proj sid) = steps'.filterMap (proj sid) →
      getStream (run st steps).streams sid = getStream (run st steps').streams sid) ∧
    (∀ (H : Nat → Hdr) (σ : List (Nat × RCall)) (k : Conn),
      (∀ i, ∀ a ∈ (isolated (H i) k.cell (k.comps i) (callsFor σ i)).1, isErrConn a = false) →
      (∀ i, answersFor (Conn.run H k σ).1 i = (isolated (H i) k.cell (k.comps i) (callsFor σ i)).1 ∧
        (Conn.run H k σ).2.comps i = (isolated (H i) k.cell (k.comps i) (callsFor σ i)).2.2) ∧
      (Conn.run H k σ).2.cell = k.cell) ∧
    (∀ (H : Nat → Hdr) (k : Conn) (i j : Nat), i ≠ j → ∀ (ci cj : RCall),
      isErrConn (k.poll H i ci).1 = false → isErrConn (k.poll H j cj).1 = false →
      ((k.poll H i ci).2.poll H j cj).1 = (k.poll H j cj).1 ∧
      ((k.poll H j cj).2.poll H i ci).1 = (k.poll H i ci).1 ∧
      ((k.poll H i ci).2.poll H j cj).2.cell = ((k.poll H j cj).2.poll H i ci).2.cell ∧
      ∀ x, ((k.poll H i ci).2.poll H j cj).2.comps x = ((k.poll H j cj).2.poll H i ci).2.comps x) ∧
    (∀ (HL : Nat → Hdr) (h : Handle) (op : SOp) (call : RCall),
      ((h.sendOp op).recvPoll HL call).1 = (h.recvPoll HL call).1 ∧
      ((h.sendOp op).recvPoll HL call).2.rx = ((h.recvPoll HL call).2.sendOp op).rx ∧
      ((h.sendOp op).recvPoll HL call).2.tx = ((h.recvPoll HL call).2.sendOp op).tx ∧
      ((h.sendOp op).recvPoll HL call).2.rx = (h.recvPoll HL call).2.rx ∧
      ((h.sendOp op).recvPoll HL call).2.tx = op.apply h.tx) := by
  refine ⟨fun st steps sid s hs h => getStream_run steps st sid s hs h, ?_,
    fun H σ k hk => conn_run_projects H σ k hk,
    fun H k i j hij ci cj hi hj => conn_polls_commute H k i j hij ci cj hi hj, ?_⟩
  · intro st steps steps' sid s hs h heq
    rw [getStream_run steps st sid s hs h, getStream_run steps' st sid s hs h, heq]
  · intro HL h op call
    obtain ⟨a, b⟩ := send_recv_commute HL h op call
    refine ⟨a, b.rx, b.tx, ?_, ?_⟩
    · rw [b.rx, Handle.sendOp_rx]
    · rw [Handle.recvPoll_tx, Handle.sendOp_tx]

/-- (a) applied to a message: in ANY run of the sender's connection machine whose steps for
    stream `sid` are the awaited calls of `m` with their transport polls — other streams' calls and
    polls, GOAWAY, the grease stream interleaved at will — the stream's log is `wire m` (+ grease)
    and it is finished. -/
theorem C01_wire_of_send_in_any_run (m : Message) (h : Header) (hwf : WellFormed m h) (g : Bool)
    (gN : Nat) (hg : gN < GREASE_RANGE_END) (scripts : List (List Nat))
    (haw : Awaited (freshStream g) (callsOf (framesOf m h) gN scripts))
    (st : State) (sid : Nat) (hsid : sid % 4 = 0)
    (hfresh : getStream st.streams sid = some (freshStream g)) (steps : List Step)
    (hproj : steps.filterMap (proj sid) = opsOf (callsOf (framesOf m h) gN scripts)) :
    ∃ s, getStream (run st steps).streams sid = some s ∧
      s.log = streamBytes m (if g then some gN else none) ∧ s.fin = true :=
  sent_in_any_run m h hwf g gN hg scripts haw st sid hsid hfresh steps hproj

/-- **(b) linked to delivery: `recvPattern` inside any schedule of single polls.**  The receive side
    of a connection as in (b) — any number of request streams sharing the error cell, scripted
    transports — under ANY schedule `σ` of single polls of single calls.  Every stream that is
    scheduled at all carries a well-formed message (`Carries`: fresh component; a script with the
    stream bytes of `m` in any non-empty chunks, `pend` anywhere, FIN; within the limit; the head
    survives) and the polls scheduled for it are the polls the documented pattern makes
    (`patternCalls`: each call polled again while it answers `Pending` and events are left — `await`
    taken apart into its single polls).  Then for every such stream, in the interleaved run, the
    answers it got — the `Pending` ones dropped — are exactly the answers of `recvPattern` on its own
    script: the head, pieces of data, one `Ok(None)`, the trailers or `None`; decoded
    (`deliver`), that is its own message; and the error cell is untouched.  No hypothesis about
    errors: that no stream answers a connection error follows from the messages being well-formed
    (`recvPattern_valid`), which discharges the hypothesis of `conn_run_projects`. -/
theorem C01_recv_of_wire_in_any_schedule (H : Http) (role : Role) (L : Nat) (σ : List (Nat × RCall))
    (k : Conn) (hcell : k.cell = none)
    (hσ : ∀ i, callsFor σ i = [] ∨ ∃ m h out g script, Carries H role L k σ i m h out g script) :
    (∀ i m h out g script, Carries H role L k σ i m h out g script →
      settled (answersFor (Conn.run (fun _ => hdrOf H role L) k σ).1 i) =
        traceAnswers (recvPattern role (hdrOf H role L) script) ∧
      deliver H role L script =
        { head := some out, body := m.pieces.flatten, cleanEnd := true, ends := 1,
          trailers := some (m.trailers.map mapOf), env := {} }) ∧
    (Conn.run (fun _ => hdrOf H role L) k σ).2.cell = none := by
  have hno : ∀ i, ∀ a ∈ (isolated (hdrOf H role L) k.cell (k.comps i) (callsFor σ i)).1, isErrConn a = false := by
    intro i a ha
    rcases hσ i with h0 | ⟨m, h, out, g, script, c⟩
    · rw [h0] at ha; cases ha
    · exact (c.isolated hcell).2 a ha
  obtain ⟨hall, hc⟩ := conn_run_projects (fun _ => hdrOf H role L) σ k hno
  refine ⟨?_, by rw [hc, hcell]⟩
  intro i m h out g script c
  refine ⟨?_, deliver_streamBytes H role m h out L c.wf c.fits c.head g c.grease script c.scriptOK c.noReset
    c.fin c.bytes⟩
  rw [(hall i).1]
  exact (c.isolated hcell).1

/-- **`split_anywhere`.**  `split()` is modelled (`Model/Split.lean`): it consumes the whole stream
    object and builds two — the receive half is handed the buffered chunks, the end-of-stream flag,
    the decoder's memo, `remaining_data`, the remembered trailers and the size limit; the send half
    the send side, and fresh receive fields.  Then:
    (a) the documented receive pattern (head call, `recv_data` until `None`, `recv_trailers`; every call
    awaited = polled again after `Pending`), for both roles, on a handle that the application splits
    just before its `k`-th call — ANY `k`: before the head call, between two `recv_data` calls in the
    middle of a DATA frame, after the body's end with the trailers put aside, or never — answers what
    the pattern answers on the unsplit stream and leaves the receive machine in the same state; the
    send side is not touched;
    (b) on a stream just opened that is `recvPattern` — so every theorem about `recvPattern` /
    `deliver` (`C01_recv_of_wire`, `C01_end_to_end`) holds verbatim with a split anywhere;
    (c) ANY interleaving of receive polls, send steps (calls and transport polls) and `split()`s: the
    receive polls are answered, and leave the receive machine, as if made alone on the stream as it
    was; the send side is what the send steps alone make of it — the two tasks of a split stream
    are independent, and so are the two uses of a whole one;
    (d) `split()` itself commutes with a receive poll and with a send step. -/
theorem C01_split_anywhere :
    (∀ (role : Role) (HL : Nat → Hdr) (k : Option Nat) (h : Handle),
      (recvPatternH role HL k h).1 = (recvPatternFrom role (HL h.maxSize) h.rx).1 ∧
      (recvPatternH role HL k h).2.rx = (recvPatternFrom role (HL h.maxSize) h.rx).2 ∧
      (recvPatternH role HL k h).2.tx = h.tx) ∧
    (∀ (role : Role) (HL : Nat → Hdr) (k : Option Nat) (script : List Ev) (L : Nat) (tx : Stream),
      (recvPatternH role HL k (.whole (Whole.fresh script L tx))).1 = recvPattern role (HL L) script) ∧
    (∀ (HL : Nat → Hdr) (acts : List Act) (h : Handle),
      (Handle.run HL h acts).1 = (pollsRun (HL h.maxSize) h.rx (acts.filterMap Act.recv?)).1 ∧
      (Handle.run HL h acts).2.rx = (pollsRun (HL h.maxSize) h.rx (acts.filterMap Act.recv?)).2 ∧
      (Handle.run HL h acts).2.tx = runS h.tx (acts.filterMap Act.send?)) ∧
    (∀ (HL : Nat → Hdr) (h : Handle) (call : RCall) (op : SOp),
      (h.split.recvPoll HL call).1 = (h.recvPoll HL call).1 ∧
      (h.split.recvPoll HL call).2.rx = (h.recvPoll HL call).2.split.rx ∧
      (h.split.recvPoll HL call).2.tx = (h.recvPoll HL call).2.split.tx ∧
      (h.split.sendOp op).rx = (h.sendOp op).split.rx ∧ (h.split.sendOp op).tx = (h.sendOp op).split.tx) := by
  refine ⟨?_, ?_, ?_, ?_⟩
  · intro role HL k h
    obtain ⟨a, b, _, d⟩ := recvPatternH_sim role HL k h
    exact ⟨a, b, d⟩
  · intro role HL k script L tx
    rw [(recvPatternH_sim role HL k _).1]
    exact recvPatternFrom_fresh role (HL L) script
  · intro HL acts h
    obtain ⟨a, b, _, d⟩ := Handle.run_projects HL acts h
    exact ⟨a, b, d⟩
  · intro HL h call op
    obtain ⟨a, b⟩ := split_recv_commute HL h call
    have c := split_send_commute h op
    exact ⟨a, b.rx, b.tx, c.rx, c.tx⟩

/-- `C01_recv_of_wire` with a `split()` anywhere: the receiving application splits its stream just
    before ANY of its calls (or never); what it is handed is the message all the same. -/
theorem C01_recv_of_wire_split (H : Http) (role : Role) (m : Message) (h : Header) (out : HeadOut)
    (L : Nat) (hwf : WellFormed m h) (hfit : Fits m h L) (hhead : HeadOk H role m out)
    (g : Option Nat) (hg : ∀ n, g = some n → n < GREASE_RANGE_END)
    (script : List Ev) (hsc : ScriptOK script) (hnr : NoReset script) (hfin : hasFin script = true)
    (hbytes : evBytes (upToFin script) = streamBytes m g) (k : Option Nat) (tx : Stream) :
    deliverOf H role L (recvPatternH role (hdrOf H role) k (.whole (Whole.fresh script L tx))).1 =
      { head := some out, body := m.pieces.flatten, cleanEnd := true, ends := 1,
        trailers := some (m.trailers.map mapOf), env := {} } := by
  rw [C01_split_anywhere.2.1 role (hdrOf H role) k script L tx]
  exact deliver_streamBytes H role m h out L hwf hfit hhead g hg script hsc hnr hfin hbytes

/-- **`end_to_end_interleaved`.**  One connection, seen from both ends, run through ONE interleaved
    sequence `evs` of: steps of the sending endpoint's connection machine (C14: API calls and
    transport polls of any stream under any acceptance pattern, GOAWAY, the grease stream) and
    events of the receiving endpoint (C07's product: deliveries on, and polls of the calls of, any
    request stream; polls of its driver) — in ANY order.  `xs`: any number of exchanges
    (`Exchange.Ok`): a well-formed message within the receiver's limit, its head made of values of the
    `http` crate; among the sender's steps those of its stream are the awaited calls of the message
    with their transport polls (any acceptance scripts, R-14); the receiver's stream is delivered
    the bytes the sender's transport was handed, cut into non-empty chunks in ANY way, then FIN;
    the receiving application follows the documented pattern, every call polled again after
    `Pending`, its last poll after FIN; deliveries and polls interleaved at will with each other,
    with the other streams and with the sender's steps (a delivery need not come after the write it delivers: the
    transport is `Exchange.Ok.carried`, about the sender's final log; the sequences that respect causality are among those
    quantified over).  Every other stream of the receiver's
    history is such an exchange too, or at least is not told a connection-level error when run alone
    (any stream-scoped fault is allowed on it: C07).

    Then for EVERY exchange: the sender's stream has been handed exactly the stream bytes of its
    message and is finished; the receiving application's digest — ALL answers of ALL its polls, the
    `Pending` ones left out — is its own message: exactly one answer of the head call, the expected
    head (`expectedHead`: same method, scheme, authority, path, protocol / status, header values in
    per-name order); the body bytes handed out are the concatenation of the pieces sent; EXACTLY ONE
    `Ok(None)` among all `recv_data` answers (`ends = 1` is the count of `end_` in the digest), and it
    is the last; exactly one answer of `recv_trailers`, the trailers sent or `None`; h3 has reset and
    stopped nothing on the stream.  This is what `deliver` (the awaited `recvPattern`) reports for ANY
    scripted transport carrying the same bytes.  The error cell is empty and `close` was never called.

    No hypothesis about errors on the exchanges' streams (that they never write the error cell is
    proved: `healthy_quiet`), none about the receiver's parsers (`C01_head_survives`). -/
theorem C01_end_to_end_interleaved (H : Http) (L' : HttpLaws H) (R : HttpRoundTrip H) (role : Role)
    (L fuel : Nat) (xs : List Exchange) (st : State) (evs : List GEv)
    (hx : ∀ x ∈ xs, x.Ok H role L fuel st (sndOf evs) (rcvOf evs))
    (hothers : ∀ j ∈ Iso.sidsOf (rcvOf evs), (∃ x ∈ xs, x.sid = j) ∨
      ∀ o ∈ (Iso.Req.run (isoCfg H role L) none {} (Iso.proj j (rcvOf evs))).2.2, o.isConn = false) :
    (∀ x ∈ xs,
      (∃ s, getStream (grun (isoCfg H role L) st {} evs).1.streams x.sid = some s ∧
        s.log = streamBytes x.m (if x.g then some x.gN else none) ∧ s.fin = true) ∧
      deliveredOf H role L (Iso.digest (Iso.obsOf x.sid (grun (isoCfg H role L) st {} evs).2.2))
          (((grun (isoCfg H role L) st {} evs).2.1.get x.sid).rx.env) =
        { head := some (expectedHead x.m), body := x.m.pieces.flatten, cleanEnd := true, ends := 1,
          trailers := some (x.m.trailers.map mapOf), env := {} } ∧
      (Iso.digest (Iso.obsOf x.sid (grun (isoCfg H role L) st {} evs).2.2)).heads.length = 1 ∧
      (Iso.digest (Iso.obsOf x.sid (grun (isoCfg H role L) st {} evs).2.2)).trailers.length = 1 ∧
      (∀ script : List Ev, ScriptOK script → NoReset script → hasFin script = true →
        evBytes (upToFin script) = x.cs.flatten →
        deliver H role L script =
          deliveredOf H role L (Iso.digest (Iso.obsOf x.sid (grun (isoCfg H role L) st {} evs).2.2))
            (((grun (isoCfg H role L) st {} evs).2.1.get x.sid).rx.env))) ∧
    (grun (isoCfg H role L) st {} evs).2.1.cell = none ∧
    (grun (isoCfg H role L) st {} evs).2.1.closed = [] := by
  rw [grun_eq]
  simp only
  -- no stream of the history writes the cell
  have hq : Iso.QuietHist (isoCfg H role L) {} (rcvOf evs) := by
    refine .of_sids _ _ _ fun i hi => ?_
    rcases hothers i hi with ⟨x, hxm, rfl⟩ | ho
    · exact (hx x hxm).quiet L' R
    · exact Iso.quiet_of_no_connErr _ _ _ ho
  obtain ⟨hcell, hclosed, _⟩ := Iso.run_decomposes (isoCfg H role L) (rcvOf evs) {} rfl rfl hq
  refine ⟨fun x hxm => ?_, hcell, hclosed⟩
  have ok := hx x hxm
  obtain ⟨hd, h1, h2⟩ := ok.delivered_in L' R hq
  refine ⟨ok.sent, hd, h1, h2, ?_⟩
  intro script hsc hnr hfin hbytes
  rw [hd]
  obtain ⟨s, hs, hlog, _⟩ := ok.sent
  exact deliver_streamBytes H role x.m x.h _ L ok.wf ok.fits (ok.headOk L' R) _ ok.grease_ok script hsc hnr hfin
    (by rw [hbytes, ok.carried s hs, hlog])

/-! ## non-vacuity

A request with a repeated header name, a body handed over in two pieces (and an empty `send_data`
in between) and trailers; a response without body.  The `http` parameter is C12's `toy`. -/
section examples
open H3.Props.C12 (toy toy_laws GET aCom)

/-- `GET https://a.com/`, `x: 1`, `y: 2`, `x: 3`; body `01 02 03` · (empty) · `04 05`; trailers `z: 9` -/
def m₁ : Message :=
  { head := .request GET ⟨some sHttps, some aCom, some slash⟩ none
    headers := [([120], [49]), ([121], [50]), ([120], [51])]
    pieces := [[1, 2, 3], [], [4, 5]]
    trailers := some [([122], [57])] }

def h₁ : Header :=
  { pseudo := Pseudo.request GET ⟨some sHttps, some aCom, some slash⟩ none
    fields := [([120], [[49], [51]]), ([121], [[50]])] }

def out₁ : HeadOut :=
  .request { method := GET, uri := { scheme := some sHttps, authority := some aCom, path := some slash },
             protocol := none, headers := [([120], [[49], [51]]), ([121], [[50]])] }

def want₁ : Delivered :=
  { head := some out₁, body := [1, 2, 3, 4, 5], cleanEnd := true, ends := 1,
    trailers := some (some [([122], [[57]])]), env := {} }

/-- HEADERS(23 octets: `00 00`, `:method GET`, `:scheme https` static-indexed, three literals with
    static/literal names), DATA(3), DATA(0), DATA(2), HEADERS(6 octets) -/
theorem wire₁ : wire m₁ =
    [1, 23, 0, 0, 209, 215, 80, 132, 26, 228, 61, 63, 193, 41, 243, 129, 15, 41, 243, 129, 103, 41, 245,
     129, 23, 0, 3, 1, 2, 3, 0, 0, 0, 2, 4, 5, 1, 6, 0, 0, 41, 247, 129, 127] := by decide +kernel

example : wire m₁ =
    [1, 23, 0, 0, 209, 215, 80, 132, 26, 228, 61, 63, 193, 41, 243, 129, 15, 41, 243, 129, 103, 41, 245,
     129, 23, 0, 3, 1, 2, 3, 0, 0, 0, 2, 4, 5, 1, 6, 0, 0, 41, 247, 129, 127] := wire₁

/-- chunks cutting the HEADERS frame header, the field section, a DATA header and a payload; polls
    that find nothing before, between and after them (`wire₁` first, here and below: the evaluation
    then starts from the bytes, not from the encoder) -/
example : deliver toy .server 1000
    [.pend, .chunk ((wire m₁).take 1), .pend, .pend, .chunk (((wire m₁).drop 1).take 10),
     .chunk (((wire m₁).drop 11).take 17), .pend, .chunk ((wire m₁).drop 28), .pend, .fin] = want₁ := by
  rw [wire₁]; decide +kernel
/-- the receiver's limit is exact (C10): the head section has size 7·32 + 49 = 273; with a limit one
    less the request is refused and nothing is delivered (`classifyBlock` files `HeaderTooLong`
    under the stream-level refusals; its exact codes are C10's `recvSite`) -/
example : (deliver toy .server 272 (chunked 7 (wire m₁))).head = none ∧
    (deliver toy .server 272 (chunked 7 (wire m₁))).body = [] ∧
    (deliver toy .server 273 (chunked 7 (wire m₁))).head = some out₁ := by rw [wire₁]; decide +kernel

/-- a response: 204 with one field, no body, no trailers -/
def m₂ : Message := { head := .response 204, headers := [([120], [49])], pieces := [], trailers := none }

example : deliver toy .client 1000 (chunked 2 (wire m₂)) =
    { head := some (.response 204 [([120], [[49]])]), body := [], cleanEnd := true, ends := 1,
      trailers := some none, env := {} } := by decide +kernel

/-- several identical `Host` values survive the trip, in order; differing ones do not: the sender
    (`Header::request` compares only the first one with the URI's authority) submits them, the
    receiving h3 refuses the request (D-12e: every `Host` value must be the authority) — the
    hypothesis of `HeadOk.request` on the submitted `Host` values cannot be dropped -/
def m₃ : Message :=
  { head := .request GET ⟨some sHttps, some aCom, some slash⟩ none
    headers := [(nHost, aCom), ([120], [49]), (nHost, aCom)]
    pieces := []
    trailers := none }
def m₄ : Message :=
  { head := .request GET ⟨some sHttps, some aCom, some slash⟩ none
    headers := [(nHost, aCom), ([120], [49]), (nHost, [98])]
    pieces := []
    trailers := none }

example : (deliver toy .server 1000 (chunked 3 (wire m₃))).head =
    some (.request { method := GET, uri := { scheme := some sHttps, authority := some aCom, path := some slash },
                     protocol := none, headers := [(nHost, [aCom, aCom]), ([120], [[49]])] }) := by decide +kernel
def h₄ : Header :=
  { pseudo := Pseudo.request GET ⟨some sHttps, some aCom, some slash⟩ none
    fields := [(nHost, [aCom, [98]]), ([120], [[49]])] }
example : headerOf m₄ = .ok h₄ ∧
    (deliver toy .server 1000 (chunked 3 (wire m₄))).head = none := by decide +kernel

/-- the sender: HEADERS trickles out one byte at a time with `Pending` in between, the rest in
    bigger bites; the log is `wire m₁` and the stream is finished -/
example : (sendAll (freshStream false) (callsOf (framesOf m₁ h₁) 0
      [[1, 0, 1, 0, 0, 2, 3, 100], [5, 5], [0, 2], [1, 1, 1, 1], [3, 3, 3], []])).log = wire m₁ ∧
    (sendAll (freshStream false) (callsOf (framesOf m₁ h₁) 0
      [[1, 0, 1, 0, 0, 2, 3, 100], [5, 5], [0, 2], [1, 1, 1, 1], [3, 3, 3], []])).fin = true := by
  rw [wire₁]; decide +kernel

instance (f : FieldLine) : Decidable (RegularOk f) := by unfold RegularOk; infer_instance
instance (f : Qpack.Field) : Decidable (H3.Qpack.Lemmas.Encodable f) := by
  unfold H3.Qpack.Lemmas.Encodable; infer_instance
instance (l : List FieldLine) : Decidable (FieldsEncodable l) := by unfold FieldsEncodable; infer_instance
instance (l : List FieldLine) : Decidable (Holdable l) := by unfold Holdable; infer_instance

/-- any number of values under one name can be held (and is delivered): the limit is on names -/
example (k : Nat) : Holdable (List.replicate (k + 1) ([120], [49])) := by
  have key : ∀ (k : Nat) (vs : List (List Nat)),
      (fillFrom [([120], vs)] (List.replicate k ([120], [49]))).isSome = true := by
    intro k
    induction k with
    | zero => intro vs; rfl
    | succ k ih =>
      intro vs
      have h1 : ([([120], vs)] : HeaderMap).length < hmMaxEntries := by simp [hmMaxEntries]
      simp only [List.replicate_succ, fillFrom, hmTryAppend, if_pos h1, hmAppend, if_true]
      exact ih _
  have h0 : ([] : HeaderMap).length < hmMaxEntries := by decide
  simp only [Holdable, List.replicate_succ, fillFrom, hmTryAppend, if_pos h0, hmAppend]
  exact key k _

theorem values_GET (m : Message) (hm : m.head = .request GET ⟨some sHttps, some aCom, some slash⟩ none)
    (hh : allFirst (hmGroup (mapOf m.headers) nHost) = true) : HeadValues toy .server m :=
  HeadValues.request m GET ⟨some sHttps, some aCom, some slash⟩ none hm (by decide)
    (by intro s h; cases h; exact ⟨sHttps, by decide⟩) (by intro a h; cases h; exact ⟨aCom, by decide⟩)
    (by intro x h; cases h; exact ⟨slash, by decide⟩) (by intro x h; cases h) (by intro h; cases h) hh
    (by intro s h; cases h <;> decide) (by intro a h; cases h <;> decide)

theorem toy_rt : HttpRoundTrip toy where
  scheme_print_parse := by
    intro w v h
    obtain ⟨hc, rfl⟩ := Option.ite_some_none_eq_some.mp h
    exact if_pos hc
  path_print_parse := by
    intro w v h
    obtain ⟨hc, rfl⟩ := Option.ite_some_none_eq_some.mp h
    exact if_pos hc
  path_print_no_fragment := by
    intro w v h
    obtain ⟨hc, rfl⟩ := Option.ite_some_none_eq_some.mp h
    simpa [pathSyntax] using hc.2
  uri_parts := by
    intro s a p u h
    simp only [toy] at h
    split at h
    · exact (Option.ite_some_none_eq_some.mp h).2.symm
    · cases h
  uri_builds := by
    intro s a p _ ha _
    simp only [toy, if_pos (Option.ite_some_none_eq_some.mp ha).1]
    rfl
  uri_builds_authority := by
    intro a ha
    simp only [toy, if_pos (Option.ite_some_none_eq_some.mp ha).1]
    rfl

/-- the hypotheses of the theorems are satisfiable: `m₁` is well-formed and fits its exact size 273 ... -/
theorem checks₁ : WellFormed m₁ h₁ ∧ Fits m₁ h₁ 273 := wellFormed_fits_of_checks (by decide +kernel)

theorem wf₁ : WellFormed m₁ h₁ := checks₁.1

theorem fits₁ : Fits m₁ h₁ 273 := checks₁.2

theorem values₁ : HeadValues toy .server m₁ := values_GET m₁ rfl (by decide)

/-- ... and its head survives: a consequence of the laws; what arrives is `out₁` -/
theorem headOk₁ : HeadOk toy .server m₁ out₁ :=
  C01_head_survives toy toy_laws toy_rt .server m₁ h₁ wf₁.header values₁

example : HeadOk toy .server m₁ out₁ := headOk₁

theorem deliver_chunked (m : Message) (h : Header) (out : HeadOut) (L k : Nat) (g : Option Nat)
    (hwf : WellFormed m h) (hfit : Fits m h L) (hhead : HeadOk toy .server m out)
    (hg : ∀ n, g = some n → n < GREASE_RANGE_END) :
    deliver toy .server L (chunked k (streamBytes m g)) =
      { head := some out, body := m.pieces.flatten, cleanEnd := true, ends := 1,
        trailers := some (m.trailers.map mapOf), env := {} } := by
  obtain ⟨a, b, c, d⟩ := chunked_spec k (streamBytes m g)
  exact C01_recv_of_wire toy .server m h out L hwf hfit hhead g hg _ a b c d

/-- the theorem applied: every script carrying `wire m₁` delivers `want₁` — 5-byte chunks under the exact limit -/
example : deliver toy .server 273 (chunked 5 (wire m₁)) = want₁ := by
  have h := deliver_chunked m₁ h₁ out₁ 273 5 none wf₁ fits₁ headOk₁ (by intro n h; cases h)
  simp only [streamBytes, greaseBytes, List.append_nil] at h
  exact h
/-- one byte per chunk -/
example : deliver toy .server 1000 (chunked 1 (wire m₁)) = want₁ := by
  have h := deliver_chunked m₁ h₁ out₁ 1000 1 none wf₁ (fits₁.mono (by decide)) headOk₁ (by intro n h; cases h)
  simp only [streamBytes, greaseBytes, List.append_nil] at h
  exact h
/-- the handle owed the grease frame (draw 5: type `0x40bc`): it follows the trailers and is skipped -/
example : deliver toy .server 1000 (chunked 7 (streamBytes m₁ (some 5))) = want₁ :=
  deliver_chunked m₁ h₁ out₁ 1000 7 (some 5) wf₁ (fits₁.mono (by decide)) headOk₁ (by intro n h; cases h; decide)

/-- a plain CONNECT: authority-form target `a.com:443`, neither `:scheme` nor `:path` on the wire; the
    receiving application is handed method, authority and nothing else of a URI -/
def aPort : List Nat := [97, 46, 99, 111, 109, 58, 52, 52, 51]
def m₅ : Message :=
  { head := .request mCONNECT ⟨none, some aPort, none⟩ none
    headers := [([120], [49])], pieces := [[9, 8], [7]], trailers := none }

example : expectedHead m₅ =
    .request { method := mCONNECT, uri := { scheme := none, authority := some aPort, path := none },
               protocol := none, headers := [([120], [[49]])] } := by decide +kernel

example : deliver toy .server 1000 (chunked 3 (wire m₅)) =
    { head := some (expectedHead m₅), body := [9, 8, 7], cleanEnd := true, ends := 1,
      trailers := some none, env := {} } := by decide +kernel

/-- ... and the hypotheses of `C01_head_survives` hold for it -/
example : HeadValues toy .server m₅ :=
  HeadValues.request m₅ mCONNECT ⟨none, some aPort, none⟩ none rfl (by decide)
    (by intro s h; cases h) (by intro a h; cases h; exact ⟨aPort, by decide⟩)
    (by intro x h; cases h) (by intro x h; cases h) (by intro h; cases h) (by decide)
    (by intro s h; cases h <;> decide) (by intro a h; cases h <;> decide)

/-- two lists taken in turn -/
def zip2 {α : Type} : List α → List α → List α
  | [], b => b
  | a, [] => a
  | x :: a, y :: b => x :: y :: zip2 a b

instance decAwaited : ∀ (s : Stream) (calls : List (SOp × List Nat)), Decidable (Awaited s calls)
  | _, [] => isTrue trivial
  | s, c :: r =>
    have := decAwaited (callS s c) r
    inferInstanceAs (Decidable (_ ∧ _))

/-- the step of the connection machine that a step of stream `sid`'s program is -/
def stepOf (sid : Nat) : SOp → Step
  | .headers fs => .sendHeaders sid fs
  | .data b => .sendData sid b
  | .finish gN => .finish sid gN
  | .poll k => .poll sid k

/-- `w` in pieces of `k` bytes -/
def cut (k : Nat) : Nat → List Nat → List (List Nat)
  | 0, _ => []
  | _, [] => []
  | fuel+1, w => w.take (max k 1) :: cut k fuel (w.drop (max k 1))

/-- a task that is polled after every delivery on its stream: the call it polls is the one the
    documented pattern is at (`H3.Iso.APhase`), given what it has been answered so far -/
def sched (cfg : Iso.Cfg) (fuel : Nat) : Iso.APhase → Option Nat → Iso.Req → List Iso.Peer → List Iso.StreamEv
  | _, _, _, [] => []
  | .head, cell, r, p :: ps =>
    .peer p :: .call .head ::
      sched cfg fuel (Iso.APhase.after .head (Iso.Req.step cfg cell (r.deliver p) (.call .head)).2.2)
        (Iso.Req.step cfg cell (r.deliver p) (.call .head)).2.1
        (Iso.Req.step cfg cell (r.deliver p) (.call .head)).1 ps
  | .body, cell, r, p :: ps =>
    .peer p :: .call (.body fuel) ::
      sched cfg fuel (Iso.APhase.after .body (Iso.Req.step cfg cell (r.deliver p) (.call (.body fuel))).2.2)
        (Iso.Req.step cfg cell (r.deliver p) (.call (.body fuel))).2.1
        (Iso.Req.step cfg cell (r.deliver p) (.call (.body fuel))).1 ps
  | .done, cell, r, p :: ps => .peer p :: sched cfg fuel .done cell (r.deliver p) ps

/-- a second request: `GET`, one body byte, no trailers -/
def m₆ : Message :=
  { head := .request GET ⟨some sHttps, some aCom, some slash⟩ none
    headers := [([121], [50])], pieces := [[7]], trailers := none }
def h₆ : Header :=
  { pseudo := Pseudo.request GET ⟨some sHttps, some aCom, some slash⟩ none, fields := [([121], [[50]])] }

/-- stream 0: `m₁`, the handle owes the grease frame (draw 5), HEADERS trickles out byte by byte with
    `Pending`s in between, the transport cuts the stream into 5-byte chunks; stream 4: `m₆`, written
    at once, cut into 3-byte chunks -/
def x₀ : Exchange :=
  { sid := 0, m := m₁, h := h₁, g := true, gN := 5
    scripts := [[1, 0, 1, 0, 0, 2, 3, 100], [5, 5], [0, 2], [1, 1, 1, 1], [3, 3, 3], [2, 0, 100]]
    cs := cut 5 100 (streamBytes m₁ (some 5)) }
def x₄ : Exchange :=
  { sid := 4, m := m₆, h := h₆, g := false, gN := 0, scripts := [[100, 100], [100, 100], []]
    cs := cut 3 100 (streamBytes m₆ none) }

def st₀ : State :=
  { server := false, cfg := { grease := true, mfs := 0, wt := false, ec := false, dg := false, wts := 0 }
    streams := [(0, freshStream true), (4, freshStream false)]
    built := true, connGrease := false, greaseStreamFlag := false }

def cfg₀ : Iso.Cfg := isoCfg toy .server 1000

/-- the sender's steps: the two programs taken in turn, a GOAWAY in between -/
def steps₀ : List Step :=
  zip2 ((opsOf x₀.calls).map (stepOf 0)) (.goaway 0 :: (opsOf x₄.calls).map (stepOf 4))

/-- the receiver's history: each stream's task polled after each of its deliveries; the two streams
    taken in turn; driver polls at both ends -/
def hist₀ : List Iso.HEv :=
  .drive :: zip2 ((sched cfg₀ 100 .head none {} (x₀.cs.map Iso.Peer.chunk ++ [.fin])).map (.on 0))
    ((sched cfg₀ 100 .head none {} (x₄.cs.map Iso.Peer.chunk ++ [.fin])).map (.on 4)) ++ [.drive]

/-- both ends in one sequence, taken in turn: chunks are delivered while the sender is still writing
    other parts of the message -/
def evs₀ : List GEv := zip2 (steps₀.map .snd) (hist₀.map .rcv)

theorem checks₆ : WellFormed m₆ h₆ ∧ Fits m₆ h₆ 1000 := wellFormed_fits_of_checks (by decide +kernel)

theorem wf₆ : WellFormed m₆ h₆ := checks₆.1

theorem values₆ : HeadValues toy .server m₆ := values_GET m₆ rfl (by decide)

def isPendingAns : Iso.Obs → Bool
  | .ans (.res .pending) => true
  | _ => false
def isBodyPoll : Iso.Obs → Bool
  | .body _ _ => true
  | _ => false
/-- everything about `evs₀` that is decided by evaluation, in one statement: evaluated apart, each part
    would run the two schedules again -/
theorem evs₀_checks :
    x₀.Checks toy .server 1000 100 st₀ (sndOf evs₀) (rcvOf evs₀) ∧
    x₄.Checks toy .server 1000 100 st₀ (sndOf evs₀) (rcvOf evs₀) ∧
    (∀ j ∈ Iso.sidsOf (rcvOf evs₀), j = 0 ∨ j = 4) ∧
    (((Iso.obsOf 0 (grun cfg₀ st₀ {} evs₀).2.2).filter isPendingAns).length = 4 ∧
      ((Iso.obsOf 0 (grun cfg₀ st₀ {} evs₀).2.2).filter isBodyPoll).length = 7 ∧ evs₀.length = 78) := by
  decide +kernel

theorem ok₀ : x₀.Ok toy .server 1000 100 st₀ (sndOf evs₀) (rcvOf evs₀) :=
  .of_checks wf₁ (fits₁.mono (by decide)) values₁ evs₀_checks.1

theorem ok₄ : x₄.Ok toy .server 1000 100 st₀ (sndOf evs₀) (rcvOf evs₀) :=
  .of_checks wf₆ checks₆.2 values₆ evs₀_checks.2.1

/-- the theorem applied to the two exchanges: the digest of stream 0 is `want₁`, stream 4 is handed
    its own message; the cell is empty, nothing was closed -/
example :
    deliveredOf toy .server 1000 (Iso.digest (Iso.obsOf 0 (grun cfg₀ st₀ {} evs₀).2.2))
      (((grun cfg₀ st₀ {} evs₀).2.1.get 0).rx.env) = want₁ ∧
    (deliveredOf toy .server 1000 (Iso.digest (Iso.obsOf 4 (grun cfg₀ st₀ {} evs₀).2.2))
      (((grun cfg₀ st₀ {} evs₀).2.1.get 4).rx.env)).body = [7] ∧
    (grun cfg₀ st₀ {} evs₀).2.1.cell = none ∧ (grun cfg₀ st₀ {} evs₀).2.1.closed = [] := by
  unfold cfg₀
  have h := C01_end_to_end_interleaved toy toy_laws toy_rt .server 1000 100 [x₀, x₄] st₀ evs₀
    (by
      intro x hx
      simp only [List.mem_cons, List.mem_nil_iff, or_false] at hx
      rcases hx with rfl | rfl
      · exact ok₀
      · exact ok₄)
    (by
      intro j hj
      rcases evs₀_checks.2.2.1 j hj with rfl | rfl
      · exact Or.inl ⟨x₀, by simp, rfl⟩
      · exact Or.inl ⟨x₄, by simp, rfl⟩)
  -- instances brought to the letter of the goal first: left to unify `x₀.sid` with `0` (or `cfg₀` with its
  -- value) under the projections of `grun …`, Lean evaluates the run
  have h0 := (h.1 x₀ (by simp)).2.1
  have h4 := (h.1 x₄ (by simp)).2.1
  rw [show x₀.sid = 0 from rfl] at h0
  rw [show x₄.sid = 4 from rfl] at h4
  rw [h0, h4]
  exact ⟨by decide +kernel, by decide +kernel, h.2.1, h.2.2⟩

/-- the history is not a sequential one: the head call of stream 0 answers `Pending` four times
    before it answers (the HEADERS frame arrives in five chunks), the body task is polled seven times -/
example : ((Iso.obsOf 0 (grun cfg₀ st₀ {} evs₀).2.2).filter isPendingAns).length = 4 ∧
    ((Iso.obsOf 0 (grun cfg₀ st₀ {} evs₀).2.2).filter isBodyPoll).length = 7 ∧ evs₀.length = 78 := by
  exact evs₀_checks.2.2.2

/-- the transport delivers `wire m₁` so that the first DATA frame (`00 03 01 02 03`) is cut after its
    first payload byte -/
def script₁ : List Ev :=
  [.chunk ((wire m₁).take 28), .pend, .chunk (((wire m₁).drop 28).take 3), .chunk ((wire m₁).drop 31), .pend, .fin]

/-- `wire m₆` in 3-byte chunks with polls that find nothing in between -/
def script₆ : List Ev :=
  [.pend, .chunk ((wire m₆).take 3), .pend, .chunk (((wire m₆).drop 3).take 3), .chunk ((wire m₆).drop 6), .pend, .fin]

def hd₀ : Hdr := hdrOf toy .server 1000

/-- the schedule: the single polls of the two streams' patterns, taken in turn -/
def σ₀ : List (Nat × RCall) :=
  zip2 ((patternCalls .server hd₀ { src := ({}, script₁) }).map (fun c => (0, c)))
    ((patternCalls .server hd₀ { src := ({}, script₆) }).map (fun c => (4, c)))

def k₀ : Conn :=
  { cell := none
    comps := fun i => if i = 0 then { src := ({}, script₁) } else if i = 4 then { src := ({}, script₆) }
      else { src := ({}, []) } }

/-- everything about `σ₀` that is decided by evaluation, in one statement (as `evs₀_checks`) -/
theorem σ₀_checks :
    Carries.Checks toy .server 1000 σ₀ 0 m₁ none script₁ ∧
    Carries.Checks toy .server 1000 σ₀ 4 m₆ none script₆ ∧
    (∀ e ∈ σ₀, e.1 = 0 ∨ e.1 = 4) ∧
    traceAnswers (recvPattern .server hd₀ script₁) =
      [.head (fieldSection h₁), .data [1], .data [2, 3], .data [4, 5], .end_, .trailers (trailerSection [([122], [57])])] ∧
    traceAnswers (recvPattern .server hd₀ script₆) = [.head (fieldSection h₆), .data [7], .end_, .noTrailers] ∧
    (answersFor (Conn.run (fun _ => hd₀) k₀ σ₀).1 4 =
      [.pending, .pending, .head (fieldSection h₆), .data [7], .end_, .noTrailers] ∧ σ₀.length = 12) := by
  decide +kernel

theorem carries₀ : Carries toy .server 1000 k₀ σ₀ 0 m₁ h₁ out₁ none script₁ :=
  .of_checks wf₁ (fits₁.mono (by decide)) headOk₁ rfl σ₀_checks.1

theorem carries₄ : Carries toy .server 1000 k₀ σ₀ 4 m₆ h₆ (expectedHead m₆) none script₆ :=
  .of_checks wf₆ checks₆.2 (C01_head_survives toy toy_laws toy_rt .server m₆ h₆ wf₆.header values₆) rfl
    σ₀_checks.2.1

/-- `C01_recv_of_wire_in_any_schedule` applied: 12 single polls of two streams in turn; stream 0 is
    answered head, `01`, `02 03`, `04 05`, `None`, trailers; stream 4 is answered `Pending` twice (its
    script begins with a poll that finds nothing, and another follows the first chunk), then its
    head, `07`, `None`, no trailers -/
example :
    settled (answersFor (Conn.run (fun _ => hd₀) k₀ σ₀).1 0) =
      [.head (fieldSection h₁), .data [1], .data [2, 3], .data [4, 5], .end_, .trailers (trailerSection [([122], [57])])] ∧
    settled (answersFor (Conn.run (fun _ => hd₀) k₀ σ₀).1 4) =
      [.head (fieldSection h₆), .data [7], .end_, .noTrailers] ∧
    answersFor (Conn.run (fun _ => hd₀) k₀ σ₀).1 4 =
      [.pending, .pending, .head (fieldSection h₆), .data [7], .end_, .noTrailers] ∧ σ₀.length = 12 := by
  have hσ : ∀ i, callsFor σ₀ i = [] ∨ ∃ m h out g script, Carries toy .server 1000 k₀ σ₀ i m h out g script := by
    intro i
    by_cases h0 : i = 0
    · subst h0; exact Or.inr ⟨_, _, _, _, _, carries₀⟩
    · by_cases h4 : i = 4
      · subst h4; exact Or.inr ⟨_, _, _, _, _, carries₄⟩
      · left
        unfold callsFor
        rw [List.map_eq_nil_iff, List.filter_eq_nil_iff]
        intro e he
        rcases σ₀_checks.2.2.1 e he with h | h <;> simp [h, Ne.symm h0, Ne.symm h4]
  have h := (C01_recv_of_wire_in_any_schedule toy .server 1000 σ₀ k₀ rfl hσ).1 0 m₁ h₁ out₁ none script₁ carries₀
  have h' := (C01_recv_of_wire_in_any_schedule toy .server 1000 σ₀ k₀ rfl hσ).1 4 m₆ h₆ _ none script₆ carries₄
  exact ⟨h.1.trans σ₀_checks.2.2.2.1, h'.1.trans σ₀_checks.2.2.2.2.1, σ₀_checks.2.2.2.2.2⟩

/-- on `script₁` the application splits before its 2nd call (`some 1`: after the head), its 3rd (`some 2`:
    between two `recv_data`, one payload byte handed out, `remaining_data = 2`), its last (`some 5`: the
    trailers put aside) or never: same answers (`C01_split_anywhere`), decoded to `want₁` -/
example : ∀ k ∈ [none, some 1, some 2, some 3, some 5, some 6],
    (recvPatternH .server (hdrOf toy .server) k (.whole (Whole.fresh script₁ 1000 (freshStream false)))).1 =
      recvPattern .server (hdrOf toy .server 1000) script₁ ∧
    deliverOf toy .server 1000
      (recvPatternH .server (hdrOf toy .server) k (.whole (Whole.fresh script₁ 1000 (freshStream false)))).1 = want₁ := by
  intro k _
  have e := C01_split_anywhere.2.1 .server (hdrOf toy .server) k script₁ 1000 (freshStream false)
  rw [e]
  exact ⟨rfl, C01_recv_of_wire toy .server m₁ h₁ out₁ 1000 wf₁ (fits₁.mono (by decide)) headOk₁ none
    carries₀.grease script₁ carries₀.scriptOK carries₀.noReset carries₀.fin carries₀.bytes⟩

/-- the stream in the middle of that DATA frame: one payload byte handed out, two to come, one of
    them buffered -/
def mid₁ : Whole :=
  { fs := { buf := [[2]], remaining := 2 }, script := [.chunk [3, 0, 0], .fin], maxSize := 1000,
    tx := freshStream false }

/-- after `split()` the receive half goes on inside the payload ... -/
example : ((Handle.whole mid₁).split.recvPoll (hdrOf toy .server) .data).1 = .data [2] ∧
    ((Handle.whole mid₁).recvPoll (hdrOf toy .server) .data).1 = .data [2] := by decide +kernel

/-- ... which is a property of `Whole.split`, not of the shape of the records: a `split` that starts the
    receive half with `remaining_data = 0` (`FrameStream::new`, as in the seeded change) reads the
    payload byte `02` as a frame type and the call fails -/
example : (Handle.recvPoll (hdrOf toy .server) .data
      (.halves mid₁.split.1 { mid₁.split.2 with fs := { mid₁.split.2.fs with remaining := 0 } })).1 ≠ .data [2] := by
  decide +kernel

/-- the send half and the receive half at work in any order: three interleavings of the same send
    steps and the same receive polls around a `split()` -/
example :
    let acts₁ : List Act := [.recv .data, .split, .send (.data [7]), .send (.poll 2), .recv .data, .send (.poll 9)]
    let acts₂ : List Act := [.send (.data [7]), .recv .data, .send (.poll 2), .send (.poll 9), .recv .data, .split]
    let acts₃ : List Act := [.split, .send (.data [7]), .send (.poll 2), .send (.poll 9), .recv .data, .recv .data]
    let h₀ := Handle.whole mid₁
    (Handle.run (hdrOf toy .server) h₀ acts₁).1 = [.data [2], .data [3]] ∧
    (Handle.run (hdrOf toy .server) h₀ acts₂).1 = [.data [2], .data [3]] ∧
    (Handle.run (hdrOf toy .server) h₀ acts₃).1 = [.data [2], .data [3]] ∧
    (Handle.run (hdrOf toy .server) h₀ acts₁).2.tx.log = [0, 1, 7] ∧
    (Handle.run (hdrOf toy .server) h₀ acts₂).2.tx.log = [0, 1, 7] ∧
    (Handle.run (hdrOf toy .server) h₀ acts₃).2.tx.log = [0, 1, 7] := by decide +kernel

end examples

end H3.Props.C01
