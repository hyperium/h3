import H3.Model.Settings
import H3.Model.Config
import H3.Spec.Settings
import H3.Lemmas.Settings
import H3.Lemmas.WriteBuf
import H3.Gen.CtlArms
/-! # C13 — SETTINGS are sent, parsed and applied exactly, for every configuration

Models: `H3.Settings` (`proto/frame.rs`: `Settings`, `SettingId`,
`SettingsError`; the control-stream `WriteBuf`), `H3.Config` (`config.rs`, the conversion-error
path of `connection.rs`, the settings cell of `shared_state.rs`).  Oracle: `H3.Spec.Settings`
(RFC 9114 §7.2.4, §7.2.4.1, §7.2.4.2, §11.2.2; RFC 9297 §2.1.1, RFC 8441 §3).  The models describe the tree
with the D-13 repair (`Settings::insert` refuses identifiers and values ≥ 2^62) and with the D-13b repair
(`Settings::decode` refuses H3_DATAGRAM / ENABLE_CONNECT_PROTOCOL above 1; the list of such identifiers is the
translator's `booleanIds`, proved equal to the specification's `boolean01`). -/
namespace H3.Props.C13
open H3.Varint (Bytes WF writeVar)
open H3.Settings H3.Config H3.Gen.Consts H3.Gen.Settings
open H3.Spec.Settings (parse reserved known hasReserved repeatsKnown numeric FlagOk FlagExact hasBadFlag boolean01
  demand unlimited expectedSent isGrease
  MAX_FIELD_SECTION_SIZE ENABLE_CONNECT_PROTOCOL H3_DATAGRAM ENABLE_WEBTRANSPORT WEBTRANSPORT_MAX_SESSIONS
  H3_SETTINGS_ERROR)

/-- Every draw of `SettingId::grease()` (`N < GREASE_N_BOUND`) is a grease identifier that fits a
    varint, and no grease identifier — whatever `N` — is an identifier h3 understands or an
    HTTP/2-reserved one (arithmetic modulo 31). -/
theorem C13_grease_distinct (n : Nat) :
    (n < GREASE_N_BOUND → greaseId n < 2^62) ∧ isGrease (greaseId n) ∧
    greaseId n ∉ known ∧ greaseId n ∉ reserved ∧ isSupported (greaseId n) = false ∧
    isForbidden (greaseId n) = false := by
  refine ⟨fun h => ?_, ⟨n, by simp only [greaseId, GREASE_MUL, GREASE_ADD]; omega⟩,
    greaseId_not_mem (by decide) n, greaseId_not_mem (by decide) n, ?_, ?_⟩
  · simp only [greaseId, GREASE_MUL, GREASE_ADD, GREASE_N_BOUND] at *; omega
  · exact H3.Spec.Output.reserved_not_mem (greaseId_reserved n) supportedIds (by decide)
  · exact H3.Spec.Output.reserved_not_mem (greaseId_reserved n) forbiddenIds (by decide)

example : greaseId 1337 = 41480 ∧ isSupported 41480 = false := by decide

/-- **Sent SETTINGS.**  For every configuration whose two numbers fit a varint and every grease
    draw: the conversion and the encoding succeed (no panic, no error), the peer sees
    `00 04 len payload` on the control stream with `len = |payload|` (a one-byte length), at most
    42 bytes in all, which fits the `WRITE_BUF_ENCODE_SIZE` array; the payload consists of bytes and
    its RFC parse is exactly the configured values (plus the grease pair iff grease is on); no
    identifier occurs twice and none is HTTP/2-reserved. -/
theorem C13_sent_settings (c : Config) (n : Nat)
    (hm : c.settings.mfs < 2^62) (hw : c.settings.wts < 2^62) (hg : greaseId n < 2^62) :
    ∃ payload : Bytes,
      setup c n = .sent ([0x00, 0x04, payload.length] ++ payload) ∧
      payload.length < 64 ∧
      ([0x00, 0x04, payload.length] ++ payload).length ≤ 42 ∧ 42 ≤ WRITE_BUF_ENCODE_SIZE ∧
      WF payload ∧
      parse payload = some (expectedSent c.grease n c.settings.mfs c.settings.ec c.settings.wt
        c.settings.dg c.settings.wts) ∧
      ((expectedSent c.grease n c.settings.mfs c.settings.ec c.settings.wt c.settings.dg
        c.settings.wts).map (·.1)).Nodup ∧
      (∀ p ∈ expectedSent c.grease n c.settings.mfs c.settings.ec c.settings.wt c.settings.dg
        c.settings.wts, p.1 ∉ reserved) := by
  have hf := entriesOf_fits c n hm hw hg
  have hs := entriesOf_size c n
  have hlen := encPairs_length _ hf
  refine ⟨encPairs (entriesOf c n), ?_, by omega, by simp; omega, by decide, encPairs_wf _ hf, ?_, ?_, ?_⟩
  · unfold setup
    rw [toSettings_ok c n hm hw hg]
    simp only
    rw [controlHeader_entriesOf c n hm hw hg]
    rfl
  · rw [← entriesOf_eq_expected]; exact parse_encPairs _ hf
  · rw [← entriesOf_eq_expected]; exact entriesOf_nodup c n
  · rw [← entriesOf_eq_expected, ← forbidden_eq_reserved]
    exact entriesOf_ids c n (P := (· ∉ forbiddenIds)) (greaseId_not_mem (by decide) n) (by decide)

example : setup ⟨true, ⟨5, true, false, true, 16384⟩⟩ 0 =
    .sent [0x00, 0x04, 0x15, 0x21, 0x00, 0x06, 0x05, 0x08, 0x00, 0xab, 0x60, 0x37, 0x42, 0x01, 0x33, 0x01,
           0xab, 0x60, 0x37, 0x43, 0x80, 0x00, 0x40, 0x00] := by decide
example : parse [0x21, 0x00, 0x06, 0x05, 0x08, 0x00, 0xab, 0x60, 0x37, 0x42, 0x01, 0x33, 0x01,
    0xab, 0x60, 0x37, 0x43, 0x80, 0x00, 0x40, 0x00] =
    some (expectedSent true 0 5 false true true 16384) := by decide

/-- **Numbers that do not fit a varint** (D-13, repaired): the conversion returns an error, so
    `build` returns the `H3_INTERNAL_ERROR` connection error; nothing is encoded or written and
    nothing panics. -/
theorem C13_sent_settings_big (c : Config) (n : Nat) (hg : greaseId n < 2^62)
    (hbig : 2^62 ≤ c.settings.mfs ∨ 2^62 ≤ c.settings.wts) :
    (∃ id v, toSettings c n = .error (.invalidSettingValue id v) ∧ 2^62 ≤ v) ∧
    setup c n = .refused CODE_H3_INTERNAL_ERROR := by
  obtain ⟨id, v, h, hv⟩ := toSettings_big c n hg (by omega)
  refine ⟨⟨id, v, h, by omega⟩, ?_⟩
  unfold setup; rw [h]

example : setup ⟨false, ⟨2^62, false, false, false, 0⟩⟩ 0 = .refused 258 := by decide
example : setup ⟨true, ⟨0, true, true, true, 2^64 - 1⟩⟩ 7 = .refused 258 :=
  (C13_sent_settings_big _ _ (by decide) (.inr (by decide))).2

/-- **Which configurations setup accepts.**  Setup never panics; it completes (the peer sees the
    control-stream header) exactly when both configured numbers fit a varint, and is refused with
    a connection error otherwise — "the builder accepts" = the conversion succeeds. -/
theorem C13_setup_total (c : Config) (n : Nat) (hg : greaseId n < 2^62) :
    setup c n ≠ .panic ∧
    ((∃ b, setup c n = .sent b) ↔ (c.settings.mfs < 2^62 ∧ c.settings.wts < 2^62)) ∧
    ((∃ code, setup c n = .refused code) ↔ (2^62 ≤ c.settings.mfs ∨ 2^62 ≤ c.settings.wts)) := by
  by_cases h : c.settings.mfs < 2^62 ∧ c.settings.wts < 2^62
  · obtain ⟨p, hp, _⟩ := C13_sent_settings c n h.1 h.2 hg
    rw [hp]
    refine ⟨by simp, ⟨fun _ => h, fun _ => ⟨_, rfl⟩⟩, ⟨?_, fun hb => by omega⟩⟩
    rintro ⟨code, hc⟩; cases hc
  · have hb : 2^62 ≤ c.settings.mfs ∨ 2^62 ≤ c.settings.wts := by omega
    rw [(C13_sent_settings_big c n hg hb).2]
    refine ⟨by simp, ⟨?_, fun h' => absurd h' h⟩, ⟨fun _ => hb, fun _ => ⟨_, rfl⟩⟩⟩
    rintro ⟨b, hc⟩; cases hc

example : setup ⟨true, ⟨2^62 - 1, true, true, true, 2^62 - 1⟩⟩ (GREASE_N_BOUND - 1) ≠ .panic :=
  (C13_setup_total _ _ (by decide)).1

/-- Why the repair sits in `insert`: `Settings::len`/`encode` panic (`unwrap` on
    `VarInt::from_u64`) on any stored identifier or value ≥ 2^62 — the unrepaired conversion stored
    the configured number unchecked and `build` panicked here. -/
theorem C13_encode_panics_unchecked (s : Settings)
    (h : ∃ p ∈ s.entries, 2^62 ≤ p.1 ∨ 2^62 ≤ p.2) : encode? s = none ∧ controlHeader? s = none := by
  have hnf : ¬ Fits s.entries := by
    intro hf
    obtain ⟨p, hp, hb⟩ := h
    have := hf p hp
    omega
  have he := encode?_panic s (fun h => hnf h.1)
  refine ⟨he, ?_⟩
  unfold controlHeader?
  rw [he]
  cases writeVar STREAM_CONTROL <;> rfl

example : controlHeader? ⟨[(6, 2^62)]⟩ = none := by decide

/-- **Received SETTINGS.**  For every payload (any bytes): a truncated entry is a connection error;
    a reserved identifier is H3_SETTINGS_ERROR; a repeated understood identifier is
    H3_SETTINGS_ERROR; H3_DATAGRAM or ENABLE_CONNECT_PROTOCOL with a value other than 0 and 1 is
    H3_SETTINGS_ERROR (reading R-13b, the repair of D-13b); otherwise the payload is accepted, exactly the
    understood pairs are stored (unknown ones ignored, repeated or not — reading R-13), and
    `From<&Settings>` reports for each setting the single value carried, or its default when absent
    (H3_DATAGRAM / ENABLE_CONNECT_PROTOCOL exactly: on iff the value 1 is carried; ENABLE_WEBTRANSPORT: off
    for 0, on for 1).  The only errors are Malformed / InvalidSettingId(reserved) / Repeated(understood) /
    InvalidSettingValue(0/1 setting, value > 1) — never Exceeded — and every one of them closes the
    connection with H3_SETTINGS_ERROR. -/
theorem C13_recv_settings (bs : Bytes) (hwf : WF bs) :
    (parse bs = none → ∃ e, decode bs = .error e) ∧
    (∀ ps, parse bs = some ps →
      (hasReserved ps = true → ∃ e, decode bs = .error e) ∧
      (repeatsKnown ps = true → ∃ e, decode bs = .error e) ∧
      (hasBadFlag ps = true → ∃ e, decode bs = .error e) ∧
      (hasReserved ps = false → repeatsKnown ps = false → hasBadFlag ps = false →
        ∃ s, decode bs = .ok s ∧
          s.entries = ps.filter (fun p => known.contains p.1) ∧
          (fromSettings s).mfs = numeric ps MAX_FIELD_SECTION_SIZE unlimited ∧
          (fromSettings s).wts = numeric ps WEBTRANSPORT_MAX_SESSIONS 0 ∧
          FlagExact ps ENABLE_CONNECT_PROTOCOL (fromSettings s).ec ∧
          FlagExact ps H3_DATAGRAM (fromSettings s).dg ∧
          FlagOk ps ENABLE_WEBTRANSPORT (fromSettings s).wt)) ∧
    (∀ e, decode bs = .error e →
      connCode e = H3_SETTINGS_ERROR ∧
      (e = .malformed ∨ (∃ id ∈ reserved, e = .invalidSettingId id) ∨ (∃ id ∈ known, e = .repeated id) ∨
        (∃ id ∈ boolean01, ∃ v, 1 < v ∧ e = .invalidSettingValue id v))) ∧
    decode bs ≠ .error .exceeded := by
  have hc := decode_char bs hwf
  cases hd : decode bs with
  | error e =>
    rw [hd] at hc
    refine ⟨fun _ => ⟨e, rfl⟩, fun ps hp => ⟨fun _ => ⟨e, rfl⟩, fun _ => ⟨e, rfl⟩, fun _ => ⟨e, rfl⟩,
      fun a b c => absurd ((accepts_iff_spec ps).mpr (by rw [a, b, c]; rfl)) (hc.2 ps hp)⟩,
      fun e' he => (by cases he; exact ⟨rfl, errKind_spec hc.1⟩),
      fun he => (by cases he; exact errKind_ne_exceeded hc.1 rfl)⟩
  | ok s =>
    rw [hd] at hc
    obtain ⟨ps, hp, ha, rfl⟩ := hc
    have hs := (accepts_iff_spec ps).mp ha
    simp only [Bool.or_eq_false_iff] at hs
    refine ⟨fun h => (by rw [hp] at h; cases h), fun ps' hp' => ?_, nofun, nofun⟩
    cases hp.symm.trans hp'
    refine ⟨fun h => (by rw [hs.1.1] at h; cases h), fun h => (by rw [hs.1.2] at h; cases h),
      fun h => (by rw [hs.2] at h; cases h),
      fun _ _ hbf => ⟨_, rfl, kept_eq_known ps, fromSettings_kept_spec ps hbf⟩⟩

example : decode [0x06, 0x05, 0x21, 0x07, 0x08, 0x01] = .ok ⟨[(6, 5), (8, 1)]⟩ := by decide
example : fromSettings ⟨[(6, 5), (8, 1)]⟩ = ⟨5, false, true, false, 0⟩ := by decide
example : decode [0x06, 0x05, 0x06, 0x05] = .error (.repeated 6) := by decide
example : decode [0x21, 0x00, 0x21, 0x01] = .ok ⟨[]⟩ := by decide          -- repeated grease id: ignored
example : decode [0x06, 0x01, 0x04, 0x00] = .error (.invalidSettingId 4) := by decide
example : decode [0x06, 0x40] = .error .malformed := by decide
example : parse [0x06, 0x40] = none := by decide
example : decode [0x33, 0x02] = .error (.invalidSettingValue 0x33 2) := by decide    -- D-13b, repaired
example : decode [0x08, 0x02] = .error (.invalidSettingValue 0x08 2) := by decide
example : hasBadFlag [(0x33, 2)] = true ∧ hasBadFlag [(0x33, 1), (0x08, 0), (0x2b603742, 2)] = false := by decide
example : decode [0x33, 0x01, 0x08, 0x00] = .ok ⟨[(0x33, 1), (0x08, 0)]⟩ := by decide

/-- The `Frame::decode` wrapper around a complete SETTINGS frame hands the payload to
    `Settings::decode` and consumes the frame; every `SettingsError` travels
    `FrameError::Settings` → `FrameProtocolError::Settings` → `H3_SETTINGS_ERROR`; at connection
    level an error leaves the settings cell untouched and a success stores `From<&Settings>`. -/
theorem C13_frame_wrapper (payload : Bytes) (hl : payload.length < 2^62) (c : Cell) :
    frameDecode ([FRAME_SETTINGS] ++ Varint.encode payload.length ++ payload) = some (decode payload, []) ∧
    (∀ e, connCode e = H3_SETTINGS_ERROR) ∧
    (∀ e, decode payload = .error e → receive c payload = (c, some H3_SETTINGS_ERROR)) ∧
    (∀ s, decode payload = .ok s → receive c payload = (c.set (fromSettings s), none)) := by
  refine ⟨frameDecode_frame payload hl, fun _ => rfl, ?_, ?_⟩
  · intro e he; unfold receive; rw [he]; rfl
  · intro s hs; unfold receive; rw [hs]

example : frameDecode [0x04, 0x02, 0x06, 0x05, 0xff] = some (.ok ⟨[(6, 5)]⟩, [0xff]) := by decide

/-- **Defaults until arrival, first value for ever.**  `settings()` reports the protocol
    defaults (unlimited field section size, everything else off/0) until the first
    `set_settings`; after any sequence of writes it reports the first one. -/
theorem C13_defaults_until_arrival (rs : List Record) :
    Cell.new.get = Record.default ∧
    Record.default = ⟨unlimited, false, false, false, 0⟩ ∧
    (rs.foldl Cell.set Cell.new).get = rs.head?.getD Record.default ∧
    (∀ r c, (Cell.set ⟨some r⟩ c) = ⟨some r⟩) := by
  have stick : ∀ (l : List Record) (r : Record), l.foldl Cell.set ⟨some r⟩ = ⟨some r⟩ := by
    intro l
    induction l with
    | nil => intro r; rfl
    | cons a t ih => intro r; simp only [List.foldl_cons, Cell.set]; exact ih r
  refine ⟨rfl, by decide, ?_, fun _ _ => rfl⟩
  cases rs with
  | nil => rfl
  | cons a t =>
    simp only [List.foldl_cons, List.head?_cons, Option.getD_some]
    show (t.foldl Cell.set ⟨some a⟩).get = a
    rw [stick t a]; rfl

example : (([⟨1, true, false, false, 0⟩, ⟨2, false, false, false, 0⟩] : List Record).foldl Cell.set Cell.new).get
    = ⟨1, true, false, false, 0⟩ := by decide

/-- **decode ∘ encode.**  For every `Settings` value reachable by `insert`s from `default()`
    that holds no reserved identifier and no 0/1 setting of RFC 9297 / RFC 8441 with another value (what
    `TryFrom<Config>` and `decode` produce), `encode` writes `04 len payload` without panicking and
    decoding that frame gives back the understood entries, in order; a value holding only
    understood identifiers (what `decode` itself produces) comes back unchanged. -/
theorem C13_decode_encode (s : Settings) (hr : Reachable s)
    (hnf : ∀ e ∈ s.entries, isForbidden e.1 = false)
    (hnb : ∀ e ∈ s.entries, e.1 ∈ boolean01 → e.2 ≤ 1) :
    ∃ payload : Bytes,
      encode? s = some ([FRAME_SETTINGS] ++ Varint.encode payload.length ++ payload) ∧
      frameDecode ([FRAME_SETTINGS] ++ Varint.encode payload.length ++ payload) =
        some (.ok ⟨s.entries.filter (fun e => isSupported e.1)⟩, []) ∧
      ((∀ e ∈ s.entries, isSupported e.1 = true) → decode payload = .ok s) := by
  obtain ⟨hlen, hf, _⟩ := reachable_inv hr
  have hsz : sizePairs s.entries < 2^62 := by
    have := sizePairs_le s.entries
    simp only [SETTINGS_LEN] at hlen
    omega
  have hl := encPairs_length _ hf
  have hnb' : ∀ e ∈ s.entries, isSupported e.1 = true → badValue e.1 e.2 = false :=
    fun e he _ => badValue_false (hnb e he)
  refine ⟨encPairs s.entries, ?_, ?_, ?_⟩
  · rw [hl]; exact encode?_eq s hf hsz
  · rw [frameDecode_frame _ (by omega), decode_encPairs s hr hnf hnb']; rfl
  · intro hs
    rw [decode_encPairs s hr hnf hnb', kept_eq_self hs]

example : Reachable ⟨[(6, 5), (8, 1)]⟩ :=
  .insert (.insert .default (by decide : insert empty 6 5 = .ok ⟨[(6, 5)]⟩))
    (by decide : insert ⟨[(6, 5)]⟩ 8 1 = .ok ⟨[(6, 5), (8, 1)]⟩)
example : encode? ⟨[(6, 5), (8, 1)]⟩ = some [0x04, 0x04, 0x06, 0x05, 0x08, 0x01] := by decide

/-- **Sent SETTINGS under back-pressure.**  The control stream header goes through a `WriteBuf`
    (`H3.WriteBuf`, the model C14 proves `Buf`-correct) that the transport empties in pieces of its own
    choosing: `ks` = how many bytes it is willing to take at each `poll_ready` (0 = `Pending`).  For
    every configuration setup accepts, every grease draw and EVERY acceptance script: nothing panics;
    what has reached the peer so far followed by what is still in the buffer is the header of
    `C13_sent_settings` (so the peer sees a prefix of it, never a byte twice or out of place); when
    `write` returns, the peer has exactly the header; and it does return as soon as the script has as
    many non-zero entries as the header has bytes.  (`drain_full` / `write_ready` of
    `Lemmas/WriteBuf.lean` applied to the header array.) -/
theorem C13_sent_settings_any_acceptance (c : Config) (n : Nat)
    (hm : c.settings.mfs < 2^62) (hw : c.settings.wts < 2^62) (hg : greaseId n < 2^62) (ks : List Nat) :
    ∃ (hdr : Bytes) (w : H3.WriteBuf.WB),
      setup c n = .sent hdr ∧
      (H3.WriteBuf.WB.new none).putOpt (some hdr) = some w ∧
      (∃ o w', w.drain ks = some (o, w') ∧ o ++ w'.view = hdr) ∧
      H3.WriteBuf.write (some w) ks ≠ .panic ∧
      (∀ out, H3.WriteBuf.write (some w) ks = .ready out → out = hdr) ∧
      (hdr.length ≤ (ks.filter (0 < ·)).length → H3.WriteBuf.write (some w) ks = .ready hdr) := by
  obtain ⟨payload, hs, _, h42, hsz, _⟩ := C13_sent_settings c n hm hw hg
  have hle : ([0x00, 0x04, payload.length] ++ payload).length ≤ WRITE_BUF_ENCODE_SIZE := by omega
  obtain ⟨w, hw', hwf, hview⟩ := H3.WriteBuf.putOpt_new_view (p := none) rfl hle
  have hv : w.view = [0x00, 0x04, payload.length] ++ payload := by rw [hview]; exact List.append_nil _
  obtain ⟨o, w1, hd, _, hov, _, hwr⟩ := H3.WriteBuf.drain_full w hwf ks
  refine ⟨_, w, hs, hw', ⟨o, w1, hd, by rw [hov, hv]⟩, ?_, ?_, ?_⟩
  · rw [hwr]; split <;> simp
  · intro out hout
    rw [hwr] at hout
    split at hout
    · rename_i hnil
      cases hout
      rw [← hv, ← hov, hnil, List.append_nil]
    · cases hout
  · intro hlen
    rw [H3.WriteBuf.write_ready w hwf ks (by rw [hv]; exact hlen), hv]

example : ∃ w, (H3.WriteBuf.WB.new none).putOpt (some [0x00, 0x04, 0x02, 0x06, 0x05]) = some w ∧
    H3.WriteBuf.write (some w) [2, 0, 1, 1, 7] = .ready [0x00, 0x04, 0x02, 0x06, 0x05] ∧
    H3.WriteBuf.write (some w) [2, 0, 1] = .pending [0x00, 0x04, 0x02] { w with pos := 3 } :=
  ⟨_, rfl, by decide, by decide⟩

/-- a stream in front of the control stream that does not end the pass over `pending_recv_streams`: its header
    is still incomplete, or it resolved to something `poll_accept_recv` keeps / drops / stops without an error -/
def Harmless : Waiting → Prop
  | .header => True
  | .foreign none => True
  | _ => False

/-- **SETTINGS behind other streams.**  Unidirectional streams that were accepted BEFORE the peer's control
    stream — with a header that is still incomplete (`poll_type` = `Pending`), or resolved to a QPACK stream, a
    WebTransport stream, an unknown / grease type (STOP_SENDING) — do not keep the control stream from being
    looked at: whatever their number and order, one poll of the driver applies the SETTINGS exactly as if the
    control stream were alone (`receive`, characterised by `C13_recv_settings` / `C13_frame_wrapper` /
    `C13_received_settings_agree_with_oracle`); without a control stream nothing changes; and a stream in front
    that IS a connection error (a second QPACK encoder stream, C04) ends the poll with that error, the cell
    untouched. -/
theorem C13_settings_behind_waiting_streams (c : Cell) (pre : List Waiting) (hpre : ∀ w ∈ pre, Harmless w)
    (p : Bytes) (rest : List Waiting) (e : Nat) :
    receiveScan c (pre ++ .control p :: rest) = receive c p ∧
    receiveScan c pre = (c, none) ∧
    receiveScan c (pre ++ .foreign (some e) :: rest) = (c, some e) := by
  have h : ∀ tail, scan (pre ++ tail) = scan tail := by
    intro tail
    induction pre with
    | nil => rfl
    | cons w r ih =>
      have hr : ∀ w ∈ r, Harmless w := fun w hw => hpre w (List.mem_cons_of_mem _ hw)
      have hw := hpre w (List.mem_cons_self ..)
      match w, hw with
      | .header, _ | .foreign none, _ => simpa [scan] using ih hr
  have h1 := h (.control p :: rest)
  have h2 := h []
  have h3 := h (.foreign (some e) :: rest)
  simp only [List.append_nil] at h2
  exact ⟨by simp only [receiveScan, h1, scan], by simp only [receiveScan, h2, scan],
    by simp only [receiveScan, h3, scan]⟩

example : receiveScan Cell.new [.header, .foreign none, .header, .control [0x06, 0x05, 0x21, 0x07]] =
    (⟨some ⟨5, false, false, false, 0⟩⟩, none) := by decide
example : receiveScan Cell.new [.foreign none, .foreign (some 259), .control [0x06, 0x05]] = (Cell.new, some 259) := by
  decide

/-- **Received SETTINGS against the oracle, at connection level.**  For every payload (any bytes) and every
    state of the settings cell, what `poll_control` does with the peer's first control frame is what the
    specification's `demand` (RFC 9114 §7.2.4 / §7.2.4.1, RFC 9297 §2.1.1, RFC 8441 §3; readings R-13, R-13b)
    asks for: a truncated entry — a connection error, the cell untouched; a reserved identifier, a repeated
    understood one, H3_DATAGRAM / ENABLE_CONNECT_PROTOCOL with a value above 1 — H3_SETTINGS_ERROR, the cell
    untouched; otherwise no error, and the record offered to the write-once cell carries exactly what the
    payload says (numbers: the value or the default; the two RFC flags: on iff 1 is carried). -/
theorem C13_received_settings_agree_with_oracle (c : Cell) (bs : Bytes) (hwf : WF bs) :
    match demand bs with
    | .anyError => ∃ code, receive c bs = (c, some code)
    | .settingsError => receive c bs = (c, some H3_SETTINGS_ERROR)
    | .applyOrError ps | .apply ps =>
      ∃ r : Record, receive c bs = (c.set r, none) ∧
        r.mfs = numeric ps MAX_FIELD_SECTION_SIZE unlimited ∧ r.wts = numeric ps WEBTRANSPORT_MAX_SESSIONS 0 ∧
        FlagExact ps ENABLE_CONNECT_PROTOCOL r.ec ∧ FlagExact ps H3_DATAGRAM r.dg ∧
        FlagOk ps ENABLE_WEBTRANSPORT r.wt := by
  have hc := decode_char bs hwf
  unfold demand receive
  cases hd : decode bs with
  | error e =>
    rw [hd] at hc
    cases hp : parse bs with
    | none => exact ⟨_, rfl⟩
    | some ps =>
      have := hc.2 ps hp
      rw [accepts_iff_spec, Bool.not_eq_false] at this
      simp only [this, if_true]; rfl
  | ok s =>
    rw [hd] at hc
    obtain ⟨ps, hp, ha, rfl⟩ := hc
    have hs := (accepts_iff_spec ps).mp ha
    have hbf : hasBadFlag ps = false := by simp only [Bool.or_eq_false_iff] at hs; exact hs.2
    simp only [hp, hs, Bool.false_eq_true, if_false]
    cases H3.Spec.Settings.repeatsUnknown ps <;> exact ⟨_, rfl, fromSettings_kept_spec ps hbf⟩

example : demand [0x33, 0x02] = .settingsError ∧ receive Cell.new [0x33, 0x02] = (Cell.new, some 0x0109) := by decide
example : demand [0x06, 0x05, 0x33, 0x01] = .apply [(6, 5), (0x33, 1)] ∧
    receive Cell.new [0x06, 0x05, 0x33, 0x01] = (⟨some ⟨5, false, false, true, 0⟩⟩, none) := by decide

/-- **The LOCAL configuration plays no part in what is received.**  The translator reads the SETTINGS arm of
    `poll_control` as exactly `self.got_peer_settings = true; self.set_settings((&settings).into())`
    (`H3.Gen.CtlArms`, action `applySettings`; any other statement in that arm — say, clamping the peer's
    `max_field_section_size` to the local one — is a refusal of the translator, and `Lemmas/GenAgreeCtl` is
    among this property's modules).  Accordingly the model of a connection with two different local
    configurations stores the same record / reports the same error for the same payload — namely what
    `receive` says, which `C13_received_settings_agree_with_oracle` ties to the specification — and the local
    configuration itself is left as it was.  The differential run generates the product local configuration ×
    received payload (`set apply*` with configuration keys). -/
theorem C13_received_settings_independent_of_local_config (cfg1 cfg2 : Config) (c : Cell) (p : Bytes) :
    H3.Gen.CtlArms.beforeSettings .settings = .applySettings ∧
    (Conn.receive ⟨cfg1, c⟩ p).1.cell = (Conn.receive ⟨cfg2, c⟩ p).1.cell ∧
    (Conn.receive ⟨cfg1, c⟩ p).2 = (Conn.receive ⟨cfg2, c⟩ p).2 ∧
    (Conn.receive ⟨cfg1, c⟩ p).1.config = cfg1 ∧
    ((Conn.receive ⟨cfg1, c⟩ p).1.cell, (Conn.receive ⟨cfg1, c⟩ p).2) = receive c p :=
  ⟨rfl, rfl, rfl, rfl, rfl⟩

example : (Conn.receive ⟨⟨false, ⟨0, false, false, false, 0⟩⟩, Cell.new⟩ [0x06, 0x40, 0x80]).1.cell.get.mfs = 128 ∧
    (Conn.receive ⟨⟨true, ⟨2^62 - 1, true, true, true, 9⟩⟩, Cell.new⟩ [0x06, 0x40, 0x80]).1.cell.get.mfs = 128 := by decide

end H3.Props.C13
