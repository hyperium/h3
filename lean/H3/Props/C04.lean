import H3.Lemmas.C04
import H3.Lemmas.Setup
import H3.Drv.C04
/-! # C04 — control and unidirectional stream rules are enforced with the right error

Type resolution, `into_stream`, the control machine and "acted once" restate theorems of `H3/Lemmas/C04.lean` (models `H3.UniAccept`,
`H3.Control`; oracle `H3.Spec.ControlRules`, RFC 9114 §6.2, §6.2.1, §7.2); the unknown streams, the comparison of the two
tables, the transport faults (over `H3.Setup`) and the driver's oracle for an overtaking RESET (`H3.Drv.C04`) are proved here. -/
namespace H3.Props.C04
open H3.Lemmas.C04 H3.Control H3.Frame

section resolution
open H3.UniAccept
open H3.Spec.ControlRules (header)

/-- **Stream type resolution.**  For every transport script — every way of cutting the stream
    into chunks, `Pending` anywhere, FIN or RESET at any position (what follows them is never looked
    at) — `poll_type`, called again while it answers `Pending`, ends as RFC 9114 §6.2 says:
    * the header (type varint of any length form, plus push id / session id for push and
      WebTransport streams) is complete in the bytes sent before the end ⇒ the stream is resolved
      with exactly the RFC 9000 §16 values (`Varint.rfcDecode`), and what is left in the buffer
      followed by what the transport still has is exactly the rest of the stream, in order;
    * the header is incomplete and the stream has ended ⇒ the stream is dropped, no error;
    * the header is incomplete and the stream is still open ⇒ `Pending`;
    * H3_INTERNAL_ERROR never. -/
theorem C04_type_resolution (sc : List Ev) (hwf : ScriptWF sc) :
    match header (bytesOf sc), resolve (sc.length + 1) {} sc with
    | .complete ty id rest, .resolved s r => s.ty = some ty ∧ s.id = id ∧ s.buf ++ future s r = rest
    | .incomplete, .dropped => hasEnd sc = true
    | .incomplete, .waiting _ => hasEnd sc = false
    | _, _ => False :=
  type_resolution sc hwf

-- non-vacuity.  A WebTransport uni stream: type `40 54` (2-byte form), session id `80 01 | 00 00`
-- (4-byte form, cut in the middle), then payload: resolved with id 0x10000, payload kept
example : resolve 5 {} [.chunk [0x40, 0x54], .pend, .chunk [0x80, 0x01], .chunk [0x00, 0x00, 0xaa]] =
    .resolved { buf := [0xaa], ty := some 0x54, id := some 0x10000 } [] := by decide +kernel
-- type and id in one chunk, FIN right behind: still resolved (the buffer is tried first)
example : resolve 3 {} [.chunk [0x40, 0x54, 0x01, 0xbb], .fin] =
    .resolved { buf := [0xbb], ty := some 0x54, id := some 1 } [.fin] := by decide +kernel
-- a push stream whose id never completes, reset: dropped, no error
example : resolve 4 {} [.chunk [0x01], .chunk [0x40], .reset 9] = .dropped := by decide +kernel
-- an 8-byte grease type in pieces, still open: waiting; with the last byte: resolved
example : resolve 4 {} [.chunk [0xc0, 0, 0, 0], .pend, .chunk [0, 0, 0]] =
    .waiting { buf := [0xc0, 0, 0, 0, 0, 0, 0], expected := some 8 } := by decide +kernel
example : resolve 5 {} [.chunk [0xc0, 0, 0, 0], .pend, .chunk [0, 0, 0], .chunk [0x21, 7]] =
    .resolved { buf := [7], ty := some 0x21 } [] := by decide +kernel
-- D-04b, the code before the repair: `expected` (2, from the type `40 54`) is still there when the
-- session id is read ...
example : pollVarintOld {} [.chunk [0x40, 0x54]] = (.ok 0x54, { expected := some 2 }, []) := by
  decide +kernel
-- ... so `80 01` "is complete" and decoding fails: H3_INTERNAL_ERROR
example : (pollVarintOld { expected := some 2, ty := some 0x54 } [.chunk [0x80, 0x01], .chunk [0, 0]]).1 =
    .internal := by decide +kernel
-- ... a complete one-byte id waits for a second byte, and is dropped at FIN
example : (pollVarintOld { expected := some 2, ty := some 0x54 } [.chunk [0x01]]).1 = .pending := by
  decide +kernel
example : (pollVarintOld { expected := some 2, ty := some 0x54 } [.chunk [0x01], .fin]).1 = .ended := by
  decide +kernel
-- ... and an id that came in the same chunk as the type is not looked at before the transport is
example : (pollVarintOld { buf := [0x05], ty := some 0x54 } []).1 = .pending := by decide +kernel
example : (pollVarint { buf := [0x05], ty := some 0x54 } []).1 = .ok 5 := by decide +kernel


end resolution

section machine
open H3.Spec.ControlRules H3.Gen.Consts

/-- `into_stream` + the arms of `poll_accept_recv` classify a resolved stream as RFC 9114 §6.2 does
    (WebTransport streams only when the extension is enabled); neither `expect` of `into_stream`
    can fire once `poll_type` has answered `Ready`. -/
theorem C04_into_stream (cfg : Cfg) (s : UniAccept.St) (ty : Nat) (hty : s.ty = some ty)
    (hid : hasId ty = true → s.id.isSome = true) :
    ∃ k, UniAccept.intoStream s = some k ∧ absKind cfg k = streamTy cfg.wt ty :=
  into_stream cfg s ty hty hid

/-- **Streams the RFC table tolerates never cause a connection error** — stated against the
    oracle, not against the model's own arms.  Whatever header the peer sent: if its type — the
    RFC 9000 §16 reading, `C04_type_resolution` — is one that `Spec.ControlRules.streamTy` calls unknown (a
    reserved `0x1f * N + 0x21` value, any other value, the WebTransport type with the extension
    off), the verdict of `Spec.ControlRules.verdict` is `ok` in every oracle state, and the code,
    having resolved the stream (`s.ty = some ty`, the id present where the type has one), classifies
    it (`into_stream`) and takes an arm of `poll_accept_recv` that raises no connection error and
    leaves the connection state as it was; all it may do is STOP_SENDING with
    H3_STREAM_CREATION_ERROR (§6.2 SHOULD).  The same for a stream closed or reset before its header
    was complete (`closedEarly` / `PollTypeError::EndOfStream`). -/
theorem C04_unknown_stream (cfg : Cfg) (c : Conn) (sp : St) (s : UniAccept.St) (ty : Nat)
    (hty : s.ty = some ty) (hid : hasId ty = true → s.id.isSome = true)
    (hunk : streamTy cfg.wt ty = .unknown) :
    (verdict (isServer cfg) sp (.stream (streamTy cfg.wt ty))).1 = .ok ∧
    (verdict (isServer cfg) sp .closedEarly).1 = .ok ∧
    (∃ k, UniAccept.intoStream s = some k ∧
      (acceptArrival cfg c (.kind k)).err = none ∧ (acceptArrival cfg c (.kind k)).conn = c ∧
      ((acceptArrival cfg c (.kind k)).stop = none ∨
       (acceptArrival cfg c (.kind k)).stop = some H3_STREAM_CREATION_ERROR)) ∧
    (acceptArrival cfg c .dropped).err = none ∧ (acceptArrival cfg c .dropped).conn = c := by
  refine ⟨by rw [hunk]; rfl, rfl, ?_, rfl, rfl⟩
  obtain ⟨k, hk, habs⟩ := into_stream cfg s ty hty hid
  rw [hunk] at habs
  refine ⟨k, hk, ?_⟩
  cases k with
  | control | push | encoder | decoder => simp [absKind] at habs
  | wtUni sid =>
    by_cases hw : cfg.wt = true
    · simp [absKind, hw] at habs
    · simp [acceptArrival, acceptKind, hw]
  | unknown t => simp [acceptArrival, acceptKind, H3_STREAM_CREATION_ERROR, CODE_H3_STREAM_CREATION_ERROR]

-- non-vacuity: a grease type (8-byte form) resolved by `resolve`, then accepted: told to stop, no
-- error; the WebTransport type with the extension off: dropped without a word
example : streamTy false 0x21 = .unknown ∧ streamTy false 0x54 = .unknown ∧ streamTy true 0x54 = .wtUni := by decide
example : (UniAccept.intoStream { buf := [7], ty := some 0x21 }).map
    (fun k => acceptArrival { role := .server } { control := true } (.kind k)) =
    some { conn := { control := true }, stop := some 0x0103 } := by decide
example : (UniAccept.intoStream { ty := some 0x54, id := some 4 }).map
    (fun k => acceptArrival { role := .server, wt := false } {} (.kind k)) = some { conn := {} } := by decide

/-- **The control machine raises the oracle's error.**  For every role and configuration and
    every history — unidirectional streams of any type arriving (or being dropped) in any order,
    interleaved with whatever the frame layer reports on the control stream, of any length: at
    every input the verdict of the RFC table (`Spec.ControlRules.verdict`) accepts what the machine
    does (`Conforms`) — no connection error where the verdict is `ok`, an error with one of the
    listed codes where it is `must`, either where the property does not constrain the situation
    (`may`) — and this up to and including the first connection error.  (`NoInternal` is a hypothesis on
    the history: no arrival is `PollTypeError::InternalError`.  `C04_type_resolution` shows that `poll_type`
    never answers it on a script of bytes; no theorem carries that over to a history.) -/
theorem C04_control_machine (cfg : Cfg) (ins : List In) (h : NoInternal ins) :
    Conforms cfg {} {} ins :=
  control_machine cfg ins h

-- non-vacuity of `C04_control_machine`: histories on which the verdict is `must` and the machine
-- raises exactly that error ...
example : firstErr { role := .client } {} [.uni 3 (.kind .control), .item (.frame (.settings [])),
    .uni 7 (.kind (.unknown 0x21)), .pend, .item (.frame (.maxPushId 1))] = some 0x0105 := by decide +kernel
example : firstErr { role := .server } {} [.uni 2 (.kind .control), .uni 6 (.kind .encoder),
    .uni 10 (.kind .control)] = some 0x0103 := by decide +kernel
example : firstErr { role := .server } {} [.uni 2 (.kind .control), .item (.frame (.goaway 0))] = some 0x010a := by
  decide +kernel
example : firstErr { role := .server } {} [.uni 2 (.kind .control), .item (.frame (.settings [])),
    .item (.frame (.settings []))] = some 0x0105 := by decide +kernel
example : firstErr { role := .server } {} [.uni 2 (.kind .control), .item (.frame (.settings [])),
    .item .fin] = some 0x0104 := by decide +kernel
example : (verdict true { control := true, settings := true } (.ctl .data)).1 = .must [0x0105] := by decide
-- ... and one without any error: unknown and early-closed streams, push, an unknown-typed WebTransport
-- stream (extension off), CANCEL_PUSH/MAX_PUSH_ID/GOAWAY to a server
example : firstErr { role := .server } {} [.uni 2 (.kind .control), .uni 6 (.kind (.unknown 0x21)),
    .uni 10 .dropped, .item (.frame (.settings [])), .uni 14 (.kind .push), .uni 18 (.kind (.wtUni 4)),
    .item (.frame (.cancelPush 1)), .item (.frame (.maxPushId 1)), .item (.frame (.goaway 4)),
    .item (.frame (.goaway 0))] = none := by decide +kernel


/-- **Where the property is silent: server push, and the closing of a peer QPACK stream.**
    `Spec.ControlRules.verdictRfc` is the table with the RFCs' demands also where the property's text
    names no rule (readings R-04b, R-04e): it differs from the table the theorems above judge by only
    for a push stream, CANCEL_PUSH, MAX_PUSH_ID sent to a server — the rules of server push — and for
    the closing of the peer's QPACK encoder / decoder stream (RFC 9204 §4.2: H3_CLOSED_CRITICAL_STREAM;
    the property names the control stream only).  The statement is about the verdict and the oracle
    state together (`verdictRfc … = verdict …` is an equation of pairs) for every other event; for
    these four it says nothing.  Hence on every history without these four events
    `C04_control_machine` is conformance to RFC 9114 by the letter.  (Despite the name, four events,
    not only those of server push.) -/
theorem C04_rfc_table_differs_only_on_push (server : Bool) (sp : St) (e : Ev) :
    verdictRfc server sp e = verdict server sp e ∨
    e = .stream .push ∨ (∃ id, e = .ctl (.cancelPush id)) ∨ (∃ id, e = .ctl (.maxPushId id) ∧ server = true) ∨
    e = .qpackClosed := by
  cases e with
  | stream t => cases t <;> simp [verdictRfc]
  | closedEarly => simp [verdictRfc]
  | qpackClosed => simp
  | ctl ce =>
    by_cases h : (sp.control && sp.settings) = true
    · have hc : sp.control = true := by simp at h; exact h.1
      have hs : sp.settings = true := by simp at h; exact h.2
      cases ce <;> simp [verdictRfc, verdict, laterFrameRfc, hc, hs]
      -- left: MAX_PUSH_ID, whose row depends on the role
      cases server <;> simp
    · simp [verdictRfc, h]

/-- **The closing of a peer QPACK stream (reading R-04e).**  The property's table does not constrain it
    (no error, or H3_CLOSED_CRITICAL_STREAM — never another code), the RFC table demands
    H3_CLOSED_CRITICAL_STREAM (RFC 9204 §4.2), and neither changes the oracle's state. -/
theorem C04_qpack_closure_verdicts (server : Bool) (sp : St) :
    verdict server sp .qpackClosed = (.may [0x0104], sp) ∧
    verdictRfc server sp .qpackClosed = (.must [0x0104], sp) := by
  constructor <;> rfl

-- the code: the peer's QPACK streams are stored and never read, so their closing is no input of the
-- machine at all (`In` has no such constructor; engine `ctl`: `o6 s6:02 f6` ⇒ no error) — accepted by
-- `may`, refused by the RFC table (NOTE line of every run)
example : accepts (verdict true {} .qpackClosed).1 none ∧ accepts (verdict true {} .qpackClosed).1 (some 0x0104) ∧
    ¬ accepts (verdict true {} .qpackClosed).1 (some 0x0105) ∧ ¬ accepts (verdictRfc true {} .qpackClosed).1 none := by
  simp [accepts, verdict, verdictRfc, H3_CLOSED_CRITICAL_STREAM]

-- … and on the three of server push the code does depart from the letter (server push is not implemented: the
-- arms carry `//= type=TODO` citations): a push stream is dropped without an error by either role
-- (§6.2.2: H3_STREAM_CREATION_ERROR at a server; §4.6: H3_ID_ERROR at a client that never sent
-- MAX_PUSH_ID), a server ignores CANCEL_PUSH and a MAX_PUSH_ID that goes down (§7.2.3, §7.2.7:
-- H3_ID_ERROR), a client answers CANCEL_PUSH with H3_FRAME_UNEXPECTED (§7.2.3: H3_ID_ERROR).
-- Reproduced on the real code by every run of the check (NOTE lines, engine `ctlrfc`).
example : (verdictRfc true { control := true, settings := true } (.stream .push)).1 = .must [0x0103] ∧
    firstErr { role := .server } {} [.uni 2 (.kind .control), .item (.frame (.settings [])), .uni 6 (.kind .push)] = none := by
  decide +kernel
example : (verdictRfc false { control := true, settings := true } (.stream .push)).1 = .must [0x0108] ∧
    firstErr { role := .client } {} [.uni 3 (.kind .control), .item (.frame (.settings [])), .uni 7 (.kind .push)] = none := by
  decide +kernel
example : (verdictRfc true { control := true, settings := true } (.ctl (.cancelPush 1))).1 = .must [0x0108] ∧
    firstErr { role := .server } {} [.uni 2 (.kind .control), .item (.frame (.settings [])), .item (.frame (.cancelPush 1))] = none := by
  decide +kernel
example : (verdictRfc false { control := true, settings := true } (.ctl (.cancelPush 1))).1 = .must [0x0108] ∧
    firstErr { role := .client } {} [.uni 3 (.kind .control), .item (.frame (.settings [])), .item (.frame (.cancelPush 1))]
      = some 0x0105 := by
  decide +kernel
example : (verdictRfc true { control := true, settings := true, maxPush := some 5 } (.ctl (.maxPushId 1))).1 = .must [0x0108] ∧
    firstErr { role := .server } {} [.uni 2 (.kind .control), .item (.frame (.settings [])),
      .item (.frame (.maxPushId 5)), .item (.frame (.maxPushId 1))] = none := by
  decide +kernel
-- GOAWAY identifiers are demanded (`must`), and raised: a growing one; one that is no request id, to a client
example : (verdict true { control := true, settings := true, lastGoaway := some 4 } (.ctl (.goaway 8))).1 = .must [0x0108] ∧
    firstErr { role := .server } {} [.uni 2 (.kind .control), .item (.frame (.settings [])),
      .item (.frame (.goaway 4)), .item (.frame (.goaway 8))] = some 0x0108 := by
  decide +kernel
example : (verdict false { control := true, settings := true } (.ctl (.goaway 3))).1 = .must [0x0108] ∧
    firstErr { role := .client } {} [.uni 3 (.kind .control), .item (.frame (.settings [])), .item (.frame (.goaway 3))]
      = some 0x0108 := by
  decide +kernel

-- frames of unknown type never reach the machine (`Item` has no constructor for them): the frame
-- layer below `poll_control` (`FS.pollNext`, C02) skips them, whatever their type and length form
example : (match FS.pollNext FS.frameDec {} [.chunk [0x21, 0x02, 0xaa, 0xbb, 0x07, 0x01, 0x00]] with
    | (.frame f, _, _) => some f
    | _ => none) = some (.goaway 0) := by decide +kernel
example : (match FS.pollNext FS.frameDec {} [.chunk [0x40, 0x21, 0x40, 0x00], .chunk [0xc0, 0, 0, 0, 0, 0, 0x10, 0x40],
      .chunk [0x01, 0xee, 0x04, 0x00]] with
    | (.frame f, _, _) => some f
    | _ => none) = some (.settings []) := by decide +kernel

end machine

/-- **Acted upon exactly once.**  Whatever `poll_open_send` / `send_data` / `poll_ready` /
    `poll_finish` of the grease stream answer (`g`: pending, ok or error in any pattern, pending for
    ever when exhausted), in whatever state the grease stream is (`gs`), and however the arrival
    of the inputs is spread over polls of the driver (`pend` anywhere in `ins`): the frames handed
    to the role handler, the connection error returned and the final connection state are those of
    the reference run, which knows neither polls nor the grease stream.  The frames handed over
    are, in order and each once, the frames the frame layer delivered — all of them if no
    connection error occurs, otherwise those up to the one that raised it. -/
theorem C04_acted_once (cfg : Cfg) (c : Conn) (gs : Grease) (ins : List In) (g : List GAns)
    (hc : c.err = none) (hctl : c.control = true) :
    driveAll false cfg (ins.length + 1) c gs ins g = refRun cfg c ins ∧
    (refRun cfg c ins).1 <+: delivered ins ∧
    ((refRun cfg c ins).2.1 = none → (refRun cfg c ins).1 = delivered ins) :=
  acted_once cfg c gs ins g hc hctl

/-- the same from any state, e.g. before the control stream has arrived (items that precede it in
    `ins` are not deliverable) -/
theorem C04_acted_once_any (cfg : Cfg) (c : Conn) (gs : Grease) (ins : List In) (g : List GAns)
    (hc : c.err = none) :
    driveAll false cfg (ins.length + 1) c gs ins g = refRun cfg c ins :=
  acted_once_any cfg c gs ins g hc

/-- the connection error the polled machine returns — for every grease script — is the one raised
    at the first input that raises one (`firstErr`), i.e. the one `C04_control_machine` speaks about -/
theorem C04_first_error (cfg : Cfg) (c : Conn) (gs : Grease) (ins : List In) (g : List GAns)
    (hc : c.err = none) :
    (driveAll false cfg (ins.length + 1) c gs ins g).2.1 = firstErr cfg c ins := by
  rw [C04_acted_once_any cfg c gs ins g hc]
  exact refRun_err cfg ins c

-- non-vacuity: SETTINGS, CANCEL_PUSH, GOAWAY with a grease stream that never gets stream credit,
-- one whose write stays pending, one that fails: all three frames are handed over
example : (driveAll false { role := .server } 4 { control := true } { flag := true }
    [.item (.frame (.settings [])), .item (.frame (.cancelPush 1)), .pend, .item (.frame (.goaway 0))] []).1
    = [.settings [], .cancelPush 1, .goaway 0] := by decide +kernel
example : (driveAll false { role := .server } 4 { control := true } { flag := true }
    [.item (.frame (.settings [])), .item (.frame (.cancelPush 1)), .item (.frame (.goaway 0))]
    [.ok, .ok, .pending, .pending, .err]).1
    = [.settings [], .cancelPush 1, .goaway 0] := by decide +kernel
-- a client: MAX_PUSH_ID is handed to the handler, which raises H3_FRAME_UNEXPECTED
example : (driveAll false { role := .client } 3 { control := true } { flag := true }
    [.item (.frame (.settings [])), .item (.frame (.maxPushId 1))] []).2.1 = some 261 := by decide +kernel
-- D-04a: the code before the repair (`blocking = true`) loses every frame while the grease
-- stream is pending: nothing is handed over, GOAWAY is gone, MAX_PUSH_ID is not rejected
example : (driveAll true { role := .server } 3 { control := true } { flag := true }
    [.item (.frame (.settings [])), .pend, .item (.frame (.goaway 0))] []).1 = [] := by decide +kernel
example : (driveAll true { role := .client } 3 { control := true } { flag := true }
    [.item (.frame (.settings [])), .pend, .item (.frame (.maxPushId 1))] []).2.1 = none := by decide +kernel


/-! ## Transport faults: the grease stream, the own control stream, a server-initiated bidi stream

`C04_acted_once` already quantifies over every grease script, `err` answers included (`GAns.err` at
any call of `poll_open_send` / `send_data` / `poll_ready` / `poll_finish`).  What is added here is
its consequence in the form the correspondence run exercises (engine `ctl` with injected stream
errors on the grease stream, engine `flt` with connection errors), and the error arms of the
endpoint's own control stream and of client `poll_close`, over `H3.Setup`. -/

/-- **An error on the grease stream is never a connection error and never loses a frame.**  Two runs
    of the polled driver over the same inputs that differ only in what the grease stream's calls
    answer (`g`, `g'`: any patterns of pending / ok / error) and in the grease state they start
    from end alike: the same frames handed to the role handler, the same connection error (or
    none), the same connection state. -/
theorem C04_grease_error_harmless (cfg : Cfg) (c : Conn) (gs gs' : Grease) (ins : List In) (g g' : List GAns)
    (hc : c.err = none) :
    driveAll false cfg (ins.length + 1) c gs ins g = driveAll false cfg (ins.length + 1) c gs' ins g' := by
  rw [C04_acted_once_any cfg c gs ins g hc, C04_acted_once_any cfg c gs' ins g' hc]

/-- **After an error the grease stream is given up.**  Whatever step the grease machine is at, a
    call answering an error makes `poll_grease_stream` answer `Ready` with
    `send_grease_stream_flag = false` and the step unchanged; with the flag off `poll_control` does
    not touch the grease stream again (the script is left as it is) and hands the frame on. -/
theorem C04_grease_error_gives_up (gs : Grease) (r : List GAns) :
    (pollGrease gs (.err :: r)).1 = true ∧ (pollGrease gs (.err :: r)).2.1 = { gs with flag := false } ∧
    ∀ (blocking : Bool) (f : Frame) (c : Conn) (ins : List In) (g : List GAns),
      afterFrame blocking f c { gs with flag := false } ins g =
        { res := .ready f, conn := c, gs := { gs with flag := false }, ins := ins, g := g } := by
  refine ⟨?_, ?_, ?_⟩
  · cases gs with
    | mk flag step => cases step <;> simp [pollGrease, gOpen, gSend, gReady, gFinish, nextAns]
  · cases gs with
    | mk flag step => cases step <;> simp [pollGrease, gOpen, gSend, gReady, gFinish, nextAns]
  · intro blocking f c ins g
    simp [afterFrame]

-- non-vacuity: SETTINGS, GOAWAY(0) to a server whose grease stream fails at the open / at
-- `send_data` / at `poll_ready` after a `Pending` / at `poll_finish`: both frames are acted upon,
-- no connection error; a client still rejects MAX_PUSH_ID behind a failing grease stream
example : ∀ g ∈ [[GAns.err], [.ok, .err], [.ok, .ok, .pending, .err], [.ok, .ok, .ok, .err]],
    driveAll false { role := .server } 4 { control := true } { flag := true }
      [.item (.frame (.settings [])), .pend, .item (.frame (.goaway 0))] g =
    ([.settings [], .goaway 0], none, { control := true, gotSettings := true, recvClosing := some 0 }) := by
  decide +kernel
example : (driveAll false { role := .client } 3 { control := true } { flag := true }
    [.item (.frame (.settings [])), .item (.frame (.maxPushId 1))] [.ok, .err]).2.1 = some 261 := by decide +kernel
example : pollGrease { flag := true, step := .dataPrepared } [.err, .ok] =
    (true, { flag := false, step := .dataPrepared }, [.ok]) := by decide

section faults
open H3.Setup H3.ErrCell H3.Gen.Consts

/-- **The endpoint's own control stream.**  A write on it (`send_control_stream_headers` during the
    setup, `shutdown` later) that the transport answers with a stream error — the peer's
    STOP_SENDING (`StreamTerminated`) or `Unknown` — is the connection error
    H3_CLOSED_CRITICAL_STREAM (RFC 9114 §6.2.1), detected locally: `close` is called once with
    0x0104 and the call returns `Local` with that code; a connection error from the transport is
    passed on as it is, closing nothing unless it is the trait implementation's `InternalError`
    (then `close(H3_INTERNAL_ERROR)`).  (The code uses the same arms, `Setup.ctlStreamErr`, for a failed
    read on the peer's control stream; the statement is about the writes.)  Once an error has been handled it is the one returned, and nothing more is closed. -/
theorem C04_own_control_stream_error :
    (∀ c, shutdownWrite {} (some (.terminated c)) =
      ({ handled := some (.localApp 0x0104 0), closes := [0x0104] }, some (.localApp 0x0104 0))) ∧
    (∀ t, (shutdownWrite {} (some (.unknown t))).2 = some (.localApp 0x0104 1) ∧
      (shutdownWrite {} (some (.unknown t))).1.closes = [0x0104]) ∧
    (∀ q, (shutdownWrite {} (some (.conn q))).2 = some (convert (.quic q)) ∧
      OutcomeOK (convert (.quic q)) (shutdownWrite {} (some (.conn q))).1.closes) ∧
    (∀ e, finishHeaders {} (some e) = shutdownWrite {} (some e)) ∧
    (∀ (d : Drv) (h : CErr) (e : SErr), d.handled = some h → shutdownWrite d (some e) = (d, some h)) := by
  refine ⟨fun c => by simp [shutdownWrite, raise, ctlStreamErr, convert, closeCode, closeOf, CODE_H3_CLOSED_CRITICAL_STREAM],
    fun t => by simp [shutdownWrite, raise, ctlStreamErr, convert, closeCode, closeOf, CODE_H3_CLOSED_CRITICAL_STREAM],
    fun q => ?_, fun e => rfl, fun d h e hd => by simp [shutdownWrite, raise, hd]⟩
  simp only [shutdownWrite, ctlStreamErr, H3.Lemmas.Setup.raise_fresh]
  exact ⟨trivial, H3.Lemmas.Setup.outcome_convert _⟩

example : shutdownWrite {} (some (.conn (.internal 3))) =
    ({ handled := some (.remote (.internal 3)), closes := [0x0102] }, some (.remote (.internal 3))) := by decide
example : shutdownWrite {} (some (.conn .timeout)) = ({ handled := some .timeout, closes := [] }, some .timeout) := by
  decide

/-- **The peer's STOP_SENDING on the endpoint's control stream during the setup** (engine `ctl`, `x<sid>`
    on the own streams; reading R-04c).  The `join3` of `send_control_stream_headers` ends only when all
    three writes have ended; then a control-stream write that ended with a stream error — `poll_ready`
    answering `StreamTerminated` when it met the stopped stream — makes `build` fail with
    H3_CLOSED_CRITICAL_STREAM, `close(0x0104)` once, whatever happened on the QPACK streams; while one
    of the QPACK writes is still pending `build` is pending and nothing is closed; and an error on a
    QPACK stream alone is dropped (`let _ = stream::write(..)`): `build` returns the connection,
    nothing is closed. -/
theorem C04_stopped_control_stream_fails_setup {T : Type} (t : T) (c : Nat) (wd we : WSt) (p : Bool) :
    (wd.isDone = true → we.isDone = true →
      (joinHeaders t {} (.done (some (.terminated c))) wd we p).res = some (some (.localApp 0x0104 0)) ∧
      (joinHeaders t {} (.done (some (.terminated c))) wd we p).st.drv.closes = [0x0104]) ∧
    ((wd.isDone && we.isDone) = false →
      (joinHeaders t {} (.done (some (.terminated c))) wd we p).res = none ∧
      (joinHeaders t {} (.done (some (.terminated c))) wd we p).st.drv.closes = []) ∧
    (∀ r1 r2, (joinHeaders t {} (.done none) (.done r1) (.done r2) p).res = some none ∧
      (joinHeaders t {} (.done none) (.done r1) (.done r2) p).st.drv.closes = []) := by
  refine ⟨fun h1 h2 => ?_, fun h => ?_, fun r1 r2 => ?_⟩
  · simp [joinHeaders, h1, h2, finishHeaders, raise, ctlStreamErr, convert, closeCode, closeOf,
      CODE_H3_CLOSED_CRITICAL_STREAM]
  · simp [joinHeaders, h]
  · simp [joinHeaders, WSt.isDone, finishHeaders]

-- non-vacuity, the whole `build` future against a scripted transport: three streams, the control
-- stream's `send_data` ok, its `poll_ready` meets STOP_SENDING(7), the QPACK headers go out: Err(0x104),
-- one close; the same with the decoder's `poll_ready` pending first: `build` waits for it
example : (buildRun scriptTr 3 [.ok, .ok, .ok, .ok, .err (.terminated 7), .ok, .ok, .ok, .ok] {}).2 =
    ({ phase := .finished, drv := { handled := some (.localApp 0x0104 0), closes := [0x0104] } },
     some (some (.localApp 0x0104 0))) := by decide
example : (buildPoll scriptTr [.ok, .ok, .ok, .ok, .err (.terminated 7), .ok, .pending, .ok, .ok] {}).res = none ∧
    (buildPoll scriptTr [.ok, .ok, .ok, .ok, .err (.terminated 7), .ok, .pending, .ok, .ok] {}).st.drv.closes = [] := by
  decide
-- STOP_SENDING on the two QPACK streams only: the connection is built
example : (buildRun scriptTr 3 [.ok, .ok, .ok, .ok, .ok, .ok, .err (.terminated 7), .ok, .err (.terminated 9)] {}).2.2 =
    some none := by decide

/-- **A client that is handed a server-initiated bidirectional stream** (RFC 9114 §6.1): when the
    control loop of `poll_close` has nothing more to do and `poll_accept_bi` yields a stream, the
    connection error is H3_STREAM_CREATION_ERROR, `close(0x0103)` once; if the connection had
    failed before — or the transport answers `poll_accept_bi` with a connection error — that
    error is the outcome and nothing (more) is closed for the stream; `Pending` raises nothing. -/
theorem C04_client_rejects_server_bidi :
    clientAcceptBi {} .stream =
      ({ handled := some (.localApp 0x0103 0), closes := [0x0103] }, some (.localApp 0x0103 0)) ∧
    (∀ (d : Drv) (h : CErr) (a : AccBi), d.handled = some h → a ≠ .pending → clientAcceptBi d a = (d, some h)) ∧
    (∀ q, (clientAcceptBi {} (.err q)).2 = some (convert (.quic q)) ∧
      OutcomeOK (convert (.quic q)) (clientAcceptBi {} (.err q)).1.closes) ∧
    (∀ d, clientAcceptBi d .pending = (d, none)) := by
  refine ⟨by simp [clientAcceptBi, raise, convert, closeCode, closeOf, CODE_H3_STREAM_CREATION_ERROR], ?_, ?_,
    fun d => rfl⟩
  · intro d h a hd ha
    cases a with
    | pending => exact absurd rfl ha
    | stream | err q => simp [clientAcceptBi, raise, hd]
  · intro q
    simp only [clientAcceptBi, H3.Lemmas.Setup.raise_fresh]
    simp only [raise]
    exact ⟨trivial, H3.Lemmas.Setup.outcome_convert _⟩

example : clientAcceptBi {} (.err (.appClose 0x100)) =
    ({ handled := some (.remote (.appClose 0x100)), closes := [] }, some (.remote (.appClose 0x100))) := by decide

end faults

/-! ## The driver's oracle: what a RESET of the control stream may overtake (reading R-04d) -/

section overtaking
open H3.Drv.C04 H3.Spec.ControlRules

/-- **A RESET overtakes only what the endpoint had not looked at.**  `overtaken isReset x r` is what
    the driver's oracle (`ctlStep`, engine `ctl`) accepts for one event of the control stream when the
    table leaves the alternatives `r`; `isReset` = the control stream had been reset when the endpoint
    came to look at the batch of events this one belongs to (`ctlPhase`: the events of the bytes that
    arrived since the last quiescence point; an event judged before is never judged again).
    * no such reset ⇒ exactly the table's alternatives: the frame's own error and nothing else;
    * a reset ⇒ at most ONE alternative is added, it is H3_CLOSED_CRITICAL_STREAM, and it is added only
      where the table demands an error anyway (every alternative of `r` is an error): no error is never
      added, another code is never added. -/
theorem C04_reset_overtakes_only_unseen_frames (isReset : Bool) (x : SpecSt) (r : List SpecSt) :
    (isReset = false → overtaken isReset x r = r) ∧
    (∀ y ∈ overtaken isReset x r, y ∈ r ∨
      (isReset = true ∧ y.dead = some H3_CLOSED_CRITICAL_STREAM ∧ ∀ z ∈ r, z.dead.isSome = true)) := by
  constructor
  · intro h; subst h; simp [overtaken]
  · intro y hy
    unfold overtaken at hy
    split at hy
    · rename_i hc
      simp only [Bool.and_eq_true, List.all_eq_true] at hc
      rcases List.mem_append.mp hy with h | h
      · exact Or.inl h
      · right
        refine ⟨hc.1.1, ?_, hc.1.2⟩
        simp only [List.mem_singleton] at h
        subst h; rfl
    · exact Or.inl hy

/-- the codes the oracle accepts after the given ops (server, no grease, unlimited credit) -/
def deadAfter (ops : List Op) : List (Option Nat) :=
  let rc : RunCfg := { server := true }
  let sp0 : SpecSt := { rc := rc, env := OwnNet.init rc }
  ((runSpec ((specSetup sp0).map fun x => (x, {})) ops).map fun (s, _) => s.dead).eraseDups

-- non-vacuity, on whole lines of engine `ctl` (the witness pair of R-04d has these bytes): SETTINGS and a
-- second SETTINGS, then RESET, all before the endpoint looks ⇒ H3_FRAME_UNEXPECTED or
-- H3_CLOSED_CRITICAL_STREAM ...
example : deadAfter [.openS 2, .chunk 2 [0, 4, 0, 4, 0], .reset 2 7, .api "AL"] = [some 0x0105, some 0x0104] := by
  decide +kernel
-- ... the endpoint looked between the second SETTINGS and the RESET (the accept loop runs: the driver is
-- polled to quiescence after every op) ⇒ H3_FRAME_UNEXPECTED only ...
example : deadAfter [.openS 2, .api "AL", .chunk 2 [0, 4, 0, 4, 0], .reset 2 7] = [some 0x0105] := by
  decide +kernel
example : deadAfter [.openS 2, .chunk 2 [0, 4, 0, 4, 0], .api "A", .reset 2 7] = [some 0x0105] := by
  decide +kernel
-- ... no reset ⇒ the frame's own error only; a reset alone ⇒ H3_CLOSED_CRITICAL_STREAM only
example : deadAfter [.openS 2, .chunk 2 [0, 4, 0, 4, 0], .fin 2, .api "AL"] = [some 0x0105] := by
  decide +kernel
example : deadAfter [.openS 2, .chunk 2 [0, 4, 0], .reset 2 7, .api "AL"] = [some 0x0104] := by
  decide +kernel
-- reading R-04e on a whole line: the peer's QPACK encoder stream FINed ⇒ H3_CLOSED_CRITICAL_STREAM or nothing
example : deadAfter [.openS 2, .chunk 2 [0, 4, 0], .openS 6, .chunk 6 [2], .fin 6, .api "AL"] = [some 0x0104, none] := by
  decide +kernel
-- ... and what else the line demands stays demanded: a second SETTINGS after the RESET of the encoder stream
example : deadAfter [.openS 2, .chunk 2 [0, 4, 0], .api "AL", .openS 6, .chunk 6 [2], .reset 6 3, .chunk 2 [4, 0]] =
    [some 0x0104, some 0x0105] := by
  decide +kernel
-- frame type 0x41 (`40 41`): no opinion on the alternative that went past it, but an error demanded
-- BEFORE it stays demanded (second SETTINGS, then 0x41)
example : deadAfter [.openS 2, .chunk 2 [0, 4, 0, 4, 0, 0x40, 0x41, 0], .api "AL"] = [some 0x0105] := by
  decide +kernel
example : ((runSpec ((specSetup { rc := { server := true }, env := OwnNet.init { server := true } }).map fun x => (x, {}))
    [.openS 2, .chunk 2 [0, 4, 0, 0x40, 0x41, 0], .api "AL"]).map fun (s, _) => (s.dead, s.unknown)) =
    [(some 0x0105, false), (none, true)] := by
  decide +kernel

end overtaking


end H3.Props.C04
