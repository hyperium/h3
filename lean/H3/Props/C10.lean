import H3.Lemmas.Qpack
/-! # C10 — the field-section size limit is enforced exactly, in both directions

Property theorems (and `encodeFields_size`, the running size of the encoder's loop).  Model: `H3.Qpack` — `decode_stateless` with its running `mem_size` and
early cancel, `encode_stateless`, and the call sites as decision functions (`sendSite` for
`send_request` / `send_response` / `send_trailers` with `SharedState::settings()` as an `Option` and
the protocol default; `recvSite` for `accept_with_frame` / `recv_response` and `poll_recv_trailers` of
either role, the four of `RecvSite`; `serverResolve` for the 431 of `resolve`).  Specification: `Spec.Qpack.size`, the RFC 9114 §4.2.2
size `Σ (|name| + |value| + 32)`; accept ⇔ size ≤ limit.  Only `C10_own_encoding_exact` needs the C15
round-trip facts (hypothesis `C15Facts`); `H3.Props.C11.C10_own_encoding_exact_closed` in `Props/C11Closed.lean` is
the same statement without the hypothesis. -/
namespace H3.Props.C10
open H3.Qpack H3.Qpack.Lemmas

/-- Receiving.  Let `b` be a field section h3 can decode at all (it is accepted under *some*
    limit `L0`, as the list `fs`).  Then for every limit `L`: `b` is accepted — as the same list,
    with the RFC 9114 size as `mem_size` — exactly when `size fs ≤ L`; otherwise the answer is
    `HeaderTooLong(n)` with `L < n ≤ size fs` (the running size where the loop stopped).  All the
    sizes are at most `128·|b|`, so the `u64` never wraps for sections shorter than 2^57 octets. -/
theorem C10_recv_exact (b : List Nat) (L0 : Nat) (fs : List Field) (m : Nat)
    (h0 : decodeStateless b L0 = .ok fs m) :
    m = Spec.Qpack.size (pairs fs) ∧ m ≤ 128 * b.length ∧
    (b.length < 2 ^ 57 → m < 2 ^ 64) ∧
    ∀ L, (decodeStateless b L = .ok fs (Spec.Qpack.size (pairs fs)) ↔ Spec.Qpack.size (pairs fs) ≤ L) ∧
      (L < Spec.Qpack.size (pairs fs) →
        ∃ n, decodeStateless b L = .err (.headerTooLong n) ∧ L < n ∧ n ≤ Spec.Qpack.size (pairs fs)) := by
  obtain ⟨hm, _, hbound⟩ := (decodeStateless_facts b L0).2.1 fs m h0
  refine ⟨hm, hbound, fun hl => by omega, fun L => ?_⟩
  unfold decodeStateless at h0
  rcases decodeStatelessX_eq b with ⟨e, _, _, hall⟩ | ⟨rest, _, hall⟩
  · rw [hall L0] at h0; cases h0
  · rw [hall L0] at h0
    obtain ⟨i1, i2⟩ := decodeLoop_limit L0 rest.length rest 0 fs m _ (Prod.ext h0 rfl) (Nat.le_refl _) L
    subst hm
    refine ⟨⟨fun hL => ((decodeStateless_facts b L).2.1 _ _ hL).2.1, fun hle => ?_⟩, fun hlt => ?_⟩
    · unfold decodeStateless
      rw [hall L, i1 hle]
    · obtain ⟨n, lx, hr, h1, h2⟩ := i2 hlt (Nat.zero_le _)
      exact ⟨n, by unfold decodeStateless; rw [hall L, hr], h1, h2⟩

-- GET https://a/ (four fields, 167): accepted at 167, refused at 166 with the running size
example : decodeStateless [0, 0, 0xd1, 0xd7, 0x50, 0x81, 0x1f, 0xc1] 167 =
    .ok [⟨[58, 109, 101, 116, 104, 111, 100], [71, 69, 84]⟩, ⟨[58, 115, 99, 104, 101, 109, 101], [104, 116, 116, 112, 115]⟩,
         ⟨[58, 97, 117, 116, 104, 111, 114, 105, 116, 121], [97]⟩, ⟨[58, 112, 97, 116, 104], [47]⟩] 167 := by
  decide +kernel
example : decodeStateless [0, 0, 0xd1, 0xd7, 0x50, 0x81, 0x1f, 0xc1] 166 = .err (.headerTooLong 167) ∧
    decodeStateless [0, 0, 0xd1, 0xd7, 0x50, 0x81, 0x1f, 0xc1] 100 = .err (.headerTooLong 129) ∧
    decodeStateless [0, 0, 0xd1, 0xd7, 0x50, 0x81, 0x1f, 0xc1] 0 = .err (.headerTooLong 42) := by
  decide +kernel

/-- Whatever the input, a reported size is above the limit and at most `128·|b|`: the `u64`
    `mem_size` never wraps (for sections shorter than 2^57 octets), and the model's own loop bound
    is never reached. -/
theorem C10_recv_no_wrap (b : List Nat) (L : Nat) :
    decodeStateless b L ≠ .err .fuel ∧
    (∀ n, decodeStateless b L = .err (.headerTooLong n) → L < n ∧ n ≤ 128 * b.length) ∧
    (∀ fs m, decodeStateless b L = .ok fs m → m ≤ L ∧ m ≤ 128 * b.length) := by
  obtain ⟨hf, hok, htl⟩ := decodeStateless_facts b L
  exact ⟨hf, htl, fun fs m h => (hok fs m h).2⟩

/-- Both directions together: a field section h3 itself has encoded (any field list of octet
    strings whose Huffman codings are shorter than 2^29 − 2 octets, `Encodable`) is accepted by an
    h3 receiver with limit `L` exactly when its RFC 9114 size — the number `encode_stateless`
    returned to the sender — is at most `L`; otherwise it is refused with
    `HeaderTooLong`.  (So the hypothesis of `C10_recv_exact` holds for every such section; uses the
    C15 round-trip theorems, hypothesis `C15Facts`.) -/
theorem C10_own_encoding_exact (h15 : C15Facts) (fs : List Field) (hfs : ∀ f ∈ fs, Encodable f) (L : Nat) :
    (encodeStateless fs).2 = Spec.Qpack.size (pairs fs) ∧
    (decodeStateless (encodeStateless fs).1 L = .ok fs (Spec.Qpack.size (pairs fs)) ↔
      Spec.Qpack.size (pairs fs) ≤ L) ∧
    (L < Spec.Qpack.size (pairs fs) →
      ∃ n, decodeStateless (encodeStateless fs).1 L = .err (.headerTooLong n) ∧ L < n ∧
        n ≤ Spec.Qpack.size (pairs fs)) := by
  have h0 : decodeStateless (encodeStateless fs).1 (Spec.Qpack.size (pairs fs)) =
      .ok fs (Spec.Qpack.size (pairs fs)) := by
    unfold decodeStateless
    rw [decodeStateless_encode h15 fs hfs _ (Nat.le_refl _)]
  obtain ⟨_, _, _, hall⟩ := C10_recv_exact _ _ _ _ h0
  obtain ⟨bs, henc, _, _⟩ := encodeStateless_spec h15 fs (fun f hf => (hfs f hf).writable)
  refine ⟨by simp [encodeStateless, henc], (hall L).1, (hall L).2⟩

theorem encodeFields_size : ∀ (fs : List Field) (size : Nat) (bs : List Nat) (size' : Nat),
    encodeFields? fs size = some (bs, size') → size' = size + Spec.Qpack.size (pairs fs) := by
  intro fs size
  fun_induction encodeFields? fs size with
  | case1 size => rintro bs size' ⟨⟩; simp [pairs, Spec.Qpack.size]
  -- the field, or the rest of the list, makes the encoder panic: not `some`
  | case2 | case3 => intro _ _ h; cases h
  | case4 f fs size b hf bs' s' hr ih =>
    rintro bs size' ⟨⟩
    rw [size_pairs_cons, ih _ _ hr]
    omega

theorem encodeStateless?_size {fs : List Field} {block : List Nat} {size : Nat}
    (h : encodeStateless? fs = some (block, size)) : size = Spec.Qpack.size (pairs fs) := by
  unfold encodeStateless? at h
  split at h
  · cases h
  · next hf =>
    cases h
    simpa using encodeFields_size fs 0 _ _ hf

/-- a send site once the encoder has answered: the one comparison -/
theorem sendSite_of_encoded {fs : List Field} {block : List Nat} {size : Nat}
    (h : encodeStateless? fs = some (block, size)) (applied : Option Nat) :
    sendSite applied fs =
      if size > peerLimit applied then .refused size (peerLimit applied) else .written block := by
  unfold sendSite
  rw [h]

/-- Sending.  `encode_stateless` returns exactly the RFC 9114 §4.2.2 size of the field list.  Each
    of the three send sites (`send_request`, `send_response`, `send_trailers`: the same code)
    refuses exactly when that size exceeds `peerLimit` — the value of the peer's SETTINGS once
    they have been applied, the protocol default `2^62 − 1` (`VarInt::MAX`, regenerated from
    `config.rs`) before that or when the peer's SETTINGS do not carry the parameter — and then
    reports `(size, peerLimit)` and writes nothing; otherwise it writes the encoded block. -/
theorem C10_send_exact (fs : List Field) (applied : Option Nat) (block : List Nat) (size : Nat)
    (h : encodeStateless? fs = some (block, size)) :
    size = Spec.Qpack.size (pairs fs) ∧
    peerLimit none = 2 ^ 62 - 1 ∧ (∀ v, peerLimit (some v) = v) ∧
    (Spec.Qpack.size (pairs fs) > peerLimit applied ↔
      sendSite applied fs = .refused (Spec.Qpack.size (pairs fs)) (peerLimit applied)) ∧
    (Spec.Qpack.size (pairs fs) ≤ peerLimit applied ↔ sendSite applied fs = .written block) := by
  cases encodeStateless?_size h
  rw [sendSite_of_encoded h]
  refine ⟨rfl, by decide, fun v => rfl, ?_⟩
  by_cases hgt : Spec.Qpack.size (pairs fs) > peerLimit applied
  · rw [if_pos hgt]
    exact ⟨⟨fun _ => rfl, fun _ => hgt⟩, fun hle => absurd hle (by omega), nofun⟩
  · rw [if_neg hgt]
    exact ⟨⟨fun h => absurd h hgt, nofun⟩, fun _ => rfl, fun _ => by omega⟩

/-- `:status: 200` + `x: aaa` (42 + 36) -/
theorem enc_fs2 : encodeStateless? [⟨[58, 115, 116, 97, 116, 117, 115], [50, 48, 48]⟩, ⟨[120], [97, 97, 97]⟩] =
    some ([0, 0, 0xd9, 0x29, 0xf3, 0x82, 0x18, 0xc7], 78) := by decide +kernel

-- the theorem applied: written under limit 78, refused under 77; default 2^62−1
example : sendSite (some 78) [⟨[58, 115, 116, 97, 116, 117, 115], [50, 48, 48]⟩, ⟨[120], [97, 97, 97]⟩] =
    .written [0, 0, 0xd9, 0x29, 0xf3, 0x82, 0x18, 0xc7] :=
  let h := C10_send_exact _ (some 78) _ _ enc_fs2
  h.2.2.2.2.mp (h.1 ▸ Nat.le_refl 78)
example : sendSite (some 77) [⟨[58, 115, 116, 97, 116, 117, 115], [50, 48, 48]⟩, ⟨[120], [97, 97, 97]⟩] =
    .refused 78 77 :=
  let h := C10_send_exact _ (some 77) _ _ enc_fs2
  h.1 ▸ h.2.2.2.1.mp (h.1 ▸ (by decide : 78 > 77))
example : sendSite none [⟨[58, 115, 116, 97, 116, 117, 115], [50, 48, 48]⟩] = .written [0, 0, 0xd9] := by
  decide +kernel

/-- Sending a request that had to wait.  `send_request` is the one send site that can be suspended
    before its comparison (`poll_open_bidi` pending while the peer's stream limit is exhausted).
    Whatever the peer's SETTINGS cell held when the call was made (`atCall`), the request is
    refused exactly when its RFC 9114 size exceeds the limit in force when the stream has been
    opened and the request is about to be written (`atOpen`: the advertised value once the SETTINGS
    have been applied, the protocol default before), and is written otherwise.  In particular a
    call made under the protocol default whose stream opens after the peer advertised a smaller
    limit does not send an oversized request. -/
theorem C10_pending_request_uses_limit_at_send (fs : List Field) (atCall atOpen : Option Nat)
    (block : List Nat) (size : Nat) (h : encodeStateless? fs = some (block, size)) :
    (Spec.Qpack.size (pairs fs) > peerLimit atOpen ↔
      sendRequestSite atCall atOpen fs = .refused (Spec.Qpack.size (pairs fs)) (peerLimit atOpen)) ∧
    (Spec.Qpack.size (pairs fs) ≤ peerLimit atOpen ↔ sendRequestSite atCall atOpen fs = .written block) ∧
    (∀ v, atCall = none → atOpen = some v → v < Spec.Qpack.size (pairs fs) →
      sendRequestSite atCall atOpen fs = .refused (Spec.Qpack.size (pairs fs)) v) := by
  obtain ⟨_, _, hv, hr, hw⟩ := C10_send_exact fs atOpen block size h
  refine ⟨hr, hw, ?_⟩
  intro v _ ho hlt
  subst ho
  rw [hv] at hr
  exact hr.mp hlt

-- GET https://a/ (167): called under the default, the peer's limit 100 arrives while the call waits
-- for stream credit: refused (167, 100); with limit 167 it is written
example : sendRequestSite none (some 100)
    [⟨[58, 109, 101, 116, 104, 111, 100], [71, 69, 84]⟩, ⟨[58, 115, 99, 104, 101, 109, 101], [104, 116, 116, 112, 115]⟩,
     ⟨[58, 97, 117, 116, 104, 111, 114, 105, 116, 121], [97]⟩, ⟨[58, 112, 97, 116, 104], [47]⟩] = .refused 167 100 := by
  decide +kernel
example : sendRequestSite none (some 167)
    [⟨[58, 109, 101, 116, 104, 111, 100], [71, 69, 84]⟩, ⟨[58, 115, 99, 104, 101, 109, 101], [104, 116, 116, 112, 115]⟩,
     ⟨[58, 97, 117, 116, 104, 111, 114, 105, 116, 121], [97]⟩, ⟨[58, 112, 97, 116, 104], [47]⟩] =
    .written [0, 0, 0xd1, 0xd7, 0x50, 0x81, 0x1f, 0xc1] := by
  decide +kernel

/-- `split`.  The receive half of a split request stream enforces the endpoint's configured maximum
    unchanged — every receive site answers on it exactly as on the unsplit stream, so
    `C10_recv_exact` and `C10_outcomes` carry over — and the value the send half carries (`0`) is
    not consulted by any send site: what the send half may send is decided by `sendSite` from the
    shared settings cell alone (`C10_send_exact`). -/
theorem C10_split_keeps_receive_limit (mfs : Nat) :
    (splitLimits mfs).2 = mfs ∧ (splitLimits mfs).1 = 0 ∧
    ∀ site block, recvSite site (splitLimits mfs).2 block = recvSite site mfs block := by
  refine ⟨rfl, rfl, fun _ _ => rfl⟩

-- trailers `x-t: aa` (size 37) on the receive half: accepted at 37, refused at 36 (not at 0 < 37 only)
example : recvSite .serverTrailers (splitLimits 37).2 [0, 0, 0x2b, 0xf2, 0xb2, 0x7f, 0x82, 0x18, 0xff] =
    .fields [⟨[120, 45, 116], [97, 97]⟩] ∧
    recvSite .clientTrailers (splitLimits 36).2 [0, 0, 0x2b, 0xf2, 0xb2, 0x7f, 0x82, 0x18, 0xff] =
    .tooBig 37 36 (some 268) := by
  decide +kernel

theorem response431_encoded :
    encodeStateless? response431 = some ([0, 0, 0x5f, 0x09, 0x83, 0x69, 0x90, 0xff], 42) := by
  decide +kernel

/-- Outcomes over the limit.  Let `decode_stateless` answer `HeaderTooLong(n)` under the receiver's
    configured maximum.  At the server's request head the 431 response (one field `:status: 431`,
    size 42, block `00 00 5f 09 83 69 90 ff`) is attempted: when 42 fits the client's limit it is
    written and `resolve_request` returns header-too-big `(n, max)`; when it does not, nothing is
    written and the call still returns header-too-big (the send site's `(42, client limit)`).  For
    trailers at the server the call returns header-too-big; for the response and for trailers at
    the client it returns header-too-big and issues `STOP_SENDING(H3_REQUEST_CANCELLED)`.  None of
    these outcomes is the connection-error outcome (`connError`: error cell written, `close`
    called), which is reserved to the other decoder errors. -/
theorem C10_outcomes (mfs : Nat) (applied : Option Nat) (block : List Nat) (n : Nat)
    (h : decodeStateless block mfs = .err (.headerTooLong n)) :
    encodeStateless? response431 = some ([0, 0, 0x5f, 0x09, 0x83, 0x69, 0x90, 0xff], 42) ∧
    (42 ≤ peerLimit applied →
      serverResolve mfs applied block = .tooBig n mfs (some [0, 0, 0x5f, 0x09, 0x83, 0x69, 0x90, 0xff])) ∧
    (peerLimit applied < 42 → serverResolve mfs applied block = .tooBig 42 (peerLimit applied) none) ∧
    recvSite .serverTrailers mfs block = .tooBig n mfs none ∧
    recvSite .clientResponse mfs block = .tooBig n mfs (some 268) ∧
    recvSite .clientTrailers mfs block = .tooBig n mfs (some 268) ∧
    (∀ site c, recvSite site mfs block ≠ .connError c) ∧
    (∀ c, serverResolve mfs applied block ≠ .connError c) := by
  have hrs : ∀ site, recvSite site mfs block = .tooBig n mfs site.stopCode := by
    intro site; unfold recvSite; rw [h]
  have hres : serverResolve mfs applied block =
      if 42 > peerLimit applied then .tooBig 42 (peerLimit applied) none
      else .tooBig n mfs (some [0, 0, 0x5f, 0x09, 0x83, 0x69, 0x90, 0xff]) := by
    unfold serverResolve
    rw [hrs, sendSite_of_encoded response431_encoded]
    by_cases hgt : 42 > peerLimit applied
    · simp only [if_pos hgt]
    · simp only [if_neg hgt]
  refine ⟨response431_encoded, ?_, ?_, hrs _, hrs _, hrs _, ?_, ?_⟩
  · intro hle; rw [hres, if_neg (by omega)]
  · intro hlt; rw [hres, if_pos (by omega)]
  · intro site c; rw [hrs]; intro hc; cases hc
  · intro c; rw [hres]; split <;> (intro hc; cases hc)

/-- the hypothesis is met: `GET https://a/` (167) under the limit 100 stops at 129 -/
theorem getA_100 : decodeStateless [0, 0, 0xd1, 0xd7, 0x50, 0x81, 0x1f, 0xc1] 100 = .err (.headerTooLong 129) := by
  decide +kernel

-- the theorem applied to it, client limit absent / 42 / 41
example : serverResolve 100 none [0, 0, 0xd1, 0xd7, 0x50, 0x81, 0x1f, 0xc1] =
    .tooBig 129 100 (some [0, 0, 0x5f, 0x09, 0x83, 0x69, 0x90, 0xff]) :=
  (C10_outcomes 100 none _ 129 getA_100).2.1 (by decide)
example : serverResolve 100 (some 42) [0, 0, 0xd1, 0xd7, 0x50, 0x81, 0x1f, 0xc1] =
    .tooBig 129 100 (some [0, 0, 0x5f, 0x09, 0x83, 0x69, 0x90, 0xff]) :=
  (C10_outcomes 100 (some 42) _ 129 getA_100).2.1 (by decide)
example : serverResolve 100 (some 41) [0, 0, 0xd1, 0xd7, 0x50, 0x81, 0x1f, 0xc1] = .tooBig 42 41 none :=
  (C10_outcomes 100 (some 41) _ 129 getA_100).2.2.1 (by decide)
example : recvSite .clientResponse 41 [0, 0, 0xd9] = .tooBig 42 41 (some 268) ∧
    recvSite .clientResponse 42 [0, 0, 0xd9] = .fields [⟨[58, 115, 116, 97, 116, 117, 115], [50, 48, 48]⟩] := by
  decide +kernel

end H3.Props.C10
