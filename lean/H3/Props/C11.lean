import H3.Lemmas.Qpack
/-! # C11 — stateless QPACK field sections: what h3 writes and accepts is RFC 9204, exactly

Property theorems (and the test vector `enc_sample`).  Model: `H3.Qpack` (`qpack/{static_,field,block,encoder,decoder}.rs`, tables
regenerated from the source).  Specification: `H3.Spec.Qpack` (two-stage RFC 9204 §4.5 decoder for
dynamic-table capacity 0, hand-typed Appendix A, strict RFC 7541 strings).

The theorems about byte strings rest on the C15 theorems (prefixed integers, Huffman codec,
string literals); they take them as the explicit hypothesis `C15Facts`, whose fields are the
statements of `H3.Props.C15` verbatim (`⟨C15_prefix_int_roundtrip,
C15_prefix_int_ok_sound, C15_huffman_roundtrip, C15_string_literal_encode, C15_string_literal_roundtrip,
C15_huffman_accepts_exactly_partial⟩`, which is `C11_c15_facts` in `Props/C11Closed.lean`; the `_closed` theorems
there are the ones below without the hypothesis). -/
namespace H3.Props.C11
open H3.Qpack H3.Qpack.Lemmas

/-- The generated `PREDEFINED_HEADERS` is RFC 9204 Appendix A (99 entries); `find` answers with an
    index holding exactly the field, `find_name` with an index holding the name; both answer with
    the *first* such index (not required by the RFC; recorded because the encoder's output depends
    on it). -/
theorem C11_static_table_is_rfc :
    H3.Gen.StaticTable.table = H3.Spec.Qpack.staticTable ∧
    H3.Spec.Qpack.staticTable.length = 99 ∧
    (∀ f i, StaticTable.find f = some i → StaticTable.get i = some f) ∧
    (∀ n i, StaticTable.findName n = some i → ∃ f, StaticTable.get i = some f ∧ f.name = n) ∧
    (∀ f i, StaticTable.find f = some i → ∀ j, j < i → StaticTable.get j ≠ some f) ∧
    (∀ n i, StaticTable.findName n = some i → ∀ j f, j < i → StaticTable.get j = some f → f.name ≠ n) := by
  refine ⟨table_eq, table_eq ▸ H3.Gen.StaticTable.table_length, ?_, ?_, ?_, ?_⟩
  · intro f i h
    exact get_eq_some.mpr (find_sound f i h)
  · intro n i h
    obtain ⟨v, hv⟩ := findName_sound n i h
    exact ⟨⟨n, v⟩, get_eq_some.mpr hv, rfl⟩
  · intro f i h j hj hc
    exact (find_first f i h).2 j hj (get_eq_some.mp hc)
  · intro n i h j f hj hg
    exact H3.Gen.StaticTable.findNameArms_before (findNameGo_mem _ _ _ h) hj (get_eq_some.mp hg)

example : StaticTable.find ⟨[58, 109, 101, 116, 104, 111, 100], [71, 69, 84]⟩ = some 17 := by decide +kernel
example : StaticTable.findName [58, 115, 116, 97, 116, 117, 115] = some 24 := by decide +kernel
example : StaticTable.get 99 = none := by decide +kernel

/-- Every field section h3 encodes — any field list over all byte values whose names and values have Huffman
    codings that fit the Huffman encoder's `u32` positions (the hypothesis `Writable` is: octets, coding length
    `L` with `7·L < 2^32`, i.e. shorter than 613 566 757 octets; decidable.  It is the range in which
    the model's encoder, with positions in `Nat`, is the code: `C15_huffman_encoder_positions_fit`, site D-15e; on
    this tree — `put` repaired — the code goes on encoding beyond it, up to `u32::MAX − 8` octets of coding, and
    answers `Err` above, which the model does not follow) — does not
    panic, starts with the prefix `00 00`, consists of octets, and is decoded by the independent RFC 9204
    decoder to exactly the input list, in order, through static-indexed, static-name-reference and
    literal lines only.  (h3's OWN decoder reads it back when, moreover, every Huffman coding is shorter
    than 2^29 − 2 octets — `Encodable`, `C10_own_encoding_exact` — and refuses it otherwise:
    `C15_string_literal_beyond_bound`, the bound of the repair of D-06u.) -/
theorem C11_encode_then_rfc_decode (h15 : C15Facts) (fs : List Field) (hfs : ∀ f ∈ fs, Writable f) :
    encodeStateless? fs = some (encodeStateless fs) ∧
    Spec.Qpack.specDecode (encodeStateless fs).1 = .ok (pairs fs) ∧
    (encodeStateless fs).1.take 2 = [0, 0] ∧
    (∀ b ∈ (encodeStateless fs).1, b < 256) ∧
    ∃ ls, Spec.Qpack.parse (encodeStateless fs).1 = .ok ls ∧ ls.all (·.isStateless) = true := by
  obtain ⟨bs, henc, hwf, ls, hparse, hia, hall⟩ := encodeStateless_spec h15 fs hfs
  have he : encodeStateless fs = ([0, 0] ++ bs, Spec.Qpack.size (pairs fs)) := by
    simp [encodeStateless, henc]
  rw [he]
  refine ⟨henc, ?_, rfl, ?_, ls, hparse, hall⟩
  · simp only [Spec.Qpack.specDecode, hparse, hia]
  · intro b hb
    simp only [List.cons_append, List.nil_append, List.mem_cons] at hb
    rcases hb with rfl | rfl | hb
    · omega
    · omega
    · exact hwf b hb

/-- `:method: GET`, `x-a: aa`, `:status: 431`, `"": ""` ↦ `00 00 d1 2b f2 b0 ff 82 18 ff 5f 09 83 69 90 ff 28 80`
    (`C11Closed` decodes these bytes) -/
theorem enc_sample : (encodeStateless [⟨[58, 109, 101, 116, 104, 111, 100], [71, 69, 84]⟩, ⟨[120, 45, 97], [97, 97]⟩,
      ⟨[58, 115, 116, 97, 116, 117, 115], [52, 51, 49]⟩, ⟨[], []⟩]).1 =
    [0, 0, 0xd1, 0x2b, 0xf2, 0xb0, 0xff, 0x82, 0x18, 0xff, 0x5f, 0x09, 0x83, 0x69, 0x90, 0xff, 0x28, 0x80] := by
  decide +kernel

example : (encodeStateless [⟨[58, 109, 101, 116, 104, 111, 100], [71, 69, 84]⟩, ⟨[120, 45, 97], [97, 97]⟩,
      ⟨[58, 115, 116, 97, 116, 117, 115], [52, 51, 49]⟩, ⟨[], []⟩]).1 =
    [0, 0, 0xd1, 0x2b, 0xf2, 0xb0, 0xff, 0x82, 0x18, 0xff, 0x5f, 0x09, 0x83, 0x69, 0x90, 0xff, 0x28, 0x80] := enc_sample

/- Full statement (false on the unchanged and on the repaired tree, because of D-15):

     ∀ b max fs m, (∀ x ∈ b, x < 256) → decodeStateless b max = .ok fs m →
       Spec.Qpack.specDecode b = .ok (pairs fs) ∧ …

   What is missing: the sections one of whose Huffman-coded string literals is accepted through the
   lax `check_eof` branch of the Huffman decoder (ghost flag `laxSection`; site D-15, recorded for
   C15 and C11, not repaired because a repository test demands the laxity). -/

/-- Every byte string h3 accepts as a field section — under any limit, outside the lax Huffman
    branch — is a valid RFC 9204 encoding for a decoder of capacity 0, h3's field list equals the
    independent decoding, the reported size is the RFC 9114 §4.2.2 size and within the limit, and
    every line is static-indexed, static-name-reference or literal. -/
theorem C11_accepts_only_rfc_partial (h15 : C15Facts) (b : List Nat) (hb : ∀ x ∈ b, x < 256) (max : Nat)
    (fs : List Field) (m : Nat) (h : decodeStateless b max = .ok fs m) (hlax : laxSection b max = false) :
    Spec.Qpack.specDecode b = .ok (pairs fs) ∧
    m = Spec.Qpack.size (pairs fs) ∧ m ≤ max ∧
    ∃ ls, Spec.Qpack.parse b = .ok ls ∧ ls.all (·.isStateless) = true := by
  have hx : decodeStatelessX b max = (.ok fs m, false) := by
    unfold decodeStateless at h
    unfold laxSection at hlax
    rw [← h, ← hlax]
  obtain ⟨ls, hparse, hia, hall⟩ := decodeStatelessX_sound h15 b hb max fs m hx
  obtain ⟨hm, hle, _⟩ := (decodeStateless_facts b max).2.1 fs m h
  exact ⟨by simp only [Spec.Qpack.specDecode, hparse, hia], hm, hle, ls, hparse, hall⟩

example : decodeStatelessX [0, 0, 0xd1, 0x5f, 0x09, 0x83, 0x69, 0x90, 0xff] 1000 =
    (.ok [⟨[58, 109, 101, 116, 104, 111, 100], [71, 69, 84]⟩, ⟨[58, 115, 116, 97, 116, 117, 115], [52, 51, 49]⟩] 84,
     false) := by decide +kernel

/-- the third row of the receive sites' table -/
theorem recvSite_of_err {b : List Nat} {max : Nat} {e : Err} (hd : decodeStateless b max = .err e) :
    (∃ n, e = .headerTooLong n) ∨ ∀ site, recvSite site max b = .connError QPACK_DECOMPRESSION_FAILED := by
  cases e with
  | headerTooLong n => exact .inl ⟨n, rfl⟩
  | _ => exact .inr fun site => by unfold recvSite; rw [hd]

/-- The receive call sites (`accept_with_frame`, `recv_response`, `poll_recv_trailers` of either role) map
    the decoder's answer by the same three-row table: `Ok` goes on, `HeaderTooLong` becomes
    `HeaderTooBig` without connection error, *every other error* becomes the connection error
    `QPACK_DECOMPRESSION_FAILED`.

    Whatever the RFC decoder rejects — truncated integer or string, invalid Huffman coding,
    Required Insert Count or sign bit impossible for capacity 0, relative or post-base reference
    to the dynamic table, static index ≥ 99 (the reasons of `Spec.Qpack.Reject`) — h3 rejects
    (outside the lax Huffman branch): with an error of the third row, at every site; or, when the
    lines before the invalid one already exceed the limit, with the size error (`max < n`).  With a
    limit no section of that length can reach (`128·|b| ≤ max`) it is always the connection error. -/
theorem C11_rejects (h15 : C15Facts) (b : List Nat) (hb : ∀ x ∈ b, x < 256) (max : Nat)
    (r : Spec.Qpack.Reject) (hspec : Spec.Qpack.specDecode b = .error r)
    (hlax : laxSection b max = false) :
    ∃ e, decodeStateless b max = .err e ∧ e ≠ .fuel ∧
      ((∃ n, e = .headerTooLong n ∧ max < n ∧ n ≤ 128 * b.length) ∨
       (∀ site, recvSite site max b = .connError QPACK_DECOMPRESSION_FAILED)) ∧
      (128 * b.length ≤ max → ∀ site, recvSite site max b = .connError QPACK_DECOMPRESSION_FAILED) := by
  cases hd : decodeStateless b max with
  | ok fs m =>
    have := (C11_accepts_only_rfc_partial h15 b hb max fs m hd hlax).1
    rw [hspec] at this; cases this
  | err e =>
    obtain ⟨hfuel, _, htl⟩ := decodeStateless_facts b max
    rw [hd] at hfuel htl
    refine ⟨e, rfl, fun h => hfuel (by rw [h]), ?_⟩
    rcases recvSite_of_err hd with ⟨n, rfl⟩ | hsite
    · obtain ⟨h1, h2⟩ := htl n rfl
      exact ⟨.inl ⟨n, rfl, h1, h2⟩, fun hbig => by omega⟩
    · exact ⟨.inr hsite, fun _ => hsite⟩

/-! Non-vacuity: one witness per category of the property text (specification's reason, model's
    error, outcome at a receive site). -/
-- relative reference to the dynamic table (indexed, T = 0)
example : Spec.Qpack.specDecode [0, 0, 0x80] = .error .dynamicReference ∧
    decodeStateless [0, 0, 0x80] 1000 = .err (.missingRefs 0) ∧
    recvSite .serverRequest 1000 [0, 0, 0x80] = .connError 512 := by decide +kernel
-- literal with a dynamic name reference (T = 0)
example : Spec.Qpack.specDecode [0, 0, 0x40, 0x00] = .error .dynamicReference ∧
    decodeStateless [0, 0, 0x40, 0x00] 1000 = .err (.missingRefs 0) := by decide +kernel
-- post-base index and post-base name reference
example : Spec.Qpack.specDecode [0, 0, 0x10] = .error .postBaseReference ∧
    decodeStateless [0, 0, 0x10] 1000 = .err (.missingRefs 0) ∧
    Spec.Qpack.specDecode [0, 0, 0x00, 0x00] = .error .postBaseReference ∧
    decodeStateless [0, 0, 0x00, 0x00] 1000 = .err (.missingRefs 0) := by decide +kernel
-- static index 99
example : Spec.Qpack.specDecode [0, 0, 0xff, 0x24] = .error (.staticIndex 99) ∧
    decodeStateless [0, 0, 0xff, 0x24] 1000 = .err (.invalidStaticIndex 99) ∧
    recvSite .clientResponse 1000 [0, 0, 0xff, 0x24] = .connError 512 := by decide +kernel
-- truncated integer, truncated string
example : Spec.Qpack.specDecode [0, 0, 0xff] = .error .truncatedInteger ∧
    decodeStateless [0, 0, 0xff] 1000 = .err (.invalidInteger .unexpectedEnd) ∧
    Spec.Qpack.specDecode [0, 0, 0x5f, 0x09, 0x03, 0x61] = .error .truncatedString ∧
    decodeStateless [0, 0, 0x5f, 0x09, 0x03, 0x61] 1000 = .err (.invalidString .unexpectedEnd) ∧
    recvSite .clientTrailers 1000 [0, 0, 0x5f, 0x09, 0x03, 0x61] = .connError 512 := by decide +kernel
-- integer with an eleventh continuation octet (oversized): refused, never a wrapped value
example : decodeStateless [0, 0, 0xff, 0xff, 0xff, 0xff, 0xff, 0xff, 0xff, 0xff, 0xff, 0xff, 0xff, 0x01] 1000 =
    .err (.invalidInteger .overflow) := by decide +kernel
-- section prefix: Required Insert Count 5, sign bit 1 (D-11, repaired)
example : Spec.Qpack.specDecode [5, 0, 0xd1] = .error .requiredInsertCount ∧
    decodeStateless [5, 0, 0xd1] 1000 = .err (.invalidInteger .overflow) ∧
    Spec.Qpack.specDecode [0, 0x80, 0xd1] = .error .negativeBase ∧
    decodeStateless [0, 0x80, 0xd1] 1000 = .err (.badBaseIndex (-1)) ∧
    recvSite .serverTrailers 1000 [0, 0x80, 0xd1] = .connError 512 := by decide +kernel
-- no first octet of a line is an "unknown prefix": the five patterns cover all 256 values
example : ∀ first < 256, HeaderBlockField.decode first ≠ .unknown := by decide +kernel

end H3.Props.C11
