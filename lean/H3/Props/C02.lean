import H3.Lemmas.FrameLaws
import H3.Lemmas.FrameStreamPoll
import H3.Lemmas.FrameRefSpec
import H3.Lemmas.FrameStreamFast
import H3.Lemmas.GenAgreeReq
import H3.Lemmas.GenAgreeCtl
import H3.Lemmas.FramingStrict
import H3.Lemmas.FrameStreamSplit
/-! # C02 — frame boundaries follow RFC 9114 §7.1 exactly, independent of chunking

Property theorems only.  Models: `H3.Frame` (`Frame::decode`, `proto/frame.rs`), `H3.FS`
(`FrameStream::{poll_next,poll_data}`, `FrameDecoder::decode`, `BufList`, `frame.rs`/`buf.rs`/
`stream.rs`).  Specification: `H3.Spec.Framing` (RFC 9114 §7.1/§7.2 oracle `observe`),
`H3.Spec.FrameRef` (byte-at-a-time reference automaton `run`, the decoder laws `Laws`, the
invariant `Inv`, reachable configurations `Reach`, the segmentation `Boundary`),
`H3.Spec.FrameAgree` (`Agree`: automaton result vs. oracle tokens).

All statements are unbounded: no bound on lengths, number of chunks or number of calls. -/
namespace H3.Props.C02
open H3.Varint H3.FS H3.Spec.Framing

/-! ## 1. `Frame::decode` is the §7.1 segmentation with the §7.2 payload grammar -/

/-- With `rfcDecode` (RFC 9000 §16) for type and length: header not complete ⇒ `Incomplete`;
    DATA ⇒ `Data(len)` consuming the header only; payload not all there ⇒ `Incomplete`;
    otherwise exactly `header + len` bytes are consumed for frames and for unknown types
    (skipped in full), and the payload is classified exactly as `Spec.Framing.classify` does:
    the same frame value, `Malformed` ⇔ `.malformed`, `UnsupportedFrame` ⇔ `.h2`,
    SETTINGS error ⇔ `.badSettings`.  (The header size `|w| - |r2|` is `size(ty) + size(len)`
    as encoded; the WebTransport header 0x41 is outside this specification.) -/
theorem C02_frame_decode_is_segment (w : Varint.Bytes) (hwf : WF w) :
    (rfcDecode w = none → ∃ m, H3.Frame.decode w = .incomplete m) ∧
    ∀ ty r1, rfcDecode w = some (ty, r1) → ty ≠ 0x41 →
      (rfcDecode r1 = none → ∃ m, H3.Frame.decode w = .incomplete m) ∧
      ∀ len r2, rfcDecode r1 = some (len, r2) →
        (w.length - r2.length = rfcLen (w.headD 0) + rfcLen (r1.headD 0) ∧
          r2 = w.drop (w.length - r2.length)) ∧
        (ty = 0x0 → H3.Frame.decode w = .frame (.data len) (w.length - r2.length)) ∧
        (ty ≠ 0x0 → r2.length < len → ∃ m, H3.Frame.decode w = .incomplete m) ∧
        (ty ≠ 0x0 → len ≤ r2.length →
          (isKnown ty = false → H3.Frame.decode w = .unknown (w.length - r2.length + len)) ∧
          (isKnown ty = true →
            match classify ty (r2.take len) with
            | .frame f => H3.Frame.decode w = .frame f (w.length - r2.length + len)
            | .okSettings => ∃ es, H3.Frame.decode w = .frame (.settings es) (w.length - r2.length + len)
            | .badSettings => ∃ e, H3.Frame.decode w = .error (.settings e)
            | .malformed => H3.Frame.decode w = .error .malformed
            | .h2 t => H3.Frame.decode w = .error (.unsupported t)
            | _ => False)) := by
  have hv := H3.Frame.decode_rfc w hwf
  refine ⟨fun h1 => ⟨_, by rw [hv, H3.Frame.rfc2_none (.inl h1)]⟩, fun ty r1 h1 hty =>
    ⟨fun h2 => ⟨_, by rw [hv, H3.Frame.rfc2_none (.inr ⟨_, _, h1, h2⟩)]⟩, fun len r2 h2 => ?_⟩⟩
  have hr := H3.Frame.rfc2_some h1 h2
  obtain ⟨_, _, hwf2, _, hr2⟩ := H3.Frame.rfc2_facts hwf hr
  have hwt : ty ≠ H3.Gen.Consts.FRAME_WEBTRANSPORT_BI_STREAM := hty
  rw [hr] at hv
  simp only [if_neg hwt] at hv
  refine ⟨⟨?_, hr2⟩, fun hd => ?_, fun hd hs => ?_, fun hd hc => ?_⟩
  · have := H3.Frame.rfc_len h1
    have := H3.Frame.rfc_len h2
    omega
  · rw [hv, if_pos (show ty = H3.Gen.Consts.FRAME_DATA from hd)]
  · rw [hv, if_neg (show ty ≠ H3.Gen.Consts.FRAME_DATA from hd), if_pos hs]; exact ⟨_, rfl⟩
  · rw [if_neg (show ty ≠ H3.Gen.Consts.FRAME_DATA from hd), if_neg (by omega)] at hv
    refine ⟨fun hk => by rw [hv, H3.Frame.typed_unknown ty _ _ hk], fun hk => ?_⟩
    have hTA := H3.Frame.typed_classify ty (r2.take len) (w.length - r2.length + len) (WF_take hwf2 _) hk
    rw [← hv] at hTA
    generalize classify ty (r2.take len) = c at hTA ⊢
    generalize H3.Frame.decode w = r at hTA ⊢
    cases hTA with
    | frame f _ => rfl
    | okSettings es => exact ⟨es, rfl⟩
    | badSettings e => exact ⟨e, rfl⟩
    | malformed => rfl
    | h2 t => rfl

-- GOAWAY(5) followed by another byte: three bytes consumed; payload with extra bytes: malformed
-- (D-02a, repaired); payload shorter than its varint: malformed, not Incomplete (D-02b, repaired);
-- a grease frame is skipped in full
example : H3.Frame.decode [0x07, 0x01, 0x05, 0xff] = .frame (.goaway 5) 3 := by decide
example : H3.Frame.decode [0x07, 0x03, 0x01, 0x00, 0x00] = .error .malformed ∧
    classify 0x7 [0x01, 0x00, 0x00] = .malformed := by decide
example : H3.Frame.decode [0x07, 0x01, 0x40] = .error .malformed := by decide
example : H3.Frame.decode [0x21, 0x02, 0xaa, 0xbb, 0x01] = .unknown 4 := by decide

/-- SETTINGS payloads: the model reports an error exactly when the specification (pairs of
    varints, no HTTP/2 identifier, no repeated defined identifier, no value above 1 for a setting
    that is 0 or 1) says `badSettings`. -/
theorem C02_settings_payload_agrees (p : Varint.Bytes) (hwf : WF p) :
    (∃ e, H3.Frame.settingsDecode p = .error e) ↔ classify 0x4 p = .badSettings := by
  have h := H3.Frame.settings_agrees p hwf
  cases hd : H3.Frame.settingsDecode p with
  | error e =>
    rw [hd] at h
    have : classify 4 p = .badSettings := by simpa [H3.Frame.isError] using h.symm
    exact ⟨fun _ => this, fun _ => ⟨e, rfl⟩⟩
  | ok es =>
    rw [hd] at h
    have : classify 4 p ≠ .badSettings := by
      intro hc; rw [hc] at h; simp [H3.Frame.isError] at h
    exact ⟨fun h' => (by obtain ⟨e, he⟩ := h'; cases he), fun hc => absurd hc this⟩

example : classify 0x4 [0x06, 0x10, 0x06, 0x11] = .badSettings ∧
    H3.Frame.isError (H3.Frame.settingsDecode [0x06, 0x10, 0x06, 0x11]) = true := by decide
example : classify 0x4 [0x06, 0x10, 0x21, 0x11] = .okSettings := by decide

/-! ## 2. The three laws of the decoder -/

/-- `Frame::decode` satisfies L1 (stability, `1 ≤ n ≤ |b|`), L2 (minimality) and L3 (lower
    bound) of DESIGN App. B.1 — the hypotheses of the generic theorems below. -/
theorem C02_decode_laws : Laws frameDec := frameDec_laws

example : frameDec.dec [0x07, 0x01, 0x05] = .frame (.goaway 5) 3 := rfl

/-- L1 and L2 spelled out on `Frame.decode`: a definite answer stays under every extension, and the position of a
    frame/skip answer is the shortest prefix with a definite answer. -/
theorem C02_decode_stable_minimal (b c : Varint.Bytes)
    (h : ∀ m, H3.Frame.decode b ≠ .incomplete m) :
    H3.Frame.decode (b ++ c) = H3.Frame.decode b ∧
    ∀ n, (H3.Frame.decode b = .unknown n ∨ ∃ f, H3.Frame.decode b = .frame f n) →
      1 ≤ n ∧ n ≤ b.length ∧ (∀ k, k < n → ∃ m, H3.Frame.decode (b.take k) = .incomplete m) ∧
      H3.Frame.decode (b.take n) = H3.Frame.decode b := by
  have hdef : (frameDec.dec b).isIncomplete = false := (liftRes_definite_iff _).mpr h
  refine ⟨liftRes_inj (frameDec_stable b c hdef), fun n hn => ?_⟩
  have hpos : (frameDec.dec b).pos? = some n := by
    show (liftRes (H3.Frame.decode b)).pos? = some n
    rcases hn with hn | ⟨f, hn⟩ <;> rw [hn] <;> rfl
  have ⟨h1, h2⟩ := frameDec_pos_le b n hpos
  have ⟨h3, h4⟩ := frameDec_minimal b n hpos
  exact ⟨h1, h2, fun k hk => (liftRes_incomplete_iff _).mp (h3 k hk), liftRes_inj h4⟩

example : H3.Frame.decode ([0x07, 0x01, 0x05] ++ [0xff, 0xee]) = H3.Frame.decode [0x07, 0x01, 0x05] ∧
    H3.Frame.decode ([0x07, 0x01, 0x05, 0xff].take 3) = H3.Frame.decode [0x07, 0x01, 0x05, 0xff] := by
  have h : ∀ b, H3.Frame.decode b = .frame (.goaway 5) 3 → ∀ m, H3.Frame.decode b ≠ .incomplete m := by
    intro b hb m hm; rw [hb] at hm; cases hm
  exact ⟨(C02_decode_stable_minimal _ _ (h _ (by decide))).1,
    ((C02_decode_stable_minimal [0x07, 0x01, 0x05, 0xff] [] (h _ (by decide))).2 3
      (Or.inr ⟨.goaway 5, by decide⟩)).2.2.2⟩

/-- L3 (DESIGN.md's `incomplete_is_sound`): after `Incomplete(m)` no extension shorter than `m` bytes can
    decode — the licence for the `FrameDecoder.expected` memo. -/
theorem C02_incomplete_is_sound (b c : Varint.Bytes) (m : Nat)
    (h : H3.Frame.decode b = .incomplete m) (hlt : (b ++ c).length < m) :
    ∃ m', H3.Frame.decode (b ++ c) = .incomplete m' := by
  apply (liftRes_incomplete_iff _).mp
  cases hd : (liftRes (H3.Frame.decode (b ++ c))).isIncomplete with
  | true => rfl
  | false =>
    have := frameDec_lower b c m (by show liftRes _ = _; rw [h]; rfl) hd
    omega

example : ∃ m', H3.Frame.decode ([0x07, 0x03, 0x01] ++ [0x00]) = .incomplete m' :=
  C02_incomplete_is_sound [0x07, 0x03, 0x01] [0x00] 5 (by decide) (by decide)

/-- `Incomplete` is only ever reported for a buffer that does not yet hold a complete §7.1
    segment (header cut off, or fewer payload bytes than the length says) — never for a
    complete frame whose payload is too short for its fields (that is `Malformed`). -/
theorem C02_incomplete_is_prefix (b : Varint.Bytes) (hwf : WF b) (m : Nat)
    (h : H3.Frame.decode b = .incomplete m) :
    rfcDecode b = none ∨ ∃ ty r1, rfcDecode b = some (ty, r1) ∧
      (rfcDecode r1 = none ∨ ∃ len r2, rfcDecode r1 = some (len, r2) ∧
        ty ≠ 0x0 ∧ ty ≠ 0x41 ∧ r2.length < len) := by
  cases h1 : rfcDecode b with
  | none => exact Or.inl rfl
  | some p1 =>
    obtain ⟨ty, r1⟩ := p1
    refine Or.inr ⟨ty, r1, rfl, ?_⟩
    cases h2 : rfcDecode r1 with
    | none => exact Or.inl rfl
    | some p2 =>
      obtain ⟨len, r2⟩ := p2
      refine Or.inr ⟨len, r2, rfl, ?_⟩
      rw [H3.Frame.decode_rfc b hwf, H3.Frame.rfc2_some h1 h2] at h
      simp only at h
      have ht := H3.Frame.typed_ok ty (r2.take len) (b.length - r2.length + len)
      split at h
      · cases h
      · split at h
        · cases h
        · split at h
          · rename_i hwt hd hs; exact ⟨hd, hwt, hs⟩
          · rw [h] at ht; exact ht.elim

example : H3.Frame.decode [0x07, 0x03, 0x01] = .incomplete 5 := by decide
example : H3.Frame.decode ([0x07, 0x03, 0x01] ++ [0x00]) = .incomplete 5 := by decide

/-- ... and such a buffer is a *proper prefix* of a complete segment: some non-empty
    continuation makes the decoder give a definite answer. -/
theorem C02_incomplete_is_completable (b : Varint.Bytes) (m : Nat)
    (h : H3.Frame.decode b = .incomplete m) :
    ∃ c, c ≠ [] ∧ ∀ m', H3.Frame.decode (b ++ c) ≠ .incomplete m' := by
  obtain ⟨c, hc⟩ := frameDec_completable b
  refine ⟨c, ?_, (liftRes_definite_iff _).mp hc⟩
  intro h0
  subst h0
  rw [List.append_nil] at hc
  have : (liftRes (H3.Frame.decode b)).isIncomplete = true := by rw [h]; rfl
  rw [show frameDec.dec b = liftRes (H3.Frame.decode b) from rfl, this] at hc
  cases hc

example : H3.Frame.decode ([0x07, 0x03, 0x01] ++ [0x00, 0x00]) = .error .malformed := by decide

/-! ## 3. Chunking independence: the invariant over arbitrary call sequences -/

/-- For every decoder satisfying the laws, every transport script with non-empty chunks
    (`pend`, `fin`, `reset` anywhere) and every sequence of `poll_next`/`poll_data` calls, in
    every reachable configuration the invariant of App. B.1 holds: the bytes of the chunks
    taken from the script are `consumed ++ buffer`; the byte-wise reference automaton run over
    `consumed` emits exactly the tokens handed out so far (frames as frame tokens, data
    pieces flattened to bytes) and stands at `hdr []` / `data remaining`; the `expected` memo
    is sound. -/
theorem C02_chunking_independent {F E : Type} (D : Dec F E) (L : Laws D) (sc0 : List Ev)
    (hsc : ScriptOK sc0) {toks : List (FS.Tok F E)} {s : St} {script : List Ev}
    (h : Reach D sc0 toks s script) :
    ∃ taken, sc0 = taken ++ script ∧ Inv D (evBytes taken) toks s := by
  obtain ⟨taken, h1, _, h3⟩ := reach_inv D L sc0 hsc h
  exact ⟨taken, h1, h3⟩

-- a reachable configuration: DATA(2) announced, one payload byte buffered, `fin` not yet taken
example : ∃ taken, [Ev.chunk [0x00, 0x02, 0xaa], .fin] = taken ++ [.fin] ∧
    Inv frameDec (evBytes taken) ([] ++ Out.toks (.frame (.data 2)))
      { buf := [[0xaa]], remaining := 2 } :=
  C02_chunking_independent frameDec frameDec_laws _
    (by decide)
    (Reach.next Reach.init (by decide +kernel :
      pollNext frameDec {} [Ev.chunk [0x00, 0x02, 0xaa], .fin] =
        (.frame (.data 2), { buf := [[0xaa]], remaining := 2 }, [.fin])) rfl)

/-- the same for the model of `Frame::decode` -/
theorem C02_chunking_independent_frames (sc0 : List Ev) (hsc : ScriptOK sc0)
    {toks : List RTok} {s : St} {script : List Ev} (h : Reach frameDec sc0 toks s script) :
    ∃ taken, sc0 = taken ++ script ∧ Inv frameDec (evBytes taken) toks s :=
  C02_chunking_independent frameDec C02_decode_laws sc0 hsc h

example : ∃ taken, [Ev.pend, .chunk [0x21, 0x01], .chunk [0xee, 0x07]] = taken ++ [] ∧
    Inv frameDec (evBytes taken) ([] ++ Out.toks (.pending : FOut)) { buf := [[0x07]] , expected := some 2 } :=
  C02_chunking_independent_frames _
    (by decide)
    (Reach.next (Reach.next Reach.init (by decide +kernel :
        pollNext frameDec {} [Ev.pend, .chunk [0x21, 0x01], .chunk [0xee, 0x07]] =
          (.pending, {}, [.chunk [0x21, 0x01], .chunk [0xee, 0x07]])) rfl)
      (by decide +kernel :
        pollNext frameDec {} [Ev.chunk [0x21, 0x01], .chunk [0xee, 0x07]] =
          (.pending, { buf := [[0x07]], expected := some 2 }, [])) rfl)

/-- The tokens handed out are a function of the bytes only: for two scripts carrying the same
    bytes (cut differently, with different `pend`s) and any two call sequences, both token
    sequences are prefixes of the one sequence the reference automaton emits on those bytes. -/
theorem C02_tokens_function_of_bytes {F E : Type} (D : Dec F E) (L : Laws D)
    (sc1 sc2 : List Ev) (h1 : ScriptOK sc1) (h2 : ScriptOK sc2) (hb : evBytes sc1 = evBytes sc2)
    {toks1 toks2 : List (FS.Tok F E)} {s1 s2 : St} {r1 r2 : List Ev}
    (hr1 : Reach D sc1 toks1 s1 r1) (hr2 : Reach D sc2 toks2 s2 r2) :
    toks1 <+: (run D (.hdr []) (evBytes sc1)).2 ∧ toks2 <+: (run D (.hdr []) (evBytes sc1)).2 := by
  obtain ⟨t1, e1, hI1⟩ := C02_chunking_independent D L sc1 h1 hr1
  obtain ⟨t2, e2, hI2⟩ := C02_chunking_independent D L sc2 h2 hr2
  constructor
  · obtain ⟨more, hm⟩ := inv_toks_prefix D hI1 (evBytes r1)
    rw [← evBytes_append, ← e1] at hm
    exact ⟨more, hm.symm⟩
  · obtain ⟨more, hm⟩ := inv_toks_prefix D hI2 (evBytes r2)
    rw [← evBytes_append, ← e2, ← hb] at hm
    exact ⟨more, hm.symm⟩

/-- The same for the model's own driver `runCalls` (the one the correspondence run compares
    with the real `FrameStream`): for two scripts with the same bytes and any two call
    sequences, the frames and data bytes answered are prefixes of the one token sequence of
    the reference automaton over those bytes. -/
theorem C02_runCalls_chunking_independent (sc1 sc2 : List Ev) (h1 : ScriptOK sc1)
    (h2 : ScriptOK sc2) (hb : evBytes sc1 = evBytes sc2) (calls1 calls2 : List Call) :
    (runCalls {} sc1 calls1).flatMap Out.toks <+: (run frameDec (.hdr []) (evBytes sc1)).2 ∧
    (runCalls {} sc2 calls2).flatMap Out.toks <+: (run frameDec (.hdr []) (evBytes sc1)).2 := by
  obtain ⟨s1, r1, hr1⟩ := runCalls_reach sc1 calls1 [] {} sc1 Reach.init
  obtain ⟨s2, r2, hr2⟩ := runCalls_reach sc2 calls2 [] {} sc2 Reach.init
  simpa using C02_tokens_function_of_bytes frameDec C02_decode_laws sc1 sc2 h1 h2 hb hr1 hr2

-- two cuttings of the same seven bytes (DATA(2) aa bb, then GOAWAY(5)); different pieces, the
-- same frames and the same data bytes
example : runCalls {} [.chunk [0x00, 0x02, 0xaa], .pend, .chunk [0xbb, 0x07, 0x01, 0x05], .fin]
      [.next, .data, .data, .data, .data, .next, .next] =
    [.frame (.data 2), .data [0xaa], .data [0xbb], .none, .none, .frame (.goaway 5), .none] := by
  decide +kernel
example : runCalls {} [.chunk [0x00], .chunk [0x02, 0xaa, 0xbb, 0x07], .chunk [0x01, 0x05], .fin]
      [.next, .data, .data, .next, .next] =
    [.frame (.data 2), .data [0xaa, 0xbb], .none, .frame (.goaway 5), .none] := by
  decide +kernel
example : (run frameDec (.hdr []) [0x00, 0x02, 0xaa, 0xbb, 0x07, 0x01, 0x05]).2 =
    [.frame (.data 2), .byte 0xaa, .byte 0xbb, .frame (.goaway 5)] := by decide

/-- **`split()` is invisible to the frame layer.**  The receive half that `FrameStream::split`
    returns carries the buffered bytes, the end-of-stream flag, the decoder's `expected` memo and
    `remaining_data` unchanged (`St.split s = s`).  Hence (1) for every starting state, every
    transport script and every call sequence over `poll_next` / `poll_data` / `split`, the answers
    are those of the same sequence without the splits; (2) the same for a request-body reader
    (`runR`: `poll_recv_data` again and again — the only way the API reaches `split`): answers,
    final state and rest of the script do not depend on where, or how often, it splits; (3) with
    splits anywhere, the frames and data bytes handed out — also those behind `poll_recv_data` — are
    a prefix of the one token sequence the reference automaton emits on the bytes of the script:
    in particular, after a split in the middle of a DATA payload no payload byte is read as a
    frame header. -/
theorem C02_split_is_invisible :
    (∀ s : St, s.split = s) ∧
    (∀ (s : St) (script : List Ev) (cs : List CallS),
      runCallsS s script cs = runCalls s script (CallS.erase cs)) ∧
    (∀ (s : St) (script : List Ev) (cs cs' : List CallR), CallR.erase cs = CallR.erase cs' →
      runR s script cs = runR s script cs') ∧
    (∀ (sc : List Ev), ScriptOK sc → ∀ cs : List CallS,
      (runCallsS {} sc cs).flatMap Out.toks <+: (run frameDec (.hdr []) (evBytes sc)).2) ∧
    (∀ (sc : List Ev), ScriptOK sc → ∀ cs : List CallR,
      (runR {} sc cs).raw.flatMap Out.toks <+: (run frameDec (.hdr []) (evBytes sc)).2) := by
  refine ⟨split_eq, fun s script cs => runCallsS_erase cs s script,
    fun s script cs cs' h => runR_splits_anywhere cs cs' h s script, ?_, ?_⟩
  · intro sc hsc cs
    rw [runCallsS_erase]
    exact (C02_runCalls_chunking_independent sc sc hsc hsc rfl (CallS.erase cs) []).1
  · intro sc hsc cs
    obtain ⟨s1, r1, hr1⟩ := runR_reach sc cs [] {} sc Reach.init
    simpa using (C02_tokens_function_of_bytes frameDec C02_decode_laws sc sc hsc hsc rfl hr1 hr1).1

-- DATA(4) aa bb | cc dd: a split after the first piece (remaining_data = 2, nothing buffered) and the
-- reader goes on inside the payload; a receive half that forgot `remaining_data` would decode `cc dd`
-- as a frame header
example : (runR {} [.chunk [0x00, 0x04, 0xaa, 0xbb], .chunk [0xcc, 0xdd], .fin] [.recv, .split, .recv, .recv]).outs =
    [.data [0xaa, 0xbb], .data [0xcc, 0xdd], .none] := by decide +kernel
example : runCallsS {} [.chunk [0x00, 0x04, 0xaa, 0xbb], .chunk [0xcc, 0xdd], .fin]
      [.next, .split, .data, .split, .data, .data, .split, .next] =
    [.frame (.data 4), .data [0xaa, 0xbb], .data [0xcc, 0xdd], .none, .none] := by decide +kernel
example : (pollNext frameDec { ({ remaining := 2 } : St).split with remaining := 0 } [.chunk [0xcc, 0xdd], .fin]).1 ≠
    (pollData (F := H3.Frame.Frame) (E := H3.Frame.FrameErr) ({ remaining := 2 } : St).split [.chunk [0xcc, 0xdd], .fin]).1 := by
  decide +kernel

/-- No byte is interpreted twice or as both header and payload: in every reachable
    configuration the consumed bytes are a concatenation of whole frames (buffers on which the
    decoder answers with exactly their length) and DATA payload bytes, ending `remaining`
    bytes before the end of a DATA payload — the consumed offset is a §7.1 segment boundary. -/
theorem C02_no_resync {F E : Type} (D : Dec F E) (L : Laws D) (sc0 : List Ev)
    (hsc : ScriptOK sc0) {toks : List (FS.Tok F E)} {s : St} {script : List Ev}
    (h : Reach D sc0 toks s script) :
    ∃ taken consumed, sc0 = taken ++ script ∧ evBytes taken = consumed ++ s.flat ∧
      Boundary D consumed s.remaining := by
  obtain ⟨taken, e, hI⟩ := C02_chunking_independent D L sc0 hsc h
  obtain ⟨c, hs, hr⟩ := hI.split
  exact ⟨taken, c, e, hs, boundary_of_run D L c s.remaining toks hr⟩

-- after the grease frame `21 01 ee` has been skipped, 3 bytes are consumed and `07` is buffered
example : ∃ taken consumed, [Ev.chunk [0x21, 0x01], .chunk [0xee, 0x07]] = taken ++ [] ∧
    evBytes taken = consumed ++ [0x07] ∧ Boundary frameDec consumed 0 :=
  C02_no_resync frameDec frameDec_laws _
    (by decide)
    (Reach.next Reach.init (by decide +kernel :
        pollNext frameDec {} [Ev.chunk [0x21, 0x01], .chunk [0xee, 0x07]] =
          (.pending, { buf := [[0x07]], expected := some 2 }, [])) rfl)

-- model fidelity after an error (not part of the property; `frame.rs` resets `expected` when
-- it skips an unknown frame, also when the next frame is then an error): a repeated call
-- repeats the error instead of answering `Pending` from a stale memo
example : (pollNext frameDec (pollNext frameDec
      { buf := [[0x21, 0x00, 0x02, 0x00]], expected := some 4 } []).2.1 []).1 =
    .errProto (.unsupported 2) := by decide +kernel

/-! ## 4. Truncation is reported, and nothing waits for ever after FIN -/

/-- Only a stream that has not ended answers `Pending`: of every state, reachable or not. -/
theorem no_pending_at_eos {F E : Type} (D : Dec F E) (s : St) (script : List Ev) (heos : s.eos = true) :
    (pollNext D s script).1 ≠ .pending ∧ (pollData (F := F) (E := E) s script).1 ≠ .pending := by
  constructor
  · intro hp
    rcases hres : pollNext D s script with ⟨o, s', sc'⟩
    rw [hres] at hp
    obtain rfl : o = .pending := hp
    rw [pollNext] at hres
    split at hres
    · cases hres
    · obtain ⟨_, _, _, _, hpend⟩ := pollNextLoop_shape D hres
      rw [(hpend rfl).1] at heos; cases heos
  · intro hp
    rcases hres : pollData (F := F) (E := E) s script with ⟨o, s', sc'⟩
    rw [hres] at hp
    obtain rfl : o = .pending := hp
    rw [(pollData_pending_inv hres).2.1] at heos; cases heos

/-- Liveness half: once `fin` has been consumed no call answers `Pending`. -/
theorem C02_no_pending_after_fin {F E : Type} (D : Dec F E) (L : Laws D) (sc0 : List Ev)
    (hsc : ScriptOK sc0) {toks : List (FS.Tok F E)} {s : St} {script : List Ev}
    (h : Reach D sc0 toks s script) (heos : s.eos = true) :
    (pollNext D s script).1 ≠ .pending ∧ (pollData (F := F) (E := E) s script).1 ≠ .pending :=
  no_pending_at_eos D s script heos

example : (pollNext frameDec { buf := [[0x07]], eos := true } []).1 = .errEnd ∧
    (pollData (F := H3.Frame.Frame) (E := H3.Frame.FrameErr)
      { buf := [], eos := true, remaining := 1 } []).1 = .errEnd := by decide +kernel

/-- After FIN, with the reference run standing inside a frame, the only final answer is `UnexpectedEnd`. -/
theorem final_truncated {F E : Type} {R : PSt × List (FS.Tok F E)} {fin : Bool} {all : List (FS.Tok F E)}
    {o : Out F E} (h : FinalOK R fin all o) (hfin : fin = true)
    (htr : (∃ acc, acc ≠ [] ∧ R.1 = .hdr acc) ∨ (∃ rem, R.1 = .data rem)) : o = .errEnd := by
  cases o with
  | errEnd => rfl
  | none =>
    -- a clean end stands at a frame boundary
    rw [h.2.1] at htr
    rcases htr with ⟨acc, hne, h⟩ | ⟨_, h⟩
    · exact absurd (PSt.hdr.inj h).symm hne
    · cases h
  | pending => rw [hfin] at h; cases h.1
  | errProto e =>
    rw [h.1] at htr
    rcases htr with ⟨_, _, h⟩ | ⟨_, h⟩ <;> cases h
  | frame _ => exact h.elim
  | data _ => exact h.elim
  | errQuic _ => exact h.elim
  | panic => exact h.elim

/-- One call after FIN when the bytes seen end inside a frame (the reference automaton over all
    bytes seen stands in a header / non-DATA payload `hdr acc`, `acc ≠ []`, or in a DATA
    payload): `poll_next` answers `UnexpectedEnd` or hands out a buffered frame, `poll_data`
    (not in WebTransport raw mode) answers `UnexpectedEnd` or hands out a non-empty buffered
    piece; never `Pending`, never a clean `None`, never another error; and every frame or
    piece handed out shortens the buffer, so `UnexpectedEnd` comes after finitely many. -/
theorem C02_truncation_step {F E : Type} (D : Dec F E) (L : Laws D) (seen : FS.Bytes)
    (toks : List (FS.Tok F E)) (s : St) (script : List Ev) (hI : Inv D seen toks s)
    (hsc : ScriptOK script) (heos : s.eos = true)
    (htr : (∃ acc, acc ≠ [] ∧ (run D (.hdr []) seen).1 = .hdr acc) ∨
      (∃ rem, (run D (.hdr []) seen).1 = .data rem)) :
    (s.remaining = 0 → (pollNext D s script).1 = .errEnd ∨
      ∃ f, (pollNext D s script).1 = .frame f ∧
        (pollNext D s script).2.1.flat.length < s.flat.length) ∧
    (s.remaining ≠ 0 → s.remaining ≠ USIZE_MAX →
      (pollData (F := F) (E := E) s script).1 = .errEnd ∨
      ∃ d, d ≠ [] ∧ (pollData (F := F) (E := E) s script).1 = .data d ∧
        (pollData (F := F) (E := E) s script).2.1.flat.length < s.flat.length) := by
  -- the stream has ended: a call takes nothing, and the reference run over `seen` stands inside a frame
  have hnot : ∀ {tk : List Ev} {s' : St}, TakenOK s.eos s'.eos tk → tk = [] ∧ s'.eos = true := by
    intro tk s' h; simpa [TakenOK, heos] using h.2
  rw [← List.append_nil seen] at htr
  constructor
  · intro h0
    rcases hres : pollNext D s script with ⟨o, s', sc'⟩
    obtain ⟨tk, hs, htk, hst⟩ := pollNext_step D L hI hsc h0 hres
    obtain ⟨rfl, heos'⟩ := hnot htk
    obtain rfl : sc' = script := by simpa using hs.symm
    cases hst with
    | frame f _ _ hmu => exact .inr ⟨f, rfl, by simpa [H3.C06.mu] using hmu⟩
    | wait _ _ he => rw [heos] at he; cases he
    | none _ _ _ _ hR' => cases final_truncated hR' heos' htr
    | errEnd => exact .inl rfl
    | errProto e hR' => cases final_truncated hR' heos' htr
    | errQuic c he => rw [heos'] at he; cases he
  · intro h0 hmax
    rcases hres : pollData (F := F) (E := E) s script with ⟨o, s', sc'⟩
    obtain ⟨tk, hs, htk, hst⟩ := pollData_step D hI hsc h0 hres
    obtain ⟨rfl, heos'⟩ := hnot htk
    obtain rfl : sc' = script := by simpa using hs.symm
    cases hst with
    | data d hd _ _ _ hmu => exact .inr ⟨d, hd, rfl, by simpa [H3.C06.mu] using hmu⟩
    | wait _ _ he => rw [heos] at he; cases he
    | errEnd => exact .inl rfl
    | errQuic c he => rw [heos'] at he; cases he
    | rawEnd hm => exact absurd hm hmax


-- FIN consumed, bytes seen `00 02 aa`: the buffered piece first, then `UnexpectedEnd`
example : pollData (F := H3.Frame.Frame) (E := H3.Frame.FrameErr)
      { buf := [[0xaa], [0xbb]], eos := true, remaining := 3 } [] =
    (.data [0xaa], { buf := [[0xbb]], eos := true, remaining := 2 }, []) ∧
    pollData (F := H3.Frame.Frame) (E := H3.Frame.FrameErr)
      { buf := [[0xbb]], eos := true, remaining := 2 } [] =
    (.errEnd, { buf := [], eos := true, remaining := 2 }, []) := by decide +kernel

/-- The reader loop, any decoder satisfying the laws, any script without `reset`: with `w` the
    bytes of the script up to its first `fin` and `R = run D (hdr []) w`, the loop hands out
    frames and data pieces (no `Pending` in between) whose tokens are those of `R`, and then
    exactly one final answer determined by `R` and by whether the script has a `fin`:
    `errProto e` iff `R` is dead with `e`; otherwise, with `fin`: `None` iff `R` stands at a
    frame boundary, `UnexpectedEnd` iff it stands inside a frame (header, non-DATA payload:
    all tokens handed out; DATA payload: all but possibly some of the last payload bytes);
    without `fin`: `Pending`, all tokens handed out.  (`hraw` excludes WebTransport raw mode.) -/
theorem C02_reader_is_reference {F E : Type} (D : Dec F E) (L : Laws D) (script : List Ev)
    (hsc : ScriptOK script) (hnr : NoReset script)
    (hraw : ∀ f, FS.Tok.frame f ∈ (run D (.hdr []) (evBytes (upToFin script))).2 →
      (D.kind f).rem < USIZE_MAX)
    (fuel : Nat) (hfuel : script.length + (evBytes script).length < fuel) :
    ReaderPost (run D (.hdr []) (evBytes (upToFin script))) (hasFin script) []
      (readerG D fuel {} script) := by
  have := readerG_spec D L (evBytes (upToFin script)) (hasFin script) hraw fuel {} script [] []
    (inv_init D) hsc hnr (by simp [wOf]) (by simp [finOf]) (by simpa [St.flat] using hfuel)
  exact this

example : readerG frameDec 20 {} [.chunk [0x21, 0x01], .pend, .chunk [0xee, 0x07, 0x01, 0x05]] =
    [.frame (.goaway 5), .pending] := by decide +kernel

/-- Truncation is reported: a script with `fin` (no `reset`) whose bytes end inside a frame —
    header, non-DATA payload or DATA payload, wherever the chunk boundaries are — makes the
    reader loop of the model end with `UnexpectedEnd` after handing out frames and data pieces
    only: never a clean `None`, never `Pending`. -/
theorem C02_truncation_reported (script : List Ev) (hsc : ScriptOK script) (hnr : NoReset script)
    (hfin : hasFin script = true)
    (hraw : ∀ f, FS.Tok.frame f ∈ (run frameDec (.hdr []) (evBytes (upToFin script))).2 →
      (frameDec.kind f).rem < USIZE_MAX)
    (htr : (∃ acc, acc ≠ [] ∧ (run frameDec (.hdr []) (evBytes (upToFin script))).1 = .hdr acc) ∨
      (∃ rem, (run frameDec (.hdr []) (evBytes (upToFin script))).1 = .data rem))
    (fuel : Nat) (hfuel : script.length + (evBytes script).length < fuel) :
    ∃ body, readerLoop fuel {} script = body ++ [.errEnd] ∧
      ∀ o ∈ body, (∃ f, o = .frame f) ∨ (∃ d, o = .data d) := by
  obtain ⟨body, last, heq, hbody, hfinal⟩ :=
    C02_reader_is_reference frameDec C02_decode_laws script hsc hnr hraw fuel hfuel
  rw [← readerLoop_eq] at heq
  refine ⟨body, ?_, hbody⟩
  rw [heq, final_truncated hfinal hfin htr]

-- the hypotheses are satisfiable: DATA(2) with one payload byte, then FIN
example : ∃ body, readerLoop 20 {} [.chunk [0x00, 0x02], .chunk [0xaa], .fin] = body ++ [.errEnd] ∧
    ∀ o ∈ body, (∃ f, o = .frame f) ∨ (∃ d, o = .data d) := by
  have hrun : run frameDec (.hdr []) (evBytes (upToFin [.chunk [0x00, 0x02], .chunk [0xaa], .fin])) =
      (.data 1, [.frame (.data 2), .byte 0xaa]) := by decide
  refine C02_truncation_reported _ (by decide)
    (by intro c hc; simp at hc) (by decide) ?_ (Or.inr ⟨1, by rw [hrun]⟩) 20 (by decide)
  intro f hf
  rw [hrun] at hf
  simp at hf
  subst hf
  decide

-- cut inside a DATA payload exactly at a chunk boundary (D-02c, repaired); inside a header;
-- inside a GOAWAY payload
example : readerLoop 20 {} [.chunk [0x00, 0x02], .chunk [0xaa], .fin] =
    [.frame (.data 2), .data [0xaa], .errEnd] := by decide +kernel
example : readerLoop 20 {} [.chunk [0x00, 0x02, 0xaa], .fin] =
    [.frame (.data 2), .errEnd] := by decide +kernel
example : readerLoop 20 {} [.chunk [0x07, 0x01, 0x05, 0x40], .fin] =
    [.frame (.goaway 5), .errEnd] := by decide +kernel
example : readerLoop 20 {} [.chunk [0x07], .chunk [0x02, 0x40], .fin] = [.errEnd] := by
  decide +kernel

/-! ## 5. The reference automaton is the RFC oracle -/

/-- For `Frame::decode`: the reference automaton over a well-formed byte string `w` and the
    oracle `observe w ending` agree (`Agree`): the same frames in the same order, SETTINGS as
    `okSettings`, each DATA payload byte for byte, a DATA payload cut off by the end as
    `partialData` (FIN) / `data` (open), the same protocol error (`malformed`, `h2`,
    `badSettings`), and the final token `none`/`truncated`/`pending` according to whether the
    automaton stands at a frame boundary or inside a frame.  (Strings on which the oracle says
    `outside`, the WebTransport 0x41 header, are excluded.) -/
theorem C02_reference_is_spec (w : Varint.Bytes) (e : Ending) (hwf : WF w)
    (hno : Spec.Framing.Tok.outside ∉ observe (w.length + 1) w e) :
    Agree e (run frameDec (.hdr []) w).1 (run frameDec (.hdr []) w).2
      (observe (w.length + 1) w e) :=
  reference_is_spec w e hwf hno

example : observe 8 [0x00, 0x02, 0xaa, 0xbb, 0x07, 0x01, 0x05] .fin =
    [.frame (.data 2), .data [0xaa, 0xbb], .frame (.goaway 5), .none_] := by decide
example : observe 5 [0x00, 0x03, 0xaa, 0xbb] .fin =
    [.frame (.data 3), .partialData [0xaa, 0xbb], .truncated] := by decide

/-- Together: for every script without `reset` carrying well-formed bytes `w` before its first
    `fin` (any cutting into non-empty chunks, `pend` anywhere), the reader loop of the model
    of `FrameStream` hands out frames and data pieces and one final answer that are those of
    the reference automaton over `w` (`ReaderPost`), and the reference automaton agrees with
    `observe w ending` (`Agree`).  Neither side of the comparison mentions the chunking. -/
theorem C02_reader_observes_spec (script : List Ev) (hsc : ScriptOK script) (hnr : NoReset script)
    (hwf : WF (evBytes (upToFin script)))
    (hno : Spec.Framing.Tok.outside ∉
      observe ((evBytes (upToFin script)).length + 1) (evBytes (upToFin script))
        (if hasFin script then .fin else .open_))
    (fuel : Nat) (hfuel : script.length + (evBytes script).length < fuel) :
    ReaderPost (run frameDec (.hdr []) (evBytes (upToFin script))) (hasFin script) []
      (readerLoop fuel {} script) ∧
    Agree (if hasFin script then .fin else .open_)
      (run frameDec (.hdr []) (evBytes (upToFin script))).1
      (run frameDec (.hdr []) (evBytes (upToFin script))).2
      (observe ((evBytes (upToFin script)).length + 1) (evBytes (upToFin script))
        (if hasFin script then .fin else .open_)) := by
  have hA := C02_reference_is_spec (evBytes (upToFin script)) _ hwf hno
  refine ⟨?_, hA⟩
  rw [readerLoop_eq]
  exact C02_reader_is_reference frameDec C02_decode_laws script hsc hnr (agree_noraw hA) fuel hfuel

-- the same bytes, three cuttings: the same frames, the same data bytes, the same ending
example : readerLoop 40 {} [.chunk [0x00, 0x02, 0xaa, 0xbb, 0x07, 0x01, 0x05], .fin] =
    [.frame (.data 2), .data [0xaa, 0xbb], .frame (.goaway 5), .none] := by decide +kernel
example : readerLoop 40 {} [.chunk [0x00], .pend, .chunk [0x02, 0xaa], .chunk [0xbb, 0x07],
      .pend, .chunk [0x01], .chunk [0x05], .fin] =
    [.frame (.data 2), .data [0xaa], .data [0xbb], .frame (.goaway 5), .none] := by decide +kernel

/-! ## 6. The error code at the two callers -/

/-- Corollary at the two call sites of the frame layer (request stream:
    `handle_frame_stream_error_on_request_stream`; control stream: `ConnectionInner::poll_control`).

    (a) A complete frame of a type with a meaning whose payload is longer or shorter than its fields
    by the §7.2 grammar (`classify … = .malformed`) is answered `Malformed` by `Frame::decode`; the
    frame layer reports it as `Proto(Malformed)` (`C02_reader_observes_spec`), a stream that FIN cuts
    inside a frame as `UnexpectedEnd` (`C02_truncation_reported`).
    (b) On a request stream both become the CONNECTION error H3_FRAME_ERROR: that code goes into the
    connection's error cell if no error is there yet, and the caller is told the error in the cell.
    (c) On the control stream both are the connection error H3_FRAME_ERROR, before and after SETTINGS.
    (d) The two code tables of the models are the arms of `got_frame_error`, of
    `handle_frame_stream_error_on_request_stream` and of `poll_control` as the translator re-reads
    them from the Rust sources on every run (`H3.Gen.FrameErrCodes`, `H3.Gen.CtlArms`).

    Not covered, on purpose: a SETTINGS payload that ends inside an entry is answered
    `Settings(Malformed)`, which `got_frame_error` turns into H3_SETTINGS_ERROR — reading R-02s,
    the `example` below.  (0x0106 = H3_FRAME_ERROR, RFC 9114 §8.1.) -/
theorem C02_frame_error_code_at_callers :
    (∀ (w : Varint.Bytes), WF w → ∀ ty r1 len r2, rfcDecode w = some (ty, r1) → ty ≠ 0x41 →
      rfcDecode r1 = some (len, r2) → ty ≠ 0x0 → len ≤ r2.length → isKnown ty = true →
      classify ty (r2.take len) = .malformed → H3.Frame.decode w = .error .malformed) ∧
    (∀ {σ : Type} (st : H3.ReqRecv.St σ),
      (H3.ReqRecv.fsErr st (.errProto .malformed)).1 = .errConn (st.env.cell.getD 0x0106) ∧
      (H3.ReqRecv.fsErr st .errEnd).1 = .errConn (st.env.cell.getD 0x0106) ∧
      (H3.ReqRecv.fsErr st (.errProto .malformed)).2.env.cell = some (st.env.cell.getD 0x0106) ∧
      (H3.ReqRecv.fsErr st .errEnd).2.env.cell = some (st.env.cell.getD 0x0106)) ∧
    (∀ c : H3.Control.Conn,
      H3.Control.classify c (.proto .malformed) = .error 0x0106 ∧
      H3.Control.classify c .truncated = .error 0x0106) ∧
    (H3.ReqRecv.frameErrCode .malformed = Gen.FrameErrCodes.code (H3.GenAgree.Req.protoOf .malformed) ∧
      H3.Control.protoCode .malformed = Gen.FrameErrCodes.code (H3.GenAgree.Ctl.protoOf .malformed) ∧
      Gen.FrameErrCodes.decoder .malformed = .proto (H3.GenAgree.Req.protoOf .malformed) ∧
      Gen.FrameErrCodes.code .malformed = 0x0106 ∧
      Gen.FrameErrCodes.requestStreamUnexpectedEnd = 0x0106 ∧
      Gen.CtlArms.onTruncated = .err 0x0106 ∧ Gen.CtlArms.onProto = .gotFrameError) := by
  refine ⟨?_, ?_, ?_, ?_⟩
  · intro w hwf ty r1 len r2 h1 hty h2 hd hle hk hc
    have h := (((C02_frame_decode_is_segment w hwf).2 ty r1 h1 hty).2 len r2 h2).2.2.2 hd hle
    have h' := h.2 hk
    rw [hc] at h'
    exact h'
  · intro σ st
    have hp := (H3.GenAgree.Req.fsErr_agrees st).2.1 .malformed
    have he := (H3.GenAgree.Req.fsErr_agrees st).2.2
    rw [hp, he]
    cases hc : st.env.cell <;>
      simp [H3.ReqRecv.connErr, hc, Gen.FrameErrCodes.code, H3.GenAgree.Req.protoOf,
        Gen.FrameErrCodes.requestStreamUnexpectedEnd]
  · intro c
    exact ⟨rfl, rfl⟩
  · exact ⟨H3.GenAgree.Req.frameErrCode_agrees .malformed, H3.GenAgree.Ctl.protoCode_agrees .malformed,
      rfl, rfl, rfl, rfl, rfl⟩

-- non-vacuity: GOAWAY with two bytes after its varint, on a request stream with an empty error cell
-- and on a control stream: `Malformed`, connection error 0x0106 at both
example : H3.Frame.decode [0x07, 0x03, 0x01, 0x00, 0x00] = .error .malformed ∧
    (H3.ReqRecv.fsErr ({ src := () } : H3.ReqRecv.St Unit) (.errProto .malformed)).1 = .errConn 0x106 ∧
    H3.Control.classify {} (.proto .malformed) = .error 0x106 :=
  ⟨C02_frame_error_code_at_callers.1 [0x07, 0x03, 0x01, 0x00, 0x00] (by unfold WF; decide) 0x7 [0x03, 0x01, 0x00, 0x00]
      3 [0x01, 0x00, 0x00] (by decide) (by decide) (by decide) (by decide) (by decide) (by decide) (by decide),
    (C02_frame_error_code_at_callers.2.1 _).1, (C02_frame_error_code_at_callers.2.2.1 {}).1⟩

-- an error already in the cell is the one reported (C05): the frame error does not replace it
example : (H3.ReqRecv.fsErr ({ src := (), env := { cell := some 0x101 } } : H3.ReqRecv.St Unit) .errEnd).1 =
    .errConn 0x101 := (C02_frame_error_code_at_callers.2.1 _).2.1

-- Reading R-02s (DESIGN.md section 9), the witness that the statement above cannot be extended to
-- SETTINGS: the payload `06` (identifier 6, no value) of the complete frame `04 01 06` ends inside an
-- entry (`short`: RFC 9114 §7.1 ¶5 ⇒ H3_FRAME_ERROR); the strict oracle says `malformed`,
-- `Frame::decode` says `Settings(Malformed)`, and both callers turn that into H3_SETTINGS_ERROR (0x0109)
example : settingsVerdict [0x06] = .short ∧ classifyS false 0x4 [0x06] = .malformed ∧
    classifyS true 0x4 [0x06] = .malformed ∧
    H3.Frame.decode [0x04, 0x01, 0x06] = .error (.settings .malformed) ∧
    H3.ReqRecv.frameErrCode (.settings .malformed) = 0x109 ∧
    H3.Control.protoCode (.settings .malformed) = 0x109 ∧
    Gen.FrameErrCodes.code .settings = 0x109 := by decide

/-! ## 7. The strict oracle and the lenient one; what the driver evaluates -/

/-- The strict SETTINGS reading refines the lenient one and differs from it only on payloads that
    end inside an entry: for every other payload (`ok`, `ids`) `classifyS` is `classify`, whichever
    rule is preferred; on a payload that ends inside an entry `classify` says `badSettings` and
    `classifyS` says `malformed` (H3_FRAME_ERROR) — or, only if a reserved / repeated defined
    identifier was received as well, `badSettings` under the other preference.  Frames of every other
    type are classified alike. -/
theorem C02_strict_reading_differs_only_on_short_settings (b : Bool) (ty : Nat) (p : Varint.Bytes) :
    (ty ≠ 0x4 → classifyS b ty p = classify ty p) ∧
    (ty = 0x4 →
      match settingsVerdict p with
      | .ok => classifyS b ty p = .okSettings ∧ classify ty p = .okSettings
      | .ids => classifyS b ty p = .badSettings ∧ classify ty p = .badSettings
      | .short => classifyS b ty p = .malformed ∧ classify ty p = .badSettings
      | .shortAndIds => classifyS b ty p = (if b then .badSettings else .malformed) ∧
          classify ty p = .badSettings) := by
  refine ⟨fun h => by simp [classifyS, h], fun h => ?_⟩
  subst h
  have he := entries_pairs (p.length + 1) p
  cases hq : pairs (p.length + 1) p with
  | some ps =>
    rw [hq] at he
    have hv : settingsVerdict p = if badIds ps then .ids else .ok := by
      simp only [settingsVerdict, he, receivedIds]
      cases badIds ps <;> rfl
    have hc : classify 4 p = if badIds ps then .badSettings else .okSettings := by
      simp [classify, hq]
      rfl
    cases hb : badIds ps <;> simp [hv, hc, hb, classifyS]
  | none =>
    rw [hq] at he
    have hc : classify 4 p = .badSettings := by simp [classify, hq]
    have hne : ((entries (p.length + 1) p).2 == Cut.clean) = false := by simpa using he
    cases hb : badIds (receivedIds (entries (p.length + 1) p)) <;>
      simp [settingsVerdict, hne, hb, classifyS, hc]

example : settingsVerdict [0x06, 0x10, 0x21] = .short ∧ settingsVerdict [0x00, 0x00, 0x06] = .shortAndIds ∧
    settingsVerdict [0x06, 0x10, 0x06] = .shortAndIds ∧ settingsVerdict [0x06, 0x10, 0x06, 0x11] = .ids ∧
    settingsVerdict [0x06, 0x10, 0x21, 0x11] = .ok := by decide

/-- The copy of the segmentation that the strict oracle uses (`observeWith`) is `observe` when it is
    given `classify`: the strict oracle `observeS` differs from `observe` in the classification of
    complete SETTINGS frames only. -/
theorem C02_observeWith_classify (fuel : Nat) (w : Varint.Bytes) (e : Ending) :
    observeWith classify fuel w e = observe fuel w e := by
  induction fuel generalizing w with
  | zero => rfl
  | succ n ih =>
    unfold observeWith observe
    simp only [ih]
    rfl

example : observeS false 4 [0x04, 0x01, 0x06] .fin = [.malformed] ∧
    observe 4 [0x04, 0x01, 0x06] .fin = [.badSettings] ∧
    observeS false 8 [0x04, 0x02, 0x06, 0x10, 0x07, 0x01, 0x05] .fin = observe 8 [0x04, 0x02, 0x06, 0x10, 0x07, 0x01, 0x05] .fin := by
  decide

/-- What the driver evaluates is the model: the reader loop and the call runner that `h3drv` runs
    (`readerLoopF`, `runCallsF`: they ask the `expected` memo before flattening the buffer) are the
    functions `readerLoop` and `runCalls` the theorems above speak about. -/
theorem C02_driver_runs_the_model (fuel : Nat) (s : St) (script : List Ev) (calls : List Call) :
    readerLoopF fuel s script = readerLoop fuel s script ∧ runCallsF s script calls = runCalls s script calls :=
  ⟨readerLoopF_eq fuel s script, runCallsF_eq s script calls⟩

example : readerLoopF 40 {} [.chunk [0x01, 0x03, 0xaa], .chunk [0xbb], .chunk [0xcc, 0x07, 0x01, 0x05], .fin] =
    [.frame (.headers [0xaa, 0xbb, 0xcc]), .frame (.goaway 5), .none] := by decide +kernel

/-! ## 8. Declared lengths beyond 2^30

    The length field of a frame header is a varint of up to 62 bits and nothing but the end of the stream bounds it.  The code
    computes with it in `usize`: `Incomplete(remaining + 1)`, `Incomplete(2 + len as usize)`, `buf.take(len as usize)` (reached
    only when `len` bytes are buffered).  The model has `Nat` there; this is the bound that makes the two the same on a 64-bit
    target. -/

/-- Whatever `Frame::decode` answers `Incomplete(m)` on: `m` is the number of bytes it looked at plus one, or two plus a declared
    length below 2^62 (or the small constant of the WebTransport arm) - so with fewer than 2^63 bytes buffered neither
    `remaining + 1` nor `2 + len` leaves `usize` on a 64-bit target (`m < 2^64`), and the `expected` memo compares the true number. -/
theorem C02_incomplete_no_wrap (b : Varint.Bytes) (hwf : WF b) (m : Nat)
    (h : H3.Frame.decode b = .incomplete m) :
    (m ≤ b.length + 1 ∨ m < 2 ^ 62 + 2) ∧ (b.length < 2 ^ 63 → m < 2 ^ 64) := by
  have key : m ≤ b.length + 1 ∨ m < 2 ^ 62 + 2 := by
    rw [H3.Frame.decode_view] at h
    cases hh : H3.Frame.hdr2 b with
    | none =>
      rw [hh] at h
      cases h
      rcases H3.Frame.incN_le b with h | h
      · exact .inl h
      · exact .inr (by omega)
    | some t =>
      rw [hh] at h
      have := H3.Frame.hdr2_lt hwf hh
      have := (body_incomplete h).2.2.2
      exact .inr (by omega)
  refine ⟨key, fun hb => ?_⟩
  rcases key with k | k <;> omega

-- HEADERS declaring 2^62-1 bytes, three present: the bare decoder asks for 2 + (2^62-1) bytes, the oracle says "the stream ended
-- inside a frame", the reader loop of the model answers UnexpectedEnd - whole, and cut inside the 8-byte length field
example : H3.Frame.decode [0x01, 0xff, 0xff, 0xff, 0xff, 0xff, 0xff, 0xff, 0xff, 0xaa, 0xbb, 0xcc] = .incomplete (2 ^ 62 + 1) ∧
    observe 13 [0x01, 0xff, 0xff, 0xff, 0xff, 0xff, 0xff, 0xff, 0xff, 0xaa, 0xbb, 0xcc] .fin = [.truncated] ∧
    readerLoop 20 {} [.chunk [0x01, 0xff, 0xff, 0xff, 0xff, 0xff, 0xff, 0xff, 0xff, 0xaa, 0xbb, 0xcc], .fin] = [.errEnd] ∧
    readerLoop 20 {} [.chunk [0x01, 0xff, 0xff, 0xff, 0xff], .chunk [0xff, 0xff, 0xff, 0xff, 0xaa, 0xbb, 0xcc], .fin] = [.errEnd] := by
  decide +kernel
-- DATA declaring 2^32 bytes, one present, then the end: the header is handed out, then the truncation error
example : observe 11 [0x00, 0xc0, 0x00, 0x00, 0x01, 0x00, 0x00, 0x00, 0x00, 0xaa] .fin =
      [.frame (.data (2 ^ 32)), .partialData [0xaa], .truncated] ∧
    readerLoop 20 {} [.chunk [0x00, 0xc0, 0x00, 0x00, 0x01], .chunk [0x00, 0x00, 0x00, 0x00], .chunk [0xaa], .fin] =
      [.frame (.data (2 ^ 32)), .data [0xaa], .errEnd] := by
  decide +kernel

end H3.Props.C02
