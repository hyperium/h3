import H3.Model.Drain
import H3.Spec.Drain
import H3.Lemmas.Drain
/-! # C09 — shutdown drains exactly

The property theorems, over one induction on the history (`history`; the step is
`H3.Lemmas.Drain.step_inv`).  Model: `H3.Drain` (`ongoing_streams`, the request-end channel, the
owners of `RequestEnd`, `poll_requests_completion`, the `Ok(None)` decision of `accept`, the
wake-up of the task awaiting `accept`).  Oracle: `H3.Spec.Drain` (a request is alive while one of
its handles has not been dropped; "no more requests" ⇔ the peer's GOAWAY is in and no request
is alive).

A history is an arbitrary `List Ev`: any number of requests, arrivals, `accept` calls, executor
turns (`poll`, effective only when the task was woken), `split`s (`clone`), handle drops
(`dropHandle` — every way a request ends is a sequence of these: finished and dropped, resolver
dropped before resolution, FIN or RESET before HEADERS and malformed headers (the failing
`resolve_request` consumes the resolver), RESET after HEADERS (the application drops the
stream), the two halves dropped separately), the peer's GOAWAY and connection errors, in any
order. -/
namespace H3.Props.C09
open H3.Drain H3.Spec.Drain H3.Lemmas.Drain

private theorem history (evs : List Ev) : ∀ (s : State) (pre : List Step), Inv s → Rel pre s →
    Inv (run s evs) ∧ Rel (pre ++ trace s evs) (run s evs) ∧
    (∀ a st b, trace s evs = a ++ st :: b → returnsNone st = true →
      goawaySeen (pre ++ a) = true ∧ noneAlive (pre ++ a) = true) := by
  induction evs with
  | nil =>
    intro s pre hi hr
    refine ⟨hi, by simpa [trace, run] using hr, ?_⟩
    intro a st b h
    simp [trace] at h
  | cons e es ih =>
    intro s pre hi hr
    obtain ⟨hi1, hr1, hn1⟩ := step_inv s pre e hi hr
    obtain ⟨hi2, hr2, hn2⟩ := ih (step s e).1 (pre ++ [⟨e, (step s e).2⟩]) hi1 hr1
    refine ⟨hi2, by simpa [trace, run, List.append_assoc] using hr2, fun a st b h hn => ?_⟩
    rcases List.cons_eq_append_iff.mp h with ⟨rfl, hst⟩ | ⟨a', rfl, hrest⟩
    · cases hst
      simpa using hn1 hn
    · simpa [List.append_assoc] using hn2 a' st b hrest hn

private theorem history_init (evs : List Ev) : Inv (run {} evs) ∧ Rel (trace {} evs) (run {} evs) :=
  let ⟨hi, hr, _⟩ := history evs {} [] inv_init rel_init
  ⟨hi, hr⟩

/-- **Never early.**  In every history: whenever `accept` answers "no more requests", the
    peer's GOAWAY has arrived before and no request handed out earlier has a handle left. -/
theorem C09_never_early (evs : List Ev) (pre : List Step) (st : Step) (post : List Step)
    (h : trace {} evs = pre ++ st :: post) (hn : returnsNone st = true) :
    goawaySeen pre = true ∧ noneAlive pre = true ∧ ∀ id, alive pre id = false := by
  obtain ⟨_, _, hne⟩ := history evs {} [] inv_init rel_init
  have := hne pre st post h hn
  simp only [List.nil_append] at this
  refine ⟨this.1, this.2, ?_⟩
  intro id
  have h0 : owners pre = [] := by simpa [noneAlive] using this.2
  simp [alive, h0]

/-- The invariant behind it, in terms of the connection's variables: in every reachable state
    `ongoing_streams` contains every request with a live handle, and every ID in it has a live
    handle or its end notification waits in the channel. -/
theorem C09_ongoing_invariant (evs : List Ev) :
    (∀ id, alive (trace {} evs) id = true → id ∈ (run {} evs).ongoing) ∧
    (∀ id ∈ (run {} evs).ongoing, alive (trace {} evs) id = true ∨ id ∈ (run {} evs).chan) := by
  obtain ⟨hi, hr⟩ := history_init evs
  constructor
  · intro id h
    apply hi.live_sub
    rw [← hr.owners_eq]
    simpa [alive] using h
  · intro id h
    rcases hi.ongoing_sub id h with h' | h'
    · left
      rw [← hr.owners_eq] at h'
      simpa [alive] using h'
    · exact Or.inr h'

/-- **Always eventually.**  After any history in which the peer's GOAWAY has arrived, every
    handle of every request handed out is gone, no connection error was recorded and no stream
    waits in the transport: an `accept` that is outstanding *has been woken* (so the executor
    polls it again — the end notification of the last request is what wakes it) and that poll
    answers "no more requests"; and if no call is outstanding, the next call answers so at
    its first poll. -/
theorem C09_always_eventually (evs : List Ev)
    (hg : goawaySeen (trace {} evs) = true) (hd : noneAlive (trace {} evs) = true)
    (he : errorSeen (trace {} evs) = false)
    (ha : arrivals (trace {} evs) = handedOut (trace {} evs)) :
    ((run {} evs).inFlight = true →
      (run {} evs).wake = true ∧ (step (run {} evs) .poll).2 = [.acceptNone]) ∧
    ((run {} evs).inFlight = false →
      (step (step (run {} evs) .callAccept).1 .poll).2 = [.acceptNone]) := by
  obtain ⟨hi, hr⟩ := history_init evs
  generalize run {} evs = s at *
  generalize trace {} evs = tr at *
  have hh : s.handles = [] := by
    rw [← hr.owners_eq]; simpa [noneAlive] using hd
  have hf : s.failed = false := by
    cases h : s.failed with
    | false => rfl
    | true => rw [hr.error_iff.mpr h] at he; cases he
  have hinc : s.incoming = [] := by
    have := hr.arrivals_eq
    rw [ha] at this
    exact (List.self_eq_append_right.mp this)
  have hgo : s.recvClosing = true ∨ 0 < s.ctl := hr.goaway_iff.mp hg
  have hrc : (catchUp s).recvClosing = true := by
    rcases hgo with h | h <;> simp [catchUp, h]
  have hon : (catchUp s).ongoing = [] := hi.caughtUp_nil.mpr hh
  have hpoll : ∀ t : State, t.inFlight = true → t.wake = true → t.failed = false → t.incoming = [] →
      (catchUp t).recvClosing = true → (catchUp t).ongoing = [] → (step t .poll).2 = [.acceptNone] := by
    intro t h1 h2 h3 h4 h5 h6
    have h3' : (catchUp t).failed = false := h3
    have h4' : (catchUp t).incoming = [] := h4
    simp [step, poll, h1, h2, h3', takeStream, h4', verdict, h5, h6]
  constructor
  · intro hfl
    have hw : s.wake = true := by
      cases hwk : s.wake with
      | true => rfl
      | false =>
        -- parked means the channel and the control stream were empty: the poll would have said `None`
        obtain ⟨hc, hctl, _, _, hno⟩ := hi.parked hfl hwk
        refine (hno ⟨hgo.resolve_right (by omega), List.eq_nil_iff_forall_not_mem.mpr fun j hj => ?_⟩).elim
        rcases hi.ongoing_sub j hj with h | h
        · rw [hh] at h; cases h
        · rw [hc] at h; cases h
    exact ⟨hw, hpoll s hfl hw hf hinc hrc hon⟩
  · intro hfl
    have : (step s .callAccept).1 = { s with inFlight := true, wake := true } := by simp [step, hfl]
    rw [this]
    exact hpoll _ rfl rfl hf hinc hrc hon

/-- **The completion test is never early, wherever it is made.**
    `poll_requests_completion(cx).is_ready()` — empty the request-end channel into
    `ongoing_streams`, then "is `ongoing_streams` empty?" — also guards the `Ok(None)` that
    `accept` gives during a *local* shutdown, once a stream was refused in the poll and none waits
    any more (that path is in `H3.Goaway.acceptLoop`, whose event `complete id` is this model's
    channel receive; theorem `C08_accept_none_only_when_drained`).  In every reachable state of
    this model a positive test means that no handle of any request handed out is alive. -/
theorem C09_completion_test_never_early (evs : List Ev)
    (h : removeAll (run {} evs).ongoing (run {} evs).chan = []) :
    noneAlive (trace {} evs) = true ∧ ∀ id, alive (trace {} evs) id = false := by
  obtain ⟨hi, hr⟩ := history_init evs
  have h0 : owners (trace {} evs) = [] := hr.owners_eq.trans (hi.caughtUp_nil.mp h)
  refine ⟨by simp [noneAlive, h0], ?_⟩
  intro id
  simp [alive, h0]

/-- A recorded connection error does not leave `accept` hanging either: an outstanding call has
    been woken and its poll reports the error. -/
theorem C09_error_reported (evs : List Ev) (he : errorSeen (trace {} evs) = true)
    (hfl : (run {} evs).inFlight = true) :
    (run {} evs).wake = true ∧ (step (run {} evs) .poll).2 = [.acceptErr] := by
  obtain ⟨hi, hr⟩ := history_init evs
  generalize run {} evs = s at *
  have hf : s.failed = true := hr.error_iff.mp he
  have hw : s.wake = true := by
    cases hwk : s.wake with
    | true => rfl
    | false =>
      obtain ⟨_, _, _, h, _⟩ := hi.parked hfl hwk
      rw [hf] at h; cases h
  refine ⟨hw, ?_⟩
  have hf' : (catchUp s).failed = true := hf
  simp [step, poll, hfl, hw, hf']

-- non-vacuity of `C09_error_reported`: a request was handed out and one half of it is still alive, the GOAWAY is
-- in, a second `accept` has been polled and is parked (`acceptPending`); then a task records a connection error.
-- Both hypotheses hold, the parked call has been woken by the error and its poll answers the error — not `None`
-- (a request is alive) and not `Pending`; before the error the same call was NOT woken (so the wake is the error's)
example : let evs := [Ev.arrive 0, .callAccept, .poll, .clone 0, .dropHandle 0, .goaway, .callAccept, .poll, .connError]
    errorSeen (trace {} evs) = true ∧ (run {} evs).inFlight = true ∧
    ((run {} evs).wake = true ∧ (step (run {} evs) .poll).2 = [.acceptErr]) ∧
    (run {} evs.dropLast).wake = false ∧ (run {} evs.dropLast).inFlight = true ∧
    (trace {} evs.dropLast).getLast?.map (·.obs) = some [.acceptPending] := by decide +kernel
-- … and the theorem applied to that history gives the conclusion
example : (step (run {} [Ev.arrive 0, .callAccept, .poll, .clone 0, .dropHandle 0, .goaway, .callAccept, .poll,
    .connError]) .poll).2 = [.acceptErr] :=
  (C09_error_reported _ (by decide +kernel) (by decide +kernel)).2

/-! ### non-vacuity: concrete histories -/

def shows (evs : List Ev) : List (List Obs) := (trace {} evs).map (·.obs)

-- resolver dropped before resolution, GOAWAY, and the parked accept is woken and says None
example : shows [.arrive 0, .callAccept, .poll, .callAccept, .poll, .goaway, .poll, .dropHandle 0, .poll] =
    [[], [], [.handedOut 0], [], [.acceptPending], [], [.acceptPending], [], [.acceptNone]] := by decide +kernel
-- … and it was the drop that woke it
example : (run {} [.arrive 0, .callAccept, .poll, .callAccept, .poll, .goaway, .poll, .dropHandle 0]).wake = true := by
  decide +kernel
-- split: the request ends with the second half, not the first
example : shows [.arrive 4, .callAccept, .poll, .clone 4, .goaway, .callAccept, .poll, .dropHandle 4, .poll,
                 .dropHandle 4, .poll] =
    [[], [], [.handedOut 4], [], [], [], [.acceptPending], [], [], [], [.acceptNone]] := by decide +kernel
-- three requests ending in different ways, interleaved; None only after the last handle
example : shows [.arrive 0, .arrive 4, .callAccept, .poll, .callAccept, .poll, .goaway, .arrive 8, .callAccept, .poll,
                 .dropHandle 4, .callAccept, .poll, .clone 0, .dropHandle 8, .poll, .dropHandle 0, .poll,
                 .dropHandle 0, .poll] =
    [[], [], [], [.handedOut 0], [], [.handedOut 4], [], [], [], [.handedOut 8],
     [], [], [.acceptPending], [], [], [.acceptPending], [], [], [], [.acceptNone]] := by decide +kernel
-- the hypotheses of `C09_always_eventually` are satisfiable with an outstanding call
example : let evs := [Ev.arrive 0, .callAccept, .poll, .callAccept, .poll, .goaway, .poll, .dropHandle 0]
    goawaySeen (trace {} evs) = true ∧ noneAlive (trace {} evs) = true ∧ errorSeen (trace {} evs) = false ∧
    arrivals (trace {} evs) = handedOut (trace {} evs) ∧ (run {} evs).inFlight = true := by decide +kernel
-- no GOAWAY: accept keeps waiting although nothing is alive
example : shows [.arrive 0, .callAccept, .poll, .dropHandle 0, .callAccept, .poll] =
    [[], [], [.handedOut 0], [], [], [.acceptPending]] := by decide +kernel
-- `C09_completion_test_never_early`: the test is positive after the last handle went (its notification waits in the
-- channel) and negative while one half of a split request is alive
example : let s := run {} [.arrive 0, .callAccept, .poll, .clone 0, .dropHandle 0, .dropHandle 0]
    removeAll s.ongoing s.chan = [] ∧ s.ongoing = [0] := by decide +kernel
example : let s := run {} [.arrive 0, .callAccept, .poll, .clone 0, .dropHandle 0]
    removeAll s.ongoing s.chan = [0] := by decide +kernel

end H3.Props.C09
