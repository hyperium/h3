import H3.Model.QuinnAdapter
import H3.Gen.QuinnTables
import H3.Props.C18
/-! # C17 — the Quinn adapter moves bytes, identifiers and errors faithfully

*Partial by construction*: only the adapter's own logic (`h3-quinn/src/lib.rs`, the conversions of
`h3-quinn/src/datagram.rs`, `WriteBuf` in `h3/src/stream.rs`) is modelled. Quinn, UDP and tokio appear as parameters — the acceptance
script of `poll_write`, the events of the read future, the error value handed to a conversion
function — over which the theorems quantify universally; that real Quinn produces such scripts
and delivers the accepted bytes to the peer exactly once is observed by the correspondence run
(`harness/src/e_c17.rs`, real loopback connections), not proved. -/
namespace H3.Props.C17
open H3.QuinnAdapter

theorem wb_remaining (d : WriteBuf) : d.remaining = d.view.length := by
  simp [WriteBuf.remaining, WriteBuf.view]

theorem wb_remaining_zero (d : WriteBuf) : d.remaining = 0 ↔ d.view = [] := by
  rw [wb_remaining, List.length_eq_zero_iff]

theorem wb_chunk_prefix (d : WriteBuf) : ∃ t, d.view = d.chunk ++ t := cur_prefix _ _ _

theorem wb_chunk_ne (d : WriteBuf) (h : d.view ≠ []) : d.chunk ≠ [] := cur_ne _ _ _ h

theorem wb_advance_view (d : WriteBuf) (k : Nat) : (d.advance k).view = d.view.drop k := by
  unfold WriteBuf.view
  rw [cur_drop]
  unfold WriteBuf.advance
  by_cases hr : d.hdr.length - d.pos > 0
  · simp only [hr, if_true]
  · simp only [hr, if_false]
    rw [show min k (d.hdr.length - d.pos) = 0 by omega]; rfl

/-- an error answer in `c` is its last element, and `P` holds of it (`P e` will be "the loop's result is `e`,
    converted") -/
def ErrLast (c : List Accept) (P : WriteError → Prop) : Prop :=
  ∀ pre e post, c = pre ++ .err e :: post → post = [] ∧ P e

theorem ErrLast.nil {P : WriteError → Prop} : ErrLast [] P := by
  intro pre e post h; simp at h

theorem ErrLast.single {P : WriteError → Prop} {e : WriteError} (h : P e) : ErrLast [.err e] P := by
  intro pre e' post hc
  cases pre with
  | nil => cases hc; exact ⟨rfl, h⟩
  | cons b p => simp at hc

theorem ErrLast.cons {P : WriteError → Prop} {a : Accept} {c : List Accept} (ha : ∀ e, a ≠ .err e)
    (h : ErrLast c P) : ErrLast (a :: c) P := by
  intro pre e post hc
  cases pre with
  | nil => exact absurd (List.cons.inj hc).1 (ha e)
  | cons b p => exact h p e post (List.cons.inj hc).2

theorem ErrLast.append {P : WriteError → Prop} {c c' : List Accept} (hno : ∀ e, Accept.err e ∉ c)
    (h : ErrLast c' P) : ErrLast (c ++ c') P := by
  induction c with
  | nil => exact h
  | cons a c ih =>
    exact .cons (fun e he => hno e (by simp [he])) (ih fun e he => hno e (by simp [he]))

theorem ErrLast.no_err {P : WriteError → Prop} {c : List Accept} (h : ErrLast c P)
    (hP : ∀ e, ¬ P e) : ∀ e, Accept.err e ∉ c := by
  intro e hm
  obtain ⟨pre, post, hc⟩ := List.append_of_mem hm
  exact hP e (h pre e post hc).2

theorem writeLoop_spec (script : List Accept) (d : WriteBuf) :
    let o := writeLoop d script
    o.acc ++ o.buf.view = d.view ∧ (o.res = .ok ↔ o.buf.view = []) ∧
    ∃ c, script = c ++ o.rest ∧ ErrLast c (fun e => o.res = .err (convertWrite e)) := by
  fun_induction writeLoop d script with
  -- case1-3: the script is used up, or the buffer is empty: no `poll_write` is made
  | case1 d h0 | case3 d a r h0 => exact ⟨by simp, by simp [(wb_remaining_zero d).mp h0], [], rfl, .nil⟩
  | case2 d h0 => exact ⟨by simp, by simp [mt (wb_remaining_zero d).mpr h0], [], rfl, .nil⟩
  | case4 d r h0 =>  -- the answer is `Pending`
    exact ⟨by simp, by simp [mt (wb_remaining_zero d).mpr h0], [.pending], rfl, .cons (by simp) .nil⟩
  | case5 d r h0 e =>  -- the answer is an error
    exact ⟨by simp, by simp [mt (wb_remaining_zero d).mpr h0], [.err e], rfl, .single rfl⟩
  | case6 d r h0 k t o ih =>  -- Quinn takes `t = min k |chunk|` bytes, the loop goes on
    obtain ⟨tl, ht⟩ := wb_chunk_prefix d
    obtain ⟨i1, i3, c, i4, i5⟩ := ih
    refine ⟨?_, i3, .ok k :: c, congrArg _ i4, .cons (by simp) i5⟩
    simp only [List.append_assoc]
    rw [i1, wb_advance_view d, ht]
    exact take_chunk _ tl (Nat.min_le_right ..)

theorem Send.eq_some {s : Send} (h : s.writing ≠ none) : ∃ d, s = ⟨some d⟩ := by
  cases s with
  | mk w =>
    cases w with
    | none => exact absurd rfl h
    | some d => exact ⟨d, rfl⟩

/-- clauses 1–3 of `C17_write_loop`, of a write that starts with the bytes `v` still to go -/
def DriveSpec (v : Bytes) (script : List Accept) (o : PollOut) : Prop :=
  (∃ t, o.acc ++ t = v ∧ (o.res = .pending → t = o.state.held)) ∧
  (o.res = .pending ↔ o.state.writing ≠ none) ∧ (o.res = .ok ↔ o.acc = v) ∧
  ∃ c, script = c ++ o.rest ∧ ErrLast c (fun e => o.res = .err (convertWrite e))

/-- `poll_ready` on a held buffer is the write loop; the buffer is kept exactly on `Pending` -/
theorem pollReady_some (d : WriteBuf) (script : List Accept) :
    pollReady ⟨some d⟩ script =
      let o := writeLoop d script
      ⟨⟨if o.res = .pending then some o.buf else none⟩, o.res, o.acc, o.rest⟩ := by
  unfold pollReady
  cases h : (writeLoop d script).res <;> simp [h]

theorem pollReady_spec (d : WriteBuf) (script : List Accept) :
    DriveSpec d.view script (pollReady ⟨some d⟩ script) := by
  obtain ⟨i1, i3, i4⟩ := writeLoop_spec script d
  simp only [pollReady_some, DriveSpec]
  refine ⟨⟨_, i1, fun hp => by simp [Send.held, hp]⟩, ?_, by rw [i3, ← i1]; simp, i4⟩
  by_cases hp : (writeLoop d script).res = .pending <;> simp [hp]

theorem driveN_spec (n : Nat) (script : List Accept) (d : WriteBuf) :
    DriveSpec d.view script (driveN n ⟨some d⟩ script) := by
  induction n generalizing script d with
  | zero => exact pollReady_spec d script
  | succ n ih =>
    have hp := pollReady_spec d script
    rw [driveN]
    simp only
    cases hres : (pollReady ⟨some d⟩ script).res with
    | ok | err e => exact hp
    | pending =>
      simp only
      split
      · -- the adapter still holds `d'`, the rest of `d`; the next polls write that
        obtain ⟨⟨t, p1, pt⟩, p2, _, c, p5, p6⟩ := hp
        obtain ⟨d', hst⟩ := Send.eq_some (p2.mp hres)
        have ht : t = d'.view := by rw [pt hres, hst]; rfl
        subst ht
        rw [hst]
        obtain ⟨⟨t', q1, qt⟩, q2, q3, c', q5, q6⟩ := ih (pollReady ⟨some d⟩ script).rest d'
        refine ⟨⟨t', by rw [List.append_assoc, q1, p1], qt⟩, q2, ?_, c ++ c',
          by rw [List.append_assoc, ← q5, ← p5], .append (p6.no_err ?_) q6⟩
        · show _ ↔ _ ++ _ = _
          rw [q3, ← p1, List.append_cancel_left_eq]
        · intro e he; rw [hres] at he; cases he
      · exact hp

theorem drive_spec (d : WriteBuf) (script : List Accept) :
    DriveSpec d.view script (drive ⟨some d⟩ script) :=
  driveN_spec script.length script d

theorem sendData_busy {s : Send} (h : s.writing ≠ none) (d2 : WriteBuf) : sendData s d2 = (s, .refused) := by
  obtain ⟨d, rfl⟩ := Send.eq_some h
  rfl

theorem sendData_free {s : Send} (h : s.writing = none) (d2 : WriteBuf) :
    sendData s d2 = (⟨some d2⟩, .ok) := by
  cases s; cases h; rfl

/-- **C17, write half.** For every buffer (header ++ payload, any cursor) and every acceptance
    script — any pattern of `Pending`, partial acceptances `ok k` and errors, over any number of
    `poll_ready` calls —
    1. the bytes Quinn accepted are a prefix of the buffer — in order, nothing twice, nothing
       skipped — and while the result is `Pending` the adapter still holds exactly the rest;
    2. `Ready(Ok)` ⇔ the whole buffer was accepted; `writing` is kept ⇔ the result is `Pending`
       (a write that completed *or failed* is finished and leaves nothing behind);
    3. the `poll_write` calls made are a prefix of the script in which an error answer is the last
       call and is the result (nothing is written after an error);
    4. `send_data` while an earlier buffer is unfinished is refused with the internal error and
       changes nothing (so no interleaving), whereas on a free stream it stores the buffer. -/
theorem C17_write_loop (d : WriteBuf) (hwf : d.WF) (script : List Accept) :
    let o := drive ⟨some d⟩ script
    (∃ t, o.acc ++ t = d.view ∧ (o.res = .pending → t = o.state.held)) ∧
    (o.res = .pending ↔ o.state.writing ≠ none) ∧ (o.res = .ok ↔ o.acc = d.view) ∧
    (∃ c, script = c ++ o.rest ∧
      ∀ pre e post, c = pre ++ .err e :: post → post = [] ∧ o.res = .err (convertWrite e)) ∧
    (∀ (s : Send) (d2 : WriteBuf), s.writing ≠ none → sendData s d2 = (s, .refused)) ∧
    (∀ d2 : WriteBuf, sendData ⟨none⟩ d2 = (⟨some d2⟩, .ok)) := by
  obtain ⟨h1, h2, h3, h4⟩ := drive_spec d script
  exact ⟨h1, h2, h3, h4, fun _ d2 hs => sendData_busy hs d2, fun _ => rfl⟩

/-- One `poll_ready` call (the loop the code contains), same statement. -/
theorem C17_poll_ready_once (d : WriteBuf) (hwf : d.WF) (script : List Accept) :
    let o := pollReady ⟨some d⟩ script
    (∃ t, o.acc ++ t = d.view ∧ (o.res = .pending → t = o.state.held)) ∧
    (o.res = .pending ↔ o.state.writing ≠ none) ∧ (o.res = .ok ↔ o.acc = d.view) ∧
    (∃ c, script = c ++ o.rest ∧
      ∀ pre e post, c = pre ++ .err e :: post → post = [] ∧ o.res = .err (convertWrite e)) ∧
    (pollReady ⟨none⟩ script = ⟨⟨none⟩, .ok, [], script⟩) := by
  obtain ⟨h1, h2, h3, h4⟩ := pollReady_spec d script
  exact ⟨h1, h2, h3, h4, rfl⟩

/-- **C17, a failed write is finished (D-17c repaired).** For every buffer and every acceptance
    script, over any number of `poll_ready` calls: if the write ends with an error answer of Quinn
    (the peer's STOP_SENDING, a lost connection, …) the adapter holds no buffer afterwards, the
    next `send_data` is accepted — not refused with the connection-level internal error — and a
    `poll_ready` without a new buffer is `Ready(Ok)`. More precisely `send_data` is refused *iff*
    the earlier write is still pending (the last poll returned `Pending`). -/
theorem C17_failed_write_releases (d : WriteBuf) (hwf : d.WF) (script : List Accept) (d2 : WriteBuf) :
    let o := drive ⟨some d⟩ script
    (∀ e, o.res = .err e → o.state.writing = none ∧ sendData o.state d2 = (⟨some d2⟩, .ok) ∧
      (pollReady o.state []).res = .ok) ∧
    ((sendData o.state d2).2 = .refused ↔ o.res = .pending) ∧
    ((sendData o.state d2).2 = .ok ↔ o.res ≠ .pending) := by
  intro o
  have h2 : o.res = .pending ↔ o.state.writing ≠ none := (drive_spec d script).2.1
  -- `writing` is kept exactly while the result is `Pending`, and `send_data` looks at nothing else
  cases hw : o.state.writing with
  | none =>
    have hnp : o.res ≠ .pending := fun hp => h2.mp hp hw
    have hs := sendData_free hw d2
    refine ⟨fun e _ => ⟨rfl, hs, ?_⟩, ?_, ?_⟩
    · simp [pollReady, hw]
    · simp [hs, hnp]
    · simp [hs, hnp]
  | some x =>
    have hp : o.res = .pending := h2.mpr (by simp [hw])
    have hs := sendData_busy (s := o.state) (by simp [hw]) d2
    refine ⟨fun e he => (by rw [hp] at he; cases he), ?_, ?_⟩
    · simp [hs, hp]
    · simp [hs, hp]
/-- A fresh `WriteBuf` is well formed and presents header ++ payload. -/
theorem C17_writebuf_new (hdr payload : Bytes) :
    (WriteBuf.new hdr payload).WF ∧ (WriteBuf.new hdr payload).view = hdr ++ payload := by
  simp [WriteBuf.new, WriteBuf.WF, WriteBuf.view]

-- non-vacuity: DATA frame header `00 03` + payload `aa bb cc`; Quinn takes 1 byte, says Pending,
-- takes 3 (only 1 header byte is offered: the chunk ends with the header), 2, then the rest.
example : drive ⟨some (WriteBuf.new [0x00, 0x03] [0xaa, 0xbb, 0xcc])⟩ [.ok 1, .pending, .ok 3, .ok 2, .pending, .ok 9, .ok 5] =
    ⟨⟨none⟩, .ok, [0x00, 0x03, 0xaa, 0xbb, 0xcc], [.ok 5]⟩ := by decide +kernel
-- an error in the middle: two bytes accepted, then the peer's stop is the result; the write is
-- finished (nothing is held any more: D-17c repaired) and no answer after it is asked for
example : drive ⟨some (WriteBuf.new [0x00, 0x03] [0xaa, 0xbb, 0xcc])⟩ [.ok 1, .ok 1, .err (.stopped 9), .ok 3] =
    ⟨⟨none⟩, .err (.terminated 9), [0x00, 0x03], [.ok 3]⟩ := by decide +kernel
/-- D-17c on the unrepaired `poll_ready`: after the peer's stop the buffer stays, and the next
    `send_data` is refused with the (connection-level) internal error; repaired, it is accepted. -/
example : (sendData (pollReadyUnrepaired ⟨some (WriteBuf.new [0x00, 0x03] [0xaa, 0xbb, 0xcc])⟩ [.ok 1, .err (.stopped 9)]).state
    (WriteBuf.new [0x00, 0x00] [])).2 = .refused := by decide +kernel
example : (sendData (pollReady ⟨some (WriteBuf.new [0x00, 0x03] [0xaa, 0xbb, 0xcc])⟩ [.ok 1, .err (.stopped 9)]).state
    (WriteBuf.new [0x00, 0x00] [])).2 = .ok := by decide +kernel
-- a pending write keeps the rest, and only then is a second send_data refused
example : drive ⟨some (WriteBuf.new [0x00, 0x03] [0xaa, 0xbb, 0xcc])⟩ [.ok 1, .ok 2, .ok 1, .pending] =
    ⟨⟨some ⟨[0x00, 0x03], 2, [0xbb, 0xcc]⟩⟩, .pending, [0x00, 0x03, 0xaa], []⟩ := by decide +kernel
example : sendData ⟨some (WriteBuf.new [0x00, 0x01] [0x07])⟩ (WriteBuf.new [0x00, 0x00] []) =
    (⟨some (WriteBuf.new [0x00, 0x01] [0x07])⟩, .refused) := by decide +kernel

theorem pollData_completed (r : Recv) {ev : ReadEv} (h : ev ≠ .pending) :
    (pollData r ev).1 = r.comeBack := by
  cases ev <;> first | rfl | exact absurd rfl h

theorem pollData_not_id (r : Recv) (ev : ReadEv) (n : Nat) : (pollData r ev).2 ≠ .id n := by
  cases ev with
  | err e => simp only [pollData, readErrOut]; split <;> simp
  | _ => simp [pollData]

theorem step_cases {P : RecvOp → Recv × RecvOut → Prop} (r : Recv) (op : RecvOp)
    (dead : r.alive = false → P op (r, .unit))
    (pend : r.alive = true → P (.pollData .pending) ({ r with here := false }, .pending))
    (back : r.alive = true → ∀ ev o, ev ≠ .pending → (∀ n, o ≠ .id n) → P (.pollData ev) (r.comeBack, o))
    (bad : r.alive = true → ∀ c, c ≥ 2^62 → P (.stopSending c) (r, .panic))
    (now : r.alive = true → ∀ c, c < 2^62 → r.here = true →
      P (.stopSending c) ({ r with stops := r.stops ++ [c] }, .unit))
    (later : r.alive = true → ∀ c, c < 2^62 → r.here = false →
      P (.stopSending c) ({ r with pendingStop := some c }, .unit))
    (ident : r.alive = true → P .recvId (r, .id r.id))
    (drop : r.alive = true → P .drop ({ r with alive := false }, .unit)) :
    P op (r.step op) := by
  unfold Recv.step
  by_cases ha : r.alive = true
  · rw [if_neg (by simp [ha])]
    cases op with
    | pollData ev =>
      by_cases hev : ev = .pending
      · subst hev; exact pend ha
      · have h := back ha ev _ hev (pollData_not_id r ev)
        rw [← pollData_completed r hev] at h
        exact h
    | stopSending c =>
      show P _ (stopSending r c)
      unfold stopSending
      by_cases hc : c ≥ 2^62
      · rw [if_pos hc]; exact bad ha c hc
      · rw [if_neg hc]
        by_cases hh : r.here = true
        · rw [if_pos hh]; exact now ha c (by omega) hh
        · rw [if_neg hh]; exact later ha c (by omega) (by simpa using hh)
    | recvId => exact ident ha
    | drop => exact drop ha
  · rw [if_pos (by simpa using ha)]; exact dead (by simpa using ha)

theorem step_id (r : Recv) (op : RecvOp) : (r.step op).1.id = r.id := by
  apply step_cases (P := fun _ x => x.1.id = r.id) <;> intros <;> rfl

theorem run_id (ops : List RecvOp) (r : Recv) : (r.run ops).1.id = r.id := by
  induction ops generalizing r with
  | nil => rfl
  | cons op ops ih => simp only [Recv.run]; rw [ih, step_id]

theorem step_out_id {r : Recv} {op : RecvOp} {n : Nat} (h : (r.step op).2 = .id n) : n = r.id := by
  revert h
  apply step_cases (P := fun _ x => x.2 = .id n → n = r.id) r op
  case back => intro _ ev o _ ho h; exact absurd h (ho n)
  case ident => intro _ h; cases h; rfl
  all_goals intros; rename_i h; cases h

theorem run_ids (ops : List RecvOp) (r : Recv) :
    ∀ o ∈ (r.run ops).2, ∀ n, o = .id n → n = r.id := by
  induction ops generalizing r with
  | nil => intro o ho; simp [Recv.run] at ho
  | cons op ops ih =>
    intro o ho n hn
    simp only [Recv.run, List.mem_cons] at ho
    rcases ho with ho | ho
    · exact step_out_id (ho ▸ hn)
    · rw [← step_id r op]; exact ih _ o ho n hn

/-- The number of `stop_sending` calls among the operations (whatever their code). -/
def stopRequests : List RecvOp → Nat
  | [] => 0
  | .stopSending _ :: ops => stopRequests ops + 1
  | _ :: ops => stopRequests ops

def owed (r : Recv) : Nat := r.stops.length + (if r.pendingStop.isSome then 1 else 0)

theorem comeBack_owed (r : Recv) : owed r.comeBack = owed r := by
  unfold Recv.comeBack owed
  cases r.pendingStop <;> simp

theorem step_owed (r : Recv) (op : RecvOp) : owed (r.step op).1 ≤ owed r + stopRequests [op] := by
  apply step_cases (P := fun op x => owed x.1 ≤ owed r + stopRequests [op]) r op
  case back => intros; rw [comeBack_owed]; exact Nat.le_add_right _ _
  case now => intros; simp [owed, stopRequests]; omega
  case later => intros; simp only [owed, stopRequests]; cases r.pendingStop <;> simp
  all_goals intros; exact Nat.le_add_right _ _

theorem run_owed (ops : List RecvOp) (r : Recv) : owed (r.run ops).1 ≤ owed r + stopRequests ops := by
  induction ops generalizing r with
  | nil => simp [Recv.run, stopRequests]
  | cons op ops ih =>
    simp only [Recv.run]
    have h1 := ih (r.step op).1
    have h2 := step_owed r op
    have h3 : stopRequests (op :: ops) = stopRequests [op] + stopRequests ops := by
      cases op <;> simp [stopRequests, Nat.add_comm]
    omega
/-- **C17, identifiers.** Start from a freshly constructed receive stream with id `id` and apply
    *any* sequence of operations (`poll_data` with any behaviour of the read future — pending,
    data, end, any error —, `stop_sending` with any code, `recv_id`, drop). Then
    1. in the state reached, `recv_id` returns `id` and does not panic — in particular while a
       read future owns the stream (D-17) and after an error;
    2. every `recv_id` answer given along the way was `id`;
    3. the adapter never issues more `stop`s on the Quinn stream (issued + remembered) than
       `stop_sending` was called: a stop is never applied twice. -/
theorem C17_ids_constant (id : Nat) (ops : List RecvOp) :
    let r := ((Recv.new id).run ops).1
    recvId r = .id id ∧
    (∀ o ∈ ((Recv.new id).run ops).2, ∀ n, o = .id n → n = id) ∧
    (r.alive = true → r.step .recvId = (r, .id id)) ∧
    r.stops.length + (if r.pendingStop.isSome then 1 else 0) ≤ stopRequests ops := by
  have hid : ((Recv.new id).run ops).1.id = id := run_id ops _
  refine ⟨congrArg RecvOut.id hid, run_ids ops _, fun ha => ?_, ?_⟩
  · simp [Recv.step, ha, recvId, hid]
  · simpa [owed, Recv.new] using run_owed ops (Recv.new id)

theorem stopSending_away {r : Recv} {c : Nat} (hc : c < 2^62) (hh : r.here = false) :
    stopSending r c = ({ r with pendingStop := some c }, .unit) := by
  simp [stopSending, hh, Nat.not_le.mpr hc]

/-- **C17, a stop during a pending read.** In a reachable state in which the read future owns the
    stream, `stop_sending c` (valid code) issues nothing yet and remembers `c`; further `Pending`
    polls and id queries keep it remembered; the first poll on which the future completes (data,
    end or error) issues exactly `stop(c)` on the Quinn stream and forgets it; no later poll issues
    it again. (If instead the adapter stream is dropped first, the stop is never issued:
    `stop_lost_on_drop` below.) -/
theorem C17_stop_during_pending_read (id : Nat) (ops : List RecvOp) (c : Nat) (hc : c < 2^62) :
    let r := ((Recv.new id).run ops).1
    r.alive = true → r.here = false →
    let r1 := (stopSending r c).1
    r1.stops = r.stops ∧ r1.pendingStop = some c ∧
    (pollData r1 .pending).1 = r1 ∧ (Recv.step r1 .recvId).1 = r1 ∧
    ∀ ev, ev ≠ .pending →
      let r2 := (pollData r1 ev).1
      r2.stops = r.stops ++ [c] ∧ r2.pendingStop = none ∧ r2.here = true ∧
      ∀ ev', (pollData r2 ev').1.stops = r.stops ++ [c] := by
  intro r ha hh
  rw [stopSending_away hc hh]
  refine ⟨rfl, rfl, by simp [pollData, hh], by simp [Recv.step, ha], fun ev hev => ?_⟩
  simp only [pollData_completed _ hev]
  refine ⟨by simp [Recv.comeBack], rfl, rfl, fun ev' => ?_⟩
  cases ev' <;> simp [pollData, Recv.comeBack]

/-- D-17 on the unrepaired `recv_id`: after a `poll_data` that returned `Pending` it panics. -/
example : recvIdUnrepaired ((Recv.new 8).run [.pollData .pending]).1 = .panic := by decide +kernel
example : recvId ((Recv.new 8).run [.pollData .pending]).1 = .id 8 := by decide +kernel
example : ((Recv.new 8).run [.recvId, .pollData .pending, .recvId, .stopSending 7, .recvId,
      .pollData (.err (.reset 3)), .recvId, .pollData .fin]) =
    (⟨8, true, none, [7], true⟩,
     [.id 8, .pending, .id 8, .unit, .id 8, .err (.terminated 3), .id 8, .fin]) := by decide +kernel
/-- two stops during a pending read: the last one wins (on an idle stream Quinn honours the first). -/
example : ((Recv.new 0).run [.pollData .pending, .stopSending 1, .stopSending 2, .pollData .data]).1.stops = [2] := by decide +kernel
example : ((Recv.new 0).run [.stopSending 1, .stopSending 2]).1.stops = [1, 2] := by decide +kernel
/-- a stop remembered during a pending read is never issued when the stream is dropped before the
    read future completes (Quinn then sends its own implicit `STOP_SENDING(0)`: the code is lost). -/
theorem stop_lost_on_drop :
    ((Recv.new 4).run [.pollData .pending, .stopSending 9, .drop, .pollData .data]).1.stops = [] := by decide +kernel
example : (stopSending (Recv.new 0) (2^62)).2 = .panic := by decide +kernel

/-- How the ownership machine `r` stands to the caller's-side specification `s`.  While nothing is
    due, nothing has been issued, and what the adapter remembers is the LAST code asked for during
    the read in flight (`stop_sending` overwrites `pending_stop`); with the stream in hand nothing is
    remembered, so nothing was asked.  Once something is due, the FIRST stop issued (the one Quinn
    honours) carries a due code. -/
def StopRel (r : Recv) (s : StopSpec) : Prop :=
  r.alive = s.alive ∧ s.inFlight = !r.here ∧
  (s.due = [] → r.stops = [] ∧ r.pendingStop = s.asked.getLast? ∧ (r.here = true → s.asked = [])) ∧
  (s.due ≠ [] → ∃ c ∈ s.due, r.stops.head? = some c)

theorem head_append_of_head {l : List Nat} {c : Nat} (h : l.head? = some c) (t : List Nat) :
    (l ++ t).head? = some c := by
  rw [List.head?_append, h]; rfl

theorem StopSpec.step_dead {s : StopSpec} (h : s.alive = false) (op : RecvOp) : s.step op = s := by
  simp [StopSpec.step, h]

theorem StopSpec.step_alive {s : StopSpec} (h : s.alive = true) (op : RecvOp) :
    s.step op = match op with
      | .pollData ev => s.onRead ev.completed
      | .stopSending c => s.onStop c
      | .recvId => s
      | .drop => { s with alive := false } := by
  unfold StopSpec.step
  rw [if_neg (by simp [h])]
  cases op <;> rfl

theorem stopRel_comeBack (r : Recv) (s : StopSpec) (h : StopRel r s) :
    StopRel r.comeBack (s.onRead true) := by
  obtain ⟨h1, h2, h3, h4⟩ := h
  by_cases hd : s.due = []
  · obtain ⟨g1, g2, g3⟩ := h3 hd
    have hde : s.due.isEmpty = true := by simp [hd]
    simp only [StopSpec.onRead, Bool.not_true, Bool.false_eq_true, ↓reduceIte, hde]
    refine ⟨h1, by simp [Recv.comeBack], ?_, ?_⟩
    · intro ha0
      simp only at ha0
      simp only [Recv.comeBack, g1, g2, ha0, List.nil_append]
      simp
    · intro hne
      simp only at hne
      simp only [Recv.comeBack, g1, g2, List.nil_append]
      cases hl : s.asked.getLast? with
      | none => simp [List.getLast?_eq_none_iff] at hl; exact absurd hl hne
      | some c => exact ⟨c, List.mem_of_getLast? hl, by simp⟩
  · have hde : s.due.isEmpty = false := by simp [hd]
    simp only [StopSpec.onRead, Bool.not_true, Bool.false_eq_true, ↓reduceIte, hde]
    refine ⟨h1, by simp [Recv.comeBack], fun h => absurd h hd, ?_⟩
    intro _
    obtain ⟨c, hc, hh⟩ := h4 hd
    exact ⟨c, hc, by simp only [Recv.comeBack]; exact head_append_of_head hh _⟩

theorem stopRel_step (r : Recv) (s : StopSpec) (op : RecvOp) (h : StopRel r s) :
    StopRel (r.step op).1 (s.step op) := by
  have h' := h
  obtain ⟨h1, h2, h3, h4⟩ := h
  apply step_cases (P := fun op x => StopRel x.1 (s.step op)) r op
  case dead => intro ha; rw [StopSpec.step_dead (h1 ▸ ha)]; exact h'
  case pend =>
    intro ha
    rw [StopSpec.step_alive (h1 ▸ ha)]
    refine ⟨h1, rfl, fun hd => ?_, h4⟩
    obtain ⟨g1, g2, _⟩ := h3 hd
    exact ⟨g1, g2, nofun⟩
  case back =>
    intro ha ev o hev _
    rw [StopSpec.step_alive (h1 ▸ ha)]
    show StopRel r.comeBack (s.onRead ev.completed)
    rw [show ev.completed = true by cases ev <;> first | rfl | exact absurd rfl hev]
    exact stopRel_comeBack r s h'
  case bad =>
    intro ha c hc
    rw [StopSpec.step_alive (h1 ▸ ha)]
    simp only [StopSpec.onStop, if_pos hc]
    exact h'
  case now =>
    intro ha c hc hh
    have hf : s.inFlight = false := by rw [h2, hh]; rfl
    rw [StopSpec.step_alive (h1 ▸ ha)]
    simp only [StopSpec.onStop, if_neg (Nat.not_le.mpr hc)]
    by_cases hd : s.due = []
    · -- nothing was due: the stop is issued at once, and is due at once
      simp only [hd, hf, List.isEmpty_nil, Bool.not_true, Bool.false_eq_true, if_false]
      exact ⟨h1, by simp [hh], fun h => by simp at h, fun _ => ⟨c, by simp, by simp [(h3 hd).1]⟩⟩
    · simp only [show s.due.isEmpty = false by simp [hd], Bool.not_false, if_true]
      obtain ⟨c0, hc0, hh0⟩ := h4 hd
      exact ⟨h1, h2, fun h => absurd h hd, fun _ => ⟨c0, hc0, head_append_of_head hh0 _⟩⟩
  case later =>
    intro ha c hc hh
    have hf : s.inFlight = true := by rw [h2, hh]; rfl
    rw [StopSpec.step_alive (h1 ▸ ha)]
    simp only [StopSpec.onStop, if_neg (Nat.not_le.mpr hc)]
    by_cases hd : s.due = []
    · -- the read future has the stream: the code is remembered, by both
      simp only [hd, hf, List.isEmpty_nil, Bool.not_true, Bool.false_eq_true, if_false, if_true]
      exact ⟨h1, by simp [hh], fun _ => ⟨(h3 hd).1, by simp, by simp [hh]⟩, fun hne => absurd rfl hne⟩
    · simp only [show s.due.isEmpty = false by simp [hd], Bool.not_false, if_true]
      exact ⟨h1, h2, fun h => absurd h hd, h4⟩
  case ident => intro ha; rw [StopSpec.step_alive (h1 ▸ ha)]; exact h'
  case drop => intro ha; rw [StopSpec.step_alive (h1 ▸ ha)]; exact ⟨rfl, h2, h3, h4⟩

theorem stopRel_run (ops : List RecvOp) : ∀ r s, StopRel r s → StopRel (r.run ops).1 (s.run ops) := by
  induction ops with
  | nil => intro r s h; exact h
  | cons op ops ih =>
    intro r s h
    simp only [Recv.run, StopSpec.run]
    exact ih _ _ (stopRel_step r s op h)

theorem StopSpec.step_codes (s : StopSpec) (op : RecvOp) (c : Nat)
    (h : c ∈ (s.step op).due ++ (s.step op).asked) :
    c ∈ s.due ++ s.asked ∨ (c < 2^62 ∧ op = .stopSending c) := by
  cases ha : s.alive with
  | false => rw [StopSpec.step_dead ha] at h; exact .inl h
  | true =>
    rw [StopSpec.step_alive ha] at h
    cases op with
    | pollData ev =>
      simp only [StopSpec.onRead] at h
      split at h
      · exact .inl h  -- `Pending`: only `inFlight` changes
      · split at h
        · -- the read completed: what was asked becomes due
          rw [List.append_nil] at h
          exact .inl (List.mem_append_right _ h)
        · exact .inl h
    | stopSending c0 =>
      simp only [StopSpec.onStop] at h
      split at h
      · exact .inl h  -- no QUIC varint: refused
      · rename_i hc0
        have hnew : c = c0 → c < 2^62 ∧ RecvOp.stopSending c0 = .stopSending c :=
          fun e => by subst e; exact ⟨Nat.lt_of_not_le hc0, rfl⟩
        split at h
        · exact .inl h  -- a stop is due already: this one adds nothing
        · split at h
          · -- a read is in flight: `c0` joins `asked`
            simp only [List.mem_append, List.mem_singleton] at h ⊢
            rcases h with h | h | h
            · exact .inl (.inl h)
            · exact .inl (.inr h)
            · exact .inr (hnew h)
          · -- the stream is in hand: `c0` is due at once
            simp only [List.mem_append, List.mem_singleton] at h ⊢
            rcases h with h | h
            · exact .inr (hnew h)
            · exact .inl (.inr h)
    | recvId | drop => exact .inl h

/-- every code the specification holds was handed in, as a valid varint, by a `stop_sending` call -/
theorem stopSpec_codes (P : Nat → Prop) (ops : List RecvOp) : ∀ s : StopSpec,
    (∀ c ∈ s.due ++ s.asked, P c) → (∀ c, c < 2^62 → RecvOp.stopSending c ∈ ops → P c) →
    ∀ c ∈ (s.run ops).due ++ (s.run ops).asked, P c := by
  induction ops with
  | nil => intro s h _; exact h
  | cons op ops ih =>
    intro s h hp
    refine ih (s.step op) (fun c hc => ?_) (fun c hc hm => hp c hc (List.mem_cons_of_mem _ hm))
    rcases StopSpec.step_codes s op c hc with h1 | ⟨h1, rfl⟩
    · exact h c h1
    · exact hp c h1 (List.mem_cons_self ..)
/-- **C17, the code of `stop_sending` reaches Quinn (reading R-17: the adapter's documented behaviour,
    not the property's sentence about errors).** `StopSpec` is written from the caller's side: a
    stop is *due* — owed to the peer now — once `stop_sending(c)` was called with no read in flight,
    or once a read completed that was in flight when `stop_sending` was called. For EVERY sequence
    of operations on a fresh receive stream (`poll_data` with any behaviour of the read future,
    `stop_sending` with any code, `recv_id`, drop):
    1. while nothing is due the adapter has issued no `stop` on the Quinn stream (nothing invented);
    2. as soon as a stop is due, the FIRST `stop` the adapter issued on the Quinn stream — the one
       Quinn honours and tells the peer's writer — carries one of the due codes, and it has been
       issued by then: not "when the next read starts", not "never";
    3. every due or remembered code was handed in by a `stop_sending` call and is a QUIC varint.
    What is NOT owed (R-17, observation (a) of the unchanged adapter): a stop asked for during a
    read that never completes — the second example below; the peer then learns Quinn's implicit
    `STOP_SENDING(0)` when the stream is dropped (`stop_lost_on_drop`). -/
theorem C17_stop_code_reaches_quinn (id : Nat) (ops : List RecvOp) :
    let r := ((Recv.new id).run ops).1
    let s := StopSpec.run {} ops
    (s.due = [] → r.stops = []) ∧
    (s.due ≠ [] → ∃ c ∈ s.due, r.stops.head? = some c) ∧
    (∀ c ∈ s.due ++ s.asked, c < 2^62 ∧ RecvOp.stopSending c ∈ ops) := by
  have h0 : StopRel (Recv.new id) {} := ⟨rfl, rfl, fun _ => ⟨rfl, rfl, fun _ => rfl⟩, fun h => absurd rfl h⟩
  obtain ⟨_, _, h3, h4⟩ := stopRel_run ops _ _ h0
  refine ⟨fun h => (h3 h).1, h4, ?_⟩
  exact stopSpec_codes (fun c => c < 2^62 ∧ RecvOp.stopSending c ∈ ops) ops {} (by intro c hc; simp at hc)
    (fun c hc hm => ⟨hc, hm⟩)

-- non-vacuity: stop during a pending read, a further Pending poll, then the read completes: 9 is due and issued
example : (StopSpec.run {} [.pollData .pending, .stopSending 9, .recvId, .pollData .pending, .pollData .data]).due = [9] ∧
    ((Recv.new 4).run [.pollData .pending, .stopSending 9, .recvId, .pollData .pending, .pollData .data]).1.stops = [9] := by decide +kernel
-- the read never completes: nothing is due, nothing was issued (the code is lost: observation (a) of R-17)
example : (StopSpec.run {} [.pollData .pending, .stopSending 9, .drop]).due = [] ∧
    ((Recv.new 4).run [.pollData .pending, .stopSending 9, .drop]).1.stops = [] := by decide +kernel
-- on an idle stream the first of two stops is due (Quinn honours the first); of two stops during one
-- pending read either is accepted by the specification (the adapter issues the last one)
example : (StopSpec.run {} [.stopSending 1, .stopSending 2]).due = [1] := by decide +kernel
example : (StopSpec.run {} [.pollData .pending, .stopSending 1, .stopSending 2, .pollData .fin]).due = [1, 2] := by decide +kernel
/-- The seeded change "carry out the remembered stop when the NEXT read starts" (`seeded/C17-3`)
    as a variant of `pollData`: the stop is issued at the top of `poll_data` if the stream is in
    hand, completion only hands the stream back. After `Pending, stop_sending 9, data` the
    specification owes the peer 9 and this variant has issued nothing (clause 2 of the theorem is
    false for it); only a further read issues it. -/
def pollDataLate (r : Recv) (ev : ReadEv) : Recv :=
  let r := if r.here then { r with stops := r.stops ++ r.pendingStop.toList, pendingStop := none } else r
  match ev with
  | .pending => { r with here := false }
  | _ => { r with here := true }
example :
    let r := pollDataLate (stopSending (pollDataLate (Recv.new 4) .pending) 9).1 .data
    (StopSpec.run {} [.pollData .pending, .stopSending 9, .pollData .data]).due = [9] ∧
    r.stops = [] ∧ r.pendingStop = some 9 ∧ (pollDataLate r .pending).stops = [9] := by decide +kernel

/-- `convertConn` has a left inverse (so have the two stream-error tables, below). -/
def connSource : ConnErr → ConnectionError
  | .applicationClose c => .applicationClosed c
  | .undefined e => e
  | _ => .timedOut

theorem source_convertConn (e : ConnectionError) : connSource (convertConn e) = e := by
  cases e <;> rfl

def readSource : Option StreamErr → ReadError
  | some (.terminated c) => .reset c
  | some (.connection e) => .connectionLost (connSource e)
  | some (.unknown .closedStream) => .closedStream
  | some (.unknown .zeroRttRejected) => .zeroRttRejected
  | none => .illegalOrderedRead

def writeSource : StreamErr → WriteError
  | .terminated c => .stopped c
  | .connection e => .connectionLost (connSource e)
  | .unknown .closedStream => .closedStream
  | .unknown .zeroRttRejected => .zeroRttRejected

theorem source_convertRead (e : ReadError) : readSource (convertRead e) = e := by
  cases e <;> simp [convertRead, readSource, source_convertConn]

theorem source_convertWrite (e : WriteError) : writeSource (convertWrite e) = e := by
  cases e <;> simp [convertWrite, writeSource, source_convertConn]

theorem convertConn_inj : Function.Injective convertConn := Function.LeftInverse.injective source_convertConn

theorem convertRead_inj : Function.Injective convertRead := Function.LeftInverse.injective source_convertRead

theorem convertWrite_inj : Function.Injective convertWrite := Function.LeftInverse.injective source_convertWrite

/-- **C17, errors.** The four conditions of the property, each with its converse (nothing else
    lands in that class) and the code unchanged:
    * application close ⇔ `ApplicationClose{code}`, directly and through a read or a write error;
    * idle timeout ⇔ `Timeout`, likewise;
    * the peer's reset ⇔ `StreamTerminated{code}` on the read side;
    * the peer's stop ⇔ `StreamTerminated{code}` on the write side;
    and the only panicking arm is `IllegalOrderedRead`. -/
theorem C17_error_tables :
    (∀ e c, convertConn e = .applicationClose c ↔ e = .applicationClosed c) ∧
    (∀ e, convertConn e = .timeout ↔ e = .timedOut) ∧
    (∀ e c, convertRead e = some (.terminated c) ↔ e = .reset c) ∧
    (∀ e c, convertWrite e = .terminated c ↔ e = .stopped c) ∧
    (∀ e c, convertRead e = some (.connection (.applicationClose c)) ↔ e = .connectionLost (.applicationClosed c)) ∧
    (∀ e c, convertWrite e = .connection (.applicationClose c) ↔ e = .connectionLost (.applicationClosed c)) ∧
    (∀ e, convertRead e = some (.connection .timeout) ↔ e = .connectionLost .timedOut) ∧
    (∀ e, convertWrite e = .connection .timeout ↔ e = .connectionLost .timedOut) ∧
    (∀ e, convertRead e = none ↔ e = .illegalOrderedRead) ∧
    (∀ e, convertConn e ≠ .internalError) := by
  exact ⟨fun _ _ => convertConn_inj.eq_iff' rfl, fun _ => convertConn_inj.eq_iff' rfl,
    fun _ _ => convertRead_inj.eq_iff' rfl, fun _ _ => convertWrite_inj.eq_iff' rfl,
    fun _ _ => convertRead_inj.eq_iff' rfl, fun _ _ => convertWrite_inj.eq_iff' rfl,
    fun _ => convertRead_inj.eq_iff' rfl, fun _ => convertWrite_inj.eq_iff' rfl,
    fun _ => convertRead_inj.eq_iff' rfl, fun e => by cases e <;> simp [convertConn]⟩

/-- The model's tables are the `match` arms of the three conversion functions in the current
    `h3-quinn/src/lib.rs` (re-extracted on every run into `H3.Gen.QuinnTables`): the same variants
    (each exactly once), the same target class, the same treatment of the carried code. -/
theorem C17_tables_match_source :
    ((∀ p ∈ H3.Gen.QuinnTables.connTable, p ∈ connTable) ∧ (∀ p ∈ connTable, p ∈ H3.Gen.QuinnTables.connTable)) ∧
    ((∀ p ∈ H3.Gen.QuinnTables.readTable, p ∈ readTable) ∧ (∀ p ∈ readTable, p ∈ H3.Gen.QuinnTables.readTable)) ∧
    ((∀ p ∈ H3.Gen.QuinnTables.writeTable, p ∈ writeTable) ∧ (∀ p ∈ writeTable, p ∈ H3.Gen.QuinnTables.writeTable)) ∧
    H3.Gen.QuinnTables.connTable.length = allConnectionErrors.length ∧
    H3.Gen.QuinnTables.readTable.length = allReadErrors.length ∧
    H3.Gen.QuinnTables.writeTable.length = allWriteErrors.length := by
  decide +kernel

example : convertConn (.applicationClosed 0x10c) = .applicationClose 0x10c := rfl
example : convertRead (.reset (2^62 - 1)) = some (.terminated (2^62 - 1)) := rfl
example : convertWrite (.connectionLost .locallyClosed) = .connection (.undefined .locallyClosed) := rfl

theorem ubAdvance_view (b : List Bytes) (k : Nat) : ubView (ubAdvance b k) = (ubView b).drop k := by
  fun_induction ubAdvance b k with
  | case1 => simp [ubView]
  | case2 p r k hk =>
    simp only [ubView, List.flatten_cons]
    rw [List.drop_append_of_le_length (by omega)]
  | case3 p r k hk ih =>
    simp only [ubView, List.flatten_cons] at ih ⊢
    rw [ih, List.drop_append, List.drop_eq_nil_of_le (Nat.le_of_not_lt hk), List.nil_append]

theorem ubChunk_spec (b : List Bytes) :
    (∃ t, ubView b = ubChunk b ++ t) ∧ (ubView b ≠ [] → ubChunk b ≠ []) := by
  fun_induction ubChunk b with
  | case1 => exact ⟨⟨[], rfl⟩, id⟩
  | case2 p r hp ih => cases List.eq_nil_of_length_eq_zero hp; exact ih  -- `[] ++ r.flatten` is `r.flatten`
  | case3 p r hp => exact ⟨⟨r.flatten, rfl⟩, fun _ hh => hp (by rw [hh]; rfl)⟩

theorem ubChunk_ne : ∀ (b : List Bytes), ubView b ≠ [] → ubChunk b ≠ [] := fun b => (ubChunk_spec b).2
/-- **C17, one `poll_send`.** On a stream without an unfinished framed write, for every caller
    buffer (any number of chunks) and every answer of Quinn's `poll_write`: the accepted bytes are
    the front of what the buffer yielded, in order, once, the buffer has been advanced by exactly
    their number, and that number is what the caller is told (never more than Quinn was offered);
    `Pending` and errors leave the buffer untouched and accept nothing, the error being Quinn's
    write error through `convert_write_error_to_stream_error`.  While a framed write is unfinished
    the call is refused: nothing accepted, buffer untouched (no interleaving). -/
theorem C17_poll_send (s : Send) (buf : List Bytes) (a : Accept) :
    let o := pollSend s buf a
    (o.acc ++ ubView o.buf = ubView buf) ∧ (ubView o.buf = (ubView buf).drop o.acc.length) ∧
    (s.writing = none →
      (∀ k, o.res = .ok k → k = o.acc.length ∧ k ≤ (ubChunk buf).length ∧ (a = .ok k ∨ ∃ k', a = .ok k' ∧ k ≤ k')) ∧
      (∀ k, a = .ok k → o.res = .ok (min k (ubChunk buf).length)) ∧
      (a = .pending → o = ⟨buf, .pending, []⟩) ∧
      (∀ e, a = .err e → o = ⟨buf, .err (convertWrite e), []⟩)) ∧
    (s.writing ≠ none → o = ⟨buf, .refused, []⟩) := by
  cases hs : s.writing with
  | some d =>
    simp [pollSend, hs]
  | none =>
    cases a with
    | pending | err e => simp [pollSend, hs]
    | ok k =>
      simp only [pollSend, hs]
      obtain ⟨t, ht⟩ := (ubChunk_spec buf).1
      have hle : min k (ubChunk buf).length ≤ (ubChunk buf).length := Nat.min_le_right _ _
      have hlen : ((ubChunk buf).take (min k (ubChunk buf).length)).length = min k (ubChunk buf).length := by
        simp
      refine ⟨?_, ?_, ?_, ?_⟩
      · rw [ubAdvance_view, ht]; exact take_chunk _ t hle
      · rw [ubAdvance_view, hlen]
      · intro _
        refine ⟨?_, ?_, ?_, ?_⟩
        · intro k' hk'
          simp only [SendOut.ok.injEq] at hk'
          subst hk'
          refine ⟨hlen.symm, hle, ?_⟩
          by_cases hkk : k ≤ (ubChunk buf).length
          · left; rw [Nat.min_eq_left hkk]
          · right; exact ⟨k, rfl, Nat.min_le_left _ _⟩
        · intro k' hk'; cases hk'; rfl
        · intro h; cases h
        · intro e h; cases h
      · intro h; exact absurd rfl h

theorem sendAll_spec (script : List Accept) (buf : List Bytes) :
    let o := sendAll ⟨none⟩ buf script
    o.acc ++ ubView o.buf = ubView buf ∧ (o.res = .done ↔ ubView o.buf = []) ∧ o.res ≠ .refused ∧
    ∃ c, script = c ++ o.rest ∧ ErrLast c (fun e => o.res = .err (convertWrite e)) := by
  induction script generalizing buf with
  | nil =>
    unfold sendAll
    split <;> rename_i h0 <;> rw [List.length_eq_zero_iff] at h0
    · exact ⟨by simp, by simp [h0], by simp, [], rfl, .nil⟩
    · exact ⟨by simp, by simp [h0], by simp, [], rfl, .nil⟩
  | cons a r ih =>
    unfold sendAll
    split <;> rename_i h0 <;> rw [List.length_eq_zero_iff] at h0
    · exact ⟨by simp, by simp [h0], by simp, [], rfl, .nil⟩
    · cases a with
      | pending =>
        simp only [pollSend]
        obtain ⟨i1, i3, i4, c, i5, i6⟩ := ih buf
        exact ⟨i1, i3, i4, .pending :: c, by simp [← i5], .cons (by simp) i6⟩
      | err e =>
        simp only [pollSend]
        exact ⟨by simp, by simp [h0], by simp, [.err e], rfl, .single rfl⟩
      | ok k =>
        have p1 := (C17_poll_send ⟨none⟩ buf (.ok k)).1
        simp only [pollSend] at p1 ⊢
        obtain ⟨i1, i3, i4, c, i5, i6⟩ := ih (ubAdvance buf (min k (ubChunk buf).length))
        refine ⟨?_, i3, i4, .ok k :: c, by simp [← i5], .cons (by simp) i6⟩
        rw [List.append_assoc, i1]; exact p1

/-- **C17, the unframed write loop.** `while buf.has_remaining() { ready!(poll_send(cx, buf))? }`
    on a stream without an unfinished framed write, for every caller buffer and every acceptance
    script (any pattern of `Pending`, partial acceptances and errors):
    1. the bytes Quinn accepted, followed by what the buffer still yields, are what it yielded at
       the start: accepted in order, each once, nothing skipped, and the buffer was advanced by
       exactly the number of accepted bytes;
    2. the loop is done ⇔ the buffer is empty ⇔ everything was accepted;
    3. the `poll_write` calls made are a prefix of the script in which an error answer is the last
       call and is the result (through `convert_write_error_to_stream_error`). -/
theorem C17_poll_send_loop (buf : List Bytes) (script : List Accept) :
    let o := sendAll ⟨none⟩ buf script
    (o.acc ++ ubView o.buf = ubView buf) ∧ (ubView o.buf = (ubView buf).drop o.acc.length) ∧
    (o.res = .done ↔ ubView o.buf = []) ∧ (o.res = .done ↔ o.acc = ubView buf) ∧
    (∃ c, script = c ++ o.rest ∧
      ∀ pre e post, c = pre ++ .err e :: post → post = [] ∧ o.res = .err (convertWrite e)) := by
  obtain ⟨h1, h3, _, h4⟩ := sendAll_spec script buf
  refine ⟨h1, by rw [← h1, List.drop_left], h3, ?_, h4⟩
  rw [h3, ← h1]; simp

/-- **C17, `poll_send` while a framed write is unfinished** is refused with the internal error, as a
    second `send_data` is: nothing is handed to Quinn and the caller's buffer is untouched — the
    two writes are never interleaved, and the answer is a refusal, not the panic of D-17b. -/
theorem C17_poll_send_refused (d : WriteBuf) (buf : List Bytes) (a : Accept) (script : List Accept) :
    pollSend ⟨some d⟩ buf a = ⟨buf, .refused, []⟩ ∧
    (ubView buf ≠ [] → script ≠ [] → (sendAll ⟨some d⟩ buf script).res = .refused ∧
      (sendAll ⟨some d⟩ buf script).acc = [] ∧ (sendAll ⟨some d⟩ buf script).buf = buf) := by
  refine ⟨rfl, ?_⟩
  intro hne hs
  cases script with
  | nil => exact absurd rfl hs
  | cons a r =>
    have h0 : ¬ (ubView buf).length = 0 := fun h => hne (List.eq_nil_of_length_eq_zero h)
    unfold sendAll
    rw [if_neg h0]
    simp [pollSend]

-- non-vacuity: a two-chunk buffer `aa bb | cc dd ee`; Quinn takes 1, then is offered only `bb`
-- (the chunk ends there) although it would take 5, says Pending, takes 2, errors are last
example : sendAll ⟨none⟩ [[0xaa, 0xbb], [0xcc, 0xdd, 0xee]] [.ok 1, .ok 5, .pending, .ok 2, .ok 9, .ok 1] =
    ⟨[], .done, [0xaa, 0xbb, 0xcc, 0xdd, 0xee], [.ok 1]⟩ := by decide +kernel
example : sendAll ⟨none⟩ [[0xaa, 0xbb], [0xcc, 0xdd, 0xee]] [.ok 3, .err (.stopped 9), .ok 1] =
    ⟨[[0xcc, 0xdd, 0xee]], .err (.terminated 9), [0xaa, 0xbb], [.ok 1]⟩ := by decide +kernel
example : pollSend ⟨none⟩ [[], [0xaa, 0xbb], [0xcc]] (.ok 1) = ⟨[[0xbb], [0xcc]], .ok 1, [0xaa]⟩ := by decide +kernel
/-- D-17b on the unrepaired `poll_send`: a framed write is pending (`send_data`, then `poll_ready`
    returned `Pending`) and the next unframed write panics; repaired, it is refused. -/
example : (pollSendUnrepaired (pollReady ⟨some (WriteBuf.new [0x00, 0x05] [1, 2, 3, 4, 5])⟩ [.ok 1, .pending]).state
    [[0xaa]] (.ok 1)).res = .panic := by decide +kernel
example : (pollSend (pollReady ⟨some (WriteBuf.new [0x00, 0x05] [1, 2, 3, 4, 5])⟩ [.ok 1, .pending]).state
    [[0xaa]] (.ok 1)) = ⟨[[0xaa]], .refused, []⟩ := by decide +kernel

theorem bidi_run_split (ops : List BidiOp) (b : Bidi) :
    (b.run ops).1.sendId = b.sendId ∧ (b.run ops).1.send = sendHalfRun b.send ops ∧
    (b.run ops).1.recv = (b.recv.run (recvHalfOps ops)).1 := by
  induction ops generalizing b with
  | nil => exact ⟨rfl, rfl, rfl⟩
  | cons op ops ih =>
    cases op <;> simp only [Bidi.run, sendHalfRun, recvHalfOps, Recv.run] <;> exact ih _

theorem bidi_step_ids (b : Bidi) (op : BidiOp) :
    (b.step op).1.sendId = b.sendId ∧ (b.step op).1.recv.id = b.recv.id ∧
    (∀ n, (b.step op).2 = .id n → n = b.sendId) ∧ (∀ n, (b.step op).2 = .recv (.id n) → n = b.recv.id) := by
  cases op with
  | recv rop => exact ⟨rfl, step_id _ _, nofun, fun n h => step_out_id (BidiOut.recv.inj h)⟩
  | sendData d | pollReady sc => exact ⟨rfl, rfl, nofun, nofun⟩
  | sendId => exact ⟨rfl, rfl, fun n h => (BidiOut.id.inj h).symm, nofun⟩

theorem bidi_run_ids (id : Nat) (ops : List BidiOp) (b : Bidi) (hs : b.sendId = id) (hr : b.recv.id = id) :
    ∀ o ∈ (b.run ops).2, (∀ n, o = .id n → n = id) ∧ (∀ n, o = .recv (.id n) → n = id) := by
  induction ops generalizing b with
  | nil => intro o ho; simp [Bidi.run] at ho
  | cons op ops ih =>
    obtain ⟨h1, h2, h3, h4⟩ := bidi_step_ids b op
    intro o ho
    simp only [Bidi.run, List.mem_cons] at ho
    rcases ho with rfl | ho
    · exact ⟨fun n h => hs ▸ h3 n h, fun n h => hr ▸ h4 n h⟩
    · exact ih _ (h1.trans hs) (h2.trans hr) o ho

/-- **C17, the unsplit `BidiStream` only delegates.** For a stream freshly opened or accepted with
    id `id` and any sequence of operations through the unsplit stream (`poll_data` with any read
    event, `stop_sending`, `recv_id`, `send_data`, `poll_ready` against any script, `send_id`):
    every `send_id` and every `recv_id` answer along the way is `id`, and `split` afterwards yields
    exactly the halves that the same operations, applied to a send half and a receive half
    separately, would have produced — so both halves still answer `id`, a pending framed write
    stays pending, a remembered stop stays remembered. -/
theorem C17_bidi_delegation (id : Nat) (ops : List BidiOp) :
    let b := ((Bidi.new id).run ops).1
    (∀ o ∈ ((Bidi.new id).run ops).2, (∀ n, o = .id n → n = id) ∧ (∀ n, o = .recv (.id n) → n = id)) ∧
    b.split = ((id, sendHalfRun ⟨none⟩ ops), ((Recv.new id).run (recvHalfOps ops)).1) ∧
    b.split.1.1 = id ∧ recvId b.split.2 = .id id := by
  obtain ⟨s1, s2, s3⟩ := bidi_run_split ops (Bidi.new id)
  refine ⟨bidi_run_ids id ops (Bidi.new id) rfl rfl, ?_, s1, ?_⟩
  · simp only [Bidi.split, s1, s2, s3]; rfl
  · simp only [Bidi.split, s3]
    exact congrArg RecvOut.id (run_id (recvHalfOps ops) (Recv.new id))

example : ((Bidi.new 4).run [.sendId, .recv (.pollData .pending), .recv .recvId, .sendData (WriteBuf.new [0, 1] [9]),
      .pollReady [.ok 1, .pending], .sendId, .recv (.stopSending 7), .recv .recvId]).2 =
    [.id 4, .recv .pending, .recv (.id 4), .send .ok, .ready .pending, .id 4, .recv .unit, .recv (.id 4)] := by decide +kernel
example : ((Bidi.new 4).run [.recv (.pollData .pending), .sendData (WriteBuf.new [0, 1] [9]), .pollReady [.ok 1, .pending],
      .recv (.stopSending 7)]).1.split =
    ((4, ⟨some ⟨[0, 1], 1, [9]⟩⟩), ⟨4, false, some 7, [], true⟩) := by decide +kernel

theorem opener_run_handed (steps : List OpenStep) : ∀ o : Opener,
    handedOut (o.run steps).2 = created steps := by
  induction steps with
  | nil => intro o; rfl
  | cons st r ih =>
    intro o
    simp only [Opener.run, created]
    -- either call, each answer: only `ok id` hands a stream out, and `created` counts exactly those
    cases hb : st.bidi <;> cases hev : st.ev <;>
      simp [Opener.step, hb, hev, pollOpenBidi, pollOpenSend, handedOut, Bidi.new, Recv.new, ih]

/-- **C17, opening through the adapter neither duplicates nor drops a stream.** For every opener
    (`Connection`, `opener()`, a clone — all start the same) and every sequence of `poll_open_bidi` /
    `poll_open_send` calls against whatever Quinn's `open_bi()` / `open_uni()` futures do (not yet,
    a stream, the connection's error, in any pattern):
    1. the streams handed to the caller are exactly the streams Quinn created, in order, each once,
       under the id Quinn gave them — for a bidirectional one *both* halves carry that id;
    2. `Pending` hands out nothing and an error of the connection arrives as
       `StreamErrorIncoming::ConnectionErrorIncoming` with the class `convert_connection_error` gives
       (application close and its code, timeout, otherwise undefined);
    3. a clone shares nothing with its original but the connection (no future, no stream).
    (That Quinn's ids are fresh and that a stream exists only when its future completes is Quinn's:
    observed by the correspondence run, where the raw peer accepts every opened stream once.) -/
theorem C17_open_no_dup_no_drop (steps : List OpenStep) (o : Opener) :
    handedOut (o.run steps).2 = created steps ∧
    (∀ ev, (pollOpenBidi o ev).2 = .pending ↔ ev = .pending) ∧
    (∀ ev, (pollOpenSend o ev).2 = .pending ↔ ev = .pending) ∧
    (∀ e, (pollOpenBidi o (.err e)).2 = .err (.connection (convertConn e)) ∧
          (pollOpenSend o (.err e)).2 = .err (.connection (convertConn e)) ∧
          pollAcceptBidi (.err e) = .err (convertConn e) ∧ pollAcceptRecv (.err e) = .err (convertConn e)) ∧
    (∀ id, (pollOpenBidi o (.ok id)).2 = .bidi (Bidi.new id) ∧ (Bidi.new id).sendId = id ∧
          recvId (Bidi.new id).recv = .id id ∧ pollAcceptBidi (.ok id) = .bidi (Bidi.new id) ∧
          pollAcceptRecv (.ok id) = .recv (Recv.new id)) ∧
    o.clone = Opener.new := by
  refine ⟨opener_run_handed steps o, ?_, ?_, ?_, ?_, rfl⟩
  · intro ev; cases ev <;> simp [pollOpenBidi]
  · intro ev; cases ev <;> simp [pollOpenSend]
  · intro e; exact ⟨rfl, rfl, rfl, rfl⟩
  · intro id; exact ⟨rfl, rfl, rfl, rfl, rfl⟩

example : handedOut (Opener.new.run [⟨true, .pending⟩, ⟨true, .ok 0⟩, ⟨false, .ok 2⟩, ⟨true, .pending⟩,
      ⟨true, .err (.applicationClosed 0x10c)⟩, ⟨true, .ok 4⟩]).2 = [0, 2, 4] := by decide +kernel
example : (pollOpenBidi Opener.new (.err (.applicationClosed 0x10c))).2 =
    .err (.connection (.applicationClose 0x10c)) := rfl

/-- **C17, `close(code, reason)`.** Quinn's `close` is called with exactly `code` (every code a QUIC
    varint can carry) and exactly `reason`; a code beyond 2^62−1 is the documented `expect` panic. -/
theorem C17_close_code_exact (code : Nat) (reason : Bytes) :
    (code < 2^62 → closeArgs code reason = some (code, reason)) ∧
    (¬ code < 2^62 → closeArgs code reason = none) := by
  unfold closeArgs closeArg
  constructor
  · intro h; rw [if_pos h]
  · intro h; rw [if_neg h]

example : closeArgs 0x10c [104, 105] = some (0x10c, [104, 105]) := by decide +kernel

/-- **C17, the conversion tables are total and lose nothing.** The three conversion functions of
    `h3-quinn/src/lib.rs`, arm by arm, for *every* value of Quinn's error types (the one panic is
    `IllegalOrderedRead`; no arm builds `InternalError`), and all three are injective: the h3
    error determines Quinn's condition and the peer's code. -/
theorem C17_error_tables_total :
    (∀ e, convertConn e = (match e with
        | .applicationClosed c => .applicationClose c
        | .timedOut => .timeout
        | x => .undefined x)) ∧
    (∀ e, convertRead e = (match e with
        | .reset c => some (.terminated c)
        | .connectionLost x => some (.connection (convertConn x))
        | .closedStream => some (.unknown .closedStream)
        | .zeroRttRejected => some (.unknown .zeroRttRejected)
        | .illegalOrderedRead => none)) ∧
    (∀ e, convertWrite e = (match e with
        | .stopped c => .terminated c
        | .connectionLost x => .connection (convertConn x)
        | .closedStream => .unknown .closedStream
        | .zeroRttRejected => .unknown .zeroRttRejected)) ∧
    (∀ a b, convertConn a = convertConn b → a = b) ∧
    (∀ a b, convertRead a = convertRead b → a = b) ∧
    (∀ a b, convertWrite a = convertWrite b → a = b) := by
  exact ⟨fun e => by cases e <;> rfl, fun e => by cases e <;> rfl, fun e => by cases e <;> rfl,
    convertConn_inj, convertRead_inj, convertWrite_inj⟩

example : convertConn .connectionClosed = .undefined .connectionClosed := rfl
example : convertConn .reset = .undefined .reset := rfl
example : convertRead .zeroRttRejected = some (.unknown .zeroRttRejected) := rfl

/-- **C17, datagram errors.** `send_datagram`: unsupported by the peer / disabled locally ⇔
    `NotAvailable`, too large ⇔ `TooLarge`, a lost connection ⇒ `ConnectionError` with the class
    and code `convert_connection_error` gives (`convert_h3_error_to_datagram_error` is the identity). -/
theorem C17_datagram_tables :
    (∀ e, convertH3ToDatagram e = e) ∧
    (∀ e, convertSendDatagram e = .notAvailable ↔ e = .unsupportedByPeer ∨ e = .disabled) ∧
    (∀ e, convertSendDatagram e = .tooLarge ↔ e = .tooLarge) ∧
    (∀ e x, convertSendDatagram e = .connection x ↔ ∃ q, e = .connectionLost q ∧ x = convertConn q) ∧
    (∀ e c, convertSendDatagram e = .connection (.applicationClose c) ↔ e = .connectionLost (.applicationClosed c)) ∧
    (∀ e, convertSendDatagram e = .connection .timeout ↔ e = .connectionLost .timedOut) := by
  have hid : ∀ e, convertH3ToDatagram e = e := by intro e; cases e <;> rfl
  have h4 : ∀ e x, convertSendDatagram e = .connection x ↔ ∃ q, e = .connectionLost q ∧ x = convertConn q := by
    intro e x
    cases e <;> simp [convertSendDatagram, hid]
    exact eq_comm
  -- the last two clauses are the fourth at `x = convertConn q0`, `convertConn` being injective
  have h5 : ∀ e q0, convertSendDatagram e = .connection (convertConn q0) ↔ e = .connectionLost q0 := fun e q0 =>
    (h4 e _).trans ⟨fun ⟨_, he, hq⟩ => he.trans (congrArg _ (convertConn_inj hq).symm), fun h => ⟨q0, h, rfl⟩⟩
  refine ⟨hid, ?_, ?_, h4, fun e c => h5 e (.applicationClosed c), fun e => h5 e .timedOut⟩
  · intro e; cases e <;> simp [convertSendDatagram]
  · intro e; cases e <;> simp [convertSendDatagram]

example : convertSendDatagram (.connectionLost (.applicationClosed 0x33)) = .connection (.applicationClose 0x33) := rfl

/-- The remaining generated tables agree with the model: the two conversion functions of
    `datagram.rs`, the arms that wrap the error they matched, and — for every method of every `impl`
    block of `lib.rs` and `datagram.rs` — which conversion it applies, which error it builds itself,
    where it can panic and what it delegates to (so the model's reading "the accept paths use
    `convert_connection_error`, the open paths wrap it into a stream error, `poll_ready` and
    `poll_send` use the write table, `poll_data` the read table, the unsplit stream only
    delegates, `poll_send` and `send_data` refuse with the internal error and nothing but the listed
    `expect`s can panic" is re-checked against the source on every run). -/
theorem C17_sites_match_source :
    H3.Gen.QuinnTables.dgSendTable = dgSendTable ∧ H3.Gen.QuinnTables.dgConnTable = dgConnTable ∧
    ((∀ p ∈ H3.Gen.QuinnTables.wrapTable, p ∈ wrapTable) ∧ (∀ p ∈ wrapTable, p ∈ H3.Gen.QuinnTables.wrapTable)) ∧
    H3.Gen.QuinnTables.wrapTable.length = wrapTable.length ∧
    H3.Gen.QuinnTables.siteTable = siteTable :=
  -- the ordered tables by `rfl` (`decide` compares every string character by character); `wrapTable` as a set
  ⟨rfl, rfl, by decide +kernel, rfl, rfl⟩

/-- `SendDatagramHandler::send_datagram` hands Quinn `buf.copy_to_bytes(buf.remaining())`: `remaining()` bytes read
    chunk after chunk (the default `copy_to_bytes` is `put(self.take(len))`). -/
def handedToQuinn (e : H3.Datagram.EncM) : Bytes := H3.Datagram.drainM (e.remaining + 1) e

/-- **What Quinn is handed is the whole datagram, however the caller's payload `Buf` is chunked.** For every request
    stream id below 2^62 divisible by four and every payload given as any list of non-empty chunks, the `Bytes` passed to
    `quinn::Connection::send_datagram` is `varint(sid/4) ‖ payload` (the model's `datagramWire`), and its length is the
    `remaining()` the adapter asked for - so Quinn's verdict `TooLarge` (length > `max_datagram_size()`, a parameter of
    the environment) is a verdict on the whole encoded datagram, never on a prefix of it. -/
theorem C17_datagram_handed_whole (sid : Nat) (hs : sid < 2^62) (h4 : sid % 4 = 0)
    (cs : List Bytes) (hne : ∀ c ∈ cs, c ≠ []) :
    handedToQuinn (H3.Datagram.encodeM sid cs) = datagramWire (H3.Varint.encode (sid / 4)) cs.flatten ∧
    (handedToQuinn (H3.Datagram.encodeM sid cs)).length = (H3.Datagram.encodeM sid cs).remaining := by
  obtain ⟨_, _, hr, _, hd, _⟩ := H3.Props.C18.C18_payload_chunking_independent sid hs h4 cs hne
  refine ⟨by simpa [handedToQuinn, datagramWire] using hd, ?_⟩
  rw [handedToQuinn, hd, hr]

example : handedToQuinn (H3.Datagram.encodeM 8 [[1, 2], [3]]) = [2, 1, 2, 3] := by decide +kernel

end H3.Props.C17
