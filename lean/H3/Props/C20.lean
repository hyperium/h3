import H3.Lemmas.DynPartial
/-! # C20 — the stateful QPACK encoder and decoder stay in agreement

Model: `H3.Model.Dyn` (tables, encoder, decoder), `H3.Model.DynSys` (the connected system: `step`
over `encode | deliverEnc | deliverBlock | deliverAck | setCapacity | cancel`, `run` over a history).
Oracle: `H3.Spec.Dyn` (abstract table = all insertions + eviction count + capacity).
The theorems with a history `evs` quantify over every capacity, blocked-stream limit and history (induction over the
event list); `run s0 evs = some s` says `evs` was not ended by an error. The two `_prefix_` theorems are arithmetic about
`HeaderPrefix` alone, `C20_cut_delivery_partial` speaks of one delivery in any state, the `_witness` theorems evaluate
concrete histories. -/
namespace H3.Props.C20
open H3.Dyn
open H3.Spec.Dyn (STable size)

def Accounting (t : Table) : Prop :=
  t.currSize = size t.fields ∧ t.currSize ≤ t.maxSize ∧ t.maxSize ≤ 2 ^ 30 - 1 ∧
  t.vas.dropped ≤ t.vas.inserted ∧ t.vas.inserted - t.vas.dropped = t.fields.length ∧
  t.vas.delta = t.fields.length

private theorem accounting_of_abs {t : Table} {st : STable} (h : Abs t st) (hc : st.cap ≤ 1073741823) :
    Accounting t := by
  have := h.length
  refine ⟨h.curr, h.cap, by rw [h.max]; omega, by rw [h.drp, h.ins]; exact h.le, by rw [h.drp, h.ins]; omega, h.delta⟩

/-- **Capacity invariant.** After every history, in both tables: `curr_size` is the sum of the
    entry sizes and at most `max_size` (itself at most 2^30−1, so no `usize` addition wraps);
    `inserted − dropped` = number of entries = `delta`, and `dropped ≤ inserted` (no underflow).
    Moreover no operation of the encoder side or of the instruction streams (`encode`,
    `on_encoder_recv`, `on_decoder_recv`, `set_dynamic_table_size`, cancellation) can reach one of
    the panic sites (checked subtraction, `unwrap`, `assert!`, `% 0`) from a reachable state. -/
theorem C20_capacity_invariant (cap bl : Nat) (evs : List Event) (s0 s : Sys)
    (h0 : Sys.init cap bl = .ok s0) (hr : run s0 evs = some s) :
    Accounting s.enc ∧ Accounting s.dec ∧
    ∀ ev, (∀ sid, ev ≠ .deliverBlock sid) → ∀ p, step s ev ≠ .panic p := by
  obtain ⟨stE, stD, h⟩ := run_inv h0 hr
  have hc : cap ≤ 1073741823 := (init_spec h0).2
  have hcE := STable.run_cap_le h.enc.run (by simpa [initST] using hc)
  have hcD := STable.run_cap_le h.decRun (by simpa [initST] using hc)
  exact ⟨accounting_of_abs h.enc.abs hcE, accounting_of_abs h.decAbs hcD, step_no_panic h⟩

/-- the blocks of a stream whose reference map the encoder still tracks (not yet released by a
    Section Acknowledgement or Stream Cancellation it has processed) -/
def unreleased (s : Sys) (sid : Nat) : List BlockRec :=
  ((s.stream sid).done ++ (s.stream sid).todo).drop (s.stream sid).npop

/-- **No eviction of referenced entries.** In every reachable state
    (1) the reference count of every absolute index equals the sum of the references recorded for
        the outstanding (tracked) blocks;
    (2) the tracked blocks of a stream are exactly the blocks emitted on it that have not been
        released by an acknowledgement/cancellation the encoder has processed, in order;
    (3) every entry with a positive reference count is still in the table (not evicted), and so is
        every entry referenced by a representation of an unreleased block;
    (4) a step never evicts an entry whose reference count is positive before the step. -/
theorem C20_no_evict_referenced (cap bl : Nat) (evs : List Event) (s0 s : Sys)
    (h0 : Sys.init cap bl = .ok s0) (hr : run s0 evs = some s) :
    (∀ a, cnt s.enc.trackMap a = total s.enc.trackBlocks a) ∧
    (∀ sid, (aget s.enc.trackBlocks sid).getD [] = (unreleased s sid).map (·.refMap)) ∧
    (∀ a, 0 < cnt s.enc.trackMap a → s.enc.vas.dropped < a ∧ a ≤ s.enc.vas.inserted) ∧
    (∀ sid, ∀ b ∈ unreleased s sid, ∀ a ∈ b.refs, 0 < cnt s.enc.trackMap a ∧ s.enc.vas.dropped < a) ∧
    (∀ ev s' out, step s ev = .ok (s', out) → ∀ a, 0 < cnt s.enc.trackMap a → s'.enc.vas.dropped < a) := by
  obtain ⟨stE, stD, h⟩ := run_inv h0 hr
  have h3 := h.enc.track.live
  refine ⟨fun a => by simpa using h.enc.track.sum a, fun sid => by rw [h.queues sid, getD_qOf]; rfl, h3, ?_, ?_⟩
  · intro sid b hb a ha
    -- `a` is referenced by a representation, hence counted in the block's map, hence in `track_map`
    have hbk : BlockOK stE.all b := h.blocks sid b (List.mem_of_mem_drop hb)
    obtain ⟨r, hr1, hr2⟩ := List.mem_filterMap.mp ha
    obtain ⟨hpos, _⟩ := h.unreleased_live hb (hbk.refs r hr1 a hr2).1
    exact ⟨hpos, (h3 a hpos).1⟩
  · intro ev s' out hs a ha
    have hl := h3 a ha
    cases ev with
    | encode sid fields =>
      obtain ⟨enc, stE', hi, hf, he, _⟩ := step_encode_inv h hs
      have hpos : 0 < cnt s'.enc.trackMap a := by rw [he]; exact Nat.lt_of_lt_of_le ha (hf.mono a)
      exact (hi.enc.track.live a hpos).1
    | deliverEnc k =>
      obtain ⟨s2, out2, stD', h2', _, he, _⟩ := step_deliverEnc_ok h k
      cases Res.ok_inj h2' hs; rw [he]; exact hl.1
    | deliverBlock sid => rw [(step_deliverBlock_inv h hs).2.1]; exact hl.1
    | deliverAck k =>
      rcases step_deliverAck_inv h k with ⟨e, he⟩ | ⟨s2, out2, h2', _, hc, _⟩
      · rw [he] at hs; cases hs
      · cases Res.ok_inj h2' hs; rw [hc]; exact hl.1
    | setCapacity c =>
      -- `set_max_size` leaves `track_map` alone, and the invariant holds afterwards
      rcases step_setCapacity_inv h c with ⟨e, he⟩ | ⟨s2, out2, stE', h2', hi, htm⟩
      · rw [he] at hs; cases hs
      · cases Res.ok_inj h2' hs
        exact (hi.enc.track.live a (by rw [htm]; exact ha)).1
    | cancel sid =>
      obtain ⟨s2, out2, h2', _, he⟩ := step_cancel_inv h sid
      cases Res.ok_inj h2' hs; rw [he]; exact hl.1

/-- contents and counters of a table (what `C20_tables_agree` compares) -/
def core (t : Table) : List Field × Nat × Nat × Vas := (t.fields, t.currSize, t.maxSize, t.vas)

/-- **Tables agree.** Both tables are images of the oracle's abstract table under the same
    instruction log: the encoder's after *all* instructions emitted so far, the decoder's after the
    first `encDel` of them (those it has processed). Consequently (second part) whenever the decoder
    has processed exactly the instructions the encoder had emitted at some earlier point of the
    history, its table equals the encoder's table of that moment: entries, sizes and counters. -/
theorem C20_tables_agree (cap bl : Nat) (evs : List Event) (s0 s : Sys)
    (h0 : Sys.init cap bl = .ok s0) (hr : run s0 evs = some s) :
    (∃ stE stD, (initST cap).run s.encQ = some stE ∧ Abs s.enc stE ∧
       (initST cap).run (s.encQ.take s.encDel) = some stD ∧ Abs s.dec stD) ∧
    (∀ evs1 evs2 s1, evs = evs1 ++ evs2 → run s0 evs1 = some s1 → s.encDel = s1.encQ.length →
       core s.dec = core s1.enc) := by
  obtain ⟨stE, stD, h⟩ := run_inv h0 hr
  refine ⟨⟨stE, stD, h.enc.run, h.enc.abs, h.decRun, h.decAbs⟩, ?_⟩
  intro evs1 evs2 s1 hsplit hr1 hlen
  obtain ⟨stE1, stD1, h1⟩ := run_inv h0 hr1
  -- the log of the earlier state is the delivered prefix of the present log
  have hpre : s1.encQ = s.encQ.take s.encDel := by
    rw [hsplit, run_append, hr1] at hr
    obtain ⟨l, hl⟩ := run_encQ_mono (s := s1) (by simpa using hr)
    rw [hl, hlen]; simp
  have hrun1 := h1.enc.run
  rw [hpre, h.decRun] at hrun1
  simp at hrun1; subst hrun1
  exact h.decAbs.core_eq h1.enc.abs

/-! ## Blocked or exact

Full statement (for every history): *for every stream, the oldest section not yet decoded
decodes to exactly the field list that was encoded when the decoder has processed at least
`required` insertions (its Required Insert Count), and `decode_header` answers
`MissingRefs(required)` — blocked — otherwise; never an error, a panic or other fields.*

This is proved for the histories that contain no `setCapacity` and no `cancel` event
(`plainHistory`, a decidable predicate on the event list) and is FALSE without that restriction:
`C20_D20c_witness` (capacity change: a section is decoded to the wrong fields) and
`C20_D20d_witness` (cancellation: an error instead of "blocked") are the counterexamples, both
replayed against the real code by the check (known findings D-20c, D-20d). -/

/-- **Blocked or exact (partial: no capacity change, no cancellation in the history).**
    For the oldest undecoded section `b` of any stream:
    * `b.required` is the RFC's Required Insert Count of its representations, and they denote the
      original fields in the oracle's table of the encoder (§4.5);
    * decoder has `≥ b.required` insertions ⇒ `decode_header` returns exactly `b.orig`
      (with `dyn_ref = (required > 0)`), and the `deliverBlock` step reports those fields;
    * otherwise ⇒ `MissingRefs(b.required)`, the step reports `blocked` and changes nothing.
    A stream without undecoded section is skipped. -/
theorem C20_blocked_or_exact_partial (cap bl : Nat) (evs : List Event) (s0 s : Sys)
    (h0 : Sys.init cap bl = .ok s0) (hr : run s0 evs = some s) (hplain : plainHistory evs = true) (sid : Nat) :
    ((s.stream sid).todo = [] → step s (.deliverBlock sid) = .ok (s, .skip)) ∧
    ∀ b rest, (s.stream sid).todo = b :: rest →
      b.required = H3.Spec.Dyn.requiredInsertCount b.base b.blk.reps ∧
      (∃ stE, (initST cap).run s.encQ = some stE ∧ H3.Spec.Dyn.denote stE b.base b.blk.reps = some b.orig) ∧
      (b.required ≤ s.dec.vas.inserted →
        decodeHeader s.dec b.blk = .ok (b.orig, decide (b.required > 0)) ∧
        ∃ s', step s (.deliverBlock sid) = .ok (s', .blockOk b.orig)) ∧
      (s.dec.vas.inserted < b.required →
        decodeHeader s.dec b.blk = .err (.missingRefs b.required) ∧
        step s (.deliverBlock sid) = .ok (s, .blocked b.required)) := by
  obtain ⟨stE, stD, h, p⟩ := run_pinv h0 hplain hr
  have hnc := p.notCancelled sid
  constructor
  · intro ht; simp [step, hnc, ht]
  · intro b rest ht
    have hb : b ∈ (s.stream sid).todo := by rw [ht]; simp
    have hbk : BlockOK stE.all b := h.blocks sid b (List.mem_append_right _ hb)
    obtain ⟨hd1, hd2⟩ := decode_head h p ht
    have hins : s.dec.vas.inserted = stD.all.length := h.decAbs.ins
    refine ⟨hbk.required_eq_spec, ⟨stE, h.enc.run, ?_⟩, ?_, ?_⟩
    · exact denote_of_all hbk.den (fun r hr a ha =>
        (h.unreleased_live (p.todo_unreleased hb) (hbk.refs r hr a ha).1).2.1)
    · intro hle
      have := hd1 (by omega)
      refine ⟨this, ?_⟩
      simp only [step, hnc, ht, this]
      exact ⟨_, rfl⟩
    · intro hlt
      have := hd2 (by omega)
      exact ⟨this, by simp only [step, hnc, ht, this]⟩

/-- what `encode` puts on a stream is the caller's field list (so `b.orig` above *is* the original) -/
theorem C20_encode_records_original (cap bl : Nat) (evs : List Event) (s0 s s' : Sys) (sid : Nat)
    (fields : List Field) (out : Out) (h0 : Sys.init cap bl = .ok s0) (hr : run s0 evs = some s)
    (hs : step s (.encode sid fields) = .ok (s', out)) :
    ∃ b, (s'.stream sid).todo = (s.stream sid).todo ++ [b] ∧ b.orig = fields ∧
      (s'.stream sid).done = (s.stream sid).done ∧ ∀ x, x ≠ sid → s'.stream x = s.stream x := by
  obtain ⟨stE, stD, h⟩ := run_inv h0 hr
  obtain ⟨enc, stE', _, _, _, _, _, _, hst⟩ := step_encode_inv h hs
  have hstream := stream_of_aset hst
  refine ⟨.ofEncoded fields enc s.enc.maxSize, by rw [hstream sid, if_pos rfl], rfl, by rw [hstream sid, if_pos rfl], ?_⟩
  intro x hx; rw [hstream x, if_neg (Ne.symm hx)]

/-- **Prefix round trip.** `HeaderPrefix::get (HeaderPrefix::new r base total max) total' max = (r, base)`
    for every decoder insert count `total'` in the window of RFC 9204 §4.5.1.1
    (`total' − max/32 < r ≤ total' + max/32`); `r = 0` is transmitted as all zeroes. -/
theorem C20_prefix_roundtrip (r base total mx total' : Nat) :
    (0 < r → r ≤ total → 1 ≤ mx / 32 → r ≤ total' + mx / 32 → total' < r + mx / 32 →
      ∃ p, prefixNew r base total mx = .ok p ∧ prefixGet p total' mx = .ok (r, base)) ∧
    (prefixNew 0 base total mx = .ok ⟨0, false, 0⟩ ∧ prefixGet ⟨0, false, 0⟩ total' mx = .ok (0, 0)) :=
  ⟨prefix_roundtrip r base total mx total', prefix_zero base total mx total'⟩

/-- the decoder's reconstruction of the Required Insert Count is the RFC's pseudo-code wherever
    that does not say "Error" -/
theorem C20_prefix_matches_rfc (eic total' mx r : Nat) (hM : 1 ≤ mx / 32)
    (h : H3.Spec.Dyn.decodeRIC eic (mx / 32) total' = some r) (hr : 0 < r) :
    prefixRequired eic total' mx = .ok r :=
  prefixRequired_of_decodeRIC h

/-! ## Concrete histories (non-vacuity, and the two counterexamples) -/

def fa1 : Field := ⟨[97], [49]⟩
def fa2 : Field := ⟨[97], [50]⟩
def fb2 : Field := ⟨[98], [50]⟩
def fget : Field := ⟨[58, 109, 101, 116, 104, 111, 100], [71, 69, 84]⟩   -- :method GET (static)

def runFrom (cap bl : Nat) (evs : List Event) : Option Sys :=
  match Sys.init cap bl with
  | .ok s => run s evs
  | _ => none

/-- capacity for two entries; a duplicate, a name reference, an eviction, late instructions -/
def demo : List Event :=
  [.encode 0 [fa1, fb2, fget], .deliverBlock 0, .deliverEnc 1, .deliverBlock 0, .deliverEnc 5, .deliverBlock 0,
   .deliverAck 5, .encode 4 [fa1, fa2], .encode 4 [fb2], .deliverEnc 9, .deliverBlock 4, .deliverBlock 4, .deliverAck 9,
   .encode 8 [fa2, fa2]]

example : plainHistory demo = true := by decide

theorem demo_end :
    (runFrom 70 100 demo).map (fun s => (s.enc.currSize, s.enc.maxSize, s.enc.vas.inserted, s.enc.vas.dropped)) =
      some (68, 70, 4, 2) ∧
    (runFrom 70 100 demo).map (fun s => (s.dec.vas.inserted, s.encQ.length, (s.stream 8).todo.map (·.required))) =
      some (2, 4, [4]) ∧
    (runFrom 70 100 demo).map (fun s => (s.enc.trackMap, (unreleased s 8).map (·.refs))) =
      some ([(3, 3), (4, 1)], [[3, 4]]) := by decide +kernel

-- the history runs to the end: two entries of 34 bytes in a table of 70, two evicted, a duplicate emitted last,
-- the decoder two instructions behind
example : (runFrom 70 100 demo).map (fun s => (s.enc.currSize, s.enc.maxSize, s.enc.vas.inserted, s.enc.vas.dropped)) =
    some (68, 70, 4, 2) := demo_end.1
example : (runFrom 70 100 demo).map (fun s => (s.dec.vas.inserted, s.encQ.length, (s.stream 8).todo.map (·.required))) =
    some (2, 4, [4]) := demo_end.2.1
-- blocked first, exact later (the second `deliverBlock 0` of `demo` sees 1 of 2 required insertions)
example : (runFrom 70 100 (demo.take 2)).map (fun s => step s (.deliverBlock 0) |>.toOption.map (·.2)) =
    some (some (.blocked 2)) := by decide +kernel
example : (runFrom 70 100 (demo.take 5)).map (fun s => step s (.deliverBlock 0) |>.toOption.map (·.2)) =
    some (some (.blockOk [fa1, fb2, fget])) := by decide +kernel

-- the entries referenced by the unacknowledged last section (absolute indices 3 and 4) are pinned:
example : (runFrom 70 100 demo).map (fun s => (s.enc.trackMap, (unreleased s 8).map (·.refs))) =
    some ([(3, 3), (4, 1)], [[3, 4]]) := demo_end.2.2
-- tables agree: after `demo.take 10` the decoder has processed the 2 instructions emitted by `demo.take 1`
example : (runFrom 70 100 (demo.take 10)).map (fun s => (s.encDel, core s.dec)) =
    (runFrom 70 100 (demo.take 1)).map (fun s => (s.encQ.length, core s.enc)) := by decide +kernel
example : prefixNew 5 2 5 70 = .ok ⟨2, true, 2⟩ ∧ prefixGet ⟨2, true, 2⟩ 4 70 = .ok (5, 2) := by decide

/-- **D-20c** (open): the Required Insert Count is encoded with the *current* capacity. A section
    encoded after `set_dynamic_table_size(40)` and read by a decoder that has not yet seen that
    instruction (capacity 200) decodes to the WRONG field (`a: 1` instead of `b: 2`). -/
theorem C20_D20c_witness :
    (runFrom 200 1 [.encode 0 [fa1], .deliverEnc 99, .deliverBlock 0, .deliverAck 99, .setCapacity 40,
        .encode 4 [fb2]]).map (fun s => ((s.stream 4).todo.map (·.orig), step s (.deliverBlock 4) |>.toOption.map (·.2))) =
      some ([[fb2]], some (.blockOk [fa1])) := by decide +kernel

/-- **D-20d** (open): after a Stream Cancellation the encoder evicts an entry the decoder never
    received; the next section, arriving before the encoder stream, is an error, not "blocked". -/
theorem C20_D20d_witness :
    (runFrom 35 100 [.encode 0 [fa1], .cancel 0, .deliverAck 9, .encode 4 [fa2]]).map
      (fun s => ((s.stream 4).todo.map (·.required), s.dec.vas.inserted, step s (.deliverBlock 4))) =
      some ([2], 0, .err .badPostbaseIndex) := by decide +kernel

/-! ## Totality

The theorems above speak about histories that were not ended by an error (`run s0 evs = some s`).
`encode` and `deliverEnc` never end one (`encode_spec`, `step_deliverEnc_ok`: every history), and by
`C20_blocked_or_exact_partial` neither does `deliverBlock` in a plain history. The remaining event
of a plain history is `deliverAck`: `Encoder::on_decoder_recv` answers `UnknownStreamId` to a
Section Acknowledgement for a stream without a tracked block, `InvalidTrackingCount` when the
reference counts do not match, and subtracts the acknowledged blocked streams from `blocked_count`. -/

/-- **Acknowledgement delivery is total (no capacity change, no cancellation in the history).**
    In every state reached by a plain history the encoder accepts whatever the decoder has written
    on the decoder stream, in every batching `k`: `on_decoder_recv` returns neither an error
    (`UnknownStreamId`, `InvalidTrackingCount`) nor reaches a panic site, all `min k (pending)`
    instructions handed over are consumed, and the decoder stream itself is untouched.
    Why: every Section Acknowledgement in flight on a stream belongs to a block that is decoded and
    not yet released by the encoder (`npop + inflight ≤ |done|`), so `untrack_block` finds its queue
    entry, whose reference counts are part of `track_map`; an Insert Count Increment only needs
    `blocked_count = Σ blocked_streams`; no Stream Cancellation is in the queue. -/
theorem C20_ack_delivery_total (cap bl : Nat) (evs : List Event) (s0 s : Sys)
    (h0 : Sys.init cap bl = .ok s0) (hr : run s0 evs = some s) (hplain : plainHistory evs = true) (k : Nat) :
    ∃ s' out, step s (.deliverAck k) = .ok (s', out) ∧
      out = .ackRecv (min k (s.decQ.length - s.decDel)) ∧
      s'.decDel = s.decDel + min k (s.decQ.length - s.decDel) ∧ s'.decQ = s.decQ := by
  obtain ⟨stE, stD, h, p⟩ := run_pinv h0 hplain hr
  obtain ⟨s', hs, h1, h2⟩ := step_deliverAck_ok h p k
  exact ⟨s', _, hs, rfl, h1, h2⟩

-- after `demo.take 6` two Insert Count Increments and the Section Acknowledgement of stream 0 are in flight;
-- delivered in one batch, all three are accepted and the block of stream 0 is released
example : plainHistory (demo.take 6) = true := by decide
theorem demo6_end :
    (runFrom 70 100 (demo.take 6)).map (fun s => (s.decQ.drop s.decDel, inflight s 0, (s.stream 0).npop)) =
      some ([.incr 1, .incr 1, .ack 0], 1, 0) ∧
    (runFrom 70 100 (demo.take 6)).map (fun s =>
        step s (.deliverAck 5) |>.toOption.map (fun (r : Sys × Out) => (r.2, (r.1.stream 0).npop, r.1.decDel))) =
      some (some (.ackRecv 3, 1, 3)) ∧
    (runFrom 70 100 (demo.take 6)).map (fun s =>
        step s (.deliverAck 2) |>.toOption.map (fun (r : Sys × Out) => (r.2, (r.1.stream 0).npop, r.1.decDel))) =
      some (some (.ackRecv 2, 0, 2)) := by decide +kernel
example : (runFrom 70 100 (demo.take 6)).map (fun s => (s.decQ.drop s.decDel, inflight s 0, (s.stream 0).npop)) =
    some ([.incr 1, .incr 1, .ack 0], 1, 0) := demo6_end.1
example : (runFrom 70 100 (demo.take 6)).map (fun s =>
      step s (.deliverAck 5) |>.toOption.map (fun (r : Sys × Out) => (r.2, (r.1.stream 0).npop, r.1.decDel))) =
    some (some (.ackRecv 3, 1, 3)) := demo6_end.2.1
-- a smaller batch stops in front of the acknowledgement
example : (runFrom 70 100 (demo.take 6)).map (fun s =>
      step s (.deliverAck 2) |>.toOption.map (fun (r : Sys × Out) => (r.2, (r.1.stream 0).npop, r.1.decDel))) =
    some (some (.ackRecv 2, 0, 2)) := demo6_end.2.2
-- the error branch exists in the model: an acknowledgement nothing was decoded for (not a reachable state)
example : (runFrom 70 100 []).map (fun s => step { s with decQ := [.ack 0] } (.deliverAck 1)) =
    some (.err .unknownStreamId) := by decide +kernel

/-- **Plain histories never end in an error.** From an initial state, every history without
    capacity change and cancellation runs to its end: no call of `encode`, `on_encoder_recv`,
    `decode_header` (blocked is an answer, not an error) or `on_decoder_recv` in it returns an error
    or reaches a panic site. So for plain histories the hypothesis `run s0 evs = some s` of the
    theorems above only names the final state; it excludes nothing. -/
theorem C20_plain_history_total (cap bl : Nat) (evs : List Event) (s0 : Sys)
    (h0 : Sys.init cap bl = .ok s0) (hplain : plainHistory evs = true) :
    (∃ s, run s0 evs = some s) ∧
    ∀ s, run s0 evs = some s → ∀ ev, ev.plain = true → ∃ s' out, step s ev = .ok (s', out) := by
  refine ⟨run_plain_total h0 hplain, ?_⟩
  intro s hr ev hev
  obtain ⟨stE, stD, h, p⟩ := run_pinv h0 hplain hr
  exact step_plain_ok h p hev

example : (runFrom 70 100 demo).isSome = true := by
  obtain ⟨s0, h0⟩ : ∃ s0, Sys.init 70 100 = .ok s0 := ⟨_, rfl⟩
  obtain ⟨s, hs⟩ := (C20_plain_history_total 70 100 demo s0 h0 (by decide)).1
  simp [runFrom, h0, hs]
-- not so with a cancellation in the history (`C20_D20d_witness`): the next section is an error
example : runFrom 35 100 [.encode 0 [fa1], .cancel 0, .deliverAck 9, .encode 4 [fa2], .deliverBlock 4] = none := by
  decide +kernel

/-! ## The encoder stream in chunks (D-20f) and the blocked-stream limit (O-20e)

`Decoder::on_encoder_recv` takes any `Buf`; `parse_instruction` looks at `read.chunk()` only. The case-line op
`denc:<k>@<j>.<m>,…` hands the same `k` instructions over in several chunks (`H3.Dyn.stepCut`, `cutLen`, `innerCut`). -/

theorem foldl_min_le (l : List Nat) (a : Nat) : l.foldl min a ≤ a := by
  rw [List.foldl_min]; exact Nat.min_le_left ..

theorem cutLen_boundaries (ins : List EncInstr) (cuts : List (Nat × Nat))
    (h : ∀ c ∈ cuts, innerCut ins c = false) : cutLen ins cuts = ins.length := by
  have hf : cuts.filter (innerCut ins) = [] := by
    rw [List.filter_eq_nil_iff]
    intro c hc
    simp [h c hc]
  unfold cutLen
  rw [hf]
  rfl

/-- **Cut deliveries (partial).** FULL statement, which is FALSE (`C20_D20f_witness`): for all cuts
    `stepCut s k cuts = step s (.deliverEnc k)` — into which chunks the bytes of the encoder stream are split does not
    matter. Proved: (1) whatever the cuts, a cut delivery IS a whole delivery of a prefix of the instructions handed over
    (nothing is mis-parsed, reordered or lost; the rest stays at the head of the encoder stream), so every theorem of this
    file about histories covers histories with cut deliveries — an instruction that crosses a chunk boundary is an
    instruction that arrives late; (2) when no cut lies inside an instruction (chunks end at instruction boundaries, or
    the instruction has a single byte) the cut delivery is the whole delivery.
    Missing: the decoder stops in front of an instruction that crosses a chunk boundary (D-20f). -/
theorem C20_cut_delivery_partial (s : Sys) (k : Nat) (cuts : List (Nat × Nat)) :
    (∃ n, n ≤ (s.handed k).length ∧ stepCut s k cuts = step s (.deliverEnc n)) ∧
    ((∀ c ∈ cuts, innerCut (s.handed k) c = false) → stepCut s k cuts = step s (.deliverEnc k)) := by
  refine ⟨⟨_, foldl_min_le _ _, rfl⟩, fun h => ?_⟩
  unfold stepCut
  rw [cutLen_boundaries _ _ h]
  have ht : (s.encQ.drop s.encDel).take ((s.handed k).length) = (s.encQ.drop s.encDel).take k := by
    unfold Sys.handed
    rw [List.take_eq_take_iff, List.length_take]
    omega
  simp only [step, ht]

def fb0 : Field := ⟨[98], []⟩

-- non-vacuity: three instructions (two insertions, a one-byte Duplicate); cuts in front of the second and "inside" the
-- Duplicate are no inner cuts, the delivery is whole; a cut inside the second insertion stops in front of it
example : (runFrom 4096 100 [.encode 0 [fa1, fb2, fa1]]).map (fun s =>
      (s.handed 9, (s.handed 9).map (·.oneByte), cutLen (s.handed 9) [(1, 0), (2, 1), (7, 3)], cutLen (s.handed 9) [(2, 1), (1, 3)])) =
    some ([.insertLit [97] [49], .insertLit [98] [50], .dup 1], [false, false, true], 3, 1) := by decide +kernel

/-- **D-20f** (open): both insertions of the section are handed to the decoder in ONE `Buf`, the first of them
    crossing a chunk boundary: `on_encoder_recv` processes nothing (whole delivery: both, Insert Count Increment 2) and
    the section stays blocked although the decoder was given everything it depends on. -/
theorem C20_D20f_witness :
    (runFrom 200 1 [.encode 0 [fa1, fb2]]).map (fun s =>
      (stepCut s 99 [(0, 2)] |>.toOption.map (fun r => (r.2, step r.1 (.deliverBlock 0) |>.toOption.map (·.2))),
       step s (.deliverEnc 99) |>.toOption.map (fun r => (r.2, step r.1 (.deliverBlock 0) |>.toOption.map (·.2))))) =
    some (some (.encRecv 0 0 none, some (.blocked 2)),
          some (.encRecv 2 2 (some 2), some (.blockOk [fa1, fb2]))) := by decide +kernel

/-- **O-20e** (observation; RFC 9204 2.1.2, not demanded by the property's text): with a blocked-stream limit of 1,
    after two sections on two streams the encoder has TWO streams that could become blocked (Required Insert Counts 2
    and 1, known received count 0): the second section's reference came from `find()`, which does not consult
    `blocked_count` (2 here, above `blocked_max` = 1). The history is plain; every theorem above holds for it. -/
theorem C20_O20e_blocked_limit_witness :
    plainHistory [.encode 0 [fb0, fa2], .encode 4 [fb2]] = true ∧
    (runFrom 200 1 [.encode 0 [fb0, fa2], .encode 4 [fb2]]).map (fun s =>
      ([atRisk s, s.enc.blockedMax, s.enc.blockedCount, s.enc.lkr], (s.stream 0).todo.map (·.required), (s.stream 4).todo.map (·.required))) =
    some ([2, 1, 2, 0], [2], [1]) :=
  ⟨by decide, by decide +kernel⟩

end H3.Props.C20
