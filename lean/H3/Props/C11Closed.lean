import H3.Props.C15
import H3.Props.C11
import H3.Props.C10
/-! `C15Facts` discharged with the theorems of `H3.Props.C15`, and the C11 / C10 theorems that took it
    as a hypothesis once more without it (all in the namespace `H3.Props.C11`).  Then the two facts that
    need C15 itself: sections the specification refuses for their Huffman padding (`huff_none`). -/
namespace H3.Props.C11
open H3.Props.C15 H3.Qpack H3.Qpack.Lemmas

theorem C11_c15_facts : H3.Qpack.Lemmas.C15Facts :=
  ⟨C15_prefix_int_roundtrip, C15_prefix_int_ok_sound, C15_huffman_roundtrip,
   C15_string_literal_encode, C15_string_literal_roundtrip, C15_huffman_accepts_exactly_partial⟩

theorem C11_encode_then_rfc_decode_closed (fs : List Field) (hfs : ∀ f ∈ fs, Writable f) :
    encodeStateless? fs = some (encodeStateless fs) ∧
    Spec.Qpack.specDecode (encodeStateless fs).1 = .ok (pairs fs) ∧
    (encodeStateless fs).1.take 2 = [0, 0] ∧
    (∀ b ∈ (encodeStateless fs).1, b < 256) ∧
    ∃ ls, Spec.Qpack.parse (encodeStateless fs).1 = .ok ls ∧ ls.all (·.isStateless) = true :=
  H3.Props.C11.C11_encode_then_rfc_decode C11_c15_facts fs hfs

/-- an instance of `C11_encode_then_rfc_decode_closed`: its hypotheses are met (the section is the
    one `encode_stateless` writes for `:method: GET`, `x-a: aa`, `:status: 431`, `"": ""`) -/
example : Spec.Qpack.specDecode
    [0, 0, 0xd1, 0x2b, 0xf2, 0xb0, 0xff, 0x82, 0x18, 0xff, 0x5f, 0x09, 0x83, 0x69, 0x90, 0xff, 0x28, 0x80] =
    .ok [([58, 109, 101, 116, 104, 111, 100], [71, 69, 84]), ([120, 45, 97], [97, 97]),
         ([58, 115, 116, 97, 116, 117, 115], [52, 51, 49]), ([], [])] := by
  have hw : ∀ f ∈ [(⟨[58, 109, 101, 116, 104, 111, 100], [71, 69, 84]⟩ : Field), ⟨[120, 45, 97], [97, 97]⟩,
      ⟨[58, 115, 116, 97, 116, 117, 115], [52, 51, 49]⟩, ⟨[], []⟩], Writable f := by
    unfold Writable WF; decide +kernel
  exact H3.Props.C11.enc_sample ▸ (C11_encode_then_rfc_decode_closed _ hw).2.1

theorem C11_accepts_only_rfc_partial_closed (b : List Nat) (hb : ∀ x ∈ b, x < 256) (max : Nat)
    (fs : List Field) (m : Nat) (h : decodeStateless b max = .ok fs m) (hlax : laxSection b max = false) :
    Spec.Qpack.specDecode b = .ok (pairs fs) ∧
    m = Spec.Qpack.size (pairs fs) ∧ m ≤ max ∧
    ∃ ls, Spec.Qpack.parse b = .ok ls ∧ ls.all (·.isStateless) = true :=
  H3.Props.C11.C11_accepts_only_rfc_partial C11_c15_facts b hb max fs m h hlax

theorem C11_rejects_closed (b : List Nat) (hb : ∀ x ∈ b, x < 256) (max : Nat)
    (r : Spec.Qpack.Reject) (hspec : Spec.Qpack.specDecode b = .error r)
    (hlax : laxSection b max = false) :
    ∃ e, decodeStateless b max = .err e ∧ e ≠ .fuel ∧
      ((∃ n, e = .headerTooLong n ∧ max < n ∧ n ≤ 128 * b.length) ∨
       (∀ site, recvSite site max b = .connError QPACK_DECOMPRESSION_FAILED)) ∧
      (128 * b.length ≤ max → ∀ site, recvSite site max b = .connError QPACK_DECOMPRESSION_FAILED) :=
  H3.Props.C11.C11_rejects C11_c15_facts b hb max r hspec hlax

theorem C10_own_encoding_exact_closed (fs : List Field) (hfs : ∀ f ∈ fs, Encodable f) (L : Nat) :
    (encodeStateless fs).2 = Spec.Qpack.size (pairs fs) ∧
    (decodeStateless (encodeStateless fs).1 L = .ok fs (Spec.Qpack.size (pairs fs)) ↔
      Spec.Qpack.size (pairs fs) ≤ L) ∧
    (L < Spec.Qpack.size (pairs fs) →
      ∃ n, decodeStateless (encodeStateless fs).1 L = .err (.headerTooLong n) ∧ L < n ∧
        n ≤ Spec.Qpack.size (pairs fs)) :=
  H3.Props.C10.C10_own_encoding_exact C11_c15_facts fs hfs L

/-- the hypothesis is an evaluation of h3's table-driven decoder, not of the reference one (which is
    slow in the kernel): what it does not accept strictly, the reference decoder refuses -/
theorem huff_none (b : List Nat) (hb : ∀ x ∈ b, x < 256)
    (h : (match Huffman.hdecodeX b with | .ok (_, false) => false | _ => true) = true) :
    Spec.Huffman.specDecode b = none := by
  cases hs : Spec.Huffman.specDecode b with
  | none => rfl
  | some s => rw [(C15_huffman_accepts_exactly_partial b hb s).1 hs] at h; cases h

/-- The negation of the full statement on a concrete witness (D-15): `00 00 5f 09 81 ff` — a
    literal with name reference `:status` whose value is one octet `ff` of Huffman data, i.e.
    eight bits of padding — is accepted as `:status: ""`; RFC 7541 §5.2 makes it a decoding error. -/
theorem C11_accepts_only_rfc_fails_on_lax_branch :
    decodeStatelessX [0, 0, 0x5f, 0x09, 0x81, 0xff] 1000 =
      (.ok [⟨[58, 115, 116, 97, 116, 117, 115], []⟩] 39, true) ∧
    Spec.Qpack.specDecode [0, 0, 0x5f, 0x09, 0x81, 0xff] = .error .invalidHuffman :=
  ⟨by decide +kernel,
   specDecode_line_err (first := 0x5f) (r := [0x09, 0x81, 0xff]) (by decide +kernel)
    (parseLine_nameRef_err (i := 24) (r1 := [0x81, 0xff]) (by decide) (by decide +kernel)
      (stringLiteral_invalid (len := 1) (rest := [0xff]) (by decide +kernel) (by decide) (by decide)
        (huff_none [0xff] (by decide) (by decide +kernel))))⟩

-- sixteen bits of padding: refused by the specification; h3's decoder takes the lax branch here too (D-15)
example : Spec.Qpack.specDecode [0, 0, 0x5f, 0x09, 0x82, 0xff, 0xff] = .error .invalidHuffman :=
  specDecode_line_err (first := 0x5f) (r := [0x09, 0x82, 0xff, 0xff]) (by decide +kernel)
    (parseLine_nameRef_err (i := 24) (r1 := [0x82, 0xff, 0xff]) (by decide) (by decide +kernel)
      (stringLiteral_invalid (len := 2) (rest := [0xff, 0xff]) (by decide +kernel) (by decide) (by decide)
        (huff_none [0xff, 0xff] (by decide) (by decide +kernel))))

end H3.Props.C11
