import H3.Model.Varint
import H3.Gen.Consts
import H3.Gen.WriteBuf
/-! Model of the send-side encoding of `h3/src/stream.rs` and `h3/src/proto/frame.rs`:

    * `Frame::encode` per variant (`encodeFrame`), `simple_frame_encode`, `Settings::encode`,
      `PushPromise::encode`, `FrameType::grease`/`SettingId::grease`/`StreamType::grease`
      (`greaseId n`, `n` = the `fastrand` draw);
    * `WriteBuf` — a fixed header array of `WRITE_BUF_ENCODE_SIZE` bytes with `len`/`pos` and
      an optional frame payload — with its `From` conversions and its `Buf` implementation
      (`remaining`, `chunk`, `advance`);
    * `stream::write()` = `send_data` then `poll_ready` until done, against an *acceptance
      script*: one entry per `poll_write` of the transport = the number of bytes it is willing
      to take at that moment (`0` = `Pending`).

    Panics are explicit: `none`.  They are `write_var` on a value ≥ 2^62, running out of the
    fixed array while encoding, and `Bytes::advance` past the end of the payload.  The payload
    (`B: Buf`) of `WB` is one contiguous byte string (the harness uses `Bytes`); the last two sections
    add a transport that can fail (`drainE`, `callE`) and a payload in segments (`WBC`). -/
namespace H3.WriteBuf
open H3.Varint H3.Gen.Consts H3.Gen.WriteBuf

/-- `Frame<B>` as the send side builds it. -/
inductive SFrame where
  | data (payload : Bytes)
  | headers (block : Bytes)
  | cancelPush (id : Nat)
  | settings (entries : List (Nat × Nat))
  | pushPromise (id : Nat) (encoded : Bytes)
  | goaway (id : Nat)
  | maxPushId (id : Nat)
  | webTransport (session : Nat)
  /-- `Frame::Grease`; `ty` is what `FrameType::grease()` returned -/
  | grease (ty : Nat)
deriving Repr, DecidableEq

/-- `fastrand::u64(0..GREASE_RANGE_END) * 0x1f + 0x21` for the draw `n` (no `u64` wrap:
    `C14_grease_ids`). -/
def greaseId (n : Nat) : Nat := n * GREASE_MUL + GREASE_ADD

/-- `VarInt::from_u64(x).unwrap().size()` (`Settings::len`, `PushPromise::len`). -/
def sizeOf? (x : Nat) : Option Nat := (fromU64 x).bind size?

/-- `simple_frame_encode(ty, id, buf)`. -/
def simpleFrame (ty id : Nat) : Option Bytes := do
  let t ← writeVar ty
  let sz ← size? id
  let l ← writeVar sz
  let v ← encode? id
  pure (t ++ l ++ v)

/-- `FrameHeader::len` of `Settings`. -/
def settingsLen? : List (Nat × Nat) → Option Nat
  | [] => some 0
  | (id, v) :: r => do
    let a ← sizeOf? id
    let b ← sizeOf? v
    let c ← settingsLen? r
    pure (a + b + c)

/-- the `for (id, val) in entries { id.encode(buf); buf.write_var(*val) }` loop -/
def settingsPairs? : List (Nat × Nat) → Option Bytes
  | [] => some []
  | (id, v) :: r => do
    let a ← writeVar id
    let b ← writeVar v
    let c ← settingsPairs? r
    pure (a ++ b ++ c)

/-- `Settings::encode`: type, length, pairs — the whole frame goes into the header array. -/
def settingsEncode (es : List (Nat × Nat)) : Option Bytes := do
  let t ← writeVar FRAME_SETTINGS
  let n ← settingsLen? es
  let l ← writeVar n
  let p ← settingsPairs? es
  pure (t ++ l ++ p)

/-- `Frame::encode`: what goes into the header array. -/
def encodeFrame : SFrame → Option Bytes
  | .data p => do
    let t ← writeVar FRAME_DATA
    let l ← writeVar p.length
    pure (t ++ l)
  | .headers b => do
    let t ← writeVar FRAME_HEADERS
    let l ← writeVar b.length
    pure (t ++ l)
  | .settings es => settingsEncode es
  | .pushPromise id enc => do
    -- `PushPromise::encode` = `encode_header` followed by `buf.put(self.encoded.clone())`:
    -- the field section is copied into the header array although `payload()` yields it too
    let t ← writeVar FRAME_PUSH_PROMISE
    let sz ← sizeOf? id
    let l ← writeVar (sz + enc.length)
    let i ← writeVar id
    pure (t ++ l ++ i ++ enc)
  | .cancelPush id => simpleFrame FRAME_CANCEL_PUSH id
  | .goaway id => simpleFrame FRAME_GOAWAY id
  | .maxPushId id => simpleFrame FRAME_MAX_PUSH_ID id
  | .grease ty => do
    let t ← writeVar ty
    let l ← writeVar GREASE_FRAME_LEN
    pure (t ++ l ++ GREASE_FRAME_PAYLOAD)
  | .webTransport sid => do
    let t ← writeVar FRAME_WEBTRANSPORT_BI_STREAM
    let s ← writeVar sid
    pure (t ++ s)

/-- `Frame::payload()`. -/
def framePayload : SFrame → Option Bytes
  | .data p => some p
  | .headers b => some b
  | .pushPromise _ e => some e
  | _ => none

/-- `WriteBuf<B>`; `payload` is `frame.and_then(payload)`, i.e. what is left of it. -/
structure WB where
  buf : Bytes
  len : Nat
  pos : Nat
  payload : Option Bytes
deriving Repr, DecidableEq

/-- `Self { buf: [0; WRITE_BUF_ENCODE_SIZE], len: 0, pos: 0, frame }` -/
def WB.new (payload : Option Bytes) : WB :=
  { buf := List.replicate WRITE_BUF_ENCODE_SIZE 0, len := 0, pos := 0, payload := payload }

/-- Writing `bs` through `&mut self.buf[self.len..]` and
    `self.len = WRITE_BUF_ENCODE_SIZE - buf_mut.remaining_mut()`.  The `BufMut` of a slice
    panics when it is full. -/
def WB.put (w : WB) (bs : Bytes) : Option WB :=
  if w.len + bs.length ≤ WRITE_BUF_ENCODE_SIZE then
    some { w with buf := w.buf.take w.len ++ bs ++ w.buf.drop (w.len + bs.length),
                  len := w.len + bs.length }
  else none

/-- encode a value (`none` = its encoder panicked) into the array -/
def WB.putOpt (w : WB) (bs : Option Bytes) : Option WB := bs.bind w.put

/-- `From<StreamType>`. -/
def fromStreamType (ty : Nat) : Option WB := (WB.new none).putOpt (writeVar ty)

/-- `UniStreamHeader`. -/
inductive UniHeader where
  | control (settings : List (Nat × Nat))
  | webTransportUni (session : Nat)
  | encoder
  | decoder
deriving Repr, DecidableEq

/-- `Encode for UniStreamHeader`. -/
def encodeUniHeader : UniHeader → Option Bytes
  | .control es => do
    let t ← writeVar STREAM_CONTROL
    let s ← settingsEncode es
    pure (t ++ s)
  | .webTransportUni sid => do
    let t ← writeVar STREAM_WEBTRANSPORT_UNI
    let s ← writeVar sid
    pure (t ++ s)
  | .encoder => writeVar STREAM_ENCODER
  | .decoder => writeVar STREAM_DECODER

/-- `From<UniStreamHeader>`. -/
def fromUniHeader (h : UniHeader) : Option WB := (WB.new none).putOpt (encodeUniHeader h)

/-- `From<BidiStreamHeader>` (`WebTransportBidi(session_id)`). -/
def fromBidiHeader (sid : Nat) : Option WB :=
  (WB.new none).putOpt (do
    let t ← writeVar STREAM_WEBTRANSPORT_BIDI
    let s ← writeVar sid
    pure (t ++ s))

/-- `From<Frame<B>>`. -/
def fromFrame (f : SFrame) : Option WB := (WB.new (framePayload f)).putOpt (encodeFrame f)

/-- `From<(StreamType, Frame<B>)>`: the stream type, then the frame header. -/
def fromPair (ty : Nat) (f : SFrame) : Option WB :=
  ((WB.new (framePayload f)).putOpt (writeVar ty)).bind (·.putOpt (encodeFrame f))

/-! ### `impl Buf for WriteBuf` -/

/-- `self.frame.as_ref().and_then(|f| f.payload())` as bytes (nothing when there is none) -/
def WB.pay (w : WB) : Bytes :=
  match w.payload with
  | some p => p
  | none => []

/-- `Buf::remaining`. -/
def WB.remaining (w : WB) : Nat := w.len - w.pos + w.pay.length

/-- `Buf::chunk`: the rest of the header while there is one, then the payload. -/
def WB.chunk (w : WB) : Bytes :=
  if w.len - w.pos > 0 then (w.buf.take w.len).drop w.pos else w.pay

/-- `Buf::advance`: the header part first, what is left of `cnt` goes to the payload's own
    `advance` (`Bytes::advance` panics beyond its end); a frame without payload swallows any
    excess silently. -/
def WB.advance (w : WB) (cnt : Nat) : Option WB :=
  let rh := w.len - w.pos
  let advanced := if rh > 0 then min cnt rh else 0
  let w1 := { w with pos := w.pos + advanced }
  let rest := cnt - advanced
  match w.payload with
  | some p => if rest ≤ p.length then some { w1 with payload := some (p.drop rest) } else none
  | none => some w1

/-- What is still to be yielded (the abstract content of the buffer). -/
def WB.view (w : WB) : Bytes := (w.buf.take w.len).drop w.pos ++ w.pay

/-! ### the transport and `stream::write` -/

/-- One `poll_write(cx, data.chunk())` + `data.advance(written)` of a transport that is
    willing to take `k` bytes now: it gets the first `min k |chunk|` bytes of the chunk. -/
def WB.step (w : WB) (k : Nat) : Option (Bytes × WB) :=
  let c := w.chunk
  let n := min k c.length
  (w.advance n).map (fun w' => (c.take n, w'))

/-- The transport's `poll_ready` loop over an acceptance script: the bytes handed over, in
    order, and what is left of the buffer.  `none` = a panic. -/
def WB.drain : WB → List Nat → Option (Bytes × WB)
  | w, [] => some ([], w)
  | w, k :: ks =>
    match w.step k with
    | none => none
    | some (o, w') =>
      match WB.drain w' ks with
      | none => none
      | some (o', w'') => some (o ++ o', w'')

inductive WriteRes where
  /-- `write()` returned `Ok(())`; `out` went to the transport -/
  | ready (out : Bytes)
  /-- the script ended before the buffer was empty: `write()` is still pending -/
  | pending (out : Bytes) (left : WB)
  | panic
deriving Repr, DecidableEq

/-- `stream::write(stream, data)`: `data.into()` (may panic), `send_data`, then `poll_ready`
    until `has_remaining()` is false. -/
def write (data : Option WB) (script : List Nat) : WriteRes :=
  match data with
  | none => .panic
  | some w =>
    match w.drain script with
    | none => .panic
    | some (out, w') => if w'.remaining = 0 then .ready out else .pending out w'

/-! ### the same loop against a transport that can fail (C06: completion of the send calls)

The acceptance script above is what the peer's *flow control* does.  The peer can also end the
stream or the connection: after its STOP_SENDING the transport answers the next `poll_ready` /
`poll_finish` with `StreamTerminated { error_code }`, after a connection close / a timeout every
call — `poll_open_bidi` of a `send_request` waiting for stream credit included — answers the
`ConnectionErrorIncoming`.  `stream::write` returns that error through `?`; so do the API calls
built from it (`send_request` = `poll_open_bidi` + one write, `send_response` / `send_data` /
`send_trailers` = one write, `finish` = the grease frame if one is due + `poll_finish`). -/

/-- `StreamErrorIncoming` as a send-side call meets it -/
inductive WErr where
  /-- `StreamTerminated { error_code }`: the peer's STOP_SENDING has arrived -/
  | terminated (code : Nat)
  /-- `ConnectionErrorIncoming { .. }`: the peer closed the connection, or it timed out
      (`q` names the variant) -/
  | conn (q : Nat)
  | unknown
deriving Repr, DecidableEq

/-- one answer of the transport to a poll of a send-side call: inside `poll_ready` it takes up
    to `k` bytes of the current chunk (`take 0` = `Pending`); a call that moves no bytes
    (`poll_open_bidi`, `poll_finish`) reads `take 0` as `Pending` and any other `take` as `Ok`;
    `err e` = the call fails with `e` -/
inductive Acc where
  | take (k : Nat)
  | err (e : WErr)
deriving Repr, DecidableEq

inductive WriteResE where
  /-- `write()` returned `Ok(())`; `rest` = the answers not asked for -/
  | ready (out : Bytes) (rest : List Acc)
  /-- `write()` returned `Err(e)` after `out` had gone to the transport -/
  | failed (out : Bytes) (e : WErr)
  /-- the script ended before the buffer was empty: `write()` is still pending -/
  | pending (out : Bytes) (left : WB)
  | panic
deriving Repr, DecidableEq

/-- the `poll_ready` loop of `stream::write`: `while data.has_remaining()` one `poll_write`;
    `out` = what went to the transport so far -/
def WB.drainE : WB → Bytes → List Acc → WriteResE
  | w, out, [] => if w.remaining = 0 then .ready out [] else .pending out w
  | w, out, .err e :: r => if w.remaining = 0 then .ready out (.err e :: r) else .failed out e
  | w, out, .take k :: r =>
    if w.remaining = 0 then .ready out (.take k :: r)
    else match w.step k with
      | none => .panic
      | some (o, w') => WB.drainE w' (out ++ o) r

/-- `stream::write(stream, data)` against a transport that can fail. -/
def writeE (data : Option WB) (script : List Acc) : WriteResE :=
  match data with
  | none => .panic
  | some w => w.drainE [] script

/-- what an API call of the send side waits for, in order -/
inductive Stage where
  /-- a transport call that moves no bytes, polled until it is `Ready`: `poll_open_bidi`
      (stream credit), `poll_finish` -/
  | wait
  /-- one `stream::write` -/
  | write (w : WB)
deriving Repr, DecidableEq

inductive StageRes where
  | done (out : Bytes) (rest : List Acc)
  | failed (out : Bytes) (e : WErr)
  | pending (out : Bytes)
  | panic
deriving Repr, DecidableEq

def waitE (out : Bytes) : List Acc → StageRes
  | [] => .pending out
  | .take 0 :: r => waitE out r
  | .take (_ + 1) :: r => .done out r
  | .err e :: _ => .failed out e

def WriteResE.stage : WriteResE → StageRes
  | .ready out rest => .done out rest
  | .failed out e => .failed out e
  | .pending out _ => .pending out
  | .panic => .panic

def Stage.run : Stage → Bytes → List Acc → StageRes
  | .wait, out, sc => waitE out sc
  | .write w, out, sc => (w.drainE out sc).stage

inductive CallRes where
  /-- the call returned `Ok`; `out` = everything it wrote -/
  | ok (out : Bytes)
  /-- the call returned `Err(e)` after `out` had gone out -/
  | failed (out : Bytes) (e : WErr)
  /-- the script is exhausted and the call has not returned -/
  | pending (out : Bytes)
  | panic
deriving Repr, DecidableEq

def stagesE : List Stage → Bytes → List Acc → CallRes
  | [], out, _ => .ok out
  | s :: ss, out, sc =>
    match s.run out sc with
    | .done out' rest => stagesE ss out' rest
    | .failed out' e => .failed out' e
    | .pending out' => .pending out'
    | .panic => .panic

/-- an API call of the send side -/
structure SendCall where
  /-- client `send_request`: `poll_open_bidi` first -/
  opens : Bool := false
  /-- the `WriteBuf`s handed to `stream::write`, in order (`finish`: the grease frame when one
      is due, otherwise none) -/
  writes : List WB
  /-- `finish`: `poll_finish` at the end -/
  finishes : Bool := false
deriving Repr, DecidableEq

def SendCall.stages (c : SendCall) : List Stage :=
  (if c.opens then [Stage.wait] else []) ++ c.writes.map Stage.write ++
    (if c.finishes then [Stage.wait] else [])

/-- the call against the transport's answers -/
def callE (c : SendCall) (script : List Acc) : CallRes := stagesE c.stages [] script

/-- number of answers that let a stage make progress -/
def posTakes : List Acc → Nat
  | [] => 0
  | .take 0 :: r => posTakes r
  | .take (_ + 1) :: r => posTakes r + 1
  | .err _ :: r => posTakes r

def Stage.need : Stage → Nat
  | .wait => 1
  | .write w => w.remaining

def Stage.content : Stage → Bytes
  | .wait => []
  | .write w => w.view

/-- progress answers that certainly suffice: one per wait, one per byte -/
def SendCall.need (c : SendCall) : Nat := (c.stages.map Stage.need).sum

/-- everything the call writes when it succeeds -/
def SendCall.content (c : SendCall) : Bytes := (c.stages.map Stage.content).flatten

/-! ### a payload that is not contiguous

`Frame<B>` / `WriteBuf<B>` are generic in `B: Buf`: an application may hand `send_data` a
`bytes::buf::Chain`, a deque of `Bytes`, … — a `Buf` whose `chunk()` is only the first piece of
what `remaining()` counts.  `segs` is such a payload as its list of segments (segments may be
empty: `Bytes::new().chain(b)`).  `Frame::encode` takes the DATA length from `b.remaining()`,
`impl Buf for WriteBuf` forwards `remaining`/`chunk`/`advance` to the payload once the header array
is exhausted. -/

/-- `Buf::remaining` of a segmented buffer: the sum over the segments -/
def segsRemaining (cs : List Bytes) : Nat := (cs.map List.length).sum

/-- `Buf::chunk`: the first segment that has bytes (`Chain::chunk`: `a.chunk()` while
    `a.has_remaining()`, else `b.chunk()`); empty only when nothing remains (the `Buf` contract) -/
def segsChunk : List Bytes → Bytes
  | [] => []
  | c :: r => if 0 < c.length then c else segsChunk r

/-- `Buf::advance`: segment after segment (`Chain::advance`); `none` = the panic of the last
    segment's `advance` past its end -/
def segsAdvance : List Bytes → Nat → Option (List Bytes)
  | [], 0 => some []
  | [], _ + 1 => none
  | c :: r, cnt => if cnt ≤ c.length then some (c.drop cnt :: r) else segsAdvance r (cnt - c.length)

/-- a length taken from the payload the way the source does (`H3.Gen.WriteBuf.LenSrc`, read by the
    translator from the `Frame::Data` arm of `Frame::encode` and from `WriteBuf::remaining`) -/
def segsLenBy : LenSrc → List Bytes → Nat
  | .remaining, cs => segsRemaining cs
  | .chunkLen, cs => (segsChunk cs).length

/-- `WriteBuf<B>` for a segmented `B` -/
structure WBC where
  buf : Bytes
  len : Nat
  pos : Nat
  payload : Option (List Bytes)
deriving Repr, DecidableEq

/-- the same buffer with the payload in one piece -/
def WBC.flat (w : WBC) : WB :=
  { buf := w.buf, len := w.len, pos := w.pos, payload := w.payload.map List.flatten }

def WBC.ofWB (w : WB) (p : Option (List Bytes)) : WBC :=
  { buf := w.buf, len := w.len, pos := w.pos, payload := p }

/-- `Frame::Data(b).encode`: `FrameType::DATA`, then `write_var(b.remaining())` -/
def dataHeaderC (segs : List Bytes) : Option Bytes := do
  let t ← writeVar FRAME_DATA
  let l ← writeVar (segsLenBy DATA_LEN_SOURCE segs)
  pure (t ++ l)

/-- `From<Frame<B>>` for `Frame::Data(segs)` -/
def fromDataC (segs : List Bytes) : Option WBC :=
  ((WB.new none).putOpt (dataHeaderC segs)).map (WBC.ofWB · (some segs))

/-- `From<(StreamType, Frame<B>)>` for `Frame::Data(segs)` -/
def fromPairDataC (ty : Nat) (segs : List Bytes) : Option WBC :=
  (((WB.new none).putOpt (writeVar ty)).bind (·.putOpt (dataHeaderC segs))).map
    (WBC.ofWB · (some segs))

def WBC.pay (w : WBC) : List Bytes := w.payload.getD []

/-- `Buf::remaining`. -/
def WBC.remaining (w : WBC) : Nat := w.len - w.pos + segsLenBy WRITEBUF_REMAINING_SOURCE w.pay

/-- `Buf::chunk`: the rest of the header while there is one, then the payload's own `chunk()`. -/
def WBC.chunk (w : WBC) : Bytes :=
  if w.len - w.pos > 0 then (w.buf.take w.len).drop w.pos else segsChunk w.pay

/-- `Buf::advance`. -/
def WBC.advance (w : WBC) (cnt : Nat) : Option WBC :=
  let rh := w.len - w.pos
  let advanced := if rh > 0 then min cnt rh else 0
  let rest := cnt - advanced
  match w.payload with
  | some p => (segsAdvance p rest).map (fun p' => { w with pos := w.pos + advanced, payload := some p' })
  | none => some { w with pos := w.pos + advanced }

def WBC.step (w : WBC) (k : Nat) : Option (Bytes × WBC) :=
  let c := w.chunk
  let n := min k c.length
  (w.advance n).map (fun w' => (c.take n, w'))

def WBC.drain : WBC → List Nat → Option (Bytes × WBC)
  | w, [] => some ([], w)
  | w, k :: ks =>
    match w.step k with
    | none => none
    | some (o, w') =>
      match WBC.drain w' ks with
      | none => none
      | some (o', w'') => some (o ++ o', w'')

/-- `stream::write` with a segmented payload; `pending` carries the flattened rest -/
def writeC (data : Option WBC) (script : List Nat) : WriteRes :=
  match data with
  | none => .panic
  | some w =>
    match w.drain script with
    | none => .panic
    | some (out, w') => if w'.remaining = 0 then .ready out else .pending out w'.flat

end H3.WriteBuf
