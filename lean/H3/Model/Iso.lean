import H3.Model.ReqRecv
import H3.Model.ErrCell
import H3.Model.WriteBuf
/-! Model of ONE CONNECTION CARRYING ANY NUMBER OF REQUESTS (C07): the product of the per-request
    machines with the one thing they share, the connection error cell.

    * receive half of a request = the `H3.ReqRecv` machine over the `FrameStream` model
      (`pollResolve`/`pollRecvResponse`, `pollRecvData`, `pollRecvTrailers`, `drain`), unchanged.
      Its `Env.cell` field is where the product plugs in the SHARED cell: a step on stream `i`
      loads the connection's cell into the request's environment, runs the `ReqRecv` poll, and
      stores the cell it leaves back into the connection (`SharedState` is one `Arc` handed to every
      `RequestResolver`/`RequestStream`: `h3/src/shared_state.rs`).
    * the header oracle gets the outcome `tooBig` (`qpack::DecoderError::HeaderTooLong`; `ReqRecv`
      leaves the limit out): the decision is taken at the place where `ReqRecv` goes on with `ok`
      — after the HEADERS frame has been read — so the `ReqRecv` poll runs with `tooBig ↦ ok` and
      its answer is post-processed (`server/request.rs` `resolve`: `send_response(431).await?` then
      `HeaderTooBig`; `client/stream.rs` `recv_response`/`poll_recv_trailers`:
      `stop_sending(H3_REQUEST_CANCELLED)` then `HeaderTooBig`; `connection.rs`
      `poll_recv_trailers`: `HeaderTooBig`).
    * send half of a request: the bytes written on that stream, the STOP_SENDING the peer sent for
      it, finished.  A write after STOP_SENDING fails with the transport's
      `StreamTerminated{code}`, which `handle_quic_stream_error` turns into the stream-level
      `RemoteTerminate{code}` without touching the cell (`connection_error_creators.rs`).  Write
      back-pressure: `stream::write` = `send_data(frame)` + `poll_ready` until everything is written; the
      transport takes what the stream's credit allows (`Cfg.wc` initial credit of every stream, `none` =
      unlimited; the peer grants more, `Peer.grant`), a call that could not write everything answers
      `Pending` and goes on where it stopped when it is polled again; STOP_SENDING ends it with
      `RemoteTerminate` and the buffer is dropped.  (C14 covers the acceptance patterns in detail.)  The
      once-per-connection grease frame of `finish` is off.
    * the driver (`poll_connection_error`): when it finds the cell filled it calls
      `quic::Connection::close` with the code, once (C05).

    A history is a list of `(stream id, event)` pairs and driver polls in ANY order: "all
    interleavings of tasks and deliveries" = "all histories". Events of a stream are peer events
    (chunk / FIN / RESET c / STOP_SENDING c / a grant of write credit) and application calls on that stream's handle, one
    poll each (plus `body`: one executor poll of a task in the documented loop `recv_data` until
    it answers something else than data, then `recv_trailers` after a clean end). -/
namespace H3.Iso
open H3.Gen.Consts
open H3.ReqRecv (Role Res St FSt Env fsSrc fsFuel first)

abbrev Bytes := List Nat

/-- what `qpack::decode_stateless(.., max_field_section_size)` + `Header::try_from` +
    `into_{request,response}_parts` / `into_trailers` make of a HEADERS payload -/
inductive HClass where
  | ok
  /-- decodes within the limit, the message is malformed (C12) -/
  | malformed
  /-- `DecoderError::HeaderTooLong` (C10) -/
  | tooBig
  /-- any other QPACK error (C11): connection-level, NOT a stream-scoped fault -/
  | qpack
deriving Repr, DecidableEq

structure Hdr where
  head : Bytes → HClass
  trailer : Bytes → HClass

/-- what `ReqRecv` sees of the outcome: the limit is checked where `ReqRecv` goes on with `ok` -/
def HClass.base : HClass → H3.ReqRecv.HClass
  | .ok => .ok
  | .malformed => .malformed
  | .tooBig => .ok
  | .qpack => .qpack

def Hdr.base (H : Hdr) : H3.ReqRecv.Hdr :=
  { head := fun b => (H.head b).base, trailer := fun b => (H.trailer b).base }

structure Cfg where
  role : Role
  hdr : Hdr
  /-- server: field section of the 431 answer `resolve` sends for an oversized request, `none` when
      `send_response` refuses it because it exceeds the CLIENT's limit (`Qpack.serverResolve`,
      `C10_outcomes`: header-too-big is returned either way) -/
  resp431 : Option Bytes := some [0x00, 0x00, 0x5f, 0x09, 0x83, 0x69, 0x90, 0xff]
  /-- transport: does `poll_finish` report an earlier STOP_SENDING (Quinn: yes; SimQuic: no).
      h3 maps whatever it reports through `handle_quic_stream_error`. -/
  finSeesStop : Bool := false
  /-- transport: initial write credit of every stream in bytes (`wc=<n>`); `none` = unlimited -/
  wc : Option Nat := none

/-! ### events -/

inductive Peer where
  /-- a (non-empty) piece of the request/response stream arrives -/
  | chunk (b : Bytes)
  | fin
  /-- RESET_STREAM with any code -/
  | reset (c : Nat)
  /-- STOP_SENDING with any code -/
  | stop (c : Nat)
  /-- the peer grants `n` more bytes of write credit on this stream (flow control) -/
  | grant (n : Nat)
deriving Repr, DecidableEq

inductive Call where
  /-- server `resolve_request`, client `recv_response` (one poll) -/
  | head
  /-- `recv_data` (one poll) -/
  | data
  /-- `recv_trailers` (one poll) -/
  | trailers
  /-- one executor poll of a task running the documented loop, making at most `fuel` `recv_data`
      calls: `recv_data` until it answers something else than data, `recv_trailers` iff that was
      `None`; a poll that ends `Pending` keeps its progress -/
  | body (fuel : Nat)
  /-- server `send_response`; client: the HEADERS write of `send_request` -/
  | sendHead (fs : Bytes)
  | sendData (b : Bytes)
  | sendTrailers (fs : Bytes)
  | finish
deriving Repr, DecidableEq

inductive StreamEv where
  | peer (p : Peer)
  | call (c : Call)
deriving Repr, DecidableEq

/-- answer of one receive poll or of a send call that failed -/
inductive Ans where
  | res (r : Res)
  /-- `StreamError::HeaderTooBig` -/
  | tooBig
deriving Repr, DecidableEq

/-- what the application sees of one event -/
inductive Obs where
  /-- a peer event: nothing is reported until a call looks -/
  | quiet
  | ans (a : Ans)
  /-- the answers of the `recv_data` calls of a `body` poll, then the one of `recv_trailers` -/
  | body (rs : List Res) (t : Option Ans)
  /-- a send call returned `Ok(())` -/
  | ok
  /-- not a step of any program: the handle the call needs does not exist (resolver consumed or
      failed, stream not resolved yet, send half finished) -/
  | noHandle
deriving Repr, DecidableEq

/-! ### one request -/

structure Send where
  /-- every byte h3 wrote on this stream, in order -/
  tx : Bytes := []
  /-- code of the STOP_SENDING the peer sent for this stream (first one) -/
  stopped : Option Nat := none
  fin : Bool := false
  /-- write credit the peer has granted on top of the initial credit `Cfg.wc` -/
  granted : Nat := 0
  /-- the transport's write buffer: what is left of the frame handed to `send_data` that `poll_ready` has
      not been able to write yet (the call in flight is `Pending`) -/
  writing : Option Bytes := none
deriving Repr, DecidableEq

deriving instance DecidableEq for H3.ReqRecv.St

structure Req where
  /-- `ReqRecv` state: frame stream + undelivered transport events, remembered trailers, and
      (`env.rst`, `env.stop`) what h3 sent against this stream; `env.cell` is not used here (kept
      `none`): the cell is the connection's -/
  rx : St FSt := { src := ({}, []) }
  snd : Send := {}
  /-- the `RequestStream` handle exists (server: `resolve_request` returned it) -/
  resolved : Bool := false
  /-- server: the resolver failed, nothing of this request is left to call -/
  gone : Bool := false
  /-- the `body` task is inside `recv_trailers` -/
  atTrailers : Bool := false
deriving DecidableEq

def load (cell : Option Nat) (st : St FSt) : St FSt := { st with env := { st.env with cell := cell } }
def unload (st : St FSt) : St FSt := { st with env := { st.env with cell := none } }

def Req.deliver (r : Req) : Peer → Req
  | .chunk b => { r with rx := { r.rx with src := (r.rx.src.1, r.rx.src.2 ++ [.chunk b]) } }
  | .fin => { r with rx := { r.rx with src := (r.rx.src.1, r.rx.src.2 ++ [.fin]) } }
  | .reset c => { r with rx := { r.rx with src := (r.rx.src.1, r.rx.src.2 ++ [.reset c]) } }
  | .stop c => { r with snd := { r.snd with stopped := first r.snd.stopped c } }
  | .grant n => { r with snd := { r.snd with granted := r.snd.granted + n } }

/-- is the call one the application can make now? (server: only the resolver before it has
    answered, then everything but the resolver; client: the handle is there from `send_request`) -/
def accepts (role : Role) (r : Req) (c : Call) : Bool :=
  match role, r.resolved, c with
  | .server, false, .head => true
  | .server, false, _ => false
  | .server, true, .head => false
  | .server, true, _ => true
  | .client, _, _ => true

/-- bytes the transport still accepts on the stream: initial credit + grants − what it has taken -/
def Send.avail (wc : Option Nat) (s : Send) : Option Nat := wc.map (fun w => w + s.granted - s.tx.length)

/-- `poll_ready` with `w` left to write: the transport takes what the credit allows; `Pending` (the rest
    stays in its buffer) unless that was everything -/
def Send.flush (wc : Option Nat) (s : Send) (w : Bytes) : Send × Obs :=
  match s.avail wc with
  | none => ({ s with tx := s.tx ++ w, writing := none }, .ok)
  | some k =>
    if w.length ≤ k then ({ s with tx := s.tx ++ w, writing := none }, .ok)
    else ({ s with tx := s.tx ++ w.take k, writing := some (w.drop k) }, .ans (.res .pending))

/-- `stream::write(&mut self.stream, frame)` = `send_data(frame)?` then `poll_ready` until it answers, one
    poll: after STOP_SENDING the transport answers `StreamTerminated{c}` ⇒ `RemoteTerminate{c}` (nothing
    more is written, the buffer is dropped); a call polled while a write is in flight is that write's
    future polled again. -/
def Send.write (wc : Option Nat) (s : Send) (f : H3.WriteBuf.SFrame) : Send × Obs :=
  if s.fin then (s, .noHandle) else
  match s.stopped with
  | some c => ({ s with writing := none }, .ans (.res (.errReset c)))
  | none =>
    match s.writing with
    | some rest => s.flush wc rest
    | none =>
      match H3.WriteBuf.fromFrame f with
      | none => (s, .ans (.res .panic))
      | some w => s.flush wc w.view

/-- `finish()` (grease off): `poll_finish` -/
def Send.finish (finSeesStop : Bool) (s : Send) : Send × Obs :=
  if s.fin then (s, .noHandle) else
  match s.stopped with
  | some c => if finSeesStop then (s, .ans (.res (.errReset c))) else ({ s with fin := true }, .ok)
  | none => ({ s with fin := true }, .ok)

/-- `REQUEST_HEADER_FIELDS_TOO_LARGE` on the server: the resolver is consumed; the 431 is written
    on THIS stream unless refused / the peer stopped it (`?` returns the send error instead).  The 431
    write is modelled without back-pressure (ten bytes, the first write of its stream; a
    `resolve_request` pending inside its own `send_response` is not modelled: the scenarios give every
    stream at least 32 bytes of initial credit, so the 431 never waits). -/
def tooBigServer (cfg : Cfg) (r : Req) : Req × Obs :=
  match cfg.resp431 with
  | none => ({ r with gone := true }, .ans .tooBig)
  | some fs =>
    let (s', o) := r.snd.write none (.headers fs)
    ({ r with snd := s', gone := true }, if o = .ok then .ans .tooBig else o)

/-- client: `stop_sending(H3_REQUEST_CANCELLED)` then `HeaderTooBig` -/
def tooBigClient (r : Req) : Req :=
  { r with rx := { r.rx with env := { r.rx.env with stop := first r.rx.env.stop CODE_H3_REQUEST_CANCELLED } } }

/-- server `resolve_request` / client `recv_response`, one poll, the cell as the call finds it -/
def stepHead (cfg : Cfg) (cell : Option Nat) (r : Req) : Req × Option Nat × Obs :=
  let (res, st') := H3.ReqRecv.pollHead cfg.role fsSrc cfg.hdr.base (load cell r.rx)
  let r1 := { r with rx := unload st' }
  match res with
  | .head enc =>
    match cfg.hdr.head enc, cfg.role with
    | .tooBig, .server => ((tooBigServer cfg r1).1, st'.env.cell, (tooBigServer cfg r1).2)
    | .tooBig, .client => (tooBigClient r1, st'.env.cell, .ans .tooBig)
    | _, _ => ({ r1 with resolved := true }, st'.env.cell, .ans (.res res))
  | .pending => (r1, st'.env.cell, .ans (.res .pending))
  | _ =>
    -- `resolve_request(self)` consumes the resolver: after an error nothing is left on a server
    ({ r1 with gone := cfg.role == .server }, st'.env.cell, .ans (.res res))

def stepData (cell : Option Nat) (r : Req) : Req × Option Nat × Obs :=
  let (res, st') := H3.ReqRecv.pollRecvData fsSrc (fsFuel r.rx.src) (load cell r.rx)
  ({ r with rx := unload st' }, st'.env.cell, .ans (.res res))

/-- `poll_recv_trailers` with the size limit put back: a trailer section over the limit is
    `HeaderTooBig` (client: plus `stop_sending(H3_REQUEST_CANCELLED)`) -/
def trailersPoll (cfg : Cfg) (st : St FSt) : Ans × St FSt :=
  let (res, st') := H3.ReqRecv.pollRecvTrailers fsSrc cfg.hdr.base st
  match res with
  | .trailers enc =>
    match cfg.hdr.trailer enc, cfg.role with
    | .tooBig, .server => (.tooBig, st')
    | .tooBig, .client =>
      (.tooBig, { st' with env := { st'.env with stop := first st'.env.stop CODE_H3_REQUEST_CANCELLED } })
    | _, _ => (.res res, st')
  | _ => (.res res, st')

def stepTrailers (cfg : Cfg) (cell : Option Nat) (r : Req) : Req × Option Nat × Obs :=
  let (a, st') := trailersPoll cfg (load cell r.rx)
  ({ r with rx := unload st' }, st'.env.cell, .ans a)

def stepBody (cfg : Cfg) (fuel : Nat) (cell : Option Nat) (r : Req) : Req × Option Nat × Obs :=
  if r.atTrailers then
    let (a, st') := trailersPoll cfg (load cell r.rx)
    ({ r with rx := unload st' }, st'.env.cell, .body [] (some a))
  else
    let (rs, st2) := H3.ReqRecv.drain fsSrc fuel (load cell r.rx)
    if rs.getLast? = some .end_ then
      let (a, st3) := trailersPoll cfg st2
      ({ r with rx := unload st3, atTrailers := true }, st3.env.cell, .body rs (some a))
    else ({ r with rx := unload st2 }, st2.env.cell, .body rs none)

def stepSend (cfg : Cfg) (r : Req) (f : H3.WriteBuf.SFrame) : Req × Obs :=
  let (s', o) := r.snd.write cfg.wc f
  ({ r with snd := s' }, o)

/-- One event of one request: the request's new state, the cell as the step leaves it, and what the
    application sees.  The arguments are everything a step can read: its OWN request state and the
    shared cell — no other request's state is in reach. -/
def Req.step (cfg : Cfg) (cell : Option Nat) (r : Req) : StreamEv → Req × Option Nat × Obs
  | .peer p => (r.deliver p, cell, .quiet)
  | .call c =>
    if r.gone || !accepts cfg.role r c then (r, cell, .noHandle) else
    match c with
    | .head => stepHead cfg cell r
    | .data => stepData cell r
    | .trailers => stepTrailers cfg cell r
    | .body fuel => stepBody cfg fuel cell r
    | .sendHead fs => ((stepSend cfg r (.headers fs)).1, cell, (stepSend cfg r (.headers fs)).2)
    | .sendData b => ((stepSend cfg r (.data b)).1, cell, (stepSend cfg r (.data b)).2)
    | .sendTrailers fs => ((stepSend cfg r (.headers fs)).1, cell, (stepSend cfg r (.headers fs)).2)
    | .finish =>
      ({ r with snd := (r.snd.finish cfg.finSeesStop).1 }, cell, (r.snd.finish cfg.finSeesStop).2)

/-- a request on its own: its events in order, the cell threaded through -/
def Req.run (cfg : Cfg) (cell : Option Nat) (r : Req) : List StreamEv → Req × Option Nat × List Obs
  | [] => (r, cell, [])
  | ev :: rest =>
    let (r', cell', o) := Req.step cfg cell r ev
    let (r'', cell'', os) := Req.run cfg cell' r' rest
    (r'', cell'', o :: os)

/-- the request's own run never writes the cell (started with the cell empty): none of its steps
    is a connection-level error -/
def Req.quiet (cfg : Cfg) (r : Req) : List StreamEv → Prop
  | [] => True
  | ev :: rest => (Req.step cfg none r ev).2.1 = none ∧ Req.quiet cfg (Req.step cfg none r ev).1 rest

def Req.decQuiet (cfg : Cfg) : ∀ (r : Req) (evs : List StreamEv), Decidable (Req.quiet cfg r evs)
  | _, [] => isTrue trivial
  | r, ev :: rest =>
    have := Req.decQuiet cfg (Req.step cfg none r ev).1 rest
    inferInstanceAs (Decidable (_ ∧ _))

instance (cfg : Cfg) (r : Req) (evs : List StreamEv) : Decidable (Req.quiet cfg r evs) :=
  Req.decQuiet cfg r evs

/-! ### the connection -/

structure Conn where
  /-- `SharedState.connection_error`: code of the first internal error stored -/
  cell : Option Nat := none
  /-- codes of the `quic::Connection::close` calls so far, oldest first -/
  closed : List Nat := []
  /-- finite map stream id ↦ request; an absent id is a request nothing has happened to yet;
      the newest binding of an id is the valid one -/
  streams : List (Nat × Req) := []

def lookup (i : Nat) : List (Nat × Req) → Req
  | [] => {}
  | (k, r) :: rest => if k = i then r else lookup i rest

def Conn.get (c : Conn) (i : Nat) : Req := lookup i c.streams
def Conn.set (c : Conn) (i : Nat) (r : Req) : Conn := { c with streams := (i, r) :: c.streams }

/-- One event on stream `x.1`. It reads the shared cell and the state of THAT stream, and writes
    the cell (only `connErr` does) and the state of THAT stream. -/
def step (cfg : Cfg) (c : Conn) (x : Nat × StreamEv) : Conn × Obs :=
  let (r', cell', o) := Req.step cfg c.cell (c.get x.1) x.2
  ({ c with cell := cell' }.set x.1 r', o)

/-- One poll of the connection driver as far as errors go (`poll_connection_error`,
    `close_if_needed`): the first time it finds the cell filled it closes the connection with that
    code (`ErrCell.closeOf` of an internal error; afterwards `handled_connection_error` is set). -/
def drive (c : Conn) : Conn :=
  match c.cell, c.closed with
  | some code, [] => { c with closed := ((H3.ErrCell.closeOf (.internal code 0)).toList.map (·.1)) }
  | _, _ => c

inductive HEv where
  /-- an event of request stream `sid` -/
  | on (sid : Nat) (ev : StreamEv)
  /-- a poll of the connection driver -/
  | drive
deriving Repr, DecidableEq

def hstep (cfg : Cfg) (c : Conn) : HEv → Conn × List (Nat × Obs)
  | .on sid ev => ((step cfg c (sid, ev)).1, [(sid, (step cfg c (sid, ev)).2)])
  | .drive => (drive c, [])

/-- a history from a connection state: the final state and all observations `(stream, what its
    application saw)` in order -/
def run (cfg : Cfg) (c : Conn) : List HEv → Conn × List (Nat × Obs)
  | [] => (c, [])
  | e :: rest =>
    let (c', os) := hstep cfg c e
    let (c'', os') := run cfg c' rest
    (c'', os ++ os')

/-- the events of stream `j` in a history, in their own order -/
def proj (j : Nat) : List HEv → List StreamEv
  | [] => []
  | .on sid ev :: rest => if sid = j then ev :: proj j rest else proj j rest
  | .drive :: rest => proj j rest

/-- what stream `j`'s application saw, in order -/
def obsOf (j : Nat) : List (Nat × Obs) → List Obs
  | [] => []
  | (sid, o) :: rest => if sid = j then o :: obsOf j rest else obsOf j rest

/-- what a run looks like from stream `j`: its final state and its observations -/
def view (j : Nat) (x : Conn × List (Nat × Obs)) : Req × List Obs := (x.1.get j, obsOf j x.2)

end H3.Iso
