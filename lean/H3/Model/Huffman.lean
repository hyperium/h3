import H3.Model.Bits
import H3.Gen.HuffDec
import H3.Gen.HuffEnc
/-! Model of `h3/src/qpack/prefix_string/{bitwin,decode,encode}.rs` — the Huffman codec of
    QPACK string literals — as the code is written: the decoder walks the generated level tree
    (`H3.Gen.HuffDec`, one `HuffmanDecoder` per level, `lookup` bits per step) with the
    `BitWindow` arithmetic, `read_bits` and `check_eof` of the source; the encoder appends the
    byte parts of `HPACK_STRING` (`H3.Gen.HuffEnc.raw`) with `ensure_free_space`/`write_bits`.

    Bytes are `Nat`s (`< 256` for well-formed input).  `u8`/`u16` truncations are written as
    `% 256` / `% 65536`; `u32` positions are `Nat`s.  That they do not wrap is a theorem, not an
    assumption (decoder: below; encoder: the last section, `hencodeC`, with a bound on the coding length that
    the theorems about the encoder carry as a hypothesis — site D-15e): the section "machine arithmetic made explicit" below repeats the decoder with every
    `u32` / `u8` / `u16` operation and every indexing checked (`hdecodeC`, `none` = an operation
    overflows), `C15_huffman_positions_fit` proves that for inputs with `8·len + 8 < 2^32` nothing
    overflows and the answers are those of the unchecked functions, and `prefix_string::decode`
    refuses longer Huffman literals before the decoder sees them (the repair of D-06u;
    `H3.PrefixString.hugeHuffman`).

    D-15.  `check_eof` is reached when the `lookup` bits of the *current level* are not there and
    judges only the bits from that level's start to the end of the input.  Bits of the
    unfinished symbol that earlier levels have consumed are never looked at again.  The model
    keeps this behaviour; `hdecodeX` additionally reports (ghost output, not in the code) through which
    ending it accepted: `laxAt`, computed from the window `check_eof` was called with — more than 7 bits
    consumed-or-judged behind the last complete symbol, or a zero among the consumed ones (`lax = true`);
    that this is "violates RFC 7541 §5.2" is a theorem (`laxAt_eq`), and the flagged set is enumerated exactly
    (`C15_huffman_lax_set_exact`). -/
namespace H3.Huffman
open H3.Bits
open H3.Gen.HuffDec (Level Entry)

/-! ### bitwin.rs -/

structure BitWindow where
  byte : Nat
  bit : Nat
  count : Nat
deriving Repr, DecidableEq

/-- `BitWindow::forwards` -/
def BitWindow.forwards (w : BitWindow) (step : Nat) : BitWindow :=
  let bit := w.bit + w.count
  { byte := w.byte + bit / 8, bit := bit % 8, count := step }

/-- `BitWindow::opposite_bit_window` -/
def BitWindow.opposite (w : BitWindow) : BitWindow :=
  { byte := w.byte, bit := w.bit, count := 8 - w.bit % 8 }

/-- first bit after the window -/
def BitWindow.endPos (w : BitWindow) : Nat := 8 * w.byte + w.bit + w.count

/-! ### decode.rs -/

/-- `read_bits(src, byte_offset, bit_offset, len)`; `none` is `Err(())`.  The two indexings are
    in range whenever the guard passes (`readBitsC` below indexes with `[·]?`;
    `H3.Huffman.readBitsC_eq`), `getD` never yields its default. -/
def readBits (src : List Nat) (byteOffset bitOffset len : Nat) : Option Nat :=
  if len = 0 ∨ len > 8 ∨ src.length * 8 < byteOffset * 8 + bitOffset + len then none
  else
    let byteOffset := byteOffset + bitOffset / 8
    let bitOffset := bitOffset - bitOffset / 8 * 8
    if bitOffset + len ≤ 8 then
      some ((((src.getD byteOffset 0) <<< bitOffset) % 256) >>> (8 - len))
    else
      let result := ((src.getD byteOffset 0) <<< 8) ||| (src.getD (byteOffset + 1) 0)
      some ((((result <<< bitOffset) % 65536) >>> (16 - len)) % 256)

inductive Err where
  /-- `Error::MissingBits(BitWindow)` -/
  | missingBits (w : BitWindow)
  /-- `Error::Unhandled(BitWindow, usize)` -/
  | unhandled (w : BitWindow) (v : Nat)
  /-- not in the code: the model's loop bound was reached (proved unreachable) -/
  | fuel
deriving Repr, DecidableEq

/-- `check_eof`: `.ok ()` is `Ok(None)` (end of the string accepted); it never yields a value. -/
def checkEof (w : BitWindow) (input : List Nat) : Except Err Unit :=
  if w.byte + 1 > input.length then .ok ()            -- "position is out-of-range"
  else if w.byte + 1 = input.length then              -- "position is on the last byte"
    let side := w.opposite
    match readBits input side.byte side.bit side.count with
    | none => .error (.missingBits side)
    | some rest =>
      let eofFiller := ((2 <<< (side.count - 1)) - 1) % 256
      if (rest &&& eofFiller) = eofFiller then .ok () else .error (.missingBits w)
  else .error (.missingBits w)

/-- Result of one `decode_next` call. -/
inductive Step where
  /-- `Ok(Some(x))` -/
  | sym (s : Nat)
  /-- `Ok(None)` -/
  | done
  | err (e : Err)
deriving Repr, DecidableEq

mutual
/-- `HuffmanDecoder::decode_next` (with `fetch_value` inlined); returns the mutated window. -/
def decodeNext : Level → BitWindow → List Nat → BitWindow × Step
  | .mk lookup table, w, input =>
    let w := w.forwards lookup
    match readBits input w.byte w.bit w.count with
    | some value => tableGet table value value w input
    | none =>
      match checkEof w input with
      | .ok () => (w, .done)
      | .error e => (w, .err e)
/-- `self.table.get(value)` followed by the dispatch on the entry; `i` counts down to it. -/
def tableGet : List Entry → Nat → Nat → BitWindow → List Nat → BitWindow × Step
  | [], _, value, w, _ => (w, .err (.unhandled w value))
  | e :: _, 0, _, w, input => entryGo e w input
  | _ :: es, i+1, value, w, input => tableGet es i value w input
def entryGo : Entry → BitWindow → List Nat → BitWindow × Step
  | .sym s, w, _ => (w, .sym s)
  | .sub l, w, input => decodeNext l w input
end

/-- RFC 7541 §5.2 on what follows the last complete symbol (which starts at bit `pos`): fewer
    than eight bits, all ones.  Not used by the model: the reference `laxAt` is proved equal to. -/
def padOK (input : List Nat) (pos : Nat) : Bool :=
  let tail := (bitsOf input).drop pos
  decide (tail.length ≤ 7) && tail.all (· == true)

/-- The D-15 flag, from the branch of `check_eof` that answered `Ok(None)`.  `symStart` = the bit at which the
    unfinished symbol starts (the end of the last complete one), `w'` = the window `check_eof` was called with (the
    window of the level whose `lookup` bits are not there).  `check_eof` judges the bits from that level's start
    to the end of the input only — none in the arm `Ordering::Greater`, the rest of the last byte in the arm
    `Ordering::Equal`; the bits between `symStart` and the level's start have been consumed by the levels above and
    are never looked at again.  Flag: consumed + judged bits are more than 7, or a consumed bit is zero.
    On every accepting run this is "the bits behind the last complete symbol are not a valid RFC 7541 §5.2
    padding" (`padOK`; `H3.Huffman.laxAt_eq`), and the set of flagged inputs is enumerated exactly by
    `C15_huffman_lax_set_exact`. -/
def laxAt (input : List Nat) (symStart : Nat) (w' : BitWindow) : Bool :=
  let levelStart := 8 * w'.byte + w'.bit
  let consumed := ((bitsOf input).drop symStart).take (levelStart - symStart)
  decide (7 < (levelStart - symStart) + (8 * input.length - levelStart)) || consumed.any (· == false)

/-- The loop `for byte in payload.hpack_decode() { decoded.push(byte?) }` around
    `DecodeIter::next`.  Second component: D-15 flag (`laxAt`: `true` = the accepted ending is not
    a valid padding). -/
def decodeAll (root : Level) : Nat → BitWindow → List Nat → Except Err (List Nat × Bool)
  | 0, _, _ => .error .fuel
  | fuel+1, w, input =>
    match decodeNext root w input with
    | (w', .sym s) =>
      match decodeAll root fuel w' input with
      | .ok (r, lax) => .ok (s :: r, lax)
      | .error e => .error e
    | (w', .done) => .ok ([], laxAt input w.endPos w')
    | (_, .err e) => .error e

/-- `Vec<u8>::hpack_decode()` collected, with the ghost flag. -/
def hdecodeX (input : List Nat) : Except Err (List Nat × Bool) :=
  decodeAll H3.Gen.HuffDec.root (8 * input.length + 1) ⟨0, 0, 0⟩ input

/-- `Vec<u8>::hpack_decode()` collected into `Result<Vec<u8>, Error>`. -/
def hdecode (input : List Nat) : Except Err (List Nat) :=
  match hdecodeX input with
  | .ok (r, _) => .ok r
  | .error e => .error e

/-- `true` iff the decoder accepts `input` through the lax branch (site D-15). -/
def lax (input : List Nat) : Bool :=
  match hdecodeX input with
  | .ok (_, l) => l
  | .error _ => false

/-! ### decode.rs / bitwin.rs once more, machine arithmetic made explicit

    The functions above with every operation of the Rust code that can go wrong written out: `+` and `*`
    on `u32` (`BitWindow`'s fields, the parameters of `read_bits`) answer `none` when the result does not
    fit 32 bits, `-` when it would go below zero, a shift when its amount reaches the width of the shifted
    type (`u8`: 8, `u16`: 16), `src[i]` when `i` is out of range, `src.len() as u32` when the cast loses
    bits.  `none` is a panic in a build with overflow checks and a wrapped value (a wrong comparison)
    in a build without.  Nothing else differs from the functions above. -/

/-- `a + b` on `u32` -/
def add32 (a b : Nat) : Option Nat := if a + b < 2 ^ 32 then some (a + b) else none
/-- `a * b` on `u32` -/
def mul32 (a b : Nat) : Option Nat := if a * b < 2 ^ 32 then some (a * b) else none
/-- `a - b` on an unsigned type -/
def subU (a b : Nat) : Option Nat := if b ≤ a then some (a - b) else none

/-- `BitWindow::forwards` -/
def BitWindow.forwardsC (w : BitWindow) (step : Nat) : Option BitWindow :=
  match add32 w.bit w.count with                       -- self.bit += self.count
  | none => none
  | some bit =>
    match add32 w.byte (bit / 8) with                  -- self.byte += self.bit / 8
    | none => none
    | some byte => some { byte := byte, bit := bit % 8, count := step }

/-- `BitWindow::opposite_bit_window` -/
def BitWindow.oppositeC (w : BitWindow) : Option BitWindow :=
  match subU 8 (w.bit % 8) with                        -- 8 - (self.bit % 8)
  | none => none
  | some count => some { byte := w.byte, bit := w.bit, count := count }

/-- the two arms of `read_bits` behind its guard and the reduction of `bit_offset` -/
def readBitsArmsC (src : List Nat) (byteOffset bitOffset len : Nat) : Option Nat :=
  match add32 bitOffset len with                       -- bit_offset + len <= 8
  | none => none
  | some e =>
    if e ≤ 8 then
      match src[byteOffset]?, subU 8 len with          -- (src[byte_offset] << bit_offset) >> (8 - len)
      | some x, some sh =>
        if bitOffset < 8 ∧ sh < 8 then some (((x <<< bitOffset) % 256) >>> sh) else none
      | _, _ => none
    else
      match src[byteOffset]?, src[byteOffset + 1]?, subU 16 len with
      | some x, some y, some sh =>
        let result := (x <<< 8) ||| y                  -- (src[..] as u16) << 8 | src[.. + 1] as u16
        if bitOffset < 16 ∧ sh < 16 then some ((((result <<< bitOffset) % 65536) >>> sh) % 256) else none
      | _, _, _ => none

/-- `read_bits`; outer `none`: an operation overflows; `some none`: `Err(())` -/
def readBitsC (src : List Nat) (byteOffset bitOffset len : Nat) : Option (Option Nat) :=
  if len = 0 ∨ len > 8 then some none                  -- `||` short-circuits
  else if ¬ src.length < 2 ^ 32 then none              -- src.len() as u32
  else
    match mul32 src.length 8, mul32 byteOffset 8 with  -- src.len() as u32 * 8, byte_offset * 8
    | some total, some a =>
      match add32 a bitOffset with
      | none => none
      | some b =>
        match add32 b len with
        | none => none
        | some c =>
          if total < c then some none
          else
            match add32 byteOffset (bitOffset / 8), mul32 (bitOffset / 8) 8 with
            | some byteOffset', some m =>               -- byte_offset += bit_offset / 8
              match subU bitOffset m with               -- bit_offset -= (bit_offset / 8) * 8
              | none => none
              | some bitOffset' => (readBitsArmsC src byteOffset' bitOffset' len).map some
            | _, _ => none
    | _, _ => none

/-- `((2u16 << (side.count - 1)) - 1) as u8` -/
def eofFillerC (count : Nat) : Option Nat :=
  match subU count 1 with
  | none => none
  | some c1 =>
    if ¬ c1 < 16 then none
    else (subU ((2 <<< c1) % 65536) 1).map (· % 256)

/-- `check_eof` -/
def checkEofC (w : BitWindow) (input : List Nat) : Option (Except Err Unit) :=
  match add32 w.byte 1 with                            -- (bit_pos.byte + 1) as usize
  | none => none
  | some b1 =>
    if b1 > input.length then some (.ok ())
    else if b1 = input.length then
      match w.oppositeC with
      | none => none
      | some side =>
        match readBitsC input side.byte side.bit side.count with
        | none => none
        | some none => some (.error (.missingBits side))
        | some (some rest) =>
          match eofFillerC side.count with
          | none => none
          | some eofFiller =>
            if (rest &&& eofFiller) = eofFiller then some (.ok ()) else some (.error (.missingBits w))
    else some (.error (.missingBits w))

mutual
/-- `HuffmanDecoder::decode_next` -/
def decodeNextC : Level → BitWindow → List Nat → Option (BitWindow × Step)
  | .mk lookup table, w, input =>
    match w.forwardsC lookup with
    | none => none
    | some w =>
      match readBitsC input w.byte w.bit w.count with
      | none => none
      | some (some value) => tableGetC table value value w input
      | some none =>
        match checkEofC w input with
        | none => none
        | some (.ok ()) => some (w, .done)
        | some (.error e) => some (w, .err e)
def tableGetC : List Entry → Nat → Nat → BitWindow → List Nat → Option (BitWindow × Step)
  | [], _, value, w, _ => some (w, .err (.unhandled w value))
  | e :: _, 0, _, w, input => entryGoC e w input
  | _ :: es, i+1, value, w, input => tableGetC es i value w input
def entryGoC : Entry → BitWindow → List Nat → Option (BitWindow × Step)
  | .sym s, w, _ => some (w, .sym s)
  | .sub l, w, input => decodeNextC l w input
end

/-- the loop around `DecodeIter::next` -/
def decodeAllC (root : Level) : Nat → BitWindow → List Nat → Option (Except Err (List Nat × Bool))
  | 0, _, _ => some (.error .fuel)
  | fuel+1, w, input =>
    match decodeNextC root w input with
    | none => none
    | some (w', .sym s) =>
      match decodeAllC root fuel w' input with
      | none => none
      | some (.ok (r, lax)) => some (.ok (s :: r, lax))
      | some (.error e) => some (.error e)
    | some (w', .done) => some (.ok ([], laxAt input w.endPos w'))
    | some (_, .err e) => some (.error e)

/-- `Vec<u8>::hpack_decode()` collected, every machine operation checked: `none` = one of them overflows
    (for inputs of 2^29 bytes or more: D-06u), otherwise `some (hdecodeX input)`
    (`C15_huffman_positions_fit`). -/
def hdecodeC (input : List Nat) : Option (Except Err (List Nat × Bool)) :=
  decodeAllC H3.Gen.HuffDec.root (8 * input.length + 1) ⟨0, 0, 0⟩ input

/-! ### encode.rs -/

open H3.Gen.HuffEnc (PAD_LEFT PAD_RIGHT)

structure Encoder where
  pos : BitWindow
  buffer : List Nat
deriving Repr, DecidableEq

/-- `HuffmanEncoder::ensure_free_space` with positions in `Nat` (the capacity reservation has no visible effect
    as long as `7 * end_range.byte` fits `u32`: `ensureFreeSpaceC` below, site D-15e). -/
def ensureFreeSpace (e : Encoder) (bitCount : Nat) : Encoder :=
  let endRange := (e.pos.forwards bitCount).forwards 0
  if e.buffer.length > endRange.byte then e
  else
    let forward := endRange.byte - e.buffer.length + (if endRange.bit > 0 then 1 else 0)
    { e with buffer := e.buffer ++ List.replicate forward 255 }

/-- `write_bits(out, pos, value)`; `none` = panic (a failing `debug_assert!` or an index out of
    range).  `u8` shifts drop the bits shifted out. -/
def writeBits (out : List Nat) (pos : BitWindow) (value : Nat) : Option (List Nat) :=
  if ¬ (pos.bit < 8 ∧ pos.count ≤ 8 ∧ pos.count > 0) then none
  else
    match out[pos.byte]? with
    | none => none
    | some cur =>
      if (cur ||| PAD_LEFT.getD pos.bit 0) ≠ 255 then none        -- debug_assert_eq!
      else if pos.bit + pos.count ≤ 8 then
        let padLeft := cur ||| PAD_RIGHT.getD (8 - pos.bit) 0
        let shifted := ((value <<< (8 - pos.bit - pos.count)) % 256) ||| PAD_LEFT.getD pos.bit 0
        let padRight := PAD_RIGHT.getD (8 - pos.count - pos.bit) 0
        some (out.set pos.byte ((padLeft &&& shifted) ||| padRight))
      else
        let split := 8 - pos.bit
        let padLeft := cur ||| PAD_RIGHT.getD split 0
        let shifted := (value >>> (pos.count - split)) ||| PAD_LEFT.getD pos.bit 0
        let out := out.set pos.byte (padLeft &&& shifted)
        let rem := 8 - (pos.count - split)
        if pos.byte + 1 < out.length then
          some (out.set (pos.byte + 1) (((value <<< rem) % 256) ||| PAD_RIGHT.getD rem 0))
        else none

/-- the `for i in 0..encode_value.buffer.len()` loop of `put` -/
def putParts : List Nat → Nat → Encoder → Option Encoder
  | [], _, e => some e
  | part :: ps, rest, e =>
    let pos := e.pos.forwards (if rest < 8 then rest else 8)
    let rest := rest - pos.count
    match writeBits e.buffer pos part with
    | none => none
    | some buf => putParts ps rest { pos := pos, buffer := buf }

/-- `HuffmanEncoder::put`; `none` = panic. -/
def put (e : Encoder) (code : Nat) : Option Encoder :=
  match H3.Gen.HuffEnc.raw[code]? with
  | none => none
  | some (bitCount, buffer) => putParts buffer bitCount (ensureFreeSpace e bitCount)

def putAll : List Nat → Encoder → Option Encoder
  | [], e => some e
  | c :: cs, e =>
    match put e c with
    | none => none
    | some e' => putAll cs e'

/-- `Vec<u8>::hpack_encode()` with positions in `Nat`; `none` = panic (never for byte strings).  This is the
    code for codings whose positions fit `u32` (`hencodeC` below, `C15_huffman_encoder_positions_fit`: coding
    length `L` with `7·L < 2^32`); beyond that the code overflows (D-15e) or, repaired, answers `Err`. -/
def hencode? (s : List Nat) : Option (List Nat) :=
  (putAll s ⟨⟨0, 0, 0⟩, []⟩).map (·.buffer)

/-- Total version for callers that have established that `s` is a byte string. -/
def hencode (s : List Nat) : List Nat := (hencode? s).getD []

/-! ### encode.rs / bitwin.rs once more, machine arithmetic made explicit

    The encoder with every operation of the Rust code that can go wrong written out, as for the decoder above:
    `+` / `*` on `u32` (`BitWindow::forwards`, `7 * end_range.byte`, `pos.bit + pos.count`, `pos.byte + 1`) answer
    `none` when the result does not fit 32 bits.  `none` is a panic in a build with overflow checks; in a build
    without, `7 * end_range.byte` wraps harmlessly (a smaller reservation) and a wrapped `byte` writes at the
    wrong place or indexes out of range.  The reservation `self.buffer.reserve((7 * end_range.byte) / 4)` is
    computed only when `self.buffer.capacity() <= end_range.byte`: the capacity of the `Vec` is part of the checked
    state, and what `Vec` does when it has to grow is a PARAMETER (`grow cap required`, the new capacity; `Vec`
    promises `required ≤ grow cap required`, nothing more) — the theorems hold for every `grow`.

    D-15e (site of the send side).  The functions above (`hencode?`, positions in `Nat`) are the code only as
    long as the positions fit: `C15_huffman_encoder_positions_fit`.  `g` = the shape of `put` in the tree under
    check (`H3.Gen.HuffEnc.hugeCodingRefused`): `false` = as it was (overflows), `true` = the repaired one
    (`put` answers `Err(Error { .. })` once `buffer_pos.byte > u32::MAX - 8`, the reservation is computed in
    `usize`). -/

structure EncoderC where
  pos : BitWindow
  buffer : List Nat
  /-- `self.buffer.capacity()` -/
  cap : Nat
deriving Repr, DecidableEq

/-- forget the capacity -/
def EncoderC.toE (e : EncoderC) : Encoder := ⟨e.pos, e.buffer⟩

/-- `Vec::reserve(additional)`: the capacity afterwards -/
def vecReserve (grow : Nat → Nat → Nat) (cap len additional : Nat) : Nat :=
  if cap - len < additional then grow cap (len + additional) else cap

/-- `k` times `Vec::push`: the capacity afterwards -/
def vecPushes (grow : Nat → Nat → Nat) : Nat → Nat → Nat → Nat
  | 0, cap, _ => cap
  | k+1, cap, len => vecPushes grow k (if len = cap then grow cap (len + 1) else cap) (len + 1)

/-- the capacity growth of the standard library at the time of writing (`RawVec::grow_amortized` for `u8`:
    `max(8, max(2·cap, required))`); used by examples and by the driver's prediction of the boundary probes
    only, never by a theorem -/
def stdGrow (cap required : Nat) : Nat := max 8 (max (2 * cap) required)

/-- `if self.buffer.capacity() <= end_range.byte as usize { self.buffer.reserve(((7 * end_range.byte) / 4) as
    usize); }`: the capacity afterwards; `none` = `7 * end_range.byte` does not fit `u32` (old shape; the
    repaired shape multiplies in `usize`, saturating) -/
def reserveC (g : Bool) (grow : Nat → Nat → Nat) (cap len byte : Nat) : Option Nat :=
  if cap ≤ byte then
    if g then some (vecReserve grow cap len (7 * byte / 4))
    else
      match mul32 7 byte with
      | none => none
      | some m => some (vecReserve grow cap len (m / 4))
  else some cap

/-- `HuffmanEncoder::ensure_free_space` -/
def ensureFreeSpaceC (g : Bool) (grow : Nat → Nat → Nat) (e : EncoderC) (bitCount : Nat) : Option EncoderC :=
  match e.pos.forwardsC bitCount with                   -- end_range.forwards(bit_count)
  | none => none
  | some w1 =>
    match w1.forwardsC 0 with                           -- end_range.forwards(0)
    | none => none
    | some endRange =>
      if e.buffer.length > endRange.byte then some e
      else
        match reserveC g grow e.cap e.buffer.length endRange.byte with
        | none => none
        | some cap =>
          -- `end_range.byte as usize - self.buffer.len()` cannot go below zero behind the guard
          let forward := endRange.byte - e.buffer.length + (if endRange.bit > 0 then 1 else 0)
          some { pos := e.pos, buffer := e.buffer ++ List.replicate forward 255,
                 cap := vecPushes grow forward cap e.buffer.length }

/-- `write_bits`.  Behind the three `debug_assert!`s (`bit < 8`, `1 ≤ count ≤ 8`) every `8 - …`, `count - split`,
    every shift amount (`< 8`) and every index into `PAD_LEFT` / `PAD_RIGHT` (`≤ 8`) of the body is in range
    (`H3.Huffman.writeBits_ops_in_range`); what remains are `pos.bit + pos.count` and, in the two-byte arm,
    `pos.byte + 1` on `u32`; the slice indexings are checked in `writeBits` already. -/
def writeBitsC (out : List Nat) (pos : BitWindow) (value : Nat) : Option (List Nat) :=
  if ¬ (pos.bit < 8 ∧ pos.count ≤ 8 ∧ pos.count > 0) then none
  else
    match add32 pos.bit pos.count with                  -- (pos.bit + pos.count) <= 8
    | none => none
    | some e =>
      if e ≤ 8 then writeBits out pos value
      else
        match add32 pos.byte 1 with                     -- out[(pos.byte + 1) as usize]
        | none => none
        | some _ => writeBits out pos value

/-- the loop of `put` -/
def putPartsC : List Nat → Nat → EncoderC → Option EncoderC
  | [], _, e => some e
  | part :: ps, rest, e =>
    match e.pos.forwardsC (if rest < 8 then rest else 8) with
    | none => none
    | some pos =>
      match subU rest pos.count with                    -- rest -= self.buffer_pos.count
      | none => none
      | some rest =>
        match writeBitsC e.buffer pos part with
        | none => none
        | some buf => putPartsC ps rest { e with pos := pos, buffer := buf }

/-- the repaired `put` refuses (`Err(Error { .. })`) once the next symbol might leave the `u32` positions -/
def putRefuses (g : Bool) (e : EncoderC) : Bool := g && decide (e.pos.byte > 2 ^ 32 - 1 - 8)

/-- `HuffmanEncoder::put`; outer `none` = panic / overflow, `some none` = `Err` -/
def putC (g : Bool) (grow : Nat → Nat → Nat) (e : EncoderC) (code : Nat) : Option (Option EncoderC) :=
  match H3.Gen.HuffEnc.raw[code]? with
  | none => none
  | some (bitCount, buffer) =>
    if putRefuses g e = true then some none
    else
      match ensureFreeSpaceC g grow e bitCount with
      | none => none
      | some e1 => (putPartsC buffer bitCount e1).map some

/-- `Result<Vec<u8>, Error>` of `hpack_encode` -/
inductive EncOut where
  | ok (bytes : List Nat)
  /-- `Err(Error { .. })`: the coding does not fit the `u32` positions (repaired shape only) -/
  | tooLong
deriving Repr, DecidableEq

def putAllC (g : Bool) (grow : Nat → Nat → Nat) : List Nat → EncoderC → Option EncOut
  | [], e => some (.ok e.buffer)
  | c :: cs, e =>
    match putC g grow e c with
    | none => none
    | some none => some .tooLong
    | some (some e') => putAllC g grow cs e'

/-- `Vec<u8>::hpack_encode()`, every machine operation checked: `none` = one of them overflows (a panic in a
    build with overflow checks).  `C15_huffman_encoder_positions_fit`: `some (.ok (hencode s))` for every byte
    string whose coding has `L` bytes with `7·L < 2^32`, whatever `g` and `grow`; `none` for the old shape from
    `2^32` bytes on (and from `7·byte ≥ 2^32` on whenever the reservation is computed). -/
def hencodeC (g : Bool) (grow : Nat → Nat → Nat) (s : List Nat) : Option EncOut :=
  putAllC g grow s ⟨⟨0, 0, 0⟩, [], 0⟩

/-- the encoder of the tree under check -/
def hencodeT (grow : Nat → Nat → Nat) (s : List Nat) : Option EncOut :=
  hencodeC H3.Gen.HuffEnc.hugeCodingRefused grow s

end H3.Huffman
