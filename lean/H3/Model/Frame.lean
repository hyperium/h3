import H3.Model.Varint
import H3.Gen.Consts
import H3.Gen.Settings
/-! Model of `Frame::<PayloadLen>::decode` (`h3/src/proto/frame.rs`) on a contiguous view of the
    buffered bytes (the `Cursor` over the chunk list reads through chunk boundaries; that it
    does is part of the correspondence run, which cuts inputs at every offset).

    Frame-type numbers come from the generated `H3.Gen.Consts`. -/
namespace H3.Frame
open H3.Varint H3.Gen.Consts

inductive SettingsErr where
  | malformed | invalidId (id : Nat) | repeated (id : Nat) | exceeded | invalidValue (id v : Nat)
deriving Repr, DecidableEq

/-- `SettingId::is_forbidden` -/
def settingForbidden (id : Nat) : Bool := id == 0 || id == 2 || id == 3 || id == 4 || id == 5

/-- `SettingId::is_supported` -/
def settingSupported (id : Nat) : Bool :=
  id == SETTING_MAX_HEADER_LIST_SIZE || id == SETTING_QPACK_MAX_TABLE_CAPACITY ||
  id == SETTING_QPACK_MAX_BLOCKED_STREAMS || id == SETTING_ENABLE_CONNECT_PROTOCOL ||
  id == SETTING_ENABLE_WEBTRANSPORT || id == SETTING_WEBTRANSPORT_MAX_SESSIONS ||
  id == SETTING_H3_DATAGRAM

/-- `SettingId::is_boolean`: the list is read from the source by the translator (`[]` = the source has no such test,
    the shape before the repair of D-13b) -/
def settingBoolean (id : Nat) : Bool := H3.Gen.Settings.booleanIds.contains id

/-- `Settings::insert` on the entry list (capacity `SETTINGS_LEN = 8`). -/
def settingsInsert (es : List (Nat × Nat)) (id v : Nat) : Except SettingsErr (List (Nat × Nat)) :=
  if es.length ≥ 8 then .error .exceeded
  else if es.any (fun e => e.1 == id) then .error (.repeated id)
  else .ok (es ++ [(id, v)])

/-- `Settings::decode` over the payload (fuel = payload length + 1: every round consumes ≥ 2 bytes). -/
def settingsDecodeAux : Nat → Bytes → List (Nat × Nat) → Except SettingsErr (List (Nat × Nat))
  | 0, _, es => .ok es
  | fuel+1, bs, es =>
    if bs = [] then .ok es
    else if bs.length < 2 then .error .malformed
    else match Varint.decode bs with
      | .endOf _ => .error .malformed
      | .ok id r1 => match Varint.decode r1 with
        | .endOf _ => .error .malformed
        | .ok v r2 =>
          if settingForbidden id then .error (.invalidId id)
          else if settingSupported id then
            if settingBoolean id && decide (1 < v) then .error (.invalidValue id v) else
            match settingsInsert es id v with
            | .error e => .error e
            | .ok es' => settingsDecodeAux fuel r2 es'
          else settingsDecodeAux fuel r2 es

def settingsDecode (payload : Bytes) : Except SettingsErr (List (Nat × Nat)) :=
  settingsDecodeAux (payload.length + 1) payload []

inductive Frame where
  | data (len : Nat)
  | headers (payload : Bytes)
  | cancelPush (id : Nat)
  | settings (entries : List (Nat × Nat))
  | pushPromise (id : Nat) (encoded : Bytes)
  | goaway (id : Nat)
  | maxPushId (id : Nat)
  | webTransport (session : Nat)
deriving Repr, DecidableEq

/-- the `FrameError`s that are not `Incomplete`/`UnknownFrame` -/
inductive FrameErr where
  | malformed
  | unsupported (ty : Nat)
  | settings (e : SettingsErr)
deriving Repr, DecidableEq

inductive DecRes where
  /-- `Ok(frame)`, cursor advanced by `n` -/
  | frame (f : Frame) (n : Nat)
  /-- `Err(UnknownFrame)`, cursor advanced by `n` (header and payload skipped) -/
  | unknown (n : Nat)
  /-- `Err(Incomplete(m))` -/
  | incomplete (m : Nat)
  | error (e : FrameErr)
deriving Repr, DecidableEq

def isH2 (ty : Nat) : Bool :=
  ty == FRAME_H2_PRIORITY || ty == FRAME_H2_PING || ty == FRAME_H2_WINDOW_UPDATE ||
  ty == FRAME_H2_CONTINUATION

/-- a payload that must be exactly one varint (CANCEL_PUSH, GOAWAY, MAX_PUSH_ID) -/
def oneVarint (payload : Bytes) : Option Nat :=
  match Varint.decode payload with
  | .endOf _ => none
  | .ok v rest => if rest = [] then some v else none

/-- the typed arms of `Frame::decode` once `len` payload bytes are known to be buffered;
    `n` = header size + `len`. -/
def typed (ty : Nat) (payload : Bytes) (n : Nat) : DecRes :=
  if ty = FRAME_HEADERS then .frame (.headers payload) n
  else if ty = FRAME_SETTINGS then
    match settingsDecode payload with
    | .error e => .error (.settings e)
    | .ok es => .frame (.settings es) n
  else if ty = FRAME_CANCEL_PUSH then
    match oneVarint payload with
    | none => .error .malformed
    | some v => .frame (.cancelPush v) n
  else if ty = FRAME_PUSH_PROMISE then
    match Varint.decode payload with
    | .endOf _ => .error .malformed
    | .ok id rest => .frame (.pushPromise id rest) n
  else if ty = FRAME_GOAWAY then
    match oneVarint payload with
    | none => .error .malformed
    | some v => .frame (.goaway v) n
  else if ty = FRAME_MAX_PUSH_ID then
    match oneVarint payload with
    | none => .error .malformed
    | some v => .frame (.maxPushId v) n
  else if isH2 ty then .error (.unsupported ty)
  else .unknown n

/-- after the type: everything except the WebTransport special case -/
def afterType (total : Nat) (ty : Nat) (r1 : Bytes) : DecRes :=
  match Varint.decode r1 with
  | .endOf _ => .incomplete (total + 1)
  | .ok len r2 =>
    if ty = FRAME_DATA then .frame (.data len) (total - r2.length)
    else if r2.length < len then .incomplete (2 + len)
    else typed ty (r2.take len) (total - r2.length + len)

/-- `Frame::decode` on the bytes visible through the cursor. -/
def decode (bs : Bytes) : DecRes :=
  match Varint.decode bs with
  | .endOf _ => .incomplete (bs.length + 1)
  | .ok ty r1 =>
    if ty = FRAME_WEBTRANSPORT_BI_STREAM then
      match Varint.decode r1 with
      | .endOf k => .incomplete k
      | .ok sid r2 => .frame (.webTransport sid) (bs.length - r2.length)
    else afterType bs.length ty r1

end H3.Frame
