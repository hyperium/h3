import H3.Model.WriteBuf
import H3.Model.SendSide
import H3.Model.Qpack
import H3.Model.Headers
import H3.Model.FrameStream
import H3.Model.ReqRecv
/-! Glue between the component models for property C01 (end-to-end fidelity).  The definitions
    compose functions of `H3.Headers` (message ↔ field list),
    `H3.Qpack` (field list ↔ field section), `H3.WriteBuf` / `H3.SendSide` (frames, what is
    written on a request stream), `H3.FS` (`FrameStream` over a transport script) and
    `H3.ReqRecv` (`resolve_request` / `recv_response`, `recv_data`, `recv_trailers`).  New here: `HttpRoundTrip`
    (six more assumptions about the `http` crate), `fillFrom` / `Holdable` (what the application's `HeaderMap` can
    hold), `await` (a call that answers `Pending` is polled again while events are left), `classifyBlock`.

    * `Message`: what the application submits — a head (request: method, the caller's URI parts,
      the `Protocol` extension; response: status), the header fields *as a list* (repeated names
      allowed; the application `append`s them to a `HeaderMap` in this order), the body as the
      pieces handed to `send_data` one by one, optional trailers.
    * `wire m`: the bytes `send_request`/`send_response`, `send_data`*, `send_trailers` put on
      the request stream; `streamBytes m g` adds the grease frame `finish()` writes first when
      this handle still owes one.
    * `sendAll`: the sender as a program of awaited calls against write-acceptance scripts.
    * `recvPattern`: the documented receive pattern with every call awaited (polled again after
      `Pending`) against a transport script; `deliver` decodes what it hands out. -/
namespace H3.E2E
open H3.WriteBuf H3.SendSide H3.Headers
open H3.ReqRecv (Role Hdr HClass Res Env St FSt Trace fsSrc fsFuel pollHead pollRecvData pollRecvTrailers)

abbrev Bytes := List Nat

/-! ### the message -/

inductive Head where
  /-- `http::Request` parts as `send_request` sees them: method, `uri::Parts`, `Protocol`
      extension -/
  | request (method : Bytes) (uri : UriParts) (ext : Option Bytes)
  /-- `http::Response`: the status code -/
  | response (status : Nat)
deriving Repr, DecidableEq

structure Message where
  head : Head
  /-- header fields in the order the application appended them (names may repeat) -/
  headers : List FieldLine
  /-- the body, one entry per `send_data` call (an entry may be empty) -/
  pieces : List Bytes
  /-- `send_trailers`, when called -/
  trailers : Option (List FieldLine)
deriving Repr, DecidableEq

/-- the application's `HeaderMap`: `append` for every field, in order -/
def mapOf (l : List FieldLine) : HeaderMap := l.foldl (fun m f => hmAppend m f.1 f.2) []

/-- ... with the capacity of `http::HeaderMap` (`hmTryAppend`): `none` = some `append` of the
    application finds the map full (`try_append` fails, `append` panics) -/
def fillFrom : HeaderMap → List FieldLine → Option HeaderMap
  | m, [] => some m
  | m, f :: r =>
    match hmTryAppend m f.1 f.2 with
    | some m' => fillFrom m' r
    | none => none

/-- the application can hold the fields (in this order of `append`s) in a `HeaderMap` -/
def Holdable (l : List FieldLine) : Prop := (fillFrom [] l).isSome = true

/-- `Header::request(..)` / `Header::response(..)` for the message head -/
def headerOf (m : Message) : Headers.Res Header :=
  match m.head with
  | .request method uri ext => Header.request method uri (mapOf m.headers) ext
  | .response status => .ok (Header.response status (mapOf m.headers))

/-- the iterator of a `Header` as the list `encode_stateless` is given -/
def qfields (l : List FieldLine) : List Qpack.Field := l.map (fun f => ⟨f.1, f.2⟩)

/-- and back: the decoded `Vec<HeaderField>` as `Header::try_from` reads it -/
def lines (fs : List Qpack.Field) : List FieldLine := fs.map (fun f => (f.name, f.value))

/-- `qpack::encode_stateless(&mut block, header)`: the block -/
def fieldSection (h : Header) : Bytes := (Qpack.encodeStateless (qfields h.wireFields)).1

/-- `Header::trailer(map)` encoded -/
def trailerSection (t : List FieldLine) : Bytes := fieldSection (Header.trailer (mapOf t))

/-! ### what the sender writes -/

/-- the frames of a message in call order: `send_request`/`send_response` (HEADERS), one DATA
    frame per `send_data` — also for an empty buffer —, `send_trailers` (HEADERS) -/
def framesOf (m : Message) (h : Header) : List SFrame :=
  .headers (fieldSection h) ::
    (m.pieces.map .data ++
      (match m.trailers with
       | none => []
       | some t => [.headers (trailerSection t)]))

/-- the content of the `WriteBuf` of a frame: encoded header, then the payload -/
def frameBytes (f : SFrame) : Bytes := (encodeFrame f).getD [] ++ (framePayload f).getD []

def wireOf (fs : List SFrame) : Bytes := (fs.map frameBytes).flatten

/-- the bytes of the message on its stream (nothing when `Header::request` refuses it) -/
def wire (m : Message) : Bytes :=
  match headerOf m with
  | .ok h => wireOf (framesOf m h)
  | _ => []

/-- `finish()` on a handle that still owes the connection's grease frame (`g = some draw`)
    writes that frame before `poll_finish` -/
def greaseBytes : Option Nat → Bytes
  | none => []
  | some gN => frameBytes (.grease (greaseId gN))

/-- everything between stream open and FIN -/
def streamBytes (m : Message) (g : Option Nat) : Bytes := wire m ++ greaseBytes g

/-! ### the sender as a program on one request stream

    `SOp` are the steps of `H3.SendSide.step` that address one request stream, acting on its
    `Stream` record (`proj` below maps a global step to them). -/

inductive SOp where
  | headers (fs : Bytes)
  | data (buf : Bytes)
  | finish (gN : Nat)
  | poll (k : Nat)
deriving Repr, DecidableEq

def SOp.apply (s : Stream) : SOp → Stream
  | .headers fs => onRequest (fun s => s.start (fromFrame (.headers fs))) s
  | .data buf => onRequest (fun s => s.start (fromFrame (.data buf))) s
  | .finish gN => onRequest (finishStream gN) s
  | .poll k => s.poll k

def runS (s : Stream) (ops : List SOp) : Stream := ops.foldl SOp.apply s

/-- the step of the connection machine as seen by request stream `sid`: `none` = it does not
    address this stream (`sendRequest`/`acceptRequest` create streams, they never touch an
    existing one; `goaway` addresses the control stream) -/
def proj (sid : Nat) : Step → Option SOp
  | .sendHeaders s fs => if s = sid then some (.headers fs) else none
  | .sendData s buf => if s = sid then some (.data buf) else none
  | .finish s gN => if s = sid then some (.finish gN) else none
  | .poll s k => if s = sid then some (.poll k) else none
  | _ => none

/-- the record of stream `sid` (first entry with this id) -/
def getStream (ss : List (Nat × Stream)) (sid : Nat) : Option Stream :=
  (ss.find? (fun e => e.1 == sid)).map (·.2)

/-- one awaited call: the call hands its `WriteBuf` over, then the transport polls of the
    script (entry = bytes it is willing to take, `0` = `Pending`) -/
def callS (s : Stream) (c : SOp × List Nat) : Stream := runS (c.1.apply s) (c.2.map .poll)

/-- a program of awaited calls -/
def sendAll (s : Stream) (calls : List (SOp × List Nat)) : Stream := calls.foldl callS s

/-- R-14: every call is awaited to completion — when the next call is made (and at the end)
    the `WriteBuf` of the previous one has been drained -/
def Awaited : Stream → List (SOp × List Nat) → Prop
  | _, [] => True
  | s, c :: r => (callS s c).cur = none ∧ Awaited (callS s c) r

def frameOp : SFrame → SOp
  | .data b => .data b
  | .headers fs => .headers fs
  | _ => .poll 0

/-- one call per frame, each with its acceptance script (missing ones are empty) -/
def frameCalls : List SFrame → List (List Nat) → List (SOp × List Nat)
  | [], _ => []
  | f :: r, scripts => (frameOp f, scripts.headD []) :: frameCalls r scripts.tail

/-- the calls that submit a message: one per frame, then `finish()` -/
def callsOf (fs : List SFrame) (gN : Nat) (scripts : List (List Nat)) : List (SOp × List Nat) :=
  frameCalls fs scripts ++ [(.finish gN, (scripts.drop fs.length).headD [])]

/-- a fresh request stream handle: client `send_request` has opened it / server `accept` has
    handed it out; `g` = this handle owes the grease frame -/
def freshStream (g : Bool) : Stream := mkStream .request none false g

/-! ### the receiver: the documented pattern, every call awaited -/

/-- `.await` on one call of the receive API: the task polls the call; on `Pending` it sleeps until
    the transport wakes it and polls the same call again.  In the script model a `Pending` answer
    has consumed at least one transport event, so the call is polled again while events are left;
    once there are none it stays pending.  `fuel` bounds the number of polls (`.invalid` = fuel
    exhausted, a model artefact the theorems exclude). -/
def await (poll : St FSt → Res × St FSt) : Nat → St FSt → Res × St FSt
  | 0, st => (.invalid, st)
  | fuel+1, st =>
    let p := poll st
    if p.1 = .pending ∧ p.2.src.2 ≠ [] then await poll fuel p.2 else p

def awaitCall (poll : St FSt → Res × St FSt) (st : St FSt) : Res × St FSt :=
  await poll (fsFuel st.src) st

/-- `recv_data().await` -/
def recvData (st : St FSt) : Res × St FSt :=
  awaitCall (fun x => pollRecvData fsSrc (fsFuel x.src) x) st

/-- `recv_data().await` until it answers something else than a piece of data -/
def recvBody : Nat → St FSt → List Res × St FSt
  | 0, st => ([.invalid], st)
  | fuel+1, st =>
    let p := recvData st
    match p.1 with
    | .data d =>
      let q := recvBody fuel p.2
      (.data d :: q.1, q.2)
    | r => ([r], p.2)

/-- after the head: the body until its end is reported, then `recv_trailers().await` -/
def recvTail (H : Hdr) (st : St FSt) : List Res × Option Res × Env :=
  let p := recvBody (fsFuel st.src) st
  if p.1.getLast? = some .end_ then
    let t := awaitCall (pollRecvTrailers fsSrc H) p.2
    (p.1, some t.1, t.2.env)
  else (p.1, none, p.2.env)

/-- `resolve_request().await` / `recv_response().await`, then the body, then the trailers, against
    a transport script (chunks, `pend` = a poll that found nothing, FIN, RESET) -/
def recvPattern (role : Role) (H : Hdr) (script : List H3.FS.Ev) : Trace :=
  let p := awaitCall (pollHead role fsSrc H) { src := ({}, script) }
  match p.1 with
  | .head b =>
    let q := recvTail H p.2
    { head := .head b, body := q.1, trailers := q.2.1, env := q.2.2 }
  | r => { head := r, env := p.2.env }

/-! ### the calls of the receive API, one poll each -/

inductive RCall where
  | head (role : Role)
  | data
  | trailers
deriving Repr, DecidableEq

/-- one poll of a call -/
def RCall.poll (H : Hdr) : RCall → St FSt → Res × St FSt
  | .head role => pollHead role fsSrc H
  | .data => fun x => pollRecvData fsSrc (fsFuel x.src) x
  | .trailers => pollRecvTrailers fsSrc H

/-! ### QPACK and header validation plugged into the receive model -/

def classOf {α : Type} : Headers.Res α → HClass
  | .ok _ => .ok
  | _ => .malformed

/-- what `decode_stateless` + `Header::try_from` + `into_*` make of a block (`max` = the
    receiver's `max_field_section_size`).  `HeaderTooLong` (C10: a stream-level refusal with its
    own codes, see `Qpack.recvSite`) is filed under `malformed` here: like a malformed message it
    ends the call with a stream error and is never delivered. -/
def classifyBlock {α : Type} (max : Nat) (parse : List FieldLine → Headers.Res α) (block : Bytes) : HClass :=
  match Qpack.decodeStateless block max with
  | .ok fs _ => classOf (parse (lines fs))
  | .err (.headerTooLong _) => .malformed
  | .err _ => .qpack

def hdrOf (H : Http) (role : Role) (max : Nat) : Hdr where
  head := fun b =>
    match role with
    | .server => classifyBlock max (recvRequest H) b
    | .client => classifyBlock max (recvResponse H) b
  trailer := classifyBlock max (recvTrailers H)

inductive HeadOut where
  /-- `resolve_request` → `http::Request` parts -/
  | request (p : RequestParts)
  /-- `recv_response` → status and header map -/
  | response (status : Nat) (headers : HeaderMap)
deriving Repr, DecidableEq

def optOf {α : Type} : Headers.Res α → Option α
  | .ok a => some a
  | _ => none

def decodeWith {α : Type} (max : Nat) (parse : List FieldLine → Headers.Res α) (block : Bytes) : Option α :=
  match Qpack.decodeStateless block max with
  | .ok fs _ => optOf (parse (lines fs))
  | .err _ => none

def decodeHead (H : Http) (role : Role) (max : Nat) (block : Bytes) : Option HeadOut :=
  match role with
  | .server => (decodeWith max (recvRequest H) block).map .request
  | .client => (decodeWith max (recvResponse H) block).map (fun r => .response r.1 r.2)

/-- the bytes of the `Ok(Some(bytes))` answers, in call order -/
def bodyOf : List Res → Bytes
  | [] => []
  | .data d :: r => d ++ bodyOf r
  | _ :: r => bodyOf r

/-- how many `recv_data` calls answered `Ok(None)` -/
def endsOf (rs : List Res) : Nat := (rs.filter (· == .end_)).length

/-- what the receiving application has in hand after the documented pattern -/
structure Delivered where
  /-- answer of `resolve_request` / `recv_response` (`none`: an error or still pending) -/
  head : Option HeadOut
  /-- concatenation of the pieces `recv_data` handed out -/
  body : Bytes
  /-- the last `recv_data` answered `Ok(None)` -/
  cleanEnd : Bool
  /-- number of `Ok(None)` answers -/
  ends : Nat
  /-- `recv_trailers`: `none` = not called / failed / pending, `some none` = `Ok(None)` -/
  trailers : Option (Option HeaderMap)
  /-- error cell, RESET_STREAM sent, STOP_SENDING sent -/
  env : Env
deriving Repr, DecidableEq

/-- what the application has in hand, decoded from the answers of its calls -/
def deliverOf (H : Http) (role : Role) (max : Nat) (t : Trace) : Delivered :=
  { head := match t.head with
      | .head b => decodeHead H role max b
      | _ => none
    body := bodyOf t.body
    cleanEnd := t.body.getLast? == some .end_
    ends := endsOf t.body
    trailers := match t.trailers with
      | some (.trailers b) => (decodeWith max (recvTrailers H) b).map some
      | some .noTrailers => some none
      | _ => none
    env := t.env }

def deliver (H : Http) (role : Role) (max : Nat) (script : List H3.FS.Ev) : Delivered :=
  deliverOf H role max (recvPattern role (hdrOf H role max) script)

/-- a transport that delivers `w` in chunks of `k ≥ 1` bytes and then FIN -/
def chunksOf (k : Nat) : Nat → Bytes → List H3.FS.Ev
  | 0, _ => []
  | _, [] => []
  | fuel+1, w => .chunk (w.take (max k 1)) :: chunksOf k fuel (w.drop (max k 1))

def chunked (k : Nat) (w : Bytes) : List H3.FS.Ev := chunksOf k w.length w ++ [.fin]

/-! ### the `http` round-trip laws C01 adds to `HttpLaws`

    The model keeps `Scheme`, `Authority`, `PathAndQuery` values as their `as_str()`.  A value
    the sending application holds was produced by the crate's parser, and what the receiver does
    is parse its `as_str()` again and hand the parts to `Uri::builder`. -/

structure HttpRoundTrip (H : Http) : Prop where
  /-- `Scheme::from_str(s.as_str())` gives `s` back -/
  scheme_print_parse : ∀ w v, H.parseScheme w = some v → H.parseScheme v = some v
  /-- `PathAndQuery::from_str(p.as_str())` gives `p` back -/
  path_print_parse : ∀ w v, H.parsePath w = some v → H.parsePath v = some v
  /-- a `PathAndQuery` never holds a `#`: the parser cuts the fragment off (so the `:path` h3 writes
      from an `http::Uri` passes the receiver's own check, `pathSyntax`, D-12g) -/
  path_print_no_fragment : ∀ w v, H.parsePath w = some v → pathSyntax v = true
  /-- a built `Uri` has the parts it was built from -/
  uri_parts : ∀ s a p u, H.uriBuild s a p = some u → u = { scheme := s, authority := some a, path := p }
  /-- scheme + authority + path-and-query, each a value of the crate, always build -/
  uri_builds : ∀ s a p, H.parseScheme s = some s → H.parseAuthority a = some a →
    H.parsePath p = some p → (H.uriBuild (some s) a (some p)).isSome = true
  /-- an authority alone (the target of a plain CONNECT, RFC 9114 §4.4: neither `:scheme` nor `:path`)
      builds too: `Uri::builder().authority(a).build()` is the authority-form URI -/
  uri_builds_authority : ∀ a, H.parseAuthority a = some a → (H.uriBuild none a none).isSome = true

end H3.E2E
