import H3.Model.Frame
/-! Model of `FrameStream::{poll_next,poll_data}` + `FrameDecoder::decode` (`h3/src/frame.rs`),
    `BufRecvStream::poll_read` (`h3/src/stream.rs`) and the `BufList` operations they use
    (`h3/src/buf.rs`).

    The machine is generic in the frame decoder `D` (so that the simulation proof can be done
    once against three laws of the decoder); `frameDec` instantiates it with `Frame.decode`.

    A *transport script* is the list of answers the QUIC receive stream gives to successive
    `poll_data` calls: a non-empty chunk, `Pending`, end of stream, or a reset.  An exhausted
    script answers `Pending`.  "For every chunking / schedule" = "for every script". -/
namespace H3.FS

abbrev Bytes := List Nat

def USIZE_MAX : Nat := 2^64 - 1

inductive DecRes (F E : Type) where
  | frame (f : F) (n : Nat)
  | unknown (n : Nat)
  | incomplete (m : Nat)
  | error (e : E)
deriving Repr

/-- what a decoded frame means for the bytes that follow it -/
inductive Kind where
  /-- nothing: the next byte starts a new frame -/
  | plain
  /-- DATA: `len` payload bytes follow, handed out by `poll_data` -/
  | data (len : Nat)
  /-- WebTransport bidi header: the rest of the stream is payload -/
  | raw
deriving Repr, DecidableEq

structure Dec (F E : Type) where
  dec : Bytes → DecRes F E
  kind : F → Kind

inductive Ev where
  | chunk (b : Bytes) | pend | fin | reset (c : Nat)
deriving Repr, DecidableEq

structure St where
  /-- `BufList`: queue of non-empty chunks -/
  buf : List Bytes := []
  /-- `BufRecvStream.eos` -/
  eos : Bool := false
  /-- `FrameDecoder.expected` -/
  expected : Option Nat := none
  /-- `FrameStream.remaining_data` -/
  remaining : Nat := 0
deriving Repr, DecidableEq

def St.flat (s : St) : Bytes := s.buf.flatten

/-- `BufList::advance` -/
def advance : Nat → List Bytes → List Bytes
  | 0, bs => bs
  | _, [] => []
  | n+1, c :: cs =>
    if c.length ≤ n+1 then advance (n+1 - c.length) cs else (c.drop (n+1)) :: cs
termination_by n bs => bs.length

/-- `BufList::take_chunk` -/
def takeChunk (max : Nat) : List Bytes → Option Bytes × List Bytes
  | [] => (none, [])
  | c :: cs =>
    let k := min max c.length
    (some (c.take k), if k = c.length then cs else c.drop k :: cs)

inductive Out (F E : Type) where
  | frame (f : F)
  | data (b : Bytes)
  | none
  | pending
  | errProto (e : E)
  /-- `FrameStreamError::UnexpectedEnd` -/
  | errEnd
  /-- `FrameStreamError::Quic(StreamTerminated{c})` -/
  | errQuic (c : Nat)
  /-- the `assert!(remaining_data == 0)` of `poll_next` -/
  | panic
deriving Repr

inductive DL (F E : Type) where
  | none (drop : Nat) (exp : Option Nat)
  | frame (drop : Nat) (f : F)
  /-- `exp` = the memo as the loop left it (`None` once an unknown frame was skipped) -/
  | error (drop : Nat) (exp : Option Nat) (e : E)

/-- `if let Some(min) = self.expected { if src.remaining() < min { return Ok(None) } }` -/
def expBlocks (exp : Option Nat) (len : Nat) : Bool :=
  match exp with
  | some m => decide (len < m)
  | none => false

/-- `FrameDecoder::decode` on the flattened buffer; returns how many bytes to drop.
    Fuel: every `continue` skips an unknown frame of ≥ 2 bytes; `flat.length + 1` suffices. -/
def decLoop {F E} (D : Dec F E) : Nat → Bytes → Option Nat → Nat → DL F E
  | 0, _, exp, dropped => .none dropped exp
  | fuel+1, flat, exp, dropped =>
    if flat = [] then .none dropped exp
    else if expBlocks exp flat.length then .none dropped exp
    else match D.dec flat with
      | .unknown n => decLoop D fuel (flat.drop n) none (dropped + n)
      | .incomplete m => .none dropped (some m)
      | .frame f n => .frame (dropped + n) f
      | .error e => .error dropped exp e

variable {F E : Type}

def St.push (s : St) (b : Bytes) : St := { s with buf := s.buf ++ [b] }

def St.applyKind (s : St) (k : Kind) : St :=
  match k with
  | .plain => { s with remaining := 0 }
  | .data n => { s with remaining := n }
  | .raw => { s with remaining := USIZE_MAX }

/-- answer of `try_recv` -/
inductive End where
  | more | pending | eos
deriving DecidableEq

/-- decode step shared by all branches of `poll_next` once `try_recv` has answered `e`.
Returns `none` when the loop must `continue`. -/
def afterRecv (D : Dec F E) (s : St) (e : End) : Option (Out F E × St) :=
  match decLoop D (s.flat.length + 1) s.flat s.expected 0 with
  | .frame d f =>
    some (.frame f, ({ s with buf := advance d s.buf, expected := none }).applyKind (D.kind f))
  | .error d exp e' => some (.errProto e', { s with buf := advance d s.buf, expected := exp })
  | .none d exp =>
    let s' := { s with buf := advance d s.buf, expected := exp }
    match e with
    | .more => none
    | .pending => some (.pending, s')
    | .eos => if s'.flat = [] then some (.none, s') else some (.errEnd, s')

/-- the loop of `FrameStream::poll_next` against a transport script. -/
def pollNextLoop (D : Dec F E) : St → List Ev → Out F E × St × List Ev
  | s, script =>
    if s.eos then
      match afterRecv D s .eos with
      | some (o, s') => (o, s', script)
      | none => (.pending, s, script) -- unreachable
    else match script with
      | [] => match afterRecv D s .pending with
        | some (o, s') => (o, s', [])
        | none => (.pending, s, [])
      | .pend :: r => match afterRecv D s .pending with
        | some (o, s') => (o, s', r)
        | none => (.pending, s, r)
      | .fin :: r => match afterRecv D { s with eos := true } .eos with
        | some (o, s') => (o, s', r)
        | none => (.pending, s, r)
      | .reset c :: r => (.errQuic c, s, .reset c :: r)
      | .chunk b :: r =>
        let s1 := s.push b
        match afterRecv D s1 .more with
        | some (o, s') => (o, s', r)
        | none =>
          match decLoop D (s1.flat.length + 1) s1.flat s1.expected 0 with
          | .none d exp => pollNextLoop D { s1 with buf := advance d s1.buf, expected := exp } r
          | _ => (.pending, s1, r) -- unreachable

/-- `FrameStream::poll_next`. -/
def pollNext (D : Dec F E) (s : St) (script : List Ev) : Out F E × St × List Ev :=
  if s.remaining ≠ 0 then (.panic, s, script) else pollNextLoop D s script

/-- `try_recv` as used by `poll_data` (`Pending` is treated as "not at the end"):
    `.error c` = a transport error to return. -/
def recvForData (s : St) (script : List Ev) : Except Nat (Bool × St × List Ev) :=
  if s.eos then .ok (true, s, script)
  else match script with
    | [] => .ok (false, s, [])
    | .pend :: r => .ok (false, s, r)
    | .fin :: r => .ok (true, { s with eos := true }, r)
    | .reset c :: _ => .error c
    | .chunk b :: r => .ok (false, s.push b, r)

/-- `FrameStream::poll_data`. -/
def pollData (s : St) (script : List Ev) : Out F E × St × List Ev :=
  if s.remaining = 0 then (.none, s, script)
  else match recvForData s script with
    | .error c => (.errQuic c, s, script)
    | .ok (e, s1, r) =>
      match takeChunk s1.remaining s1.buf with
      | (none, _) =>
        if e then
          (if s1.remaining ≠ USIZE_MAX then (.errEnd, s1, r) else (.none, s1, r))
        else (.pending, s1, r)
      | (some d, buf') =>
        if e && decide (d.length < s1.remaining) && buf'.isEmpty then (.errEnd, { s1 with buf := buf' }, r)
        else (.data d, { s1 with buf := buf', remaining := s1.remaining - d.length }, r)

/-! ### Instantiation with `Frame.decode` -/

def frameKind : H3.Frame.Frame → Kind
  | .data n => .data n
  | .webTransport _ => .raw
  | _ => .plain

def liftRes : H3.Frame.DecRes → DecRes H3.Frame.Frame H3.Frame.FrameErr
  | .frame f n => .frame f n
  | .unknown n => .unknown n
  | .incomplete m => .incomplete m
  | .error e => .error e

def frameDec : Dec H3.Frame.Frame H3.Frame.FrameErr :=
  { dec := fun b => liftRes (H3.Frame.decode b), kind := frameKind }

inductive Call where
  | next | data
deriving Repr, DecidableEq

abbrev FOut := Out H3.Frame.Frame H3.Frame.FrameErr

/-- run a sequence of API calls; stops after a terminal answer of `poll_next`
    (`None` or an error) or any error. -/
def runCalls : St → List Ev → List Call → List FOut
  | _, _, [] => []
  | s, script, c :: cs =>
    match c with
    | .next =>
      let (o, s', r) := pollNext frameDec s script
      match o with
      | .frame _ => o :: runCalls s' r cs
      | .pending => o :: runCalls s' r cs
      | _ => [o]
    | .data =>
      let (o, s', r) := pollData (F := H3.Frame.Frame) (E := H3.Frame.FrameErr) s script
      match o with
      | .data _ => o :: runCalls s' r cs
      | .pending => o :: runCalls s' r cs
      | .none => o :: runCalls s' r cs
      | _ => [o]

/-- the documented reader loop: `poll_next`; after a frame with payload, `poll_data` until it
    answers `None`; repeat.  `Pending` answers are retried while the script still has events.
    Fuel bounds the number of calls (the driver passes enough). -/
def readerLoop : Nat → St → List Ev → List FOut
  | 0, _, _ => []
  | fuel+1, s, script =>
    if s.remaining ≠ 0 then
      let (o, s', r) := pollData (F := H3.Frame.Frame) (E := H3.Frame.FrameErr) s script
      match o with
      | .data _ => o :: readerLoop fuel s' r
      | .pending => if script.isEmpty then [o] else readerLoop fuel s' r
      | _ => [o]
    else
      let (o, s', r) := pollNext frameDec s script
      match o with
      | .frame _ => o :: readerLoop fuel s' r
      | .pending => if script.isEmpty then [o] else readerLoop fuel s' r
      | _ => [o]

/-! ### `split()`, and the frame layer as a request-body reader drives it (second round)

`FrameStream::split` (`h3/src/frame.rs`) hands the receive half the same `FrameDecoder` (the
`expected` memo) and the same `remaining_data`; `BufRecvStream::split` (`h3/src/stream.rs`) hands it
the buffered chunks and the end-of-stream flag.  The send half starts empty and never reads.  So on
the four components of the frame-layer state `split` is the identity — that is what the model says,
and what the differential run checks against the real `RequestStream::split`. -/

/-- the receive half after `split()` -/
def St.split (s : St) : St :=
  { buf := s.buf, eos := s.eos, expected := s.expected, remaining := s.remaining }

/-- call letters `n`, `d`, `s` -/
inductive CallS where
  | next | data | split
deriving Repr, DecidableEq

/-- a call sequence without its `split`s -/
def CallS.erase : List CallS → List Call
  | [] => []
  | .next :: r => .next :: CallS.erase r
  | .data :: r => .data :: CallS.erase r
  | .split :: r => CallS.erase r

/-- `runCalls` with `split()` anywhere between the calls (the calls go on on the receive half) -/
def runCallsS : St → List Ev → List CallS → List FOut
  | _, _, [] => []
  | s, script, c :: cs =>
    match c with
    | .split => runCallsS s.split script cs
    | .next =>
      let (o, s', r) := pollNext frameDec s script
      match o with
      | .frame _ => o :: runCallsS s' r cs
      | .pending => o :: runCallsS s' r cs
      | _ => [o]
    | .data =>
      let (o, s', r) := pollData (F := H3.Frame.Frame) (E := H3.Frame.FrameErr) s script
      match o with
      | .data _ => o :: runCallsS s' r cs
      | .pending => o :: runCallsS s' r cs
      | .none => o :: runCallsS s' r cs
      | _ => [o]

/-- result of one `poll_recv_data`: the answer, the answers of the frame-layer calls behind it
    (`raw`, in order), the state and the rest of the script afterwards -/
structure Recv where
  out : FOut
  raw : List FOut
  st : St
  script : List Ev
deriving Repr

/-- `RequestStream::poll_recv_data` (`h3/src/connection.rs`), the part that drives the frame layer:
    `while !self.stream.has_data() { match ready!(poll_next) … }` then `poll_data`.  A DATA frame header
    lets the loop go on (an empty DATA frame is not the end of the body), a HEADERS frame ends the
    body (`Ok(None)`, the block is kept for `recv_trailers`), any other frame is answered as it is
    (`.frame f`: the caller closes the connection with H3_FRAME_UNEXPECTED), everything else
    (`None`, `Pending`, an error) is passed on.  Fuel: every turn of the loop consumes a frame header. -/
def recvData : Nat → St → List Ev → Recv
  | 0, s, sc => ⟨.pending, [], s, sc⟩
  | fuel+1, s, sc =>
    if s.remaining ≠ 0 then
      match pollData (F := H3.Frame.Frame) (E := H3.Frame.FrameErr) s sc with
      | (o, s', r) => ⟨o, [o], s', r⟩
    else
      match pollNext frameDec s sc with
      | (.frame (.data n), s', r) =>
        let x := recvData fuel s' r
        { x with raw := .frame (.data n) :: x.raw }
      | (.frame (.headers p), s', r) => ⟨.none, [.frame (.headers p)], s', r⟩
      | (o, s', r) => ⟨o, [o], s', r⟩

def scriptLen : List Ev → Nat
  | [] => 0
  | .chunk b :: r => b.length + scriptLen r
  | _ :: r => scriptLen r

/-- enough fuel for `recvData`: every frame header has at least two bytes -/
def recvFuel (s : St) (sc : List Ev) : Nat := s.flat.length + scriptLen sc + 2

/-- call letters `r`, `s` -/
inductive CallR where
  | recv | split
deriving Repr, DecidableEq

structure RRun where
  /-- the answers of the `poll_recv_data` calls -/
  outs : List FOut
  /-- the answers of all frame-layer calls behind them -/
  raw : List FOut
  st : St
  script : List Ev
  /-- a call has given a terminal answer (end of the body or an error); later calls are not made -/
  ended : Bool
deriving Repr

/-- a request-body reader: `poll_recv_data` again and again (until the end of the body or an
    error), with `split()` anywhere in between -/
def runR : St → List Ev → List CallR → RRun
  | s, sc, [] => ⟨[], [], s, sc, false⟩
  | s, sc, c :: cs =>
    match c with
    | .split => runR s.split sc cs
    | .recv =>
      let x := recvData (recvFuel s sc) s sc
      match x.out with
      | .data _ =>
        let y := runR x.st x.script cs
        { y with outs := x.out :: y.outs, raw := x.raw ++ y.raw }
      | .pending =>
        let y := runR x.st x.script cs
        { y with outs := x.out :: y.outs, raw := x.raw ++ y.raw }
      | _ => ⟨[x.out], x.raw, x.st, x.script, true⟩

end H3.FS
