import H3.Model.PrefixInt
import H3.Model.PrefixString
import H3.Gen.StaticTable
import H3.Gen.Field
import H3.Gen.Consts
/-! Model of the *stateless* QPACK paths of `h3/src/qpack`: `static_.rs` (`StaticTable::{get,
    find,find_name}` over the generated tables), `field.rs` (`HeaderField::mem_size`), `block.rs`
    (`HeaderBlockField::decode`, `HeaderPrefix`, `Indexed`, `IndexedWithPostBase`,
    `LiteralWithNameRef`, `LiteralWithPostBaseNameRef`, `Literal`), `encoder.rs`
    (`encode_stateless`) and `decoder.rs` (`decode_stateless`, with the conversions
    `ParseError → DecoderError`).

    Bytes are `Nat`s (`< 256` for well-formed input).  `u8` masks are written arithmetically
    (`first & 0b1111_0000 == 0b0001_0000` is `first / 16 % 16 = 1` for a byte, and so on).
    `usize`/`u64` values are `Nat`s; the `> usize::MAX` checks of `block.rs` are kept (64-bit
    `usize`), the running `mem_size` (`u64`) comes with the no-wrap bound
    `C10_recv_exact`/`C10_recv_no_wrap` (it never exceeds `128 · |input|`).

    D-15 (Huffman laxity, not repaired) is inherited from `H3.Huffman`: every decoder that reads
    a string literal also returns the ghost flag `Huffman.lax payload` (not in the code); the
    flag of a whole field section is the disjunction over the string literals decoded. -/
namespace H3.Qpack
open H3.Gen.Field (ESTIMATED_OVERHEAD_BYTES)

abbrev Bytes := List Nat

/-! ### field.rs -/

/-- `HeaderField { name, value }` -/
structure Field where
  name : Bytes
  value : Bytes
deriving Repr, DecidableEq

/-- `HeaderField::mem_size` -/
def Field.memSize (f : Field) : Nat := f.name.length + f.value.length + ESTIMATED_OVERHEAD_BYTES

/-- `HeaderField::with_value` -/
def Field.withValue (f : Field) (v : Bytes) : Field := { name := f.name, value := v }

/-! ### static_.rs -/

namespace StaticTable
open H3.Gen.StaticTable (table findArms findNameArms)

/-- `StaticTable::get(index)`: `PREDEFINED_HEADERS.get(index)`; `none` is `Err(Unknown(index))`. -/
def get (i : Nat) : Option Field :=
  match table[i]? with
  | some (n, v) => some ⟨n, v⟩
  | none => none

/-- the arms of the `match` in `find`, tried in source order (Rust takes the first that matches) -/
def findGo : List ((Bytes × Bytes) × Nat) → Bytes → Bytes → Option Nat
  | [], _, _ => none
  | ((n, v), i) :: r, name, value => if n = name ∧ v = value then some i else findGo r name value

/-- `StaticTable::find(field)` -/
def find (f : Field) : Option Nat := findGo findArms f.name f.value

def findNameGo : List (Bytes × Nat) → Bytes → Option Nat
  | [], _ => none
  | (n, i) :: r, name => if n = name then some i else findNameGo r name

/-- `StaticTable::find_name(name)` -/
def findName (name : Bytes) : Option Nat := findNameGo findNameArms name

end StaticTable

/-! ### parse_error.rs, and `DecoderError` as far as the stateless path produces it -/

/-- `prefix_int::Error` -/
inductive IntErr where
  | overflow
  | unexpectedEnd
deriving Repr, DecidableEq

/-- `ParseError` -/
inductive ParseError where
  | integer (e : IntErr)
  /-- `ParseError::String(prefix_string::Error)` (`From<prefix_string::Error>`) -/
  | string (e : PrefixString.ErrKind)
  | invalidPrefix (p : Nat)
  | invalidBase (b : Int)
deriving Repr, DecidableEq

/-- `DecoderError`; the variants `InvalidIndex`, `DynamicTable`, `UnexpectedEnd`, `BufSize` are
    not produced by `decode_stateless` (every integer/string error reaches it wrapped in a
    `ParseError`, whose conversion keeps `UnexpectedEnd` inside `InvalidInteger`/`InvalidString`). -/
inductive Err where
  | invalidInteger (e : IntErr)
  | invalidString (e : PrefixString.ErrKind)
  | invalidStaticIndex (i : Nat)
  | unknownPrefix (p : Nat)
  | missingRefs (n : Nat)
  | badBaseIndex (b : Int)
  | headerTooLong (n : Nat)
  /-- not in the code: the model's loop bound was reached (proved unreachable) -/
  | fuel
deriving Repr, DecidableEq

/-- `impl From<ParseError> for DecoderError` -/
def Err.ofParse : ParseError → Err
  | .integer e => .invalidInteger e
  | .string e => .invalidString e
  | .invalidPrefix p => .unknownPrefix p
  | .invalidBase b => .badBaseIndex b

/-- `usize::MAX as u64` (64-bit target) -/
def USIZE_MAX : Nat := 2 ^ 64 - 1

/-! ### block.rs -/

inductive HeaderBlockField where
  | indexed
  | indexedWithPostBase
  | literalWithNameRef
  | literalWithPostBaseNameRef
  | literal
  | unknown
deriving Repr, DecidableEq

/-- `HeaderBlockField::decode(first)`, tests in the order of the source -/
def HeaderBlockField.decode (first : Nat) : HeaderBlockField :=
  if first / 128 % 2 ≠ 0 then .indexed                        -- first & 0b1000_0000 != 0
  else if first / 16 % 16 = 1 then .indexedWithPostBase       -- first & 0b1111_0000 == 0b0001_0000
  else if first / 64 % 4 = 1 then .literalWithNameRef         -- first & 0b1100_0000 == 0b0100_0000
  else if first / 16 % 16 = 0 then .literalWithPostBaseNameRef -- first & 0b1111_0000 == 0
  else if first / 32 % 8 = 1 then .literal                    -- first & 0b1110_0000 == 0b0010_0000
  else .unknown

/-- `HeaderPrefix { encoded_insert_count, sign_negative, delta_base }` -/
structure HeaderPrefix where
  encodedInsertCount : Nat
  signNegative : Bool
  deltaBase : Nat
deriving Repr, DecidableEq

/-- `HeaderPrefix::new(required, base, total_inserted, max_table_size)` for
    `max_table_size = 0`, the only call of the stateless encoder (`new(0, 0, 0, 0)`). -/
def HeaderPrefix.new0 : HeaderPrefix := ⟨0, false, 0⟩

/-- `HeaderPrefix::decode` -/
def HeaderPrefix.decode (bs : Bytes) : Except ParseError (HeaderPrefix × Bytes) :=
  match PrefixInt.decode 8 bs with
  | .endOf => .error (.integer .unexpectedEnd)
  | .overflow => .error (.integer .overflow)
  | .ok _ ric r1 =>
    match PrefixInt.decode 7 r1 with
    | .endOf => .error (.integer .unexpectedEnd)
    | .overflow => .error (.integer .overflow)
    | .ok sign db r2 =>
      if ric > USIZE_MAX then .error (.integer .overflow)
      else if db > USIZE_MAX then .error (.integer .overflow)
      else .ok (⟨ric, sign == 1, db⟩, r2)

/-- `HeaderPrefix::get(total_inserted, max_table_size)` for `(0, 0)` — the call made by
    `decode_stateless` (the branch for a non-empty dynamic table belongs to the stateful
    decoder, property C20).  After the repair of D-11: with capacity 0 the full range of the
    Required Insert Count is 0, so every non-zero encoded value is out of range (RFC 9204
    §4.5.1.1), and with a Required Insert Count of 0 a sign bit of 1 gives a negative Base
    (§4.5.1.2).  The `isize` in `InvalidBase` is `-1 - delta_base` when that is representable,
    else `isize::MIN`. -/
def HeaderPrefix.get (p : HeaderPrefix) : Except ParseError (Nat × Nat) :=
  if p.encodedInsertCount ≠ 0 then .error (.integer .overflow)
  else if p.signNegative then
    .error (.invalidBase (if p.deltaBase < 2 ^ 63 then -1 - (p.deltaBase : Int) else -(2 ^ 63 : Int)))
  else .ok (0, 0)

/-- `HeaderPrefix::encode` -/
def HeaderPrefix.encode (p : HeaderPrefix) : Bytes :=
  PrefixInt.encode 8 0 p.encodedInsertCount ++
    PrefixInt.encode 7 (if p.signNegative then 1 else 0) p.deltaBase

inductive Indexed where
  | static (i : Nat)
  | dynamic (i : Nat)
deriving Repr, DecidableEq

/-- `Indexed::decode` -/
def Indexed.decode (bs : Bytes) : Except ParseError (Indexed × Bytes) :=
  match PrefixInt.decode 6 bs with
  | .endOf => .error (.integer .unexpectedEnd)
  | .overflow => .error (.integer .overflow)
  | .ok f i rest =>
    if f = 3 then
      if i > USIZE_MAX then .error (.integer .overflow) else .ok (.static i, rest)
    else if f = 2 then
      if i > USIZE_MAX then .error (.integer .overflow) else .ok (.dynamic i, rest)
    else .error (.invalidPrefix f)

/-- `Indexed::encode` -/
def Indexed.encode : Indexed → Bytes
  | .static i => PrefixInt.encode 6 3 i
  | .dynamic i => PrefixInt.encode 6 2 i

/-- `IndexedWithPostBase::decode` (not called by the stateless path, which refuses on the first
    byte; kept for the record of the representation) -/
def IndexedWithPostBase.decode (bs : Bytes) : Except ParseError (Nat × Bytes) :=
  match PrefixInt.decode 4 bs with
  | .endOf => .error (.integer .unexpectedEnd)
  | .overflow => .error (.integer .overflow)
  | .ok f i rest =>
    if f = 1 then
      if i > USIZE_MAX then .error (.integer .overflow) else .ok (i, rest)
    else .error (.invalidPrefix f)

/-- `IndexedWithPostBase::encode` -/
def IndexedWithPostBase.encode (i : Nat) : Bytes := PrefixInt.encode 4 1 i

/-- D-15 ghost flag of the string literal at the head of `bs` (`size` argument `n`): the
    payload `prefix_string::decode` hands to the Huffman decoder goes through the lax branch. -/
def strLax (n : Nat) (bs : Bytes) : Bool :=
  match PrefixInt.decode (n - 1) bs with
  | .ok f len rest => f % 2 == 1 && decide (len ≤ rest.length) && Huffman.lax (rest.take len)
  | _ => false

/-- `prefix_string::decode(size, buf)?` inside a `block.rs` decoder: value, unread rest, ghost
    flag. -/
def strDecode (n : Nat) (bs : Bytes) : Except ParseError (Bytes × Bytes × Bool) :=
  match PrefixString.decode n bs with
  | .err k => .error (.string k)
  | .ok _ v rest => .ok (v, rest, strLax n bs)

inductive LiteralWithNameRef where
  | static (index : Nat) (value : Bytes)
  | dynamic (index : Nat) (value : Bytes)
deriving Repr, DecidableEq

/-- `LiteralWithNameRef::decode`: the value string is read before the caller looks at the kind
    of reference. -/
def LiteralWithNameRef.decode (bs : Bytes) : Except ParseError (LiteralWithNameRef × Bytes × Bool) :=
  match PrefixInt.decode 4 bs with
  | .endOf => .error (.integer .unexpectedEnd)
  | .overflow => .error (.integer .overflow)
  | .ok f i rest =>
    if f % 2 = 1 ∧ f / 4 % 2 = 1 then                       -- f & 0b0101 == 0b0101
      if i > USIZE_MAX then .error (.integer .overflow)
      else match strDecode 8 rest with
        | .error e => .error e
        | .ok (v, rest', lax) => .ok (.static i v, rest', lax)
    else if f % 2 = 0 ∧ f / 4 % 2 = 1 then                  -- f & 0b0101 == 0b0100
      if i > USIZE_MAX then .error (.integer .overflow)
      else match strDecode 8 rest with
        | .error e => .error e
        | .ok (v, rest', lax) => .ok (.dynamic i v, rest', lax)
    else .error (.invalidPrefix f)

/-- `LiteralWithNameRef::encode`; `none` = panic inside the string encoder (never for bytes) -/
def LiteralWithNameRef.encode? : LiteralWithNameRef → Option Bytes
  | .static i v => (PrefixString.encode? 8 0 v).map (PrefixInt.encode 4 5 i ++ ·)
  | .dynamic i v => (PrefixString.encode? 8 0 v).map (PrefixInt.encode 4 4 i ++ ·)

/-- `LiteralWithPostBaseNameRef::decode` (not called by the stateless path) -/
def LiteralWithPostBaseNameRef.decode (bs : Bytes) : Except ParseError ((Nat × Bytes) × Bytes × Bool) :=
  match PrefixInt.decode 3 bs with
  | .endOf => .error (.integer .unexpectedEnd)
  | .overflow => .error (.integer .overflow)
  | .ok f i rest =>
    if f / 16 % 16 = 0 then                                  -- f & 0b1111_0000 == 0
      if i > USIZE_MAX then .error (.integer .overflow)
      else match strDecode 8 rest with
        | .error e => .error e
        | .ok (v, rest', lax) => .ok ((i, v), rest', lax)
    else .error (.invalidPrefix f)

/-- `LiteralWithPostBaseNameRef::encode` -/
def LiteralWithPostBaseNameRef.encode? (i : Nat) (v : Bytes) : Option Bytes :=
  (PrefixString.encode? 8 0 v).map (PrefixInt.encode 3 0 i ++ ·)

/-- `Literal::decode`: name with a 3-bit length prefix (`size` 4), value with a 7-bit one. -/
def Literal.decode (bs : Bytes) : Except ParseError ((Bytes × Bytes) × Bytes × Bool) :=
  match bs with
  | [] => .error (.integer .unexpectedEnd)
  | first :: _ =>
    if first / 32 % 8 ≠ 1 then .error (.invalidPrefix first)  -- first & 0b1110_0000 != 0b0010_0000
    else match strDecode 4 bs with
      | .error e => .error e
      | .ok (name, r1, lax1) =>
        match strDecode 8 r1 with
        | .error e => .error e
        | .ok (value, r2, lax2) => .ok ((name, value), r2, lax1 || lax2)

/-- `Literal::encode`; `none` = panic -/
def Literal.encode? (name value : Bytes) : Option Bytes :=
  match PrefixString.encode? 4 2 name, PrefixString.encode? 8 0 value with
  | some a, some b => some (a ++ b)
  | _, _ => none

/-! ### encoder.rs: `encode_stateless` -/

/-- one iteration of the `for field in fields` loop: the bytes appended to the block -/
def encodeField? (f : Field) : Option Bytes :=
  match StaticTable.find f with
  | some index => some (Indexed.encode (.static index))
  | none =>
    match StaticTable.findName f.name with
    | some index => LiteralWithNameRef.encode? (.static index f.value)
    | none => Literal.encode? f.name f.value

/-- the loop: bytes appended, and `size` (`u64`) after it -/
def encodeFields? : List Field → Nat → Option (Bytes × Nat)
  | [], size => some ([], size)
  | f :: fs, size =>
    match encodeField? f with
    | none => none
    | some b =>
      match encodeFields? fs (size + f.memSize) with
      | none => none
      | some (bs, size') => some (b ++ bs, size')

/-- `encode_stateless(block, fields)`: bytes written to the (empty) block and the `Ok(size)`
    returned; `none` = panic.  The `Result` is never `Err`. -/
def encodeStateless? (fs : List Field) : Option (Bytes × Nat) :=
  match encodeFields? fs 0 with
  | none => none
  | some (bs, size) => some (HeaderPrefix.new0.encode ++ bs, size)

/-- total version for field lists of byte strings (`C11_encode_then_rfc_decode`) -/
def encodeStateless (fs : List Field) : Bytes × Nat := (encodeStateless? fs).getD ([], 0)

/-! ### decoder.rs: `decode_stateless` -/

/-- one iteration of the `while buf.has_remaining()` loop up to `mem_size += …`: the field, the
    unread rest, the ghost flag.  `bs = first :: _`. -/
def decodeField (first : Nat) (bs : Bytes) : Except Err (Field × Bytes × Bool) :=
  match HeaderBlockField.decode first with
  | .indexedWithPostBase => .error (.missingRefs 0)
  | .literalWithPostBaseNameRef => .error (.missingRefs 0)
  | .indexed =>
    match Indexed.decode bs with
    | .error e => .error (.ofParse e)
    | .ok (.dynamic _, _) => .error (.missingRefs 0)
    | .ok (.static i, rest) =>
      match StaticTable.get i with
      | none => .error (.invalidStaticIndex i)
      | some f => .ok (f, rest, false)
  | .literalWithNameRef =>
    match LiteralWithNameRef.decode bs with
    | .error e => .error (.ofParse e)
    | .ok (.dynamic _ _, _, _) => .error (.missingRefs 0)
    | .ok (.static i v, rest, lax) =>
      match StaticTable.get i with
      | none => .error (.invalidStaticIndex i)
      | some f => .ok (f.withValue v, rest, lax)
  | .literal =>
    match Literal.decode bs with
    | .error e => .error (.ofParse e)
    | .ok ((name, value), rest, lax) => .ok (⟨name, value⟩, rest, lax)
  | .unknown => .error (.unknownPrefix first)

/-- `Ok(Decoded { fields, mem_size, dyn_ref: false })` or `Err(e)` -/
inductive Res where
  | ok (fields : List Field) (memSize : Nat)
  | err (e : Err)
deriving Repr, DecidableEq

/-- the loop, `mem` = `mem_size` so far; fuel = bytes left (every iteration consumes at least
    one).  Second component: ghost flag (some accepted string literal was lax, D-15). -/
def decodeLoop (max : Nat) : Nat → Bytes → Nat → Res × Bool
  | _, [], mem => (.ok [] mem, false)
  | 0, _ :: _, _ => (.err .fuel, false)
  | fuel+1, first :: r, mem =>
    match decodeField first (first :: r) with
    | .error e => (.err e, false)
    | .ok (field, rest, lax) =>
      let mem' := mem + field.memSize
      if mem' > max then (.err (.headerTooLong mem'), lax)
      else
        match decodeLoop max fuel rest mem' with
        | (.ok fs total, lax') => (.ok (field :: fs) total, lax || lax')
        | (.err e, lax') => (.err e, lax || lax')

/-- `decode_stateless(buf, max_size)` with the ghost flag -/
def decodeStatelessX (bs : Bytes) (max : Nat) : Res × Bool :=
  match HeaderPrefix.decode bs with
  | .error e => (.err (.ofParse e), false)
  | .ok (p, rest) =>
    match p.get with
    | .error e => (.err (.ofParse e), false)
    | .ok (requiredRef, _) =>
      if requiredRef > 0 then (.err (.missingRefs requiredRef), false)
      else decodeLoop max rest.length rest 0

/-- `decode_stateless(buf, max_size)` -/
def decodeStateless (bs : Bytes) (max : Nat) : Res := (decodeStatelessX bs max).1

/-- `true` iff some string literal of `bs` was accepted through the lax Huffman branch (D-15) -/
def laxSection (bs : Bytes) (max : Nat) : Bool := (decodeStatelessX bs max).2

/-! ### the size limit at the call sites (RFC 9114 §4.2.2)

    `client/connection.rs` (`send_request`), `server/stream.rs` (`send_response`),
    `connection.rs` (`send_trailers`, `poll_recv_trailers`), `client/stream.rs`
    (`recv_response`, `poll_recv_trailers`), `server/request.rs` (`accept_with_frame`,
    `resolve`), `shared_state.rs` (`settings()`), `config.rs` (`Settings::default`). -/

/-- `ConnectionState::settings().max_field_section_size`: the peer's value once its SETTINGS
    have been applied (`None` before), else `Settings::default()`; a SETTINGS frame without the
    parameter also yields the default. -/
def peerLimit (applied : Option Nat) : Nat := applied.getD H3.Gen.Field.DEFAULT_MAX_FIELD_SECTION_SIZE

/-- Outcome of a send site. -/
inductive SendOut where
  /-- `stream::write(Frame::Headers(block))`: the QPACK block handed to the frame writer -/
  | written (block : Bytes)
  /-- `Err(StreamError::HeaderTooBig { actual_size, max_size })`, nothing written -/
  | refused (actual max : Nat)
  /-- panic inside the encoder (never for byte strings) -/
  | panic
deriving Repr, DecidableEq

/-- The code shared (textually repeated) by `send_request`, `send_response`, `send_trailers`:
    encode, compare `mem_size > settings().max_field_section_size`, write. -/
def sendSite (applied : Option Nat) (fs : List Field) : SendOut :=
  match encodeStateless? fs with
  | none => .panic
  | some (block, memSize) =>
    if memSize > peerLimit applied then .refused memSize (peerLimit applied) else .written block

/-- `client::SendRequest::send_request` is the one send site with a suspension point *before* the
    comparison: `poll_open_bidi().await` stays pending while the peer's bidirectional-stream limit
    is exhausted, and the connection driver may store the peer's SETTINGS meanwhile.  The code
    reads `self.settings().max_field_section_size` after that await, directly before the
    comparison and the write: `atOpen` = the settings cell when the stream has been opened
    (what is used), `atCall` = the cell when the call was made (not looked at). -/
def sendRequestSite (_atCall atOpen : Option Nat) (fs : List Field) : SendOut := sendSite atOpen fs

/-- `connection::RequestStream::split`: the field `max_field_section_size` (the limit for what
    this stream object *receives*) of the two halves, `(send half, receive half)`: the send half
    gets the literal `0`, the receive half keeps the configured maximum.  What either half may
    *send* is not a field of the stream: `send_trailers` / `send_response` read the shared
    settings cell (`sendSite`) whether the stream has been split or not. -/
def splitLimits (maxFieldSectionSize : Nat) : Nat × Nat := (0, maxFieldSectionSize)

/-- What a receive site does with `decode_stateless`'s answer. -/
inductive RecvOut where
  /-- decoded; the call goes on to validate the message (C12) -/
  | fields (fs : List Field)
  /-- `Err(StreamError::HeaderTooBig { actual_size, max_size })`, `stop` = code of the
      `STOP_SENDING` issued on the request stream if any; no connection error -/
  | tooBig (actual max : Nat) (stop : Option Nat)
  /-- `handle_connection_error_on_stream(code)`: error cell written, connection closed -/
  | connError (code : Nat)
deriving Repr, DecidableEq

inductive RecvSite where
  /-- `server::RequestResolver::accept_with_frame` (the 431 is sent by `resolve`, below) -/
  | serverRequest
  /-- `connection::RequestStream::poll_recv_trailers` called through the server's stream -/
  | serverTrailers
  /-- `client::RequestStream::recv_response` -/
  | clientResponse
  /-- `client::RequestStream::poll_recv_trailers` -/
  | clientTrailers
deriving Repr, DecidableEq

/-- `Code::QPACK_DECOMPRESSION_FAILED`, `Code::H3_REQUEST_CANCELLED` -/
def QPACK_DECOMPRESSION_FAILED : Nat := H3.Gen.Consts.CODE_QPACK_DECOMPRESSION_FAILED
def H3_REQUEST_CANCELLED : Nat := H3.Gen.Consts.CODE_H3_REQUEST_CANCELLED

/-- the `STOP_SENDING` a site issues together with `HeaderTooBig` -/
def RecvSite.stopCode : RecvSite → Option Nat
  | .serverRequest => none
  | .serverTrailers => none
  | .clientResponse => some H3_REQUEST_CANCELLED
  | .clientTrailers => some H3_REQUEST_CANCELLED

/-- the three-armed `match qpack::decode_stateless(..)` of every receive site: `HeaderTooLong`
    becomes `HeaderTooBig`, `Ok` goes on, *every other error* becomes a connection error
    `QPACK_DECOMPRESSION_FAILED`. -/
def recvSite (site : RecvSite) (maxFieldSectionSize : Nat) (block : Bytes) : RecvOut :=
  match decodeStateless block maxFieldSectionSize with
  | .ok fs _ => .fields fs
  | .err (.headerTooLong n) => .tooBig n maxFieldSectionSize site.stopCode
  | .err _ => .connError QPACK_DECOMPRESSION_FAILED

/-- the field section of the 431 answer: `Header::response(REQUEST_HEADER_FIELDS_TOO_LARGE, {})` -/
def response431 : List Field := [⟨[58, 115, 116, 97, 116, 117, 115], [52, 51, 49]⟩]

/-- Outcome of `RequestResolver::resolve_request` as far as the limit decides it. -/
inductive ResolveOut where
  /-- decoded; goes on to `Header::try_from` (C12) -/
  | fields (fs : List Field)
  /-- `Err(HeaderTooBig { actual, max })`; `wire` = block of the 431 HEADERS frame written on the
      request stream, `none` when that send was refused (the error returned is then the one of
      `send_response`: the 431's own size against the client's limit) -/
  | tooBig (actual max : Nat) (wire : Option Bytes)
  | connError (code : Nat)
  | panic
deriving Repr, DecidableEq

/-- `accept_with_frame` + `resolve`: over the limit ⇒ `send_response(431).await?`, then
    `HeaderTooBig`. -/
def serverResolve (maxFieldSectionSize : Nat) (applied : Option Nat) (block : Bytes) : ResolveOut :=
  match recvSite .serverRequest maxFieldSectionSize block with
  | .fields fs => .fields fs
  | .connError c => .connError c
  | .tooBig n m _ =>
    match sendSite applied response431 with
    | .written b => .tooBig n m (some b)
    | .refused a pm => .tooBig a pm none
    | .panic => .panic

end H3.Qpack
