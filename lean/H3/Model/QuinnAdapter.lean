/-! Model of the Quinn adapter `h3-quinn/src/lib.rs` (the adapter's own logic only; Quinn, UDP and
    tokio are *outside* this model — what they do is observed by the correspondence run, not proved):

    (a) `WriteBuf` (`h3/src/stream.rs`, its `Buf` impl) and the write loop
        `SendStream::{send_data, poll_ready}` against an *acceptance script*
        (one entry per `quinn::SendStream::poll_write` call; of `poll_finish` there are only the rows of
        `siteTable`, the call itself is an operation of the driver `Drv/C17.lean`);
    (b) the receive-side ownership machine `RecvStream::{poll_data, stop_sending, recv_id}`
        (`stream: Option<quinn::RecvStream>` is `None` while the boxed read future owns the stream);
    (b') `StopSpec`: what `stop_sending` owes the peer, written from the caller's side (a
        specification, not code: reading R-17 of DESIGN.md section 9);
    (c) `convert_connection_error`, `convert_read_error_to_stream_error`,
        `convert_write_error_to_stream_error` as finite tables over Quinn's error enums;
    (d) the unframed write path `SendStreamUnframed::poll_send` against one `poll_write` answer, and
        the `while buf.has_remaining() { ready!(poll_send) }` loop its callers run;
    (e) the unsplit `BidiStream` (every method delegates to one of its halves) and `split`;
    (f) the `OpenStreams` objects (`Connection`, `Connection::opener()`, `OpenStreams::clone()`):
        `poll_open_bidi` / `poll_open_send` against what Quinn's `open_bi()` / `open_uni()` future
        does, `poll_accept_bidi` / `poll_accept_recv` likewise, `close(code, reason)`;
    (g) `h3-quinn/src/datagram.rs`: the two conversion functions and the handlers.

    Panics are explicit (`none` / `.panic`). `u64` codes are `Nat`; Quinn's `VarInt` codes are
    `< 2^62` and are widened to `u64` (`into_inner`, `.into()`), which cannot wrap. -/
namespace H3.QuinnAdapter

abbrev Bytes := List Nat

/-! ## (c) error tables -/

/-- `quinn::ConnectionError` (payloads other than the application close code are irrelevant to the
    adapter and dropped). -/
inductive ConnectionError where
  | versionMismatch
  | transportError
  | connectionClosed
  | applicationClosed (code : Nat)
  | reset
  | timedOut
  | locallyClosed
  | cidsExhausted
deriving Repr, DecidableEq

/-- `quinn::ReadError`. -/
inductive ReadError where
  | reset (code : Nat)
  | connectionLost (e : ConnectionError)
  | closedStream
  | illegalOrderedRead
  | zeroRttRejected
deriving Repr, DecidableEq

/-- `quinn::WriteError`. -/
inductive WriteError where
  | stopped (code : Nat)
  | connectionLost (e : ConnectionError)
  | closedStream
  | zeroRttRejected
deriving Repr, DecidableEq

/-- `h3::quic::ConnectionErrorIncoming`. `undefined` keeps the Quinn error it wraps (`Arc<dyn Error>`). -/
inductive ConnErr where
  | applicationClose (code : Nat)
  | timeout
  | internalError
  | undefined (e : ConnectionError)
deriving Repr, DecidableEq

/-- What `StreamErrorIncoming::Unknown` boxes. -/
inductive Unknown where
  | closedStream
  | zeroRttRejected
deriving Repr, DecidableEq

/-- `h3::quic::StreamErrorIncoming`. -/
inductive StreamErr where
  | connection (e : ConnErr)
  | terminated (code : Nat)
  | unknown (u : Unknown)
deriving Repr, DecidableEq

/-- `convert_connection_error`. -/
def convertConn : ConnectionError → ConnErr
  | .applicationClosed code => .applicationClose code
  | .timedOut => .timeout
  | .versionMismatch => .undefined .versionMismatch
  | .reset => .undefined .reset
  | .locallyClosed => .undefined .locallyClosed
  | .cidsExhausted => .undefined .cidsExhausted
  | .transportError => .undefined .transportError
  | .connectionClosed => .undefined .connectionClosed

/-- `convert_read_error_to_stream_error`; `none` = `panic!("h3-quinn only performs ordered reads")`. -/
def convertRead : ReadError → Option StreamErr
  | .reset code => some (.terminated code)
  | .connectionLost e => some (.connection (convertConn e))
  | .closedStream => some (.unknown .closedStream)
  | .illegalOrderedRead => none
  | .zeroRttRejected => some (.unknown .zeroRttRejected)

/-- `convert_write_error_to_stream_error`. -/
def convertWrite : WriteError → StreamErr
  | .stopped code => .terminated code
  | .connectionLost e => .connection (convertConn e)
  | .closedStream => .unknown .closedStream
  | .zeroRttRejected => .unknown .zeroRttRejected

/-! Names, for the comparison with the arms extracted from the Rust source (`H3.Gen.QuinnTables`)
    and for the line protocol. -/

def ConnectionError.name : ConnectionError → String
  | .versionMismatch => "VersionMismatch"
  | .transportError => "TransportError"
  | .connectionClosed => "ConnectionClosed"
  | .applicationClosed _ => "ApplicationClosed"
  | .reset => "Reset"
  | .timedOut => "TimedOut"
  | .locallyClosed => "LocallyClosed"
  | .cidsExhausted => "CidsExhausted"

def ReadError.name : ReadError → String
  | .reset _ => "Reset"
  | .connectionLost _ => "ConnectionLost"
  | .closedStream => "ClosedStream"
  | .illegalOrderedRead => "IllegalOrderedRead"
  | .zeroRttRejected => "ZeroRttRejected"

def WriteError.name : WriteError → String
  | .stopped _ => "Stopped"
  | .connectionLost _ => "ConnectionLost"
  | .closedStream => "ClosedStream"
  | .zeroRttRejected => "ZeroRttRejected"

def ConnErr.className : ConnErr → String
  | .applicationClose _ => "ApplicationClose"
  | .timeout => "Timeout"
  | .internalError => "InternalError"
  | .undefined _ => "Undefined"

def StreamErr.className : StreamErr → String
  | .connection _ => "ConnectionErrorIncoming"
  | .terminated _ => "StreamTerminated"
  | .unknown _ => "Unknown"

/-- One representative per constructor (code 7 where a code is carried). -/
def allConnectionErrors : List ConnectionError :=
  [.versionMismatch, .transportError, .connectionClosed, .applicationClosed 7, .reset, .timedOut,
   .locallyClosed, .cidsExhausted]
def allReadErrors : List ReadError :=
  [.reset 7, .connectionLost .timedOut, .closedStream, .illegalOrderedRead, .zeroRttRejected]
def allWriteErrors : List WriteError :=
  [.stopped 7, .connectionLost .timedOut, .closedStream, .zeroRttRejected]

/-- What an arm does with the value its pattern binds, judged on the representative: `same` = the
    peer's code is stored unchanged, `conn` = the connection error goes through `convertConn`. -/
def connCarried (e : ConnectionError) : String :=
  match e, convertConn e with
  | .applicationClosed c, .applicationClose c' => if c = c' then "same" else "-"
  | _, _ => "-"
def readCarried (e : ReadError) : String :=
  match e, convertRead e with
  | .reset c, some (.terminated c') => if c = c' then "same" else "-"
  | .connectionLost x, some (.connection y) => if y = convertConn x then "conn" else "-"
  | _, _ => "-"
def writeCarried (e : WriteError) : String :=
  match e, convertWrite e with
  | .stopped c, .terminated c' => if c = c' then "same" else "-"
  | .connectionLost x, .connection y => if y = convertConn x then "conn" else "-"
  | _, _ => "-"

/-- The model's tables as (Quinn variant, h3 class, carried value) triples; class `panic` for the
    panicking arm. Compared with the arms extracted from the source in `C17_tables_match_source`. -/
def connTable : List (String × String × String) :=
  allConnectionErrors.map fun e => (e.name, (convertConn e).className, connCarried e)
def readTable : List (String × String × String) :=
  allReadErrors.map fun e =>
    (e.name, (match convertRead e with | some x => x.className | none => "panic"), readCarried e)
def writeTable : List (String × String × String) :=
  allWriteErrors.map fun e => (e.name, (convertWrite e).className, writeCarried e)

/-! ## (a) `WriteBuf` and the write loop -/

/-- `WriteBuf<B>`: `hdr` = `buf[..len]` (the encoded stream type / frame header; bytes of the array
    beyond `len` are never read), cursor `pos`, and the frame's payload `Buf` (empty when the frame
    has none), modelled as one contiguous byte string. -/
structure WriteBuf where
  hdr : Bytes
  pos : Nat
  payload : Bytes
deriving Repr, DecidableEq

/-- `From<Frame<B>>` etc.: header encoded at construction, cursor at 0. -/
def WriteBuf.new (hdr payload : Bytes) : WriteBuf := { hdr := hdr, pos := 0, payload := payload }

/-- `Buf::remaining`. -/
def WriteBuf.remaining (w : WriteBuf) : Nat := w.hdr.length - w.pos + w.payload.length

/-- `Buf::chunk`: the rest of the header first, then the payload. -/
def WriteBuf.chunk (w : WriteBuf) : Bytes :=
  if w.hdr.length - w.pos > 0 then w.hdr.drop w.pos else w.payload

/-- `Buf::advance`. -/
def WriteBuf.advance (w : WriteBuf) (cnt : Nat) : WriteBuf :=
  let rh := w.hdr.length - w.pos
  if rh > 0 then
    let a := min cnt rh
    { w with pos := w.pos + a, payload := w.payload.drop (cnt - a) }
  else { w with payload := w.payload.drop cnt }

/-- What is still to be yielded. -/
def WriteBuf.view (w : WriteBuf) : Bytes := w.hdr.drop w.pos ++ w.payload

/-- Cursor inside the header (kept by every `advance`). -/
def WriteBuf.WF (w : WriteBuf) : Prop := w.pos ≤ w.hdr.length

/-- One answer of `quinn::SendStream::poll_write(cx, chunk)`. `ok k`: Quinn took
    `min k chunk.len()` bytes (Quinn never takes more than it is offered; `1 ≤ k ≤ chunk.len()` is
    the case that occurs, every other `k` is covered as well). -/
inductive Accept where
  | pending
  | ok (k : Nat)
  | err (e : WriteError)
deriving Repr, DecidableEq

/-- `Poll<Result<(), StreamErrorIncoming>>`. -/
inductive Ready where
  | pending
  | ok
  | err (e : StreamErr)
deriving Repr, DecidableEq

/-- Result of one run of the `while data.has_remaining()` loop. -/
structure LoopOut where
  buf : WriteBuf          -- the buffer afterwards
  res : Ready
  acc : Bytes             -- bytes Quinn accepted during this run, in order
  rest : List Accept      -- answers not consumed
deriving Repr, DecidableEq

/-- The loop inside `poll_ready`: one script entry per `poll_write` call; an exhausted script means
    the transport does not answer (`Pending`). -/
def writeLoop (d : WriteBuf) : List Accept → LoopOut
  | [] => if d.remaining = 0 then ⟨d, .ok, [], []⟩ else ⟨d, .pending, [], []⟩
  | a :: r =>
    if d.remaining = 0 then ⟨d, .ok, [], a :: r⟩ else
    match a with
    | .pending => ⟨d, .pending, [], r⟩
    | .err e => ⟨d, .err (convertWrite e), [], r⟩
    | .ok k =>
      let t := min k d.chunk.length
      let o := writeLoop (d.advance t) r
      { o with acc := d.chunk.take t ++ o.acc }

/-- `SendStream<B>`: `writing: Option<WriteBuf<B>>` (the Quinn stream itself is outside the model). -/
structure Send where
  writing : Option WriteBuf
deriving Repr, DecidableEq

structure PollOut where
  state : Send
  res : Ready
  acc : Bytes
  rest : List Accept
deriving Repr, DecidableEq

/-- `SendStream::poll_ready`. On `Pending` `writing` keeps the (advanced) buffer; a completed loop
    clears it, and so does a failed one (the write will not be resumed: repair of D-17c). -/
def pollReady (s : Send) (script : List Accept) : PollOut :=
  match s.writing with
  | none => ⟨⟨none⟩, .ok, [], script⟩
  | some d =>
    let o := writeLoop d script
    match o.res with
    | .ok => ⟨⟨none⟩, .ok, o.acc, o.rest⟩
    | .err e => ⟨⟨none⟩, .err e, o.acc, o.rest⟩
    | .pending => ⟨⟨some o.buf⟩, .pending, o.acc, o.rest⟩

/-- `poll_ready` before the repair (D-17c): `poll_write(..).map_err(..)?` returned with `writing`
    still `Some`, so that every later `send_data` on the stream was refused with the internal error. -/
def pollReadyUnrepaired (s : Send) (script : List Accept) : PollOut :=
  match s.writing with
  | none => ⟨⟨none⟩, .ok, [], script⟩
  | some d =>
    let o := writeLoop d script
    match o.res with
    | .ok => ⟨⟨none⟩, .ok, o.acc, o.rest⟩
    | r => ⟨⟨some o.buf⟩, r, o.acc, o.rest⟩

inductive SendRes where
  | ok
  /-- `ConnectionErrorIncoming::InternalError("internal error in the http stack")` -/
  | refused
deriving Repr, DecidableEq

/-- `SendStream::send_data`. -/
def sendData (s : Send) (d : WriteBuf) : Send × SendRes :=
  match s.writing with
  | some _ => (s, .refused)
  | none => (⟨some d⟩, .ok)

/-- h3's `stream::write()` after `send_data`: `poll_ready` is polled again after every `Pending`
    until it is `Ready`, or until the script is exhausted (the transport never answers again).
    `n` bounds the number of further polls; `drive` supplies the script length, which is enough
    because every `Pending` poll that is followed by another consumes at least one answer. -/
def driveN : Nat → Send → List Accept → PollOut
  | 0, s, script => pollReady s script
  | n + 1, s, script =>
    let o := pollReady s script
    match o.res with
    | .pending =>
      if o.rest.length < script.length then
        let o' := driveN n o.state o.rest
        { o' with acc := o.acc ++ o'.acc }
      else o
    | _ => o

def drive (s : Send) (script : List Accept) : PollOut := driveN script.length s script

/-- `SendStream::reset`: `VarInt::from_u64(reset_code).unwrap_or(VarInt::MAX)` is what Quinn is given. -/
def resetArg (code : Nat) : Nat := if code < 2^62 then code else 2^62 - 1

/-- `OpenStreams::close`: `VarInt::from_u64(code.value()).expect("error code VarInt")`; `none` = panic. -/
def closeArg (code : Nat) : Option Nat := if code < 2^62 then some code else none

/-- The bytes the adapter still holds. -/
def Send.held (s : Send) : Bytes :=
  match s.writing with
  | none => []
  | some d => d.view

/-! ## (b) the receive-side ownership machine -/

/-- What the read future (`stream.read_chunk(usize::MAX, true)`) does when polled. -/
inductive ReadEv where
  | pending
  | data
  | fin
  | err (e : ReadError)
deriving Repr, DecidableEq

/-- `RecvStream`. `here` ⇔ `self.stream.is_some()`; otherwise the boxed read future owns the Quinn
    stream. `stops` is a ghost: the `quinn::RecvStream::stop(code)` calls the adapter has issued, in
    order (Quinn honours the first one). `alive = false` after the adapter stream was dropped. -/
structure Recv where
  id : Nat
  here : Bool
  pendingStop : Option Nat
  stops : List Nat
  alive : Bool
deriving Repr, DecidableEq

/-- `RecvStream::new`. -/
def Recv.new (id : Nat) : Recv := { id := id, here := true, pendingStop := none, stops := [], alive := true }

inductive RecvOp where
  | pollData (ev : ReadEv)
  | stopSending (code : Nat)
  | recvId
  | drop
deriving Repr, DecidableEq

inductive RecvOut where
  | pending
  | data
  | fin
  | err (e : StreamErr)
  | id (n : Nat)
  | unit
  | panic
deriving Repr, DecidableEq

/-- The stream comes back from the read future: a remembered stop is issued now
    (`if let Some(code) = self.pending_stop.take() { stream.stop(code) }; self.stream = Some(stream)`). -/
def Recv.comeBack (r : Recv) : Recv :=
  { r with here := true, pendingStop := none, stops := r.stops ++ r.pendingStop.toList }

/-- The read error goes through `convert_read_error_to_stream_error` (which may panic). -/
def readErrOut (e : ReadError) : RecvOut :=
  match convertRead e with
  | some x => .err x
  | none => .panic

/-- `RecvStream::poll_data`: the stream (if here) moves into the read future, which is polled;
    `Pending` leaves it there, completion brings it back before the result is converted. -/
def pollData (r : Recv) : ReadEv → Recv × RecvOut
  | .pending => ({ r with here := false }, .pending)
  | .data => (r.comeBack, .data)
  | .fin => (r.comeBack, .fin)
  | .err e => (r.comeBack, readErrOut e)

/-- `RecvStream::stop_sending`: `VarInt::from_u64(code).expect("invalid error_code")` first. -/
def stopSending (r : Recv) (code : Nat) : Recv × RecvOut :=
  if code ≥ 2^62 then (r, .panic)
  else if r.here then ({ r with stops := r.stops ++ [code] }, .unit)
  else ({ r with pendingStop := some code }, .unit)

/-- `RecvStream::recv_id` (the id is remembered at construction). -/
def recvId (r : Recv) : RecvOut := .id r.id

/-- `recv_id` before the repair (D-17): `self.stream.as_ref().unwrap().id()`. -/
def recvIdUnrepaired (r : Recv) : RecvOut := if r.here then .id r.id else .panic

/-- One operation; nothing can be called on a dropped stream. Dropping the adapter stream drops the
    Quinn stream (inside the read future or not) without issuing a remembered stop. -/
def Recv.step (r : Recv) (op : RecvOp) : Recv × RecvOut :=
  if !r.alive then (r, .unit) else
  match op with
  | .pollData ev => pollData r ev
  | .stopSending c => stopSending r c
  | .recvId => (r, recvId r)
  | .drop => ({ r with alive := false }, .unit)

def Recv.run : Recv → List RecvOp → Recv × List RecvOut
  | r, [] => (r, [])
  | r, op :: ops =>
    let (r', o) := r.step op
    let (r'', os) := Recv.run r' ops
    (r'', o :: os)

/-! ## (b') what the adapter's `stop_sending` owes the peer (specification, reading R-17)

    Not part of the property's sentence about errors (that one speaks about conditions the PEER raises
    surfacing in h3), but the documented purpose of `pending_stop`: the code handed to
    `stop_sending` is given to Quinn — which tells the peer's writer — as soon as the adapter has the
    Quinn stream in its hands: at the call when no read is in flight, otherwise when the read in
    flight completes. Written from the caller's side (calls and whether a read completed), without
    the ownership machine: `here`, `pendingStop` and `stops` do not occur. -/

/-- `inFlight`: a `poll_data` answered `Pending` and no later one has completed. `asked`: the valid
    codes of the `stop_sending` calls made while that read was in flight. `due`: once non-empty, the
    stop is owed to the peer NOW, with one of these codes (Quinn honours the first `stop` it is
    given, so later calls add nothing). `alive = false` after the receive half was dropped. -/
structure StopSpec where
  inFlight : Bool := false
  asked : List Nat := []
  due : List Nat := []
  alive : Bool := true
deriving Repr, DecidableEq

/-- `stop_sending(c)`. A code that is no QUIC varint is refused by the documented `expect`. -/
def StopSpec.onStop (s : StopSpec) (c : Nat) : StopSpec :=
  if c ≥ 2^62 then s
  else if !s.due.isEmpty then s
  else if s.inFlight then { s with asked := s.asked ++ [c] }
  else { s with due := [c] }

/-- A `poll_data` that answered `Pending` (`completed = false`) or anything else. -/
def StopSpec.onRead (s : StopSpec) (completed : Bool) : StopSpec :=
  if !completed then { s with inFlight := true }
  else if s.due.isEmpty then { s with inFlight := false, due := s.asked, asked := [] }
  else { s with inFlight := false }

def ReadEv.completed : ReadEv → Bool
  | .pending => false
  | _ => true

def StopSpec.step (s : StopSpec) (op : RecvOp) : StopSpec :=
  if !s.alive then s else
  match op with
  | .pollData ev => s.onRead ev.completed
  | .stopSending c => s.onStop c
  | .recvId => s
  | .drop => { s with alive := false }

def StopSpec.run : StopSpec → List RecvOp → StopSpec
  | s, [] => s
  | s, op :: ops => StopSpec.run (s.step op) ops

/-! ## (d) the unframed write path -/

/-- The caller's `D: Buf` as the list of its chunks (`&[u8]` = one, `Chain<Bytes, Bytes>` = two,
    `WriteBuf` = header and payload): `chunk()` is the first chunk that is not empty, `advance`
    walks over chunk boundaries. -/
def ubView (b : List Bytes) : Bytes := b.flatten

def ubChunk : List Bytes → Bytes
  | [] => []
  | p :: r => if p.length = 0 then ubChunk r else p

def ubAdvance : List Bytes → Nat → List Bytes
  | [], _ => []
  | p :: r, k => if k < p.length then p.drop k :: r else ubAdvance r (k - p.length)

/-- `Poll<Result<usize, StreamErrorIncoming>>` of `poll_send`, plus its two guards. -/
inductive SendOut where
  | pending
  | ok (k : Nat)
  | err (e : StreamErr)
  /-- `ConnectionErrorIncoming::InternalError`, as `send_data` answers in the same situation -/
  | refused
  | panic
deriving Repr, DecidableEq

structure USendOut where
  buf : List Bytes        -- the caller's buffer afterwards
  res : SendOut
  acc : Bytes             -- bytes Quinn accepted in this call
deriving Repr, DecidableEq

/-- `SendStream::poll_send(cx, buf)` against the answer `a` of the one `poll_write(cx, buf.chunk())`
    it makes. While a framed write is unfinished (`writing` is `Some`) the call is refused like a
    second `send_data` (repair of D-17b; the stream's own state never changes). -/
def pollSend (s : Send) (buf : List Bytes) (a : Accept) : USendOut :=
  match s.writing with
  | some _ => ⟨buf, .refused, []⟩
  | none =>
    match a with
    | .pending => ⟨buf, .pending, []⟩
    | .err e => ⟨buf, .err (convertWrite e), []⟩
    | .ok k =>
      let c := ubChunk buf
      let t := min k c.length
      ⟨ubAdvance buf t, .ok t, c.take t⟩

/-- `poll_send` before the repair (D-17b): `panic!("poll_send called while send stream is not ready")`. -/
def pollSendUnrepaired (s : Send) (buf : List Bytes) (a : Accept) : USendOut :=
  match s.writing with
  | some _ => ⟨buf, .panic, []⟩
  | none => pollSend s buf a

inductive SendAllRes where
  | done
  | pending
  | err (e : StreamErr)
  | refused
deriving Repr, DecidableEq

structure SendAllOut where
  buf : List Bytes
  res : SendAllRes
  acc : Bytes
  rest : List Accept
deriving Repr, DecidableEq

/-- What every caller of `poll_send` runs (`h3_webtransport`'s `OpenBi`/`OpenUni`, `write_all`):
    `while buf.has_remaining() { ready!(poll_send(cx, buf))? }`, polled again after each `Pending`.
    One script entry per `poll_write`; an exhausted script = the transport never answers again. -/
def sendAll (s : Send) (buf : List Bytes) : List Accept → SendAllOut
  | [] => if (ubView buf).length = 0 then ⟨buf, .done, [], []⟩ else ⟨buf, .pending, [], []⟩
  | a :: r =>
    if (ubView buf).length = 0 then ⟨buf, .done, [], a :: r⟩ else
    let o := pollSend s buf a
    match o.res with
    | .ok _ =>
      let o' := sendAll s o.buf r
      { o' with acc := o.acc ++ o'.acc }
    | .pending => sendAll s buf r
    | .err e => ⟨buf, .err e, [], r⟩
    | .refused => ⟨buf, .refused, [], r⟩
    | .panic => ⟨buf, .refused, [], r⟩

/-! ## (e) the unsplit `BidiStream` -/

/-- `BidiStream<B> { send, recv }`. `sendId` is what `quinn::SendStream::id()` of the send half
    returns — Quinn's value, a constant of the handle. -/
structure Bidi where
  sendId : Nat
  send : Send
  recv : Recv
deriving Repr, DecidableEq

/-- `poll_open_bidi` / `poll_accept_bidi`: both halves are the two ends of ONE Quinn stream. -/
def Bidi.new (id : Nat) : Bidi := { sendId := id, send := ⟨none⟩, recv := Recv.new id }

inductive BidiOp where
  | recv (op : RecvOp)                 -- poll_data / stop_sending / recv_id ⇒ `self.recv.…`
  | sendData (d : WriteBuf)            -- ⇒ `self.send.send_data`
  | pollReady (script : List Accept)   -- ⇒ `self.send.poll_ready`
  | sendId                             -- ⇒ `self.send.send_id`
deriving Repr, DecidableEq

inductive BidiOut where
  | recv (o : RecvOut)
  | send (r : SendRes)
  | ready (r : Ready)
  | id (n : Nat)
deriving Repr, DecidableEq

def Bidi.step (b : Bidi) : BidiOp → Bidi × BidiOut
  | .recv op => let (r, o) := b.recv.step op; ({ b with recv := r }, .recv o)
  | .sendData d => let (s, r) := sendData b.send d; ({ b with send := s }, .send r)
  | .pollReady sc => let o := pollReady b.send sc; ({ b with send := o.state }, .ready o.res)
  | .sendId => (b, .id b.sendId)

def Bidi.run : Bidi → List BidiOp → Bidi × List BidiOut
  | b, [] => (b, [])
  | b, op :: ops =>
    let (b', o) := b.step op
    let (b'', os) := Bidi.run b' ops
    (b'', o :: os)

/-- `BidiStream::split`: the two fields, nothing else. -/
def Bidi.split (b : Bidi) : (Nat × Send) × Recv := ((b.sendId, b.send), b.recv)

/-- The same operations applied to the halves separately. -/
def sendHalfRun : Send → List BidiOp → Send
  | s, [] => s
  | s, .sendData d :: ops => sendHalfRun (sendData s d).1 ops
  | s, .pollReady sc :: ops => sendHalfRun (pollReady s sc).state ops
  | s, _ :: ops => sendHalfRun s ops

def recvHalfOps : List BidiOp → List RecvOp
  | [] => []
  | .recv op :: ops => op :: recvHalfOps ops
  | _ :: ops => recvHalfOps ops

/-! ## (f) opening and accepting streams, closing -/

/-- What Quinn's `open_bi()` / `open_uni()` / `accept_bi()` / `accept_uni()` future does when the
    adapter polls it: not yet (no stream credit / nothing arrived), a stream with this id, or the
    connection's error. -/
inductive OpenEv where
  | pending
  | ok (id : Nat)
  | err (e : ConnectionError)
deriving Repr, DecidableEq

/-- `OpenStreams` / the opening half of `Connection`: whether the boxed `unfold` streams exist yet
    (`get_or_insert_with`). They buffer nothing: a stream exists only once Quinn's future completed,
    and then it is returned by that very poll. -/
structure Opener where
  openingBi : Bool
  openingUni : Bool
deriving Repr, DecidableEq

/-- `Connection::new`, `Connection::opener()` and `OpenStreams::clone()` all start without a future. -/
def Opener.new : Opener := ⟨false, false⟩
def Opener.clone (_ : Opener) : Opener := Opener.new

inductive OpenOut where
  | pending
  | bidi (b : Bidi)
  | send (id : Nat)
  | err (e : StreamErr)
deriving Repr, DecidableEq

/-- `poll_open_bidi`: an error of the connection arrives as `StreamErrorIncoming::ConnectionErrorIncoming`. -/
def pollOpenBidi (o : Opener) (ev : OpenEv) : Opener × OpenOut :=
  ({ o with openingBi := true },
   match ev with
   | .pending => .pending
   | .ok id => .bidi (Bidi.new id)
   | .err e => .err (.connection (convertConn e)))

/-- `poll_open_send`. -/
def pollOpenSend (o : Opener) (ev : OpenEv) : Opener × OpenOut :=
  ({ o with openingUni := true },
   match ev with
   | .pending => .pending
   | .ok id => .send id
   | .err e => .err (.connection (convertConn e)))

inductive AcceptOut where
  | pending
  | bidi (b : Bidi)
  | recv (r : Recv)
  | err (e : ConnErr)
deriving Repr, DecidableEq

/-- `poll_accept_bidi` / `poll_accept_recv`: here the error stays a `ConnectionErrorIncoming`. -/
def pollAcceptBidi : OpenEv → AcceptOut
  | .pending => .pending
  | .ok id => .bidi (Bidi.new id)
  | .err e => .err (convertConn e)
def pollAcceptRecv : OpenEv → AcceptOut
  | .pending => .pending
  | .ok id => .recv (Recv.new id)
  | .err e => .err (convertConn e)

/-- One step of a caller that opens streams through one opener: which kind, and what Quinn does. -/
structure OpenStep where
  bidi : Bool
  ev : OpenEv
deriving Repr, DecidableEq

def Opener.step (o : Opener) (st : OpenStep) : Opener × OpenOut :=
  if st.bidi then pollOpenBidi o st.ev else pollOpenSend o st.ev

def Opener.run : Opener → List OpenStep → Opener × List OpenOut
  | o, [] => (o, [])
  | o, st :: r =>
    let (o', x) := o.step st
    let (o'', xs) := Opener.run o' r
    (o'', x :: xs)

/-- The ids of the streams a list of answers hands to the caller (a bidirectional stream counts
    only if both halves carry the same id). -/
def handedOut : List OpenOut → List Nat
  | [] => []
  | .bidi b :: r => (if b.sendId = b.recv.id then [b.sendId] else []) ++ handedOut r
  | .send id :: r => id :: handedOut r
  | _ :: r => handedOut r

/-- …and the ids of the streams Quinn created. -/
def created : List OpenStep → List Nat
  | [] => []
  | st :: r => (match st.ev with | .ok id => [id] | _ => []) ++ created r

/-- `OpenStreams::close(code, reason)`: what `quinn::Connection::close` is called with; `none` = the
    `expect("error code VarInt")` panic. The reason is passed through untouched. -/
def closeArgs (code : Nat) (reason : Bytes) : Option (Nat × Bytes) :=
  match closeArg code with
  | some c => some (c, reason)
  | none => none

/-! ## (g) datagrams (`h3-quinn/src/datagram.rs`) -/

/-- `quinn::SendDatagramError`. -/
inductive SendDatagramError where
  | unsupportedByPeer
  | disabled
  | tooLarge
  | connectionLost (e : ConnectionError)
deriving Repr, DecidableEq

/-- `h3_datagram::quic_traits::SendDatagramErrorIncoming`. -/
inductive DgErr where
  | notAvailable
  | tooLarge
  | connection (e : ConnErr)
deriving Repr, DecidableEq

/-- `convert_h3_error_to_datagram_error` (`h3_datagram::ConnectionErrorIncoming` is a re-export of
    h3's type: the four arms rebuild the value they matched). -/
def convertH3ToDatagram : ConnErr → ConnErr
  | .applicationClose c => .applicationClose c
  | .timeout => .timeout
  | .internalError => .internalError
  | .undefined e => .undefined e

/-- `convert_send_datagram_error`. -/
def convertSendDatagram : SendDatagramError → DgErr
  | .unsupportedByPeer => .notAvailable
  | .disabled => .notAvailable
  | .tooLarge => .tooLarge
  | .connectionLost e => .connection (convertH3ToDatagram (convertConn e))

/-- `SendDatagramHandler::send_datagram`: the `EncodedDatagram` (quarter stream id varint, then the
    payload) is copied into ONE `Bytes` (`copy_to_bytes(remaining)`) and handed to Quinn whole. -/
def datagramWire (qid payload : Bytes) : Bytes := qid ++ payload

def SendDatagramError.name : SendDatagramError → String
  | .unsupportedByPeer => "UnsupportedByPeer"
  | .disabled => "Disabled"
  | .tooLarge => "TooLarge"
  | .connectionLost _ => "ConnectionLost"

def DgErr.className : DgErr → String
  | .notAvailable => "NotAvailable"
  | .tooLarge => "TooLarge"
  | .connection _ => "ConnectionError"

def allSendDatagramErrors : List SendDatagramError :=
  [.unsupportedByPeer, .disabled, .tooLarge, .connectionLost .timedOut]
def allConnErrs : List ConnErr :=
  [.applicationClose 7, .timeout, .internalError, .undefined .reset]

def dgSendCarried (e : SendDatagramError) : String :=
  match e, convertSendDatagram e with
  | .connectionLost x, .connection y => if y = convertH3ToDatagram (convertConn x) then "conn" else "-"
  | _, _ => "-"
def dgConnCarried (e : ConnErr) : String :=
  match e, convertH3ToDatagram e with
  | .applicationClose c, .applicationClose c' => if c = c' then "same" else "-"
  | .undefined x, .undefined y => if x = y then "same" else "-"
  | .internalError, .internalError => "same"   -- the message (not modelled) is passed on
  | _, _ => "-"

def dgSendTable : List (String × String × String) :=
  allSendDatagramErrors.map fun e => (e.name, (convertSendDatagram e).className, dgSendCarried e)
def dgConnTable : List (String × String × String) :=
  allConnErrs.map fun e => (e.className, (convertH3ToDatagram e).className, dgConnCarried e)

/-! The arms that wrap the very error they matched (`error @ … => Undefined(Arc::new(error))`,
    `Unknown(Box::new(error))`), as (function, variant) pairs; compared with the source. -/
def connWraps (e : ConnectionError) : Bool :=
  match convertConn e with
  | .undefined x => x = e
  | _ => false
def readWraps (e : ReadError) : Bool :=
  match e, convertRead e with
  | .closedStream, some (.unknown .closedStream) => true
  | .zeroRttRejected, some (.unknown .zeroRttRejected) => true
  | _, _ => false
def writeWraps (e : WriteError) : Bool :=
  match e, convertWrite e with
  | .closedStream, .unknown .closedStream => true
  | .zeroRttRejected, .unknown .zeroRttRejected => true
  | _, _ => false
def wrapTable : List (String × String) :=
  ((allConnectionErrors.filter connWraps).map fun e => ("convert_connection_error", e.name)) ++
  ((allReadErrors.filter readWraps).map fun e => ("convert_read_error_to_stream_error", e.name)) ++
  ((allWriteErrors.filter writeWraps).map fun e => ("convert_write_error_to_stream_error", e.name))

/-- Which conversion, which guard and which delegation each method of the adapter uses, as
    (impl, method, features in source order). This is the hand-written half; the other half is
    re-extracted from `h3-quinn/src/{lib,datagram}.rs` (`H3.Gen.QuinnTables.siteTable`). Features:
    `conn`/`read`/`write`/`dgram` = the conversion function called, `stream-conn` = wrapped into
    `StreamErrorIncoming::ConnectionErrorIncoming`, `unknown` = boxed into `Unknown`, `internal` =
    `InternalError` built, `expect`/`unwrap`/`panic`/`unreachable` = a panic site,
    `send.f`/`recv.f` = delegation to a half. -/
def siteTable : List (String × String × String) := [
  ("Connection", "new", ""),
  ("quic::Connection<B> for Connection", "poll_accept_bidi", "expect conn"),
  ("quic::Connection<B> for Connection", "poll_accept_recv", "expect conn"),
  ("quic::Connection<B> for Connection", "opener", ""),
  ("quic::OpenStreams<B> for Connection", "poll_open_bidi", "expect stream-conn conn"),
  ("quic::OpenStreams<B> for Connection", "poll_open_send", "expect stream-conn conn"),
  ("quic::OpenStreams<B> for Connection", "close", "expect"),
  ("quic::OpenStreams<B> for OpenStreams", "poll_open_bidi", "expect stream-conn conn"),
  ("quic::OpenStreams<B> for OpenStreams", "poll_open_send", "expect stream-conn conn"),
  ("quic::OpenStreams<B> for OpenStreams", "close", "expect"),
  ("Clone for OpenStreams", "clone", ""),
  ("quic::BidiStream<B> for BidiStream<B>", "split", ""),
  ("quic::RecvStream for BidiStream<B>", "poll_data", "recv.poll_data"),
  ("quic::RecvStream for BidiStream<B>", "stop_sending", "recv.stop_sending"),
  ("quic::RecvStream for BidiStream<B>", "recv_id", "recv.recv_id"),
  ("quic::SendStream<B> for BidiStream<B>", "poll_ready", "send.poll_ready"),
  ("quic::SendStream<B> for BidiStream<B>", "poll_finish", "send.poll_finish"),
  ("quic::SendStream<B> for BidiStream<B>", "reset", "send.reset"),
  ("quic::SendStream<B> for BidiStream<B>", "send_data", "send.send_data"),
  ("quic::SendStream<B> for BidiStream<B>", "send_id", "send.send_id"),
  ("quic::SendStreamUnframed<B> for BidiStream<B>", "poll_send", "send.poll_send"),
  ("quic::Is0rtt for BidiStream<B>", "is_0rtt", "recv.is_0rtt"),
  ("RecvStream", "new", "unreachable"),
  ("quic::RecvStream for RecvStream", "poll_data", "read"),
  ("quic::RecvStream for RecvStream", "stop_sending", "expect"),
  ("quic::RecvStream for RecvStream", "recv_id", "expect"),
  ("quic::Is0rtt for RecvStream", "is_0rtt", ""),
  ("SendStream<B>", "new", ""),
  ("quic::SendStream<B> for SendStream<B>", "poll_ready", "write"),
  ("quic::SendStream<B> for SendStream<B>", "poll_finish", "unknown"),
  ("quic::SendStream<B> for SendStream<B>", "reset", ""),
  ("quic::SendStream<B> for SendStream<B>", "send_data", "stream-conn internal"),
  ("quic::SendStream<B> for SendStream<B>", "send_id", "expect"),
  ("quic::SendStreamUnframed<B> for SendStream<B>", "poll_send", "stream-conn internal write"),
  ("SendDatagram<B> for SendDatagramHandler", "send_datagram", "dgram"),
  ("RecvDatagram for RecvDatagramHandler", "poll_incoming_datagram", "expect conn"),
  ("DatagramConnectionExt<B> for Connection", "send_datagram_handler", ""),
  ("DatagramConnectionExt<B> for Connection", "recv_datagram_handler", "")]

end H3.QuinnAdapter
