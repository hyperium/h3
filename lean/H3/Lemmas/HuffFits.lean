import H3.Model.PrefixString
import H3.Lemmas.BitWindow
/-! The Huffman decoder's machine arithmetic (`u32` bit positions, `u8`/`u16` shifts, slice indexings):
    for an input of `L` bytes with `8·L + 8 < 2^32` the decoder with every operation checked
    (`H3.Huffman.hdecodeC`) never answers `none` and is the unchecked model (`hdecodeX`); with the
    refusal of longer Huffman literals in `prefix_string::decode` (the repair of D-06u) the string
    literal decoder never overflows on ANY input; without it, every input of 2^29 bytes or more
    overflows at the first `read_bits`.  Collected in `C15_huffman_positions_fit`.  The last two lemmas are about
    `prefix_string::decode` (`H3.PrefixString.decodePayloadC_eq`, `decodeGC?_true`); they are here because they
    rest on `hdecodeC_eq`. -/
namespace H3.Huffman
open H3.Gen.HuffDec (Level Entry)

theorem oppositeC_eq (w : BitWindow) : w.oppositeC = some w.opposite := by
  have h : w.bit % 8 ≤ 8 := by omega
  simp only [BitWindow.oppositeC, subU, if_pos h, BitWindow.opposite]

theorem getElem?_getD {l : List Nat} {i : Nat} (h : i < l.length) : l[i]? = some (l.getD i 0) := by
  rw [List.getD_eq_getElem?_getD, List.getElem?_eq_getElem h]; rfl

/-- at a bit offset below 8, as `forwards` leaves it -/
theorem readBitsC_eq (src : List Nat) (byte bit len : Nat) (hL : 8 * src.length + 8 < 2 ^ 32) (hbit : bit < 8)
    (hpos : 8 * byte + bit ≤ 8 * src.length) :
    readBitsC src byte bit len = some (readBits src byte bit len) := by
  unfold readBitsC readBits
  by_cases hlen : len = 0 ∨ len > 8
  · rw [if_pos hlen, if_pos (by omega)]
  · have ht : src.length * 8 < 2 ^ 32 := by omega
    have ha : byte * 8 < 2 ^ 32 := by omega
    have hb : byte * 8 + bit < 2 ^ 32 := by omega
    have hc : byte * 8 + bit + len < 2 ^ 32 := by omega
    rw [if_neg hlen, if_neg (by omega : ¬ ¬ src.length < 2 ^ 32)]
    simp only [mul32, add32, if_pos ht, if_pos ha, if_pos hb, if_pos hc]
    by_cases hg : src.length * 8 < byte * 8 + bit + len
    · rw [if_pos hg, if_pos (Or.inr (Or.inr hg))]
    · have h0 : bit / 8 = 0 := by omega
      have h1 : byte < 2 ^ 32 := by omega
      have h2 : bit + len < 2 ^ 32 := by omega
      rw [if_neg hg, if_neg (show ¬ (len = 0 ∨ len > 8 ∨ src.length * 8 < byte * 8 + bit + len) by omega)]
      simp only [h0, Nat.add_zero, Nat.zero_mul, Nat.sub_zero, Nat.zero_le, if_pos h1, subU, if_true,
        if_pos (by decide : (0 : Nat) < 2 ^ 32),
        readBitsArmsC, add32, if_pos h2, getElem?_getD (by omega : byte < src.length), Option.map]
      by_cases he : bit + len ≤ 8
      · simp only [if_pos he, if_pos (by omega : len ≤ 8), if_pos (⟨hbit, by omega⟩ : bit < 8 ∧ 8 - len < 8)]
      · simp only [if_neg he, getElem?_getD (by omega : byte + 1 < src.length), if_pos (by omega : len ≤ 16),
          if_pos (⟨by omega, by omega⟩ : bit < 16 ∧ 16 - len < 16)]

theorem eofFillerC_eq : ∀ r < 8, eofFillerC (8 - r) = some (((2 <<< (8 - r - 1)) - 1) % 256) := by decide

theorem checkEofC_eq (w : BitWindow) (inp : List Nat) (hL : 8 * inp.length + 8 < 2 ^ 32) (hbit : w.bit < 8)
    (hpos : 8 * w.byte + w.bit ≤ 8 * inp.length) :
    checkEofC w inp = some (checkEof w inp) := by
  unfold checkEofC checkEof
  have h1 : w.byte + 1 < 2 ^ 32 := by omega
  simp only [add32, if_pos h1]
  by_cases ha : w.byte + 1 > inp.length
  · rw [if_pos ha, if_pos ha]
  · rw [if_neg ha, if_neg ha]
    by_cases hb : w.byte + 1 = inp.length
    · rw [if_pos hb, if_pos hb]
      simp only [oppositeC_eq]
      rw [readBitsC_eq inp w.opposite.byte w.opposite.bit w.opposite.count hL hbit hpos]
      cases readBits inp w.opposite.byte w.opposite.bit w.opposite.count with
      | none => rfl
      | some rest =>
        have hf : eofFillerC w.opposite.count = some (((2 <<< (w.opposite.count - 1)) - 1) % 256) :=
          eofFillerC_eq (w.bit % 8) (by omega)
        simp only [hf]
        exact (apply_ite some _ _ _).symm
    · rw [if_neg hb, if_neg hb]

/- The level walker, by structural induction over the tree.  Second conjunct: a symbol leaves the window's end
   within the input, which is what `decodeAllC_eq` needs to go round the loop (for the other answers the loop
   stops). -/
mutual
theorem decodeNextC_eq (inp : List Nat) (hL : 8 * inp.length + 8 < 2 ^ 32) : ∀ (l : Level) (w : BitWindow),
    w.endPos ≤ 8 * inp.length →
    decodeNextC l w inp = some (decodeNext l w inp) ∧
    ∀ s, (decodeNext l w inp).2 = .sym s → (decodeNext l w inp).1.endPos ≤ 8 * inp.length
  | .mk k tbl, w, hpos => by
    obtain ⟨hs, hbit, hc⟩ := forwards_start w k
    rw [decodeNextC, decodeNext, forwardsC_eq, if_pos (by simp only [BitWindow.endPos] at hpos; omega)]
    simp only
    rw [readBitsC_eq inp _ _ _ hL hbit (by omega)]
    cases hr : readBits inp (w.forwards k).byte (w.forwards k).bit (w.forwards k).count with
    | none =>
      rw [checkEofC_eq (w.forwards k) inp hL hbit (by omega)]
      cases hce : checkEof (w.forwards k) inp with
      | ok u => cases u; exact ⟨rfl, fun s h => by simp at h⟩
      | error e => exact ⟨rfl, fun s h => by simp at h⟩
    | some value =>
      have hin : (w.forwards k).endPos ≤ 8 * inp.length := by
        unfold readBits at hr
        by_cases hcond : (w.forwards k).count = 0 ∨ (w.forwards k).count > 8 ∨
            inp.length * 8 < (w.forwards k).byte * 8 + (w.forwards k).bit + (w.forwards k).count
        · rw [if_pos hcond] at hr; cases hr
        · simp only [BitWindow.endPos]; omega
      exact tableGetC_eq inp hL tbl value value (w.forwards k) hin
theorem tableGetC_eq (inp : List Nat) (hL : 8 * inp.length + 8 < 2 ^ 32) :
    ∀ (tbl : List Entry) (i v : Nat) (w : BitWindow), w.endPos ≤ 8 * inp.length →
    tableGetC tbl i v w inp = some (tableGet tbl i v w inp) ∧
    ∀ s, (tableGet tbl i v w inp).2 = .sym s → (tableGet tbl i v w inp).1.endPos ≤ 8 * inp.length
  | [], i, v, w, _ => by
    rw [tableGetC, tableGet]; exact ⟨rfl, fun s h => by simp at h⟩
  | e :: _, 0, v, w, hpos => by
    rw [tableGetC, tableGet]; exact entryGoC_eq inp hL e w hpos
  | _ :: es, i+1, v, w, hpos => by
    rw [tableGetC, tableGet]; exact tableGetC_eq inp hL es i v w hpos
theorem entryGoC_eq (inp : List Nat) (hL : 8 * inp.length + 8 < 2 ^ 32) : ∀ (e : Entry) (w : BitWindow),
    w.endPos ≤ 8 * inp.length →
    entryGoC e w inp = some (entryGo e w inp) ∧
    ∀ s, (entryGo e w inp).2 = .sym s → (entryGo e w inp).1.endPos ≤ 8 * inp.length
  | .sym s, w, hpos => by
    rw [entryGoC, entryGo]; exact ⟨rfl, fun _ _ => hpos⟩
  | .sub l, w, hpos => by
    rw [entryGoC, entryGo]; exact decodeNextC_eq inp hL l w hpos
end

theorem decodeAllC_eq (root : Level) (inp : List Nat) (hL : 8 * inp.length + 8 < 2 ^ 32) :
    ∀ (fuel : Nat) (w : BitWindow), w.endPos ≤ 8 * inp.length →
      decodeAllC root fuel w inp = some (decodeAll root fuel w inp)
  | 0, _, _ => rfl
  | fuel+1, w, hpos => by
    obtain ⟨he, hs⟩ := decodeNextC_eq inp hL root w hpos
    rw [decodeAllC, decodeAll, he]
    rcases hd : decodeNext root w inp with ⟨w', st⟩
    rw [hd] at hs
    cases st with
    | sym s =>
      simp only
      rw [decodeAllC_eq root inp hL fuel w' (hs s rfl)]
      cases decodeAll root fuel w' inp with
      | error e => rfl
      | ok v => rfl
    | done => rfl
    | err e => rfl

theorem hdecodeC_eq (inp : List Nat) (hL : 8 * inp.length + 8 < 2 ^ 32) :
    hdecodeC inp = some (hdecodeX inp) :=
  decodeAllC_eq _ inp hL _ _ (by simp [BitWindow.endPos])

/-- The bound is needed: 2^29 bytes or more (any bytes) overflow in the first `read_bits` —
    `src.len() as u32 * 8` does not fit, or (from 2^32 bytes on) the cast `src.len() as u32` loses bits
    (D-06u's witness `huff decn 00 536870912`). -/
theorem hdecodeC_overflow (inp : List Nat) (h1 : 2 ^ 29 ≤ inp.length) : hdecodeC inp = none := by
  have hroot : ∃ tbl, H3.Gen.HuffDec.root = .mk 5 tbl := ⟨_, rfl⟩
  obtain ⟨tbl, hr⟩ := hroot
  have hm : ¬ inp.length * 8 < 2 ^ 32 := by omega
  have hn : decodeNextC (.mk 5 tbl) ⟨0, 0, 0⟩ inp = none := by
    rw [decodeNextC]
    simp only [BitWindow.forwardsC, add32, readBitsC, mul32]
    by_cases h2 : inp.length < 2 ^ 32
    · simp [hm, h2]
    · simp [h2]
  rw [hdecodeC, decodeAllC, hr, hn]

end H3.Huffman

namespace H3.PrefixString

theorem decodePayloadC_eq (flags len : Nat) (rest : List Nat)
    (h : flags % 2 = 1 → 8 * len + 8 < 2 ^ 32) :
    decodePayloadC flags len rest = some (decodePayload flags len rest) := by
  unfold decodePayloadC decodePayload
  by_cases hl : rest.length < len
  · rw [if_pos hl, if_pos hl]
  · rw [if_neg hl, if_neg hl]
    by_cases hf : flags % 2 = 0
    · simp only [if_pos hf]
    · simp only [if_neg hf]
      have hlen : (rest.take len).length = len := by rw [List.length_take]; omega
      have hb : 8 * (rest.take len).length + 8 < 2 ^ 32 := by rw [hlen]; exact h (by omega)
      rw [Huffman.hdecodeC_eq _ hb]
      simp only [Huffman.hdecode]
      cases Huffman.hdecodeX (rest.take len) with
      | error e => rfl
      | ok v => rfl

theorem decodeGC?_true (n : Nat) (bs : List Nat) : decodeGC? true n bs = decodeG? true n bs := by
  unfold decodeGC? decodeG?
  by_cases hn : n = 0
  · rw [if_pos hn, if_pos hn]
  · rw [if_neg hn, if_neg hn]
    cases PrefixInt.decode? (n - 1) bs with
    | none => rfl
    | some r =>
      cases r with
      | endOf => rfl
      | overflow => rfl
      | ok flags len rest =>
        simp only
        by_cases hg : (true && hugeHuffman flags len) = true
        · rw [if_pos hg, if_pos hg]
        · rw [if_neg hg, if_neg hg]
          apply decodePayloadC_eq
          intro hf
          simp only [hugeHuffman, Bool.true_and, Bool.and_eq_true, beq_iff_eq, decide_eq_true_eq, not_and,
            Nat.not_le] at hg
          have := hg hf
          omega

end H3.PrefixString
