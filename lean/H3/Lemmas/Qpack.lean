import H3.Model.Qpack
import H3.Spec.Qpack
import H3.Lemmas.PrefixInt
import H3.Lemmas.StaticTable
import H3.Lemmas.Bits
/-! The vocabulary of the C11 / C10 statements (`WF`, `pairs`, `Encodable`, `Writable`, the bundle
    `C15Facts`) and the lemmas under them: the stateless decoder against the RFC 9204 specification,
    the encoder read back by both, the running size. -/
namespace H3.Qpack.Lemmas

/-- The statements of six theorems of `H3.Props.C15`, verbatim, as a hypothesis: this file stands
    below `Props/C15.lean` in the import order, so its lemmas take the bundle as `h15`;
    `Props/C11Closed.lean` discharges it.  The file reads the four fields about Huffman and string literals,
    and only in `strDecode_sound`, `stringLiteral_encode` and `strDecode_encode`; what it needs of prefixed
    integers it takes from `Lemmas/PrefixInt.lean` (`decode_sound`, `decode_encode`, `rfcDecode_encode`). -/
structure C15Facts : Prop where
  prefix_int_roundtrip : ∀ (n flags v : Nat) (_hn1 : 1 ≤ n) (_hn8 : n ≤ 8) (_hf : flags < 2 ^ (8 - n))
      (_hv : v - (2 ^ n - 1) < 2 ^ 63) (rest : List Nat),
    PrefixInt.encode? n flags v = some (PrefixInt.encode n flags v) ∧
    (∀ b ∈ PrefixInt.encode n flags v, b < 256) ∧
    PrefixInt.decode? n (PrefixInt.encode n flags v ++ rest) = some (.ok flags v rest) ∧
    PrefixInt.decode n (PrefixInt.encode n flags v ++ rest) = .ok flags v rest
  prefix_int_ok_sound : ∀ (n : Nat) (_hn1 : 1 ≤ n) (_hn8 : n ≤ 8) (bs : List Nat)
      (_hwf : ∀ b ∈ bs, b < 256) (f v : Nat) (rest : List Nat)
      (_h : PrefixInt.decode n bs = .ok f v rest),
    PrefixInt.rfcDecode n bs = some (v, rest) ∧ v < 2 ^ 64 ∧ v - (2 ^ n - 1) < 2 ^ 63 ∧
    ∃ first r, bs = first :: r ∧ f = first / 2 ^ n
  huffman_roundtrip : ∀ (s : List Nat) (_hs : ∀ x ∈ s, x < 256)
      (_hfit : 7 * (Huffman.hencode s).length < 2 ^ 32),
    Huffman.hencode? s = some (Huffman.hencode s) ∧
    Huffman.hencode s = Spec.Huffman.specEncode s ∧
    H3.Bits.bitsOf (Huffman.hencode s) = Spec.Huffman.enc s ++
      List.replicate ((8 - (Spec.Huffman.enc s).length % 8) % 8) true ∧
    (∀ b ∈ Huffman.hencode s, b < 256) ∧
    Huffman.hdecodeX (Huffman.hencode s) = .ok (s, false) ∧
    Huffman.hdecode (Huffman.hencode s) = .ok s ∧
    Huffman.lax (Huffman.hencode s) = false ∧
    ∀ g grow, Huffman.hencodeC g grow s = some (.ok (Huffman.hencode s))
  string_literal_encode : ∀ (n flags : Nat) (_hn2 : 2 ≤ n) (_hn8 : n ≤ 8) (_hf : flags < 2 ^ (8 - n))
      (s : List Nat) (_hs : ∀ x ∈ s, x < 256) (_hfit : 7 * (Huffman.hencode s).length < 2 ^ 32),
    PrefixString.encode? n flags s = some (PrefixString.encode n flags s) ∧
    PrefixString.encode n flags s =
      PrefixInt.encode (n - 1) (2 * flags + 1) (Huffman.hencode s).length ++ Huffman.hencode s ∧
    ∀ g grow, PrefixString.encodeC? g grow n flags s = some (.ok (PrefixString.encode n flags s))
  string_literal_roundtrip : ∀ (n flags : Nat) (_hn2 : 2 ≤ n) (_hn8 : n ≤ 8) (_hf : flags < 2 ^ (8 - n))
      (s : List Nat) (_hs : ∀ x ∈ s, x < 256) (_hlen : (Huffman.hencode s).length * 8 + 16 < 2 ^ 32)
      (rest : List Nat),
    PrefixString.encode? n flags s = some (PrefixString.encode n flags s) ∧
    PrefixString.encode n flags s =
      PrefixInt.encode (n - 1) (2 * flags + 1) (Huffman.hencode s).length ++ Huffman.hencode s ∧
    PrefixString.decode? n (PrefixString.encode n flags s ++ rest) = some (.ok flags s rest) ∧
    PrefixString.decode n (PrefixString.encode n flags s ++ rest) = .ok flags s rest ∧
    ∀ g, PrefixString.decodeG? g n (PrefixString.encode n flags s ++ rest) = some (.ok flags s rest)
  huffman_accepts_exactly_partial : ∀ (b : List Nat) (_hb : ∀ x ∈ b, x < 256) (s : List Nat),
    (Spec.Huffman.specDecode b = some s → Huffman.hdecodeX b = .ok (s, false)) ∧
    (Huffman.hdecodeX b = .ok (s, false) → Spec.Huffman.specDecode b = some s) ∧
    (Huffman.hdecodeX b = .ok (s, true) → Spec.Huffman.specDecode b = none) ∧
    (Spec.Huffman.specDecode b = some s → Huffman.hdecode b = .ok s ∧ Huffman.lax b = false) ∧
    (Huffman.hdecode b = .ok s → Huffman.lax b = false → Spec.Huffman.specDecode b = some s) ∧
    Huffman.hdecodeX b ≠ .error .fuel

abbrev WF (bs : List Nat) : Prop := ∀ b ∈ bs, b < 256

theorem wf_of_append_right {bs a b : List Nat} (hs : bs = a ++ b) (h : WF bs) : WF b :=
  (List.forall_mem_append.mp (hs ▸ h)).2

theorem wf_of_append_left {a b : List Nat} (h : WF (a ++ b)) : WF a := (List.forall_mem_append.mp h).1

theorem wf_drop {a : List Nat} (h : WF a) (k : Nat) : WF (a.drop k) :=
  fun x hx => h x (List.mem_of_mem_drop hx)

theorem strDecode_shape (n : Nat) (hn0 : n ≠ 0) (bs v rest : List Nat) (lax : Bool)
    (h : strDecode n bs = .ok (v, rest, lax)) :
    ∃ flags len r1, PrefixInt.decode (n - 1) bs = .ok flags len r1 ∧ len ≤ r1.length ∧
      rest = r1.drop len ∧
      ((flags % 2 = 0 ∧ v = r1.take len ∧ lax = false) ∨
       (flags % 2 = 1 ∧ Huffman.hdecode (r1.take len) = .ok v ∧ lax = Huffman.lax (r1.take len))) := by
  unfold strDecode at h
  split at h
  · cases h                     -- `prefix_string::decode` in error
  rename_i fl v' rest' hps
  cases h
  unfold PrefixString.decode PrefixString.decode? PrefixString.decodeG? at hps
  rw [if_neg hn0] at hps
  split at hps                  -- the length: `prefix_int::decode` panics, ends early, overflows, or answers
  · cases hps
  · cases hps
  · cases hps
  rename_i flags len r1 hd?
  have hd := PrefixInt.decode_of_decode? hd?
  split at hps
  · cases hps                   -- a Huffman literal too long for the decoder's `u32` positions
  simp only [Option.getD_some, PrefixString.decodePayload] at hps
  split at hps
  · cases hps                   -- fewer octets left than announced
  refine ⟨flags, len, r1, hd, by omega, ?_⟩
  simp only [strLax, hd]
  split at hps                  -- the `H` bit: raw octets, or Huffman (accepted or in error)
  · rename_i hf
    cases hps
    exact ⟨rfl, .inl ⟨hf, rfl, by simp [hf]⟩⟩
  · rename_i hf
    split at hps
    · rename_i w hh
      cases hps
      exact ⟨rfl, .inr ⟨by omega, hh, by simp [show flags % 2 = 1 by omega, show len ≤ r1.length by omega]⟩⟩
    · cases hps
theorem strDecode_sound (h15 : C15Facts) (n : Nat) (hn : n = 4 ∨ n = 8) (bs : List Nat) (hwf : WF bs)
    (v rest : List Nat) (h : strDecode n bs = .ok (v, rest, false)) :
    Spec.Qpack.stringLiteral (n - 1) bs = .ok (v, rest) := by
  have hn0 : n ≠ 0 := by omega
  obtain ⟨flags, len, r1, hd, hlen, hrest, hcase⟩ := strDecode_shape n hn0 bs v rest false h
  have hm1 : 1 ≤ n - 1 := by omega
  have hm8 : n - 1 ≤ 8 := by omega
  obtain ⟨hrfc, _, _, first, r, hbs, hflags⟩ := PrefixInt.decode_sound (n - 1) hm1 hm8 bs hwf flags len r1 hd
  obtain ⟨pre, _, hsplit⟩ := PrefixInt.decode_suffix _ _ _ _ _ hd
  have hwf1 : WF r1 := wf_of_append_right hsplit hwf
  subst hbs
  unfold Spec.Qpack.stringLiteral
  simp only [hrfc]
  rw [if_neg (by omega)]
  rcases hcase with ⟨hf, hv, _⟩ | ⟨hf, hh, hl⟩
  · rw [if_neg (by omega)]; rw [hv, hrest]
  · rw [if_pos (by omega)]
    have := (h15.huffman_accepts_exactly_partial (r1.take len) (fun x hx => hwf1 x (List.mem_of_mem_take hx))
      v).2.2.2.2.1 hh hl.symm
    simp only [this]; rw [hrest]

theorem bits8 (b : Nat) : H3.Bits.bitsN 8 b =
    [b / 128 % 2 == 1, b / 64 % 2 == 1, b / 32 % 2 == 1, b / 16 % 2 == 1,
     b / 8 % 2 == 1, b / 4 % 2 == 1, b / 2 % 2 == 1, b % 2 == 1] := by
  simp [H3.Bits.bitsN]

/-- the model's dispatcher on the five leading bits -/
def kindOf : List Bool → HeaderBlockField
  | true :: _ => .indexed
  | false :: true :: _ => .literalWithNameRef
  | false :: false :: true :: _ => .literal
  | false :: false :: false :: true :: _ => .indexedWithPostBase
  | false :: false :: false :: false :: _ :: _ => .literalWithPostBaseNameRef
  | _ => .unknown

theorem decode_kind : ∀ first, first < 256 → HeaderBlockField.decode first = kindOf (H3.Bits.bitsN 8 first) := by
  decide +kernel

/-- what both dispatchers look at in the first octet of an encoding -/
theorem bits_flags (first m n flags : Nat) (hmn : m + n = 8) (h : first / 2 ^ n = flags) :
    H3.Bits.bitsN 8 first = H3.Bits.bitsN m flags ++ H3.Bits.bitsN n first := by
  rw [← h, ← H3.Bits.bitsN_add, hmn]

/-- RFC 9204 §4.5.2–§4.5.6 and `HeaderBlockField::decode` recognise the same five patterns: the
    specification's reading of a field line, by the model's dispatcher. -/
theorem parseLine_eq (first : Nat) (r : List Nat) (hb : first < 256) :
    Spec.Qpack.parseLine first r =
      match HeaderBlockField.decode first with
      | .indexed =>
        match PrefixInt.rfcDecode 6 (first :: r) with
        | none => .error .truncatedInteger
        | some (i, rest) => .ok (.indexed (first / 64 % 2 == 1) i, rest)
      | .literalWithNameRef =>
        match Spec.Qpack.indexThenValue 4 (first :: r) with
        | .error e => .error e
        | .ok (i, v, rest) => .ok (.literalNameRef (first / 32 % 2 == 1) (first / 16 % 2 == 1) i v, rest)
      | .literal =>
        match Spec.Qpack.stringLiteral 3 (first :: r) with
        | .error e => .error e
        | .ok (name, r1) =>
          match Spec.Qpack.stringLiteral 7 r1 with
          | .error e => .error e
          | .ok (v, r2) => .ok (.literal (first / 16 % 2 == 1) name v, r2)
      | .indexedWithPostBase =>
        match PrefixInt.rfcDecode 4 (first :: r) with
        | none => .error .truncatedInteger
        | some (i, rest) => .ok (.indexedPostBase i, rest)
      | .literalWithPostBaseNameRef =>
        match Spec.Qpack.indexThenValue 3 (first :: r) with
        | .error e => .error e
        | .ok (i, v, rest) => .ok (.literalPostBaseNameRef (first / 8 % 2 == 1) i v, rest)
      | .unknown => .error .truncatedInteger := by
  rw [decode_kind first hb]
  unfold Spec.Qpack.parseLine
  rw [bits8]
  generalize (first / 128 % 2 == 1) = b7
  generalize (first / 64 % 2 == 1) = b6
  generalize (first / 32 % 2 == 1) = b5
  generalize (first / 16 % 2 == 1) = b4
  cases b7 <;> cases b6 <;> cases b5 <;> cases b4 <;> rfl

/-- How an invalid Huffman literal makes the specification refuse a section (this lemma and the next
    two).  Stated about variables, to be instantiated with concrete octets: a proof that unfolds
    `specDecode` on a concrete section by `simp` or `rfl` leaves the kernel two terms
    `match Spec.Huffman.specDecode … with …` to compare, and it compares them by running the
    reference Huffman decoder (which recomputes the canonical code at every bit). -/
theorem stringLiteral_invalid {n first len : Nat} {r rest : List Nat}
    (hi : PrefixInt.rfcDecode n (first :: r) = some (len, rest)) (hl : len ≤ rest.length)
    (hh : first / 2 ^ n % 2 = 1) (hn : Spec.Huffman.specDecode (rest.take len) = none) :
    Spec.Qpack.stringLiteral n (first :: r) = .error .invalidHuffman := by
  simp only [Spec.Qpack.stringLiteral, hi, if_neg (Nat.not_lt.mpr hl), if_pos hh, hn]

theorem parseLine_nameRef_err {first i : Nat} {r r1 : List Nat} {e : Spec.Qpack.Reject}
    (h64 : first / 64 = 1) (hi : PrefixInt.rfcDecode 4 (first :: r) = some (i, r1))
    (he : Spec.Qpack.stringLiteral 7 r1 = .error e) : Spec.Qpack.parseLine first r = .error e := by
  have hb : H3.Bits.bitsN 8 first = false :: true :: (first / 2 ^ 5 % 2 == 1) :: (first / 2 ^ 4 % 2 == 1) ::
      H3.Bits.bitsN 4 first := bits_flags first 2 6 1 rfl h64
  simp only [Spec.Qpack.parseLine, hb, Spec.Qpack.indexThenValue, hi, he]

theorem specDecode_line_err {bs r : List Nat} {first : Nat} {e : Spec.Qpack.Reject}
    (hp : Spec.Qpack.parsePrefix bs = .ok (first :: r)) (hl : Spec.Qpack.parseLine first r = .error e) :
    Spec.Qpack.specDecode bs = .error e := by
  simp only [Spec.Qpack.specDecode, Spec.Qpack.parse, hp, List.length_cons, Spec.Qpack.parseLines, hl]

theorem indexed_shape (bs : List Nat) (ix : Indexed) (rest : List Nat)
    (h : Indexed.decode bs = .ok (ix, rest)) :
    ∃ fl j, PrefixInt.decode 6 bs = .ok fl j rest ∧ ((fl = 3 ∧ ix = .static j) ∨ (fl = 2 ∧ ix = .dynamic j)) := by
  unfold Indexed.decode at h
  split at h
  · cases h
  · cases h
  rename_i fl j rest1 hd
  refine ⟨fl, j, ?_⟩
  split at h
  · split at h
    · cases h
    · cases h; exact ⟨hd, .inl ⟨‹fl = 3›, rfl⟩⟩
  · split at h
    · split at h
      · cases h
      · cases h; exact ⟨hd, .inr ⟨‹fl = 2›, rfl⟩⟩
    · cases h

theorem nameRef_shape (bs : List Nat) (lit : LiteralWithNameRef) (rest : List Nat) (lax : Bool)
    (h : LiteralWithNameRef.decode bs = .ok (lit, rest, lax)) :
    ∃ fl j r1 v, PrefixInt.decode 4 bs = .ok fl j r1 ∧ strDecode 8 r1 = .ok (v, rest, lax) ∧
      ((fl % 2 = 1 ∧ fl / 4 % 2 = 1 ∧ lit = .static j v) ∨ lit = .dynamic j v) := by
  unfold LiteralWithNameRef.decode at h
  split at h
  · cases h
  · cases h
  rename_i fl j r1 hd
  refine ⟨fl, j, r1, ?_⟩
  split at h
  · rename_i hs
    split at h
    · cases h
    · split at h
      · cases h
      · rename_i v rest' lax' hsd
        cases h; exact ⟨v, hd, hsd, .inl ⟨hs.1, hs.2, rfl⟩⟩
  · split at h
    · split at h
      · cases h
      · split at h
        · cases h
        · rename_i v rest' lax' hsd
          cases h; exact ⟨v, hd, hsd, .inr rfl⟩
    · cases h

theorem literal_shape (bs name value rest : List Nat) (lax : Bool)
    (h : Literal.decode bs = .ok ((name, value), rest, lax)) :
    ∃ r1 l1 l2, strDecode 4 bs = .ok (name, r1, l1) ∧ strDecode 8 r1 = .ok (value, rest, l2) ∧
      lax = (l1 || l2) := by
  unfold Literal.decode at h
  split at h
  · cases h
  split at h
  · cases h
  split at h
  · cases h
  rename_i name' r1 l1 hs1
  split at h
  · cases h
  · rename_i value' r2 l2 hs2
    cases h; exact ⟨r1, l1, l2, hs1, hs2, rfl⟩
theorem decodeField_ok {first : Nat} {bs : List Nat} {f : Field} {rest : List Nat} {lax : Bool}
    (h : decodeField first bs = .ok (f, rest, lax)) :
    (HeaderBlockField.decode first = .indexed ∧ lax = false ∧
      ∃ fl j, PrefixInt.decode 6 bs = .ok fl j rest ∧ fl = 3 ∧ StaticTable.get j = some f) ∨
    (HeaderBlockField.decode first = .literalWithNameRef ∧
      ∃ fl j r1 v f0, PrefixInt.decode 4 bs = .ok fl j r1 ∧ strDecode 8 r1 = .ok (v, rest, lax) ∧
        fl % 2 = 1 ∧ fl / 4 % 2 = 1 ∧ StaticTable.get j = some f0 ∧ f = f0.withValue v) ∨
    (HeaderBlockField.decode first = .literal ∧
      ∃ r1 l1 l2, strDecode 4 bs = .ok (f.name, r1, l1) ∧ strDecode 8 r1 = .ok (f.value, rest, l2) ∧
        lax = (l1 || l2)) := by
  unfold decodeField at h
  -- the arms of `decodeField`, in its order: the two post-base kinds (refused), indexed, literal with name
  -- reference, literal, unknown; inside an arm: the decoder in error, a dynamic reference, a static one,
  -- and then the static index outside or inside the table
  split at h
  · cases h
  · cases h
  · rename_i hk
    split at h
    · cases h
    · cases h
    · rename_i i rest1 hd
      obtain ⟨fl, j, hdi, hfl⟩ := indexed_shape _ _ _ hd
      split at h
      · cases h
      · rename_i f0 hg
        cases h
        rcases hfl with ⟨h3, hj⟩ | ⟨_, hj⟩
        · cases hj; exact .inl ⟨hk, rfl, fl, _, hdi, h3, hg⟩
        · cases hj
  · rename_i hk
    split at h
    · cases h
    · cases h
    · rename_i i v rest1 lax1 hd
      obtain ⟨fl, j, r1, v', hdi, hsd, hfl⟩ := nameRef_shape _ _ _ _ hd
      split at h
      · cases h
      · rename_i f0 hg
        cases h
        rcases hfl with ⟨h1, h2, hj⟩ | hj
        · cases hj; exact .inr (.inl ⟨hk, fl, _, r1, _, f0, hdi, hsd, h1, h2, hg, rfl⟩)
        · cases hj
  · rename_i hk
    split at h
    · cases h
    · rename_i name value rest1 lax1 hd
      cases h
      obtain ⟨r1, l1, l2, hs1, hs2, hl⟩ := literal_shape _ _ _ _ _ hd
      exact .inr (.inr ⟨hk, r1, l1, l2, hs1, hs2, hl⟩)
  · cases h

theorem decodeAll_length (root : H3.Gen.HuffDec.Level) (inp : List Nat) : ∀ (fuel : Nat) (w : Huffman.BitWindow)
    (r : List Nat) (l : Bool), Huffman.decodeAll root fuel w inp = .ok (r, l) → r.length + 1 ≤ fuel := by
  intro fuel w
  fun_induction Huffman.decodeAll root fuel w inp with
  -- `decodeAll`: out of fuel (1), a symbol and the rest accepted (2) or refused (3), end of input (4), error (5)
  | case1 => intro _ _ h; cases h
  | case2 fuel w inp w' s hn r' l' hrec ih =>
    rintro r l ⟨⟩
    have := ih r' l' hrec
    simp only [List.length_cons]; omega
  | case3 => intro _ _ h; cases h
  | case4 => rintro r l ⟨⟩; simp
  | case5 => intro _ _ h; cases h

theorem hdecode_length (p v : List Nat) (h : Huffman.hdecode p = .ok v) : v.length ≤ 8 * p.length := by
  unfold Huffman.hdecode at h
  split at h
  · rename_i r l hx
    cases h
    have := decodeAll_length _ _ _ _ _ _ hx
    omega
  · cases h
/-- a string literal the decoder accepts was read from a prefix of at least `|v|/8 + 1` octets -/
theorem strDecode_suffix (n : Nat) (hn0 : n ≠ 0) (bs v rest : List Nat) (lax : Bool)
    (h : strDecode n bs = .ok (v, rest, lax)) :
    ∃ pre, bs = pre ++ rest ∧ v.length + 8 ≤ 8 * pre.length := by
  obtain ⟨flags, len, r1, hd, hlen, hrest, hcase⟩ := strDecode_shape n hn0 bs v rest lax h
  obtain ⟨pre, hpre, hsplit⟩ := PrefixInt.decode_suffix _ _ _ _ _ hd
  have hp : 0 < pre.length := List.length_pos_iff.mpr hpre
  have hv : v.length ≤ 8 * len := by
    rcases hcase with ⟨_, hv, _⟩ | ⟨_, hh, _⟩
    · rw [hv, List.length_take]; omega
    · have := hdecode_length _ _ hh
      rw [List.length_take] at this; omega
  refine ⟨pre ++ r1.take len, by rw [hrest, List.append_assoc, List.take_append_drop]; exact hsplit, ?_⟩
  rw [List.length_append, List.length_take]
  omega

/-- a field line the decoder accepts was read from a prefix of at least `mem_size / 128` octets (not empty: `mem_size ≥ 32`) -/
theorem decodeField_suffix (first : Nat) (r : List Nat) (field : Field) (rest : List Nat) (lax : Bool)
    (h : decodeField first (first :: r) = .ok (field, rest, lax)) :
    ∃ pre, first :: r = pre ++ rest ∧ field.memSize ≤ 128 * pre.length := by
  rcases decodeField_ok h with ⟨_, _, fl, j, hd, _, hg⟩ | ⟨_, fl, j, r1, v, f0, hd, hsd, _, _, hg, rfl⟩ |
    ⟨_, r1, l1, l2, hs1, hs2, _⟩
  · obtain ⟨pre, hpre, hsplit⟩ := PrefixInt.decode_suffix _ _ _ _ _ hd
    have hp : 0 < pre.length := List.length_pos_iff.mpr hpre
    have := (get_size j field hg).2
    exact ⟨pre, hsplit, by omega⟩
  · obtain ⟨pre1, hpre1, hsplit1⟩ := PrefixInt.decode_suffix _ _ _ _ _ hd
    obtain ⟨pre2, hsplit2, hc2⟩ := strDecode_suffix 8 (by omega) _ _ _ _ hsd
    have := (get_size j f0 hg).1
    refine ⟨pre1 ++ pre2, by rw [List.append_assoc, ← hsplit2]; exact hsplit1, ?_⟩
    simp only [Field.memSize, Field.withValue, H3.Gen.Field.ESTIMATED_OVERHEAD_BYTES, List.length_append]
    omega
  · obtain ⟨pre1, hsplit1, ha⟩ := strDecode_suffix 4 (by omega) _ _ _ _ hs1
    obtain ⟨pre2, hsplit2, hb⟩ := strDecode_suffix 8 (by omega) _ _ _ _ hs2
    refine ⟨pre1 ++ pre2, by rw [List.append_assoc, ← hsplit2]; exact hsplit1, ?_⟩
    simp only [Field.memSize, H3.Gen.Field.ESTIMATED_OVERHEAD_BYTES, List.length_append]
    omega

theorem decodeField_consumes (first : Nat) (r : List Nat) (field : Field) (rest : List Nat) (lax : Bool)
    (h : decodeField first (first :: r) = .ok (field, rest, lax)) :
    rest.length < (first :: r).length ∧
      field.memSize ≤ 128 * ((first :: r).length - rest.length) := by
  obtain ⟨pre, hsplit, hm⟩ := decodeField_suffix first r field rest lax h
  have : 0 < field.memSize := by simp [Field.memSize, H3.Gen.Field.ESTIMATED_OVERHEAD_BYTES]
  rw [hsplit, List.length_append]
  constructor <;> omega

theorem indexed_line (first : Nat) (r : List Nat) (hwf : WF (first :: r)) (j : Nat)
    (rest : List Nat) (hd : PrefixInt.decode 6 (first :: r) = .ok 3 j rest) :
    Spec.Qpack.parseLine first r = .ok (.indexed true j, rest) := by
  obtain ⟨hrfc, _, _, first', r', hbs, hfl⟩ := PrefixInt.decode_sound 6 (by omega) (by omega) _ hwf 3 j rest hd
  cases hbs
  have hb : H3.Bits.bitsN 8 first = true :: true :: H3.Bits.bitsN 6 first := bits_flags first 2 6 3 rfl hfl.symm
  simp only [Spec.Qpack.parseLine, hb, hrfc]

theorem nameRef_line (h15 : C15Facts) (first : Nat) (r : List Nat) (hwf : WF (first :: r))
    (hk : HeaderBlockField.decode first = .literalWithNameRef) (fl j : Nat) (r1 v rest : List Nat)
    (hd : PrefixInt.decode 4 (first :: r) = .ok fl j r1) (h1 : fl % 2 = 1)
    (hsd : strDecode 8 r1 = .ok (v, rest, false)) :
    ∃ nb, Spec.Qpack.parseLine first r = .ok (.literalNameRef nb true j v, rest) := by
  obtain ⟨hrfc, _, _, first', r', hbs, hfl⟩ := PrefixInt.decode_sound 4 (by omega) (by omega) _ hwf fl j r1 hd
  cases hbs
  obtain ⟨pre1, _, hsplit1⟩ := PrefixInt.decode_suffix _ _ _ _ _ hd
  have hwf1 : WF r1 := wf_of_append_right hsplit1 hwf
  have hstr := strDecode_sound h15 8 (Or.inr rfl) r1 hwf1 _ _ hsd
  refine ⟨first / 32 % 2 == 1, ?_⟩
  have b4 : (first / 16 % 2 == 1) = true := by simp; omega
  simp only [parseLine_eq first r (hwf first (by simp)), hk, Spec.Qpack.indexThenValue, hrfc, hstr, b4]

theorem literal_line (h15 : C15Facts) (first : Nat) (r : List Nat) (hwf : WF (first :: r))
    (hk : HeaderBlockField.decode first = .literal) (name value r1 rest : List Nat)
    (hs1 : strDecode 4 (first :: r) = .ok (name, r1, false)) (hs2 : strDecode 8 r1 = .ok (value, rest, false)) :
    ∃ nb, Spec.Qpack.parseLine first r = .ok (.literal nb name value, rest) := by
  have hstr1 := strDecode_sound h15 4 (Or.inl rfl) _ hwf _ _ hs1
  obtain ⟨pre1, hsplit1, _⟩ := strDecode_suffix 4 (by omega) _ _ _ _ hs1
  have hwf1 : WF r1 := wf_of_append_right hsplit1 hwf
  have hstr2 := strDecode_sound h15 8 (Or.inr rfl) r1 hwf1 _ _ hs2
  refine ⟨first / 16 % 2 == 1, ?_⟩
  simp only [parseLine_eq first r (hwf first (by simp)), hk, hstr1, hstr2]

theorem decodeField_sound (h15 : C15Facts) (first : Nat) (r : List Nat) (hwf : WF (first :: r))
    (f : Field) (rest : List Nat) (h : decodeField first (first :: r) = .ok (f, rest, false)) :
    ∃ l, Spec.Qpack.parseLine first r = .ok (l, rest) ∧
      Spec.Qpack.interp l = .ok (f.name, f.value) ∧ l.isStateless = true := by
  rcases decodeField_ok h with ⟨hk, _, fl, j, hd, rfl, hg⟩ | ⟨hk, fl, j, r1, v, f0, hd, hsd, h1, _, hg, rfl⟩ |
    ⟨hk, r1, l1, l2, hs1, hs2, hl⟩
  · refine ⟨_, indexed_line first r hwf j rest hd, ?_, rfl⟩
    simp only [Spec.Qpack.interp, get_spec j f hg]
  · obtain ⟨nb, hp⟩ := nameRef_line h15 first r hwf hk fl j r1 v rest hd h1 hsd
    refine ⟨_, hp, ?_, rfl⟩
    simp only [Spec.Qpack.interp, get_spec j f0 hg, Field.withValue]
  · obtain ⟨rfl, rfl⟩ : l1 = false ∧ l2 = false := by simpa using hl.symm
    obtain ⟨nb, hp⟩ := literal_line h15 first r hwf hk _ _ r1 rest hs1 hs2
    exact ⟨_, hp, rfl, rfl⟩

def pairs (fs : List Field) : List (List Nat × List Nat) := fs.map fun f => (f.name, f.value)

theorem size_pairs_cons (f : Field) (fs : List Field) :
    Spec.Qpack.size (pairs (f :: fs)) = f.memSize + Spec.Qpack.size (pairs fs) := by
  simp [pairs, Spec.Qpack.size, Field.memSize, H3.Gen.Field.ESTIMATED_OVERHEAD_BYTES]

theorem decodeLoop_nil (max fuel mem : Nat) : decodeLoop max fuel [] mem = (.ok [] mem, false) := by
  cases fuel <;> rfl

theorem parseLines_nil (fuel : Nat) : Spec.Qpack.parseLines fuel [] = .ok [] := by cases fuel <;> rfl

theorem decodeLoop_sound (h15 : C15Facts) (max : Nat) : ∀ (fuel : Nat) (bs : List Nat) (mem : Nat)
    (fs : List Field) (total fuel2 : Nat), WF bs → bs.length ≤ fuel2 →
    decodeLoop max fuel bs mem = (.ok fs total, false) →
    ∃ ls, Spec.Qpack.parseLines fuel2 bs = .ok ls ∧ Spec.Qpack.interpAll ls = .ok (pairs fs) ∧
      ls.all (·.isStateless) = true := by
  intro fuel bs mem
  fun_induction decodeLoop max fuel bs mem with
  | case1 fuel mem =>
    rintro fs total fuel2 _ _ ⟨⟩
    exact ⟨[], parseLines_nil _, rfl, rfl⟩
  -- out of fuel, a field line in error, over the limit, the rest refused: not `.ok`
  | case2 | case3 | case4 | case6 => intro _ _ _ _ _ h; cases h
  | case5 fuel first r mem field rest l hdf mem' hm fs' total' lax' hrec ih =>
    intro fs total fuel2 hwf hlen h
    simp only [Prod.mk.injEq, Res.ok.injEq, Bool.or_eq_false_iff] at h
    obtain ⟨⟨rfl, rfl⟩, rfl, rfl⟩ := h
    obtain ⟨ln, hpl, hint, hst⟩ := decodeField_sound h15 first r hwf field rest hdf
    obtain ⟨pre, hsplit, _⟩ := decodeField_suffix first r field rest _ hdf
    have hwfr : WF rest := wf_of_append_right hsplit hwf
    have hl := (decodeField_consumes first r field rest _ hdf).1
    obtain ⟨fuel2, rfl⟩ : ∃ k, fuel2 = k + 1 := ⟨fuel2 - 1, by simp at hlen; omega⟩
    obtain ⟨ls, hps, hia, hall⟩ := ih fs' total' fuel2 hwfr (by simp at hlen hl; omega) hrec
    refine ⟨ln :: ls, by simp only [Spec.Qpack.parseLines, hpl, hps], ?_, by simp [hst, hall]⟩
    simp only [Spec.Qpack.interpAll, hint, hia]; rfl

theorem prefix_ok {bs rest : List Nat} {p : HeaderPrefix} (h : HeaderPrefix.decode bs = .ok (p, rest)) :
    ∃ f1 r1 sign, PrefixInt.decode 8 bs = .ok f1 p.encodedInsertCount r1 ∧
      PrefixInt.decode 7 r1 = .ok sign p.deltaBase rest ∧ p.signNegative = (sign == 1) := by
  unfold HeaderPrefix.decode at h
  cases hd1 : PrefixInt.decode 8 bs with
  | endOf => simp [hd1] at h
  | overflow => simp [hd1] at h
  | ok f1 ric r1 =>
    simp only [hd1] at h
    cases hd2 : PrefixInt.decode 7 r1 with
    | endOf => simp [hd2] at h
    | overflow => simp [hd2] at h
    | ok sign db r2 =>
      simp only [hd2] at h
      split at h
      · cases h
      · split at h
        · cases h
        · cases h; exact ⟨f1, r1, sign, rfl, hd2, rfl⟩

theorem get_ok {p : HeaderPrefix} {y : Nat × Nat} (h : p.get = .ok y) :
    y = (0, 0) ∧ p.encodedInsertCount = 0 ∧ p.signNegative = false := by
  unfold HeaderPrefix.get at h
  split at h
  · cases h
  · rename_i hric
    split at h
    · cases h
    · rename_i hs
      cases h
      exact ⟨rfl, by simpa using hric, by simpa using hs⟩

theorem prefix_suffix {bs rest : List Nat} {p : HeaderPrefix} (h : HeaderPrefix.decode bs = .ok (p, rest)) :
    ∃ pre, bs = pre ++ rest := by
  obtain ⟨f1, r1, sign, hd1, hd2, _⟩ := prefix_ok h
  obtain ⟨pre1, _, hs1⟩ := PrefixInt.decode_suffix _ _ _ _ _ hd1
  obtain ⟨pre2, _, hs2⟩ := PrefixInt.decode_suffix _ _ _ _ _ hd2
  exact ⟨pre1 ++ pre2, by rw [List.append_assoc, ← hs2]; exact hs1⟩

theorem prefix_sound (bs : List Nat) (hwf : WF bs) (p : HeaderPrefix) (rest : List Nat)
    (h : HeaderPrefix.decode bs = .ok (p, rest)) (hg : p.get = .ok (0, 0)) :
    Spec.Qpack.parsePrefix bs = .ok rest := by
  obtain ⟨f1, r1, sign, hd1, hd2, hsn⟩ := prefix_ok h
  obtain ⟨_, hric, hsg⟩ := get_ok hg
  obtain ⟨hrfc1, _, _, _⟩ := PrefixInt.decode_sound 8 (by omega) (by omega) bs hwf _ _ _ hd1
  obtain ⟨pre1, _, hsplit1⟩ := PrefixInt.decode_suffix _ _ _ _ _ hd1
  have hwf1 : WF r1 := wf_of_append_right hsplit1 hwf
  obtain ⟨hrfc2, _, _, s, r', rfl, hsign⟩ := PrefixInt.decode_sound 7 (by omega) (by omega) r1 hwf1 _ _ _ hd2
  have hs : s < 256 := hwf1 s (by simp)
  have hbit : ((H3.Bits.bitsN 8 s).head? == some true) = false := by
    rw [hsn] at hsg
    rw [bits8]
    simp at hsg
    simp; omega
  simp [Spec.Qpack.parsePrefix, hrfc1, hrfc2, hric, Spec.Qpack.requiredInsertCount, Spec.Qpack.base, hbit]

theorem decodeStatelessX_sound (h15 : C15Facts) (bs : List Nat) (hwf : WF bs) (max : Nat)
    (fs : List Field) (total : Nat) (h : decodeStatelessX bs max = (.ok fs total, false)) :
    ∃ ls, Spec.Qpack.parse bs = .ok ls ∧ Spec.Qpack.interpAll ls = .ok (pairs fs) ∧
      ls.all (·.isStateless) = true := by
  unfold decodeStatelessX at h
  split at h
  · cases h
  · rename_i p rest hp
    split at h
    · cases h
    · rename_i req b hg
      obtain ⟨hy, _⟩ := get_ok hg
      cases hy
      have hpp := prefix_sound bs hwf p rest hp hg
      obtain ⟨pre, hsplit⟩ := prefix_suffix hp
      have hwfr : WF rest := wf_of_append_right hsplit hwf
      obtain ⟨ls, hps, hia, hall⟩ :=
        decodeLoop_sound h15 max rest.length rest 0 fs total rest.length hwfr (Nat.le_refl _) h
      exact ⟨ls, by simp only [Spec.Qpack.parse, hpp, hps], hia, hall⟩

theorem rfc_encode (n flags v : Nat) (hn8 : n ≤ 8) (hf : flags < 2 ^ (8 - n)) :
    WF (PrefixInt.encode n flags v) ∧
    ∃ first t, PrefixInt.encode n flags v = first :: t ∧ first / 2 ^ n = flags ∧ first < 256 ∧
      ∀ rest, PrefixInt.rfcDecode n (first :: (t ++ rest)) = some (v, rest) := by
  have hwfe := PrefixInt.encode_bytes n flags v hn8 hf
  obtain ⟨first, t, hbs, hfl⟩ := PrefixInt.encode_head n flags v hn8 hf
  refine ⟨hwfe, first, t, hbs, hfl, hwfe first (by rw [hbs]; simp), fun rest => ?_⟩
  have := PrefixInt.rfcDecode_encode n flags v hn8 hf rest
  rwa [hbs] at this

theorem stringLiteral_encode (h15 : C15Facts) (n flags : Nat) (hn : n = 4 ∨ n = 8)
    (hf : flags < 2 ^ (8 - n)) (s : List Nat) (hs : WF s) (hlen : 7 * (Huffman.hencode s).length < 2 ^ 32) :
    PrefixString.encode? n flags s = some (PrefixString.encode n flags s) ∧
    WF (PrefixString.encode n flags s) ∧
    ∃ first t, PrefixString.encode n flags s = first :: t ∧ first / 2 ^ (n - 1) = 2 * flags + 1 ∧ first < 256 ∧
      ∀ rest, Spec.Qpack.stringLiteral (n - 1) (first :: (t ++ rest)) = .ok (s, rest) := by
  obtain ⟨he?, heq, _⟩ := h15.string_literal_encode n flags (by omega) (by omega) hf s hs hlen
  obtain ⟨_, _, _, hwfh, hX, _, _⟩ := h15.huffman_roundtrip s hs hlen
  have hspec := (h15.huffman_accepts_exactly_partial (Huffman.hencode s) hwfh s).2.1 hX
  have hf' := PrefixInt.strFlags_lt (by omega) (by omega) hf
  obtain ⟨hwfi, first, t, hbs, hfl, hlt, hrfc⟩ :=
    rfc_encode (n - 1) (2 * flags + 1) (Huffman.hencode s).length (by omega) hf'
  refine ⟨he?, by rw [heq]; exact List.forall_mem_append.mpr ⟨hwfi, hwfh⟩, first, t ++ Huffman.hencode s,
    by rw [heq, hbs]; rfl, hfl, hlt, fun rest => ?_⟩
  have := hrfc (Huffman.hencode s ++ rest)
  rw [List.append_assoc]
  unfold Spec.Qpack.stringLiteral
  simp only [this]
  rw [if_neg (by simp), if_pos (by rw [hfl]; omega)]
  simp [hspec]

/-- what the theorems ask of a field handed to the encoder: octets, and Huffman codings whose bit
    length + 16 fits `u32` (shorter than 2^29 − 2 octets — the hypothesis of
    `C15_string_literal_roundtrip`: `prefix_string::decode` refuses longer Huffman literals since the
    repair of D-06u, `C15_string_literal_beyond_bound`) -/
def Encodable (f : Field) : Prop :=
  WF f.name ∧ WF f.value ∧ (Huffman.hencode f.name).length * 8 + 16 < 2 ^ 32 ∧
    (Huffman.hencode f.value).length * 8 + 16 < 2 ^ 32

/-- what the ENCODER asks of a field: octets, and Huffman codings that fit the Huffman encoder's `u32`
    positions (coding length `L` with `7·L < 2^32`, shorter than 613 566 757 octets — the hypothesis of
    `C15_string_literal_encode`, decidable: the range in which the model's encoder, positions in `Nat`, is the code,
    site D-15e, `C15_huffman_encoder_positions_fit`; the repaired `put` encodes further and then answers
    `Err`, which the model does not follow); the encode-side theorems
    (`C11_encode_then_rfc_decode`) hold for all of these, also beyond what h3's own decoder takes -/
def Writable (f : Field) : Prop :=
  WF f.name ∧ WF f.value ∧ 7 * (Huffman.hencode f.name).length < 2 ^ 32 ∧
    7 * (Huffman.hencode f.value).length < 2 ^ 32

theorem Encodable.writable {f : Field} (h : Encodable f) : Writable f :=
  ⟨h.1, h.2.1, by have := h.2.2.1; omega, by have := h.2.2.2; omega⟩

theorem encodeField_spec (h15 : C15Facts) (f : Field) (hf : Writable f) (rest : List Nat) :
    ∃ b, encodeField? f = some b ∧ WF b ∧
      ∃ first t l, b = first :: t ∧ Spec.Qpack.parseLine first (t ++ rest) = .ok (l, rest) ∧
        Spec.Qpack.interp l = .ok (f.name, f.value) ∧ l.isStateless = true := by
  obtain ⟨hwn, hwv, hln, hlv⟩ := hf
  unfold encodeField?
  cases hfind : StaticTable.find f with
  | some i =>
    have htab := find_sound f i hfind
    obtain ⟨hwfe, first, t, hbs, hfl, hlt, hrfc⟩ := rfc_encode 6 3 i (by omega) (by decide)
    refine ⟨_, rfl, hwfe, first, t, .indexed true i, hbs, ?_, ?_, rfl⟩
    · have hb : H3.Bits.bitsN 8 first = true :: true :: H3.Bits.bitsN 6 first := bits_flags first 2 6 3 rfl hfl
      simp only [Spec.Qpack.parseLine, hb, hrfc rest]
    · simp only [Spec.Qpack.interp, ← table_eq, htab]
  | none =>
    obtain ⟨hev?, hwfv, fv, tv, hcv, _, _, hsv⟩ :=
      stringLiteral_encode h15 8 0 (Or.inr rfl) (by decide) f.value hwv hlv
    have hsv := hsv rest
    rw [← List.cons_append, ← hcv, show (8 : Nat) - 1 = 7 from rfl] at hsv
    cases hname : StaticTable.findName f.name with
    | some i =>
      obtain ⟨v0, htab⟩ := findName_sound f.name i hname
      obtain ⟨hwfe, first, t, hbs, hfl, hlt, hrfc⟩ := rfc_encode 4 5 i (by omega) (by decide)
      refine ⟨PrefixInt.encode 4 5 i ++ PrefixString.encode 8 0 f.value, ?_, List.forall_mem_append.mpr ⟨hwfe, hwfv⟩,
        first, t ++ PrefixString.encode 8 0 f.value, .literalNameRef false true i f.value, ?_, ?_, ?_, rfl⟩
      · simp [LiteralWithNameRef.encode?, hev?]
      · rw [hbs]; rfl
      · have hb : H3.Bits.bitsN 8 first = false :: true :: false :: true :: H3.Bits.bitsN 4 first :=
          bits_flags first 4 4 5 rfl hfl
        rw [List.append_assoc]
        simp only [Spec.Qpack.parseLine, hb, Spec.Qpack.indexThenValue, hrfc, hsv]
      · simp only [Spec.Qpack.interp, ← table_eq, htab]
    | none =>
      obtain ⟨hen?, hwfn, fn, tn, hcn, hfn, hltn, hsn⟩ :=
        stringLiteral_encode h15 4 2 (Or.inl rfl) (by decide) f.name hwn hln
      refine ⟨PrefixString.encode 4 2 f.name ++ PrefixString.encode 8 0 f.value, ?_, List.forall_mem_append.mpr ⟨hwfn, hwfv⟩,
        fn, tn ++ PrefixString.encode 8 0 f.value, .literal false f.name f.value, ?_, ?_, rfl, rfl⟩
      · simp [Literal.encode?, hen?, hev?]
      · rw [hcn]; rfl
      · have hb : H3.Bits.bitsN 8 fn = false :: false :: true :: false :: true :: H3.Bits.bitsN 3 fn :=
          bits_flags fn 5 3 5 rfl hfn
        rw [List.append_assoc]
        simp only [Spec.Qpack.parseLine, hb, hsn, hsv]

theorem encodeFields_spec (h15 : C15Facts) : ∀ (fs : List Field) (size : Nat), (∀ f ∈ fs, Writable f) →
    ∃ bs, encodeFields? fs size = some (bs, size + Spec.Qpack.size (pairs fs)) ∧ WF bs ∧
      ∀ fuel, bs.length ≤ fuel → ∃ ls, Spec.Qpack.parseLines fuel bs = .ok ls ∧
        Spec.Qpack.interpAll ls = .ok (pairs fs) ∧ ls.all (·.isStateless) = true := by
  intro fs
  induction fs with
  | nil =>
    intro size _
    exact ⟨[], by simp [encodeFields?, pairs, Spec.Qpack.size], (fun _ h => nomatch h),
      fun fuel _ => ⟨[], parseLines_nil fuel, rfl, rfl⟩⟩
  | cons f fs ih =>
    intro size hall
    obtain ⟨bs', henc', hwf', hparse'⟩ := ih (size + f.memSize) (fun g hg => hall g (List.mem_cons_of_mem _ hg))
    obtain ⟨b, hb, hwfb, first, t, l, rfl, hpl, hint, hst⟩ := encodeField_spec h15 f (hall f (by simp)) bs'
    refine ⟨first :: t ++ bs', ?_, List.forall_mem_append.mpr ⟨hwfb, hwf'⟩, fun fuel hlen => ?_⟩
    · simp only [encodeFields?, hb, henc', size_pairs_cons, Nat.add_assoc]
    · obtain ⟨fuel, rfl⟩ : ∃ k, fuel = k + 1 := ⟨fuel - 1, by simp at hlen; omega⟩
      obtain ⟨ls, hps, hia, hall'⟩ := hparse' fuel (by simp at hlen; omega)
      exact ⟨l :: ls, by simp only [List.cons_append, Spec.Qpack.parseLines, hpl, hps],
        by simp only [Spec.Qpack.interpAll, hint, hia]; rfl, by simp [hst, hall']⟩

theorem new0_encode : HeaderPrefix.new0.encode = [0, 0] := by decide

theorem encodeStateless_spec (h15 : C15Facts) (fs : List Field) (hfs : ∀ f ∈ fs, Writable f) :
    ∃ bs, encodeStateless? fs = some ([0, 0] ++ bs, Spec.Qpack.size (pairs fs)) ∧ WF bs ∧
      ∃ ls, Spec.Qpack.parse ([0, 0] ++ bs) = .ok ls ∧ Spec.Qpack.interpAll ls = .ok (pairs fs) ∧
        ls.all (·.isStateless) = true := by
  obtain ⟨bs, henc, hwf, hparse⟩ := encodeFields_spec h15 fs 0 hfs
  obtain ⟨ls, hps, hia, hall⟩ := hparse bs.length (Nat.le_refl _)
  refine ⟨bs, ?_, hwf, ls, ?_, hia, hall⟩
  · simp only [encodeStateless?, henc, new0_encode, Nat.zero_add]
  · have hpp : Spec.Qpack.parsePrefix ([0, 0] ++ bs) = .ok bs := by
      simp [Spec.Qpack.parsePrefix, PrefixInt.rfcDecode, Spec.Qpack.requiredInsertCount,
        Spec.Qpack.base, bits8]
    simp only [Spec.Qpack.parse, hpp, hps]

theorem decodeLoop_cons (max fuel first : Nat) (r : List Nat) (mem : Nat) :
    decodeLoop max (fuel + 1) (first :: r) mem =
      match decodeField first (first :: r) with
      | .error e => (.err e, false)
      | .ok (field, rest, lax) =>
        if mem + field.memSize > max then (.err (.headerTooLong (mem + field.memSize)), lax)
        else
          match decodeLoop max fuel rest (mem + field.memSize) with
          | (.ok fs total, lax') => (.ok (field :: fs) total, lax || lax')
          | (.err e, lax') => (.err e, lax || lax') := by
  rfl

theorem ofParse_ne (e : ParseError) : Err.ofParse e ≠ .fuel ∧ ∀ n, Err.ofParse e ≠ .headerTooLong n := by
  cases e <;> simp [Err.ofParse]

theorem decodeField_err {first : Nat} {bs : List Nat} {e : Err} (h : decodeField first bs = .error e) :
    e ≠ .fuel ∧ ∀ n, e ≠ .headerTooLong n := by
  unfold decodeField at h
  -- every error arm of `decodeField` is `.ofParse _` (`ofParse_ne`) or, another constructor than the two excluded,
  -- `.missingRefs 0`, `.invalidStaticIndex _` or `.unknownPrefix _`
  repeat' split at h
  all_goals (cases h <;> first | exact ofParse_ne _ | simp)

theorem decodeLoop_facts (max : Nat) : ∀ (fuel : Nat) (bs : List Nat) (mem : Nat) (res : Res) (lax : Bool),
    decodeLoop max fuel bs mem = (res, lax) → bs.length ≤ fuel →
    res ≠ .err .fuel ∧
    (∀ fs total, res = .ok fs total → total = mem + Spec.Qpack.size (pairs fs) ∧
      (mem ≤ max → total ≤ max) ∧ total ≤ mem + 128 * bs.length) ∧
    (∀ n, res = .err (.headerTooLong n) → max < n ∧ n ≤ mem + 128 * bs.length) := by
  intro fuel bs mem
  fun_induction decodeLoop max fuel bs mem with
  -- the branches of `decodeLoop`, in its order: input empty (1), out of fuel (2), the field line in error (3),
  -- over the limit (4), the rest accepted (5), the rest refused (6)
  | case1 fuel mem =>
    rintro res lax ⟨⟩ _
    simp [pairs, Spec.Qpack.size]
  | case2 b r mem => intro res lax _ hlen; simp at hlen
  | case3 fuel first r mem e hdf =>
    rintro res lax ⟨⟩ _
    have := decodeField_err hdf
    exact ⟨fun h => this.1 (by injection h), by simp, fun n h => absurd (by injection h) (this.2 n)⟩
  | case4 fuel first r mem field rest l hdf mem' hm =>
    rintro res lax ⟨⟩ hlen
    have ⟨_, hc2⟩ := decodeField_consumes first r field rest l hdf
    refine ⟨by simp, by simp, fun n h => ?_⟩
    obtain rfl : mem' = n := by injection h with h; injection h
    exact ⟨hm, by omega⟩
  | case5 fuel first r mem field rest l hdf mem' hm fs total lax' hrec ih =>
    rintro res lax ⟨⟩ hlen
    have ⟨hc1, hc2⟩ := decodeField_consumes first r field rest l hdf
    obtain ⟨_, hok, _⟩ := ih _ _ hrec (by omega)
    obtain ⟨h1, h2, h3⟩ := hok fs total rfl
    refine ⟨by simp, ?_, by simp⟩
    rintro _ _ ⟨⟩
    rw [size_pairs_cons]
    exact ⟨by omega, fun _ => h2 (by omega), by omega⟩
  | case6 fuel first r mem field rest l hdf mem' hm e lax' hrec ih =>
    rintro res lax ⟨⟩ hlen
    have ⟨hc1, hc2⟩ := decodeField_consumes first r field rest l hdf
    obtain ⟨hf, _, htl⟩ := ih _ _ hrec (by omega)
    refine ⟨hf, by simp, fun n hn => ?_⟩
    have := htl n hn
    omega

/-- changing the limit changes nothing but where the loop stops -/
theorem decodeLoop_limit (max0 : Nat) : ∀ (fuel : Nat) (bs : List Nat) (mem : Nat) (fs : List Field)
    (total : Nat) (lax : Bool), decodeLoop max0 fuel bs mem = (.ok fs total, lax) → bs.length ≤ fuel → ∀ L,
    (total ≤ L → decodeLoop L fuel bs mem = (.ok fs total, lax)) ∧
    (L < total → mem ≤ L → ∃ n lax', decodeLoop L fuel bs mem = (.err (.headerTooLong n), lax') ∧
      L < n ∧ n ≤ total) := by
  intro fuel bs mem
  fun_induction decodeLoop max0 fuel bs mem with
  -- branches numbered as in `decodeLoop_facts`
  | case1 fuel mem =>
    rintro fs total lax ⟨⟩ _ L
    exact ⟨fun _ => decodeLoop_nil .., fun h1 h2 => by omega⟩
  -- out of fuel: excluded by `bs.length ≤ fuel`
  | case2 b r mem => intro _ _ _ _ hlen; simp at hlen
  -- a field line in error, over the limit, the rest refused: not `.ok`
  | case3 | case4 | case6 => intro _ _ _ h; cases h
  | case5 fuel first r mem field rest l hdf mem' hm fs' total' lax' hrec ih =>
    rintro fs total lax ⟨⟩ hlen L
    simp only [mem'] at hm hrec ih
    have ⟨hc1, _⟩ := decodeField_consumes first r field rest l hdf
    have hlen' : rest.length ≤ fuel := by omega
    have htot := ((decodeLoop_facts max0 fuel rest _ _ _ hrec hlen').2.1 fs' total' rfl).1
    obtain ⟨i1, i2⟩ := ih fs' total' lax' hrec hlen' L
    simp only [decodeLoop_cons, hdf]
    constructor
    · intro hle
      simp only [if_neg (show ¬ mem + field.memSize > L by omega), i1 hle]
    · intro hlt hmem
      by_cases hL : mem + field.memSize > L
      · exact ⟨_, _, by rw [if_pos hL], hL, by omega⟩
      · obtain ⟨n, lx, hr, h1, h2⟩ := i2 hlt (by omega)
        exact ⟨n, l || lx, by simp only [if_neg hL, hr], h1, h2⟩
/-- the section prefix does not depend on the limit -/
theorem decodeStatelessX_eq (bs : List Nat) :
    (∃ e, e ≠ .fuel ∧ (∀ n, e ≠ .headerTooLong n) ∧ ∀ L, decodeStatelessX bs L = (.err e, false)) ∨
    (∃ rest, rest.length ≤ bs.length ∧ ∀ L, decodeStatelessX bs L = decodeLoop L rest.length rest 0) := by
  unfold decodeStatelessX
  split
  · rename_i e hp
    exact .inl ⟨_, (ofParse_ne e).1, (ofParse_ne e).2, fun _ => rfl⟩
  · rename_i p rest hp
    split
    · rename_i e hg
      exact .inl ⟨_, (ofParse_ne e).1, (ofParse_ne e).2, fun _ => rfl⟩
    · rename_i req b hg
      obtain ⟨hy, _⟩ := get_ok hg
      cases hy
      obtain ⟨pre, hsplit⟩ := prefix_suffix hp
      exact .inr ⟨rest, by rw [hsplit, List.length_append]; omega, fun _ => rfl⟩

theorem decodeStateless_facts (b : List Nat) (L : Nat) :
    decodeStateless b L ≠ .err .fuel ∧
    (∀ fs m, decodeStateless b L = .ok fs m → m = Spec.Qpack.size (pairs fs) ∧ m ≤ L ∧ m ≤ 128 * b.length) ∧
    (∀ n, decodeStateless b L = .err (.headerTooLong n) → L < n ∧ n ≤ 128 * b.length) := by
  unfold decodeStateless
  rcases decodeStatelessX_eq b with ⟨e, hf, hnt, hall⟩ | ⟨rest, hrl, hall⟩
  · rw [hall L]
    exact ⟨fun hc => hf (by injection hc), nofun, fun n hc => absurd (by injection hc) (hnt n)⟩
  · rw [hall L]
    obtain ⟨hf, hok, htl⟩ := decodeLoop_facts L rest.length rest 0 _ _ rfl (Nat.le_refl _)
    refine ⟨hf, fun fs m hm => ?_, fun n hn => ?_⟩
    · obtain ⟨h1, h2, h3⟩ := hok fs m hm
      exact ⟨by omega, h2 (Nat.zero_le _), by omega⟩
    · obtain ⟨h1, h2⟩ := htl n hn
      exact ⟨h1, by omega⟩

theorem strDecode_encode (h15 : C15Facts) (n flags : Nat) (hn : n = 4 ∨ n = 8) (hf : flags < 2 ^ (8 - n))
    (s : List Nat) (hs : WF s) (hlen : (Huffman.hencode s).length * 8 + 16 < 2 ^ 32) (rest : List Nat) :
    PrefixString.encode? n flags s = some (PrefixString.encode n flags s) ∧
    strDecode n (PrefixString.encode n flags s ++ rest) = .ok (s, rest, false) := by
  obtain ⟨he?, heq, _, hdec, _⟩ := h15.string_literal_roundtrip n flags (by omega) (by omega) hf s hs hlen rest
  refine ⟨he?, ?_⟩
  obtain ⟨_, _, _, _, _, _, hlax, _⟩ := h15.huffman_roundtrip s hs (by omega)
  have hf' := PrefixInt.strFlags_lt (by omega) (by omega) hf
  have hd := PrefixInt.decode_encode (n - 1) (2 * flags + 1) (Huffman.hencode s).length
    (by omega) (by omega) hf' (by omega) (Huffman.hencode s ++ rest)
  unfold strDecode
  rw [hdec]
  have hl : strLax n (PrefixString.encode n flags s ++ rest) = false := by
    unfold strLax
    rw [heq, List.append_assoc, hd]
    simp [hlax]
  rw [hl]

theorem decodeField_encode (h15 : C15Facts) (f : Field) (hf : Encodable f) (rest : List Nat) :
    ∃ b first t, encodeField? f = some b ∧ b = first :: t ∧
      decodeField first (b ++ rest) = .ok (f, rest, false) := by
  obtain ⟨hwn, hwv, hln, hlv⟩ := hf
  unfold encodeField?
  cases hfind : StaticTable.find f with
  | some i =>
    have htab := find_sound f i hfind
    have hi := table_index_lt i _ htab
    obtain ⟨hwfe, first, t, hbs, hfl, hlt, _⟩ := rfc_encode 6 3 i (by omega) (by decide)
    have hd := PrefixInt.decode_encode 6 3 i (by omega) (by omega) (by decide) (by omega) rest
    refine ⟨_, first, t, rfl, hbs, ?_⟩
    have hk : HeaderBlockField.decode first = .indexed := by
      rw [decode_kind first hlt, bits_flags first 2 6 3 rfl hfl]; rfl
    have hix : Indexed.decode (Indexed.encode (.static i) ++ rest) = .ok (.static i, rest) := by
      unfold Indexed.decode
      simp only [Indexed.encode, hd, if_true]
      rw [if_neg (by unfold USIZE_MAX; omega)]
    have hg : StaticTable.get i = some f := get_eq_some.mpr htab
    unfold decodeField
    simp only [hk, hix, hg]
  | none =>
    obtain ⟨hev?, hsv⟩ := strDecode_encode h15 8 0 (Or.inr rfl) (by decide) f.value hwv hlv rest
    cases hname : StaticTable.findName f.name with
    | some i =>
      obtain ⟨v0, htab⟩ := findName_sound f.name i hname
      have hi := table_index_lt i _ htab
      obtain ⟨hwfe, first, t, hbs, hfl, hlt, _⟩ := rfc_encode 4 5 i (by omega) (by decide)
      have hd := PrefixInt.decode_encode 4 5 i (by omega) (by omega) (by decide) (by omega)
        (PrefixString.encode 8 0 f.value ++ rest)
      refine ⟨PrefixInt.encode 4 5 i ++ PrefixString.encode 8 0 f.value, first,
        t ++ PrefixString.encode 8 0 f.value, ?_, by rw [hbs]; rfl, ?_⟩
      · simp [LiteralWithNameRef.encode?, hev?]
      · have hk : HeaderBlockField.decode first = .literalWithNameRef := by
          rw [decode_kind first hlt, bits_flags first 4 4 5 rfl hfl]; rfl
        have hlit : LiteralWithNameRef.decode (PrefixInt.encode 4 5 i ++ PrefixString.encode 8 0 f.value ++ rest) =
            .ok (.static i f.value, rest, false) := by
          unfold LiteralWithNameRef.decode
          rw [List.append_assoc, hd]
          simp only
          rw [if_pos (by decide), if_neg (by unfold USIZE_MAX; omega), hsv]
        have hg : StaticTable.get i = some ⟨f.name, v0⟩ := get_eq_some.mpr htab
        unfold decodeField
        simp only [hk, hlit, hg, Field.withValue]
    | none =>
      obtain ⟨hen?, hsn⟩ := strDecode_encode h15 4 2 (Or.inl rfl) (by decide) f.name hwn hln
        (PrefixString.encode 8 0 f.value ++ rest)
      obtain ⟨_, _, fn0, tn, hcn0, hfn, hltn, _⟩ :=
        stringLiteral_encode h15 4 2 (Or.inl rfl) (by decide) f.name hwn (by omega)
      refine ⟨PrefixString.encode 4 2 f.name ++ PrefixString.encode 8 0 f.value, fn0,
        tn ++ PrefixString.encode 8 0 f.value, ?_, by rw [hcn0]; rfl, ?_⟩
      · simp [Literal.encode?, hen?, hev?]
      · have hk : HeaderBlockField.decode fn0 = .literal := by
          rw [decode_kind fn0 hltn, bits_flags fn0 5 3 5 rfl hfn]; rfl
        have hlit : Literal.decode (PrefixString.encode 4 2 f.name ++ PrefixString.encode 8 0 f.value ++ rest) =
            .ok ((f.name, f.value), rest, false) := by
          rw [List.append_assoc]
          have hne : PrefixString.encode 4 2 f.name ++ (PrefixString.encode 8 0 f.value ++ rest) =
              fn0 :: (tn ++ (PrefixString.encode 8 0 f.value ++ rest)) := by rw [hcn0]; rfl
          unfold Literal.decode
          rw [hne]
          simp only
          rw [if_neg (by omega), ← hne, hsn]
          simp only [hsv, Bool.or_self]
        unfold decodeField
        simp only [hk, hlit]

theorem decodeLoop_encode (h15 : C15Facts) (max : Nat) : ∀ (fs : List Field) (size mem fuel : Nat) (bs : List Nat)
    (size' : Nat), (∀ f ∈ fs, Encodable f) → encodeFields? fs size = some (bs, size') → bs.length ≤ fuel →
    mem + Spec.Qpack.size (pairs fs) ≤ max →
    decodeLoop max fuel bs mem = (.ok fs (mem + Spec.Qpack.size (pairs fs)), false) := by
  intro fs size
  fun_induction encodeFields? fs size with
  | case1 size =>
    rintro mem fuel bs size' _ ⟨⟩ _ _
    rw [decodeLoop_nil]; simp [pairs, Spec.Qpack.size]
  -- the field, or the rest of the list, makes the encoder panic: not `some`
  | case2 | case3 => intro _ _ _ _ _ h; cases h
  | case4 f fs size b hf bs' s' hr ih =>
    rintro mem fuel bs size' hall ⟨⟩ hlen hmax
    obtain ⟨b', first, t, hb', hbeq, hdf⟩ := decodeField_encode h15 f (hall f (by simp)) bs'
    obtain rfl : b' = b := by rw [hf] at hb'; injection hb' with hb'; exact hb'.symm
    rw [size_pairs_cons] at hmax ⊢
    subst hbeq
    obtain ⟨fuel, rfl⟩ : ∃ k, fuel = k + 1 := ⟨fuel - 1, by simp at hlen; omega⟩
    have hrec := ih (mem + f.memSize) fuel bs' s' (fun g hg => hall g (List.mem_cons_of_mem _ hg)) hr
      (by simp at hlen; omega) (by omega)
    simp only [List.cons_append, decodeLoop_cons] at hdf ⊢
    simp only [hdf, if_neg (show ¬ mem + f.memSize > max by omega), hrec, Bool.or_self, Nat.add_assoc]
theorem decodeStateless_encode (h15 : C15Facts) (fs : List Field) (hfs : ∀ f ∈ fs, Encodable f) (L : Nat)
    (hL : Spec.Qpack.size (pairs fs) ≤ L) :
    decodeStatelessX (encodeStateless fs).1 L = (.ok fs (Spec.Qpack.size (pairs fs)), false) := by
  obtain ⟨bs, hf0, _, _⟩ := encodeFields_spec h15 fs 0 (fun f hf => (hfs f hf).writable)
  have he : (encodeStateless fs).1 = [0, 0] ++ bs := by
    simp [encodeStateless, encodeStateless?, hf0, new0_encode]
  rw [he]
  have hp : HeaderPrefix.decode ([0, 0] ++ bs) = .ok (⟨0, false, 0⟩, bs) := by
    simp [HeaderPrefix.decode, PrefixInt.decode, PrefixInt.decode?, USIZE_MAX]
  have hloop := decodeLoop_encode h15 L fs 0 0 bs.length bs _ hfs hf0 (Nat.le_refl _) (by omega)
  unfold decodeStatelessX
  simp only [hp, HeaderPrefix.get]
  rw [if_neg (by omega), hloop]
  simp

end H3.Qpack.Lemmas
