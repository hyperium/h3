import H3.Lemmas.ReqLiftRun
/-! Reading a well-formed sequence of frame-layer answers (`Run`) back as a frame sequence in the
    vocabulary of the C03 theorems (`Tok`: a DATA frame together with the pieces its payload is
    handed out in): `decompile`, which `compile` reads back (`compile_decompile`, stated along the pieces of one
    DATA payload; for a run from a frame boundary it says `compile (decompile items t) = (items, t)`). -/
namespace H3.ReqRecv
open H3.Frame

def leadPieces : List Item → List Bytes
  | .piece b :: r => b :: leadPieces r
  | _ => []

def dropPieces : List Item → List Item
  | .piece _ :: r => dropPieces r
  | .frame f :: r => .frame f :: r
  | [] => []

/-- the ending as a (possibly empty) last frame and an `Ending` -/
def termTok : Term → List Tok × Ending
  | .fin => ([], .fin)
  | .truncated => ([], .truncated)
  | .reset c => ([], .reset c)
  | .open_ => ([], .open_)
  | .proto e => ([.bad e], .open_)

def frameTok (f : Frame) (ps : List Bytes) : Tok :=
  match f with
  | .data n => .data n ps
  | .headers b => .headers b
  | .cancelPush v => .cancelPush v
  | .settings es => .settings es
  | .pushPromise i p => .pushPromise i p
  | .goaway v => .goaway v
  | .maxPushId v => .maxPushId v
  -- not used: a `Run` has no WebTransport frame
  | .webTransport _ => .unknown 0x41 []

def decompile : List Item → Term → List Tok × Ending
  | [], t => termTok t
  -- a piece belongs to the DATA frame in front of it
  | .piece _ :: r, t => decompile r t
  | .frame f :: r, t => (frameTok f (leadPieces r) :: (decompile r t).1, (decompile r t).2)

theorem items_split (items : List Item) :
    items = (leadPieces items).map .piece ++ dropPieces items := by
  induction items with
  | nil => rfl
  | cons it r ih =>
    cases it with
    | frame f => rfl
    | piece b =>
      simp only [leadPieces, dropPieces, List.map_cons, List.cons_append]
      rw [← ih]

theorem decompile_drop (items : List Item) (t : Term) :
    decompile items t = decompile (dropPieces items) t := by
  induction items with
  | nil => rfl
  | cons it r ih =>
    cases it with
    | frame f => rfl
    | piece b => simpa [decompile, dropPieces] using ih

theorem run0_lead {items : List Item} {t : Term} (h : Run 0 items t) :
    leadPieces items = [] ∧ dropPieces items = items := by
  cases h with
  | nil0 => exact ⟨rfl, rfl⟩
  | nilD h0 _ => exact absurd rfl h0
  | frame _ _ => exact ⟨rfl, rfl⟩
  | piece h0 _ _ _ => exact absurd rfl h0

theorem compile_termTok (t : Term) : compile (termTok t).1 (termTok t).2 = ([], t) := by
  cases t <;> simp [termTok, compile, Ending.term]

theorem termTok_term (t : Term) (ht : ∀ e, t ≠ .proto e) : (termTok t).2.term = t := by
  cases t with
  | proto e => exact absurd rfl (ht e)
  | _ => rfl

/-- `compile` reads `decompile` back.  The induction on the run carries the equation through the pieces of
    one DATA payload: `rem` is what the frame header in front of the answers still announces (`rem = 0`: a
    frame boundary, no leading pieces, `run0_lead`); pieces short of it are the last answers, pieces that
    fill it are followed by answers that compile back. -/
theorem compile_decompile {rem : Nat} {items : List Item} {t : Term} (h : Run rem items t) :
    (∀ p ∈ leadPieces items, p ≠ []) ∧ (leadPieces items).flatten.length ≤ rem ∧
    ((leadPieces items).flatten.length < rem → dropPieces items = [] ∧ ∀ e, t ≠ .proto e) ∧
    ((leadPieces items).flatten.length = rem →
      compile (decompile (dropPieces items) t).1 (decompile (dropPieces items) t).2 =
        (dropPieces items, t)) ∧
    (∀ tok ∈ (decompile items t).1, TokWF tok) := by
  have hterm : ∀ t : Term, ∀ tok ∈ (decompile [] t).1, TokWF tok := by
    intro t tok htok
    cases t <;> simp [decompile, termTok] at htok
    subst htok
    trivial
  induction h with
  | @nil0 t => exact ⟨nofun, Nat.le_refl 0, fun h => absurd h (Nat.lt_irrefl 0), fun _ => compile_termTok t, hterm t⟩
  | @nilD rem t h0 ht =>
    exact ⟨nofun, Nat.zero_le _, fun _ => ⟨rfl, ht⟩, fun h => absurd h.symm h0, hterm t⟩
  | @frame f items t hwt hr ih =>
    obtain ⟨ihA, ihB, ihC, ihD, ihW⟩ := ih
    refine ⟨nofun, Nat.le_refl 0, fun h => absurd h (Nat.lt_irrefl 0), fun _ => ?_, ?_⟩
    · show compile (frameTok f (leadPieces items) :: (decompile items t).1) (decompile items t).2 =
        (.frame f :: items, t)
      cases f with
      | webTransport x => exact absurd rfl (hwt x)
      | data n =>
        have hkn : kindLen (.data n) = n := rfl
        rw [hkn] at ihB ihC ihD
        show compile (.data n (leadPieces items) :: _) _ = _
        by_cases hlt : (leadPieces items).flatten.length < n
        · obtain ⟨hdrop, hnp⟩ := ihC hlt
          rw [compile_data_part hlt, decompile_drop, hdrop]
          have hi : items = (leadPieces items).map .piece := by
            have := items_split items
            rw [hdrop, List.append_nil] at this
            exact this
          show (_, (termTok t).2.term) = _
          rw [termTok_term t hnp, ← hi]
        · rw [compile_data_full hlt, decompile_drop, ihD (by omega)]
          simp only
          rw [← items_split]
      | _ =>
        -- no payload: the run goes on at a frame boundary
        obtain ⟨hl, hd⟩ := run0_lead hr
        have hgo := ihD (by rw [hl]; rfl)
        rw [hd] at hgo
        simp only [frameTok, compile, hgo]
    · intro tok htok
      have hmem : tok = frameTok f (leadPieces items) ∨ tok ∈ (decompile items t).1 := by
        simpa [decompile] using htok
      rcases hmem with rfl | hmem
      · cases f with
        | data n => exact ⟨ihA, ihB⟩
        | _ => trivial
      · exact ihW tok hmem
  | @piece rem d items t h0 hd hle hr ih =>
    obtain ⟨ihA, ihB, ihC, ihD, ihW⟩ := ih
    simp only [leadPieces, dropPieces, List.flatten_cons, List.length_append, List.mem_cons]
    refine ⟨?_, by omega, fun hlt => ihC (by omega), fun heq => ihD (by omega),
      fun tok htok => ihW tok (by simpa [decompile] using htok)⟩
    intro p hp
    rcases hp with rfl | hp
    · exact hd
    · exact ihA p hp

end H3.ReqRecv
