import H3.Lemmas.IsoPolledFS
/-! C07, the request layer over the frame layer of `IsoPolledFS`: one poll of each call of the documented pattern
    from the state of its phase (`HeadSt`, `BodySt`, `EndSt`; `*R`: RESET admitted).  `recvData_step` / `drain_step`
    carry the `recv_data` proofs for the healthy and the RESET statements alike; `healthy_head` and `healthy_trailers`
    walk `src_next` themselves, their RESET twins are in `IsoFault`. -/
namespace H3.Iso
open H3.ReqRecv H3.Frame

abbrev RSt := St FSt

section Eqs
variable {σ : Type} (S : Src σ)

theorem pollRecvData_next_data (f : Nat) (st : St σ) (n : Nat) (s' : σ) (hd : S.hasData st.src = false)
    (hn : S.pollNext st.src = (.frame (.data n), s')) :
    pollRecvData S (f + 1) st = pollRecvData S f { st with src := s' } := by
  rw [pollRecvData_no S f st (by simp [hd]), hn]; rfl

theorem drain_succ (f : Nat) (st : St σ) :
    drain S (f + 1) st =
      match pollRecvData S (f + 1) st with
      | (.data d, st') => (.data d :: (drain S f st').1, (drain S f st').2)
      | (r, st') => ([r], st') := by
  rw [drain]
  generalize pollRecvData S (f + 1) st = p
  obtain ⟨r, st'⟩ := p
  cases r <;> rfl

end Eqs

theorem fs_hasData_iff (c : FSt) : fsSrc.hasData c = (c.1.remaining != 0) := rfl
theorem fs_isEos_eq (s : FS.St) (sc : List FS.Ev) : fsSrc.isEos (s, sc) = (s.eos && s.flat.isEmpty) := rfl

/-- between the head and the trailers the frame layer hands out DATA frame headers and payload bytes -/
def Bodyish (X : List RefTok) : Prop :=
  ∀ tok ∈ X, (∃ n, tok = FS.Tok.frame (Frame.data n)) ∨ ∃ b, tok = FS.Tok.byte b

def bodyOf : List RefTok → ReqRecv.Bytes
  | [] => []
  | .byte b :: r => b :: bodyOf r
  | _ :: r => bodyOf r

theorem bodyOf_append (x y : List RefTok) : bodyOf (x ++ y) = bodyOf x ++ bodyOf y := by
  induction x with
  | nil => rfl
  | cons t r ih => cases t <;> simp [bodyOf, ih]

theorem bodyOf_bytes (d : ReqRecv.Bytes) : bodyOf (d.map FS.Tok.byte) = d := by
  induction d with
  | nil => rfl
  | cons b d ih => simp [bodyOf, ih]

theorem bodyOf_bodyToks (ds : List ReqRecv.Bytes) : bodyOf (bodyToks ds) = ds.flatten := by
  induction ds with
  | nil => rfl
  | cons p ds ih =>
    rw [bodyToks_cons]
    simp [bodyOf, bodyOf_append, bodyOf_bytes, ih]

theorem bodyOf_trToks (tr : Option ReqRecv.Bytes) : bodyOf (trToks tr) = [] := by
  cases tr <;> rfl

theorem bodyOf_msgToks (h : ReqRecv.Bytes) (ds : List ReqRecv.Bytes) (tr : Option ReqRecv.Bytes) :
    bodyOf (msgToks h ds tr) = ds.flatten := by
  rw [msgToks_eq]
  simp [bodyOf, bodyOf_append, bodyOf_bodyToks, bodyOf_trToks]

theorem bodyish_bodyToks (ds : List ReqRecv.Bytes) : Bodyish (bodyToks ds) :=
  fun _ htok => (mem_bodyToks htok).imp (fun ⟨_, _, hd⟩ => ⟨_, hd⟩) id

theorem bodyish_append {X Y : List RefTok} (hX : Bodyish X) (hY : Bodyish Y) : Bodyish (X ++ Y) := by
  intro tok htok
  rcases List.mem_append.mp htok with h | h
  · exact hX tok h
  · exact hY tok h

theorem bodyish_bytes (d : ReqRecv.Bytes) : Bodyish (d.map FS.Tok.byte) := by
  intro tok htok
  obtain ⟨b, _, rfl⟩ := List.mem_map.mp htok
  exact Or.inr ⟨b, rfl⟩

theorem bodyish_data (n : Nat) : Bodyish [FS.Tok.frame (Frame.data n)] := by
  intro tok htok
  simp only [List.mem_singleton] at htok
  exact Or.inl ⟨n, htok⟩

theorem headers_not_bodyish {X : List RefTok} (hX : Bodyish X) (t : ReqRecv.Bytes) :
    FS.Tok.frame (Frame.headers t) ∉ X := by
  intro hm
  rcases hX _ hm with ⟨n, hn⟩ | ⟨b, hb⟩
  · cases hn
  · cases hb

theorem first_frame_is_head {h : ReqRecv.Bytes} {ds : List ReqRecv.Bytes} {tr : Option ReqRecv.Bytes} {f : Frame}
    (hp : [FS.Tok.frame f] <+: msgToks h ds tr) : f = .headers h := by
  obtain ⟨more, hm⟩ := hp
  rw [msgToks_eq] at hm
  simp only [List.cons_append, List.nil_append, List.cons.injEq, FS.Tok.frame.injEq] at hm
  exact hm.1

theorem next_frame_in_body {h : ReqRecv.Bytes} {ds : List ReqRecv.Bytes} {tr : Option ReqRecv.Bytes} {X : List RefTok}
    {f : Frame} (hp : (FS.Tok.frame (Frame.headers h) :: X) ++ [FS.Tok.frame f] <+: msgToks h ds tr) :
    (∃ n, f = .data n) ∨
    (∃ t, f = .headers t ∧ tr = some t ∧ (FS.Tok.frame (Frame.headers h) :: X) ++ [FS.Tok.frame f] = msgToks h ds tr) := by
  rw [msgToks_eq, List.cons_append, List.cons_prefix_cons] at hp
  have hdata : X ++ [FS.Tok.frame f] <+: bodyToks ds → ∃ n, f = .data n := by
    intro hpre
    rcases bodyish_bodyToks ds (.frame f) (hpre.subset (by simp)) with ⟨n, hn⟩ | ⟨b, hb⟩
    · exact ⟨n, by simpa using hn⟩
    · cases hb
  cases tr with
  | none => exact Or.inl (hdata (by simpa [trToks] using hp.2))
  | some t =>
    -- the trailers' HEADERS is the last token of the message
    rcases List.prefix_concat_iff.mp hp.2 with heq | hpre
    · obtain ⟨hX, hf⟩ := List.append_inj' heq rfl
      simp only [List.cons.injEq, FS.Tok.frame.injEq, and_true] at hf
      exact Or.inr ⟨t, hf, rfl, by rw [msgToks_eq, hX, hf]; rfl⟩
    · exact Or.inl (hdata hpre)

theorem no_trailers_of_bodyish {h : ReqRecv.Bytes} {ds : List ReqRecv.Bytes} {tr : Option ReqRecv.Bytes} {X : List RefTok}
    (hX : Bodyish X) (he : FS.Tok.frame (Frame.headers h) :: X = msgToks h ds tr) : tr = none := by
  cases tr with
  | none => rfl
  | some t =>
    exfalso
    rw [msgToks_eq] at he
    simp only [List.cons.injEq, true_and] at he
    exact headers_not_bodyish hX t (by rw [he]; simp [trToks])

theorem not_prefix_longer {α : Type} (T : List α) (x : α) : ¬ (T ++ [x] <+: T) := by
  intro hp
  have := hp.length_le
  simp only [List.length_append, List.length_singleton] at this
  omega

section Healthy
variable {w : FS.Bytes} {h : ReqRecv.Bytes} {ds : List ReqRecv.Bytes} {tr : Option ReqRecv.Bytes}

/-- before the head: nothing handed out -/
def HeadSt (w : FS.Bytes) (D : List FS.Ev) (st : RSt) : Prop :=
  HInv w D [] st.src ∧ st.trailers = none ∧ st.src.1.remaining = 0

/-- reading the body: the head and then only DATA headers and payload bytes have been handed out -/
structure BodySt (w : FS.Bytes) (h : ReqRecv.Bytes) (D : List FS.Ev) (out : List RefTok) (st : RSt) : Prop where
  inv : HInv w D out st.src
  tr : st.trailers = none
  shape : ∃ X, out = FS.Tok.frame (Frame.headers h) :: X ∧ Bodyish X

/-- the end of the body has been reported: every token of the message has been handed out; either
    the trailers' block is remembered, or there are none and the stream is at its end -/
def EndSt (w : FS.Bytes) (h : ReqRecv.Bytes) (ds : List ReqRecv.Bytes) (tr : Option ReqRecv.Bytes) (D : List FS.Ev)
    (st : RSt) : Prop :=
  HInv w D (msgToks h ds tr) st.src ∧ st.src.1.remaining = 0 ∧
    ((∃ t, tr = some t ∧ st.trailers = some t) ∨
     (tr = none ∧ st.trailers = none ∧ st.src.1.eos = true ∧ st.src.1.flat = []))

/-- the same three states for a stream of the property's quantifier (RESET admitted in the script) -/
def HeadStR (w : FS.Bytes) (D : List FS.Ev) (st : RSt) : Prop :=
  RHInv w D [] st.src ∧ st.trailers = none ∧ st.src.1.remaining = 0

structure BodyStR (w : FS.Bytes) (h : ReqRecv.Bytes) (D : List FS.Ev) (out : List RefTok) (st : RSt) : Prop where
  inv : RHInv w D out st.src
  tr : st.trailers = none
  shape : ∃ X, out = FS.Tok.frame (Frame.headers h) :: X ∧ Bodyish X

def EndStR (w : FS.Bytes) (h : ReqRecv.Bytes) (ds : List ReqRecv.Bytes) (tr : Option ReqRecv.Bytes) (D : List FS.Ev)
    (st : RSt) : Prop :=
  RHInv w D (msgToks h ds tr) st.src ∧ st.src.1.remaining = 0 ∧
    ((∃ t, tr = some t ∧ st.trailers = some t) ∨
     (tr = none ∧ st.trailers = none ∧ st.src.1.eos = true ∧ st.src.1.flat = []))

theorem BodySt.toR {D : List FS.Ev} {out : List RefTok} {st : RSt} (hst : BodySt w h D out st) :
    BodyStR w h D out st := ⟨hst.inv.toR, hst.tr, hst.shape⟩

theorem BodyStR.toH {D : List FS.Ev} {out : List RefTok} {st : RSt} (hst : BodyStR w h D out st) (hD : Deliv w D) :
    BodySt w h D out st := ⟨⟨hD, hst.inv.2⟩, hst.tr, hst.shape⟩

theorem EndStR.toH {D : List FS.Ev} {st : RSt} (hst : EndStR w h ds tr D st) (hD : Deliv w D) :
    EndSt w h ds tr D st := ⟨⟨hD, hst.1.2⟩, hst.2⟩

theorem HeadSt.arrive {D : List FS.Ev} {st : RSt} (evs : List FS.Ev) (hst : HeadSt w D st)
    (hD : Deliv w (D ++ evs)) : HeadSt w (D ++ evs) { st with src := (st.src.1, st.src.2 ++ evs) } :=
  ⟨hinv_arrive evs hst.1 hD, hst.2⟩

theorem BodySt.arrive {D : List FS.Ev} {out : List RefTok} {st : RSt} (evs : List FS.Ev) (hst : BodySt w h D out st)
    (hD : Deliv w (D ++ evs)) : BodySt w h (D ++ evs) out { st with src := (st.src.1, st.src.2 ++ evs) } :=
  ⟨hinv_arrive evs hst.inv hD, hst.tr, hst.shape⟩

theorem EndSt.arrive {D : List FS.Ev} {st : RSt} (evs : List FS.Ev) (hst : EndSt w h ds tr D st)
    (hD : Deliv w (D ++ evs)) : EndSt w h ds tr (D ++ evs) { st with src := (st.src.1, st.src.2 ++ evs) } :=
  ⟨hinv_arrive evs hst.1 hD, hst.2⟩

theorem HeadStR.arrive {D : List FS.Ev} {st : RSt} (evs : List FS.Ev) (hst : HeadStR w D st)
    (hD : DelivR w (D ++ evs)) : HeadStR w (D ++ evs) { st with src := (st.src.1, st.src.2 ++ evs) } :=
  ⟨rhinv_arrive evs hst.1 hD, hst.2⟩

theorem BodyStR.arrive {D : List FS.Ev} {out : List RefTok} {st : RSt} (evs : List FS.Ev) (hst : BodyStR w h D out st)
    (hD : DelivR w (D ++ evs)) : BodyStR w h (D ++ evs) out { st with src := (st.src.1, st.src.2 ++ evs) } :=
  ⟨rhinv_arrive evs hst.inv hD, hst.tr, hst.shape⟩

theorem EndStR.arrive {D : List FS.Ev} {st : RSt} (evs : List FS.Ev) (hst : EndStR w h ds tr D st)
    (hD : DelivR w (D ++ evs)) : EndStR w h ds tr (D ++ evs) { st with src := (st.src.1, st.src.2 ++ evs) } :=
  ⟨rhinv_arrive evs hst.1 hD, hst.2⟩

/-- `resolve_request` / `recv_response`, one poll -/
theorem healthy_head (hw : Wire w (msgToks h ds tr)) (role : Role) (H : ReqRecv.Hdr) (hH : H.head h = .ok)
    (D : List FS.Ev) (st : RSt) (hst : HeadSt w D st) :
    ∃ r st', pollHead role fsSrc H st = (r, st') ∧ st'.env = st.env ∧
      ((r = .head h ∧ BodySt w h D [FS.Tok.frame (Frame.headers h)] st') ∨
       (r = .pending ∧ HeadSt w D st' ∧ FS.Ev.fin ∉ D)) := by
  obtain ⟨hI, htr, h0⟩ := hst
  obtain ⟨o, c', hn, hcase⟩ := src_next hw hI.toR h0
  rw [pollHead_eq, hn]
  rcases hcase with ⟨f, rfl, hI', hrem⟩ | ⟨rfl, hI', hrem, hfin⟩ | ⟨rfl, _, _, hT, _⟩ | ⟨c, rfl, hm⟩
  · have hf := first_frame_is_head (rhinv_prefix hw hI')
    subst hf
    exact ⟨_, _, headOut_ok role H _ h hH, rfl,
      Or.inl ⟨rfl, ⟨hI.1, hI'.2⟩, htr, [], rfl, fun tok htok => by cases htok⟩⟩
  · exact ⟨_, _, headOut_pending role H _ .pending rfl, rfl, Or.inr ⟨rfl, ⟨⟨hI.1, hI'.2⟩, htr, hrem⟩, hfin⟩⟩
  · rw [msgToks_eq] at hT
    cases hT
  · exact absurd hm (deliv_no_reset hI.1 c)

/-- `out₀` is where the poll started: the loop over empty DATA frames has moved on to `out` without adding to
    the body, and the answers are stated from `out₀`.
    `invalid`: the model's loop bound ran out — every round of the loop consumes a token, so this needs
    `fuel ≤` the tokens still to come; not an answer of the code -/
theorem recvData_step (hw : Wire w (msgToks h ds tr)) : ∀ (fuel : Nat) (st : RSt) (D : List FS.Ev)
    (out₀ out : List RefTok), BodyStR w h D out st → out₀.length ≤ out.length → bodyOf out = bodyOf out₀ →
    ∃ r st' out', pollRecvData fsSrc fuel st = (r, st') ∧ st'.env = st.env ∧
      ((∃ d, r = .data d ∧ BodyStR w h D out' st' ∧ bodyOf out' = bodyOf out₀ ++ d ∧ out₀.length < out'.length) ∨
       (r = .pending ∧ BodyStR w h D out' st' ∧ bodyOf out' = bodyOf out₀ ∧ out₀.length ≤ out'.length ∧
          FS.Ev.fin ∉ D) ∨
       (r = .end_ ∧ EndStR w h ds tr D st' ∧ bodyOf out₀ = ds.flatten) ∨
       (∃ c, r = .errReset c ∧ FS.Ev.reset c ∈ D) ∨
       (r = .invalid ∧ out.length + fuel ≤ (msgToks h ds tr).length)) := by
  intro fuel
  induction fuel with
  | zero =>
    intro st D out₀ out hst _ _
    exact ⟨.invalid, st, out, rfl, rfl,
      Or.inr (Or.inr (Or.inr (Or.inr ⟨rfl, (rhinv_prefix hw hst.inv).length_le⟩)))⟩
  | succ f ih =>
    intro st D out₀ out hst hle hbo
    obtain ⟨hI, htr, X, hX, hXb⟩ := hst
    by_cases h0 : st.src.1.remaining = 0
    · obtain ⟨o, c', hn, hcase⟩ := src_next hw hI h0
      rw [pollRecvData_no fsSrc f st (by simp [fs_hasData_iff, h0]), hn]
      rcases hcase with ⟨fr, rfl, hI', hrem⟩ | ⟨rfl, hI', hrem, hfin⟩ | ⟨rfl, hI', hrem, hT, heos, hfl⟩ |
        ⟨c, rfl, hm⟩
      · have hpre := rhinv_prefix hw hI'
        rw [hX] at hpre
        rcases next_frame_in_body hpre with ⟨n, rfl⟩ | ⟨t, rfl, htr', hfull⟩
        · -- a DATA frame header: `recv_data` goes on inside the same poll
          have hst1 : BodyStR w h D (out ++ [FS.Tok.frame (Frame.data n)]) { st with src := c' } :=
            ⟨hI', htr, X ++ [FS.Tok.frame (Frame.data n)], by rw [hX]; rfl, bodyish_append hXb (bodyish_data n)⟩
          obtain ⟨r, st', out', he, henv, hc⟩ := ih _ D out₀ _ hst1
            (by rw [List.length_append]; omega) (by rw [bodyOf_append, hbo]; simp [bodyOf])
          rw [List.length_append, List.length_singleton, Nat.add_assoc, Nat.add_comm 1] at hc
          exact ⟨r, st', out', he, henv, hc⟩
        · -- the trailers' HEADERS: end of the body, the block is remembered
          refine ⟨.end_, _, out, rfl, rfl,
            Or.inr (Or.inr (Or.inl ⟨rfl, ?_, ?_⟩))⟩
          · rw [← hX] at hfull
            rw [hfull] at hI'
            exact ⟨hI', by rw [hrem]; rfl, Or.inl ⟨t, htr', rfl⟩⟩
          · rw [← hX] at hfull
            rw [← hbo]
            have := bodyOf_msgToks h ds tr
            rw [← hfull, bodyOf_append] at this
            simpa [bodyOf] using this
      · exact ⟨.pending, _, out, rfl, rfl,
          Or.inr (Or.inl ⟨rfl, ⟨hI', htr, X, hX, hXb⟩, hbo, hle, hfin⟩)⟩
      · -- the stream has ended on a frame boundary: end of the body, no trailers
        have htrn : tr = none := no_trailers_of_bodyish hXb (by rw [← hX, hT])
        refine ⟨.end_, _, out, rfl, rfl,
          Or.inr (Or.inr (Or.inl ⟨rfl, ?_, ?_⟩))⟩
        · rw [hT] at hI'
          exact ⟨hI', hrem, Or.inr ⟨htrn, htr, heos, hfl⟩⟩
        · rw [← hbo, hT]; exact bodyOf_msgToks h ds tr
      · exact ⟨.errReset c, _, out, rfl, rfl,
          Or.inr (Or.inr (Or.inr (Or.inl ⟨c, rfl, hm⟩)))⟩
    · obtain ⟨o, c', hp, hcase⟩ := src_data hw hI h0
      rw [pollRecvData_has fsSrc f st (by simp [fs_hasData_iff, h0]), hp]
      rcases hcase with ⟨d, rfl, hdne, hI', _⟩ | ⟨rfl, hI', _, hfin⟩ | ⟨c, rfl, hm⟩
      · refine ⟨.data d, _, out ++ d.map .byte, rfl, rfl,
          Or.inl ⟨d, rfl, ⟨hI', htr, X ++ d.map .byte, by rw [hX]; rfl, bodyish_append hXb (bodyish_bytes d)⟩, ?_, ?_⟩⟩
        · rw [bodyOf_append, bodyOf_bytes, hbo]
        · have : 0 < d.length := List.length_pos_iff.mpr hdne
          simp only [List.length_append, List.length_map]; omega
      · exact ⟨.pending, _, out, rfl, rfl,
          Or.inr (Or.inl ⟨rfl, ⟨hI', htr, X, hX, hXb⟩, hbo, hle, hfin⟩)⟩
      · exact ⟨.errReset c, _, out, rfl, rfl,
          Or.inr (Or.inr (Or.inr (Or.inl ⟨c, rfl, hm⟩)))⟩

/-- `recv_data`, one poll -/
theorem healthy_recvData (hw : Wire w (msgToks h ds tr)) : ∀ (fuel : Nat) (st : RSt) (D : List FS.Ev)
    (out : List RefTok), BodySt w h D out st → (msgToks h ds tr).length - out.length < fuel →
    ∃ r st' out', pollRecvData fsSrc fuel st = (r, st') ∧ st'.env = st.env ∧
      ((∃ d, r = .data d ∧ BodySt w h D out' st' ∧ bodyOf out' = bodyOf out ++ d ∧ out.length < out'.length) ∨
       (r = .pending ∧ BodySt w h D out' st' ∧ bodyOf out' = bodyOf out ∧ out.length ≤ out'.length ∧
          FS.Ev.fin ∉ D) ∨
       (r = .end_ ∧ EndSt w h ds tr D st' ∧ bodyOf out = ds.flatten)) := by
  intro fuel st D out hst hlt
  have hD := hst.inv.1
  obtain ⟨r, st', out', he, henv, hc⟩ := recvData_step hw fuel st D out out hst.toR (Nat.le_refl _) rfl
  refine ⟨r, st', out', he, henv, ?_⟩
  rcases hc with ⟨d, rfl, hb, h1, h2⟩ | ⟨rfl, hb, h1, h2, hfin⟩ | ⟨rfl, hend, h1⟩ | ⟨c, rfl, hm⟩ | ⟨rfl, hle⟩
  · exact Or.inl ⟨d, rfl, hb.toH hD, h1, h2⟩
  · exact Or.inr (Or.inl ⟨rfl, hb.toH hD, h1, h2, hfin⟩)
  · exact Or.inr (Or.inr ⟨rfl, hend.toH hD, h1⟩)
  · exact absurd hm (deliv_no_reset hD c)
  · omega

theorem drain_step (hw : Wire w (msgToks h ds tr)) : ∀ (fuel : Nat) (st : RSt) (D : List FS.Ev)
    (out : List RefTok), BodyStR w h D out st →
    ∃ (pieces : List ReqRecv.Bytes) (last : Res) (st' : RSt),
      drain fsSrc fuel st = (pieces.map .data ++ [last], st') ∧ st'.env = st.env ∧
      ((last = .pending ∧ (∃ out', BodyStR w h D out' st' ∧ bodyOf out' = bodyOf out ++ pieces.flatten) ∧
          FS.Ev.fin ∉ D) ∨
       (last = .end_ ∧ EndStR w h ds tr D st' ∧ bodyOf out ++ pieces.flatten = ds.flatten) ∨
       (∃ c, last = .errReset c ∧ FS.Ev.reset c ∈ D) ∨
       (last = .invalid ∧ out.length + fuel ≤ (msgToks h ds tr).length)) := by
  intro fuel
  induction fuel with
  | zero =>
    intro st D out hst
    exact ⟨[], .invalid, st, rfl, rfl, Or.inr (Or.inr (Or.inr ⟨rfl, (rhinv_prefix hw hst.inv).length_le⟩))⟩
  | succ f ih =>
    intro st D out hst
    obtain ⟨r, st1, out1, he, henv, hc⟩ := recvData_step hw (f + 1) st D out out hst (Nat.le_refl _) rfl
    rw [drain_succ, he]
    rcases hc with ⟨d, rfl, hst1, hb, hlen⟩ | ⟨rfl, hst1, hb, _, hfin⟩ | ⟨rfl, hst1, hb⟩ | ⟨c, rfl, hm⟩ |
      ⟨rfl, hle⟩
    · obtain ⟨pieces, last, st', hd, henv', hc'⟩ := ih st1 D out1 hst1
      refine ⟨d :: pieces, last, st', ?_, by rw [henv', henv], ?_⟩
      · simp only [hd, List.map_cons, List.cons_append]
      · rw [hb] at hc'
        simp only [List.flatten_cons, ← List.append_assoc]
        rcases hc' with hc' | hc' | hc' | ⟨h1, h2⟩
        · exact Or.inl hc'
        · exact Or.inr (Or.inl hc')
        · exact Or.inr (Or.inr (Or.inl hc'))
        · exact Or.inr (Or.inr (Or.inr ⟨h1, by omega⟩))
    · exact ⟨[], .pending, st1, rfl, henv, Or.inl ⟨rfl, ⟨out1, hst1, by simpa using hb⟩, hfin⟩⟩
    · exact ⟨[], .end_, st1, rfl, henv, Or.inr (Or.inl ⟨rfl, hst1, by simpa using hb⟩)⟩
    · exact ⟨[], .errReset c, st1, rfl, henv, Or.inr (Or.inr (Or.inl ⟨c, rfl, hm⟩))⟩
    · exact ⟨[], .invalid, st1, rfl, henv, Or.inr (Or.inr (Or.inr ⟨rfl, hle⟩))⟩

/-- the `recv_data` loop of one `body` poll: pieces of the body, then `Pending` or the end -/
theorem healthy_drain (hw : Wire w (msgToks h ds tr)) : ∀ (fuel : Nat) (st : RSt) (D : List FS.Ev)
    (out : List RefTok), BodySt w h D out st → (msgToks h ds tr).length - out.length < fuel →
    ∃ (pieces : List ReqRecv.Bytes) (last : Res) (st' : RSt),
      drain fsSrc fuel st = (pieces.map .data ++ [last], st') ∧ st'.env = st.env ∧
      ((last = .pending ∧ (∃ out', BodySt w h D out' st' ∧ bodyOf out' = bodyOf out ++ pieces.flatten) ∧
          FS.Ev.fin ∉ D) ∨
       (last = .end_ ∧ EndSt w h ds tr D st' ∧ bodyOf out ++ pieces.flatten = ds.flatten)) := by
  intro fuel st D out hst hlt
  have hD := hst.inv.1
  obtain ⟨pieces, last, st', hd, henv, hc⟩ := drain_step hw fuel st D out hst.toR
  refine ⟨pieces, last, st', hd, henv, ?_⟩
  rcases hc with ⟨rfl, ⟨out', hb, h1⟩, hfin⟩ | ⟨rfl, hend, h1⟩ | ⟨c, rfl, hm⟩ | ⟨rfl, hle⟩
  · exact Or.inl ⟨rfl, ⟨out', hb.toH hD, h1⟩, hfin⟩
  · exact Or.inr ⟨rfl, hend.toH hD, h1⟩
  · exact absurd hm (deliv_no_reset hD c)
  · omega

/-- `recv_trailers`, one poll, after the end of the body has been reported -/
theorem healthy_trailers (hw : Wire w (msgToks h ds tr)) (H : ReqRecv.Hdr) (hH : ∀ t, tr = some t → H.trailer t = .ok)
    (D : List FS.Ev) (st : RSt) (hst : EndSt w h ds tr D st) :
    ∃ r st', pollRecvTrailers fsSrc H st = (r, st') ∧ st'.env = st.env ∧
      (r = trRes tr ∨ (r = .pending ∧ EndSt w h ds tr D st' ∧ FS.Ev.fin ∉ D)) := by
  obtain ⟨hI, h0, hcase⟩ := hst
  rcases hcase with ⟨t, rfl, htrl⟩ | ⟨rfl, htrl, heos, hfl⟩
  · rw [pollRecvTrailers_some fsSrc H st t htrl]
    by_cases he : fsSrc.isEos st.src = true
    · rw [if_pos he, decodeTrailers_of_ok H _ t (hH t rfl)]
      exact ⟨_, _, rfl, rfl, Or.inl rfl⟩
    · obtain ⟨o, c', hn, hc⟩ := src_next hw hI.toR h0
      rw [if_neg he, hn]
      rcases hc with ⟨fr, rfl, hI', _⟩ | ⟨rfl, hI', hrem, hfin⟩ | ⟨rfl, _⟩ | ⟨c, rfl, hm⟩
      · exact absurd (rhinv_prefix hw hI') (not_prefix_longer _ _)
      · exact ⟨_, _, rfl, rfl, Or.inr ⟨rfl, ⟨⟨hI.1, hI'.2⟩, hrem, Or.inl ⟨t, rfl, rfl⟩⟩, hfin⟩⟩
      · exact ⟨_, _, decodeTrailers_of_ok H _ t (hH t rfl), rfl, Or.inl rfl⟩
      · exact absurd hm (deliv_no_reset hI.1 c)
  · obtain ⟨c', hn⟩ := src_next_at_end st.src h0 heos hfl
    exact ⟨_, _, pollRecvTrailers_none_none fsSrc H st c' htrl hn, rfl, Or.inl rfl⟩

end Healthy

end H3.Iso
