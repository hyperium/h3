import H3.Model.ErrCell
/-! Invariants of the error-cell model (`H3.ErrCell`) and their preservation by every step of
    every task, each through the case principles `dstep_cases` / `sstep_cases`.  `InvW` and `InvP`
    hold for both orders of `poll_connection_error`; `InvT` (invariants J and K of DESIGN.md
    Appendix B.2, asked of the driver's states inside a poll as well) only for `registerFirst = true`.  Last, `poll_reports`: a poll that completes one
    `poll_connection_error` call reports a set cell, however the handles' steps (`strs_frame`) fall. -/
namespace H3.ErrCell

theorem dstep_cases {rf : Bool} {s : State} {C : State → Prop} (same : C s)
    (poll : s.pc = .idle → C { s with pc := .started, woken := false, parked := false })
    (shut : s.pc = .idle → C (checkErr s))
    (first : s.pc = .started ∨ s.pc = .armed → C (pceFirst rf s))
    (second : s.pc = .mid → C (pceSecond rf s))
    (det : ∀ e, s.pc = .started ∨ s.pc = .armed → C (detect s e))
    (bidi : ∀ r, s.pc = .started ∨ s.pc = .armed → C (clientTail s r))
    (park : s.pc = .armed → C { s with pc := .idle, parked := true }) (op : DOp) : C (dstep rf s op) := by
  cases op with
  | poll => simp only [dstep]; split; exact poll ‹_›; exact same
  | pce => simp only [dstep]; split; exact first (.inl ‹_›); exact first (.inr ‹_›); exact second ‹_›; exact same
  | det e => simp only [dstep]; split; exact det e (.inl ‹_›); exact det e (.inr ‹_›); exact same
  | park => simp only [dstep]; split; exact park ‹_›; exact same
  | bidi r => simp only [dstep]; split; exact bidi r (.inl ‹_›); exact bidi r (.inr ‹_›); exact same
  | shut => simp only [dstep]; split; exact shut ‹_›; exact same

theorem sstep_cases {s : State} {i : Nat} {C : State → Prop} (same : C s)
    (wake : ∀ t r, s.tasks[i]? = some t → t.mid = some r → C (swake s i t r))
    (store : ∀ t e rest, s.tasks[i]? = some t → C (sset s i t e rest)) : C (sstep s i) := by
  unfold sstep
  split
  · exact same
  · rename_i t ht
    split
    · rename_i r hr; exact wake t r ht hr
    · split
      · exact same
      · exact store t _ _ ht

theorem ne_idle {s : State} (hp : s.pc = .started ∨ s.pc = .armed) : s.pc ≠ .idle := by
  rcases hp with h | h <;> rw [h] <;> nofun

theorem not_parked {s : State} (h : s.parked = true → s.pc = .idle) (hp : s.pc ≠ .idle) : s.parked = false := by
  cases hpk : s.parked with
  | false => rfl
  | true => exact absurd (h hpk) hp

theorem chk_frame (s : State) (next : DPc) : (chk s next).cell = s.cell ∧ (chk s next).parked = s.parked := by
  unfold chk; split <;> exact ⟨rfl, rfl⟩

theorem pceFirst_frame (rf : Bool) (s : State) :
    (pceFirst rf s).cell = s.cell ∧ (pceFirst rf s).parked = s.parked := by
  unfold pceFirst
  split
  · exact ⟨rfl, rfl⟩
  · split
    · exact ⟨rfl, rfl⟩
    · exact chk_frame s _

theorem pceSecond_frame (rf : Bool) (s : State) :
    (pceSecond rf s).cell = s.cell ∧ (pceSecond rf s).parked = s.parked := by
  unfold pceSecond
  split
  · exact chk_frame s _
  · exact ⟨rfl, rfl⟩

/-! ### W: one error, seen everywhere, closed once -/

structure InvW (s : State) : Prop where
  handled_cell : ∀ h, s.handled = some h →
    ∃ e, s.cell = some e ∧ h = convert e ∧ s.closes = (closeOf e).toList
  handled_none : s.handled = none → s.closes = []
  tasks_cell : ∀ t ∈ s.tasks, (∀ r ∈ t.rets, s.cell = some r) ∧ (∀ r, t.mid = some r → s.cell = some r)
  drets_handled : ∀ h ∈ s.drets, s.handled = some h
  pc_handled : s.pc = .mid ∨ s.pc = .armed → s.handled = none

theorem InvW.of_cell {s : State} (hs : InvW s) {e : Err} {h : CErr} (hc : s.cell = some e)
    (hh : s.handled = some h) : h = convert e ∧ s.closes = (closeOf e).toList := by
  obtain ⟨e', hc', he, hcl⟩ := hs.handled_cell h hh
  rw [hc] at hc'; cases hc'
  exact ⟨he, hcl⟩

theorem invW_init (todo : List (List Err)) : InvW (init todo) := by
  constructor
  · intro h hh; simp [init] at hh
  · intro _; rfl
  · intro t ht
    simp only [init, List.mem_map] at ht
    obtain ⟨es, _, rfl⟩ := ht
    simp
  · intro h hh; simp [init] at hh
  · intro _; rfl

theorem cell_getD {c : Option Err} {r : Err} (h : c = some r) (e : Err) : some (c.getD e) = some r := by
  subst h; rfl

/-- `get_or_init`: the cell only changes from `none`. -/
theorem invW_setCell {s : State} (hs : InvW s) (e : Err) :
    InvW { s with cell := some (s.cell.getD e) } :=
  ⟨fun h hh => let ⟨e', hc, r⟩ := hs.handled_cell h hh; ⟨e', cell_getD hc e, r⟩, hs.handled_none,
    fun t ht => ⟨fun r hr => cell_getD ((hs.tasks_cell t ht).1 r hr) e, fun r hr => cell_getD ((hs.tasks_cell t ht).2 r hr) e⟩,
    hs.drets_handled, hs.pc_handled⟩

theorem invW_retHandled {s : State} (hs : InvW s) {h : CErr} (hh : s.handled = some h) :
    InvW (retHandled s h) :=
  ⟨hs.handled_cell, hs.handled_none, hs.tasks_cell,
    fun h' hm => (List.mem_cons.mp hm).elim (fun e => e ▸ hh) (hs.drets_handled h'), fun hp => hp.elim nofun nofun⟩

theorem invW_observe {s : State} (hs : InvW s) (hn : s.handled = none) {e : Err}
    (hc : s.cell = some e) : InvW (observe s e) := by
  refine ⟨fun h hh => ⟨e, hc, (Option.some.inj hh).symm, ?_⟩, nofun, hs.tasks_cell, fun h' hm => ?_,
    fun hp => hp.elim nofun nofun⟩
  · show s.closes ++ _ = _
    rw [hs.handled_none hn]; rfl
  · rcases List.mem_cons.mp hm with rfl | hm
    · rfl
    · exact absurd (hn ▸ hs.drets_handled h' hm) nofun

theorem invW_pc {s : State} (hs : InvW s) (hn : s.handled = none) (next : DPc) (waker : Bool) :
    InvW { s with pc := next, waker := waker } :=
  ⟨hs.handled_cell, hs.handled_none, hs.tasks_cell, hs.drets_handled, fun _ => hn⟩

theorem invW_chk {s : State} (hs : InvW s) (hn : s.handled = none) (next : DPc) :
    InvW (chk s next) := by
  unfold chk
  split
  · rename_i e hc; exact invW_observe hs hn hc
  · exact invW_pc hs hn next s.waker

theorem invW_pceFirst {s : State} (hs : InvW s) (rf : Bool) : InvW (pceFirst rf s) := by
  unfold pceFirst
  split
  · rename_i h hh; exact invW_retHandled hs hh
  · rename_i hn
    split
    · exact invW_pc hs hn _ true
    · exact invW_chk hs hn _

theorem invW_pceSecond {s : State} (hs : InvW s) (hp : s.pc = .mid) (rf : Bool) :
    InvW (pceSecond rf s) := by
  have hn := hs.pc_handled (Or.inl hp)
  unfold pceSecond
  split
  · exact invW_chk hs hn _
  · exact invW_pc hs hn _ true

theorem invW_detect {s : State} (hs : InvW s) (e : Err) : InvW (detect s e) := by
  unfold detect
  split
  · rename_i h hh; exact invW_retHandled hs hh
  · rename_i hn
    exact invW_observe (invW_setCell hs e) hn rfl

theorem invW_clientTail {s : State} (hs : InvW s) (r : Option QErr) : InvW (clientTail s r) := by
  unfold clientTail
  cases r with
  | none => exact invW_detect hs _
  | some q => exact invW_detect (invW_detect hs _) _

/-- the state once `handle_connection_error` has answered with the error `w`. -/
def acted (s : State) (w : Err) : State :=
  { s with cell := some w, handled := some (convert w), closes := (closeOf w).toList, drets := convert w :: s.drets,
           pc := .idle }

/-- `InvW` is what makes the two branches of `detect` one: a handled error is the cell's, and its close
    call is the only one. -/
theorem detect_eq {s : State} (hs : InvW s) (e : Err) : detect s e = acted s (s.cell.getD e) := by
  unfold detect
  split
  · rename_i h hh
    obtain ⟨e', hc, rfl, hcl⟩ := hs.handled_cell h hh
    rw [hc, acted, Option.getD_some, ← hcl, ← hh, ← hc]; rfl
  · rename_i hn
    rw [observe, acted, hs.handled_none hn]; rfl

/-- the second `handle_connection_error` finds the first one's winner in the cell. -/
theorem clientTail_eq {s : State} (hs : InvW s) (r : Option QErr) :
    ∃ u, clientTail s r = acted u (s.cell.getD (match r with | some q => .quic q | none => clientBidiErr)) ∧
      u.parked = s.parked := by
  cases r with
  | none => exact ⟨s, detect_eq hs _, rfl⟩
  | some q =>
    have h1 := detect_eq hs (.quic q)
    exact ⟨detect s (.quic q), by rw [clientTail, detect_eq (invW_detect hs _), h1]; rfl, by rw [h1]; rfl⟩

theorem invW_unpark {s : State} (hs : InvW s) : InvW { s with parked := false } :=
  ⟨hs.handled_cell, hs.handled_none, hs.tasks_cell, hs.drets_handled, hs.pc_handled⟩

theorem invW_checkErr {s : State} (hs : InvW s) : InvW (checkErr s) := by
  unfold checkErr
  split
  · rename_i h hh; exact invW_unpark (invW_retHandled hs hh)
  · rename_i hn
    split
    · rename_i e hc; exact invW_unpark (invW_observe hs hn hc)
    · exact hs

theorem invW_dstep {s : State} (hs : InvW s) (rf : Bool) (op : DOp) : InvW (dstep rf s op) := by
  -- entering a poll and parking change only what `InvW` does not read, and leave `mid` / `armed`
  exact dstep_cases hs
    (fun _ => ⟨hs.handled_cell, hs.handled_none, hs.tasks_cell, hs.drets_handled, fun h => h.elim nofun nofun⟩)
    (fun _ => invW_checkErr hs) (fun _ => invW_pceFirst hs rf) (fun hp => invW_pceSecond hs hp rf)
    (fun e _ => invW_detect hs e) (fun r _ => invW_clientTail hs r)
    (fun _ => ⟨hs.handled_cell, hs.handled_none, hs.tasks_cell, hs.drets_handled, fun h => h.elim nofun nofun⟩) op

theorem invW_sset {s : State} (hs : InvW s) {i : Nat} {t : Task} (ht : s.tasks[i]? = some t)
    (e : Err) (rest : List Err) : InvW (sset s i t e rest) := by
  have hs' := invW_setCell hs e
  refine ⟨hs'.handled_cell, hs'.handled_none, fun t' ht' => ?_, hs'.drets_handled, hs'.pc_handled⟩
  rcases List.mem_or_eq_of_mem_set ht' with hm | rfl
  · exact hs'.tasks_cell t' hm
  · exact ⟨(hs'.tasks_cell t (List.mem_of_getElem? ht)).1, fun _ hr => hr⟩

theorem invW_swake {s : State} (hs : InvW s) {i : Nat} {t : Task} (ht : s.tasks[i]? = some t)
    {r : Err} (hr : t.mid = some r) : InvW (swake s i t r) := by
  have htc := hs.tasks_cell t (List.mem_of_getElem? ht)
  refine ⟨hs.handled_cell, hs.handled_none, fun t' ht' => ?_, hs.drets_handled, hs.pc_handled⟩
  rcases List.mem_or_eq_of_mem_set ht' with hm | rfl
  · exact hs.tasks_cell t' hm
  · exact ⟨fun r' hr' => (List.mem_cons.mp hr').elim (fun e => e ▸ htc.2 r hr) (htc.1 r'), nofun⟩

theorem invW_sstep {s : State} (hs : InvW s) (i : Nat) : InvW (sstep s i) :=
  sstep_cases hs (fun _ _ ht hr => invW_swake hs ht hr) (fun _ _ _ ht => invW_sset hs ht _ _)

theorem invW_step {s : State} (hs : InvW s) (rf : Bool) (l : TaskId) : InvW (step rf s l) := by
  cases l with
  | drv op => exact invW_dstep hs rf op
  | str i => exact invW_sstep hs i


theorem run_keeps {rf : Bool} {P : State → Prop} (h : ∀ s l, P s → P (step rf s l)) {s : State} (hs : P s)
    (sched : List TaskId) : P (run rf s sched) := by
  induction sched generalizing s with
  | nil => exact hs
  | cons l ls ih => exact ih (h s l hs)

theorem invW_run {s : State} (hs : InvW s) (rf : Bool) (sched : List TaskId) :
    InvW (run rf s sched) :=
  run_keeps (P := InvW) (fun _ l h => invW_step h rf l) hs sched

theorem run_append (rf : Bool) (s : State) (a b : List TaskId) :
    run rf s (a ++ b) = run rf (run rf s a) b := by
  simp [run, List.foldl_append]

theorem cell_observe {s : State} {e e' : Err} (h : s.cell = some e) : (observe s e').cell = some e := h

theorem cell_detect {s : State} {e : Err} (h : s.cell = some e) (e' : Err) :
    (detect s e').cell = some e := by
  unfold detect
  split
  · exact h
  · exact cell_getD h e'

theorem cell_clientTail {s : State} {e : Err} (h : s.cell = some e) (r : Option QErr) :
    (clientTail s r).cell = some e := by
  unfold clientTail
  cases r with
  | none => exact cell_detect h _
  | some q => exact cell_detect (cell_detect h _) _

theorem checkErr_cell (s : State) : (checkErr s).cell = s.cell := by
  unfold checkErr
  split
  · rfl
  · split <;> rfl

theorem cell_dstep {s : State} {e : Err} (h : s.cell = some e) (rf : Bool) (op : DOp) :
    (dstep rf s op).cell = some e :=
  dstep_cases (C := fun s' => s'.cell = some e) h (fun _ => h) (fun _ => (checkErr_cell s).trans h)
    (fun _ => (pceFirst_frame rf s).1.trans h) (fun _ => (pceSecond_frame rf s).1.trans h)
    (fun e' _ => cell_detect h e') (fun r _ => cell_clientTail h r) (fun _ => h) op

theorem cell_sstep {s : State} {e : Err} (h : s.cell = some e) (i : Nat) :
    (sstep s i).cell = some e :=
  sstep_cases (C := fun s' => s'.cell = some e) h (fun _ _ _ _ => h) (fun _ e' _ _ => cell_getD h e')

theorem cell_step {s : State} {e : Err} (h : s.cell = some e) (rf : Bool) (l : TaskId) :
    (step rf s l).cell = some e := by
  cases l with
  | drv op => exact cell_dstep h rf op
  | str i => exact cell_sstep h i

theorem cell_run {s : State} {e : Err} (h : s.cell = some e) (rf : Bool) (sched : List TaskId) :
    (run rf s sched).cell = some e :=
  run_keeps (P := fun s => s.cell = some e) (fun _ l h => cell_step h rf l) h sched

/-- with an error handled, `handle_connection_error` only returns it. -/
theorem detect_handled {s : State} {h : CErr} (hh : s.handled = some h) (e : Err) :
    detect s e = retHandled s h := by
  unfold detect; rw [hh]

theorem handled_clientTail {s : State} {h : CErr} (hh : s.handled = some h) (r : Option QErr) :
    (clientTail s r).handled = some h := by
  unfold clientTail
  cases r with
  | none => simp only []; rw [detect_handled hh]; exact hh
  | some q =>
    simp only []
    have h1 : (detect s (.quic q)).handled = some h := by rw [detect_handled hh]; exact hh
    rw [detect_handled h1]; exact h1

theorem handled_step {s : State} (hs : InvW s) {h : CErr} (hh : s.handled = some h) (rf : Bool)
    (l : TaskId) : (step rf s l).handled = some h := by
  cases l with
  | drv op =>
    -- every call of the driver finds `handled` set and only returns it; it is not at `mid`
    refine dstep_cases (C := fun s' => s'.handled = some h) hh (fun _ => hh) (fun _ => ?_) (fun _ => ?_)
      (fun hp => ?_) (fun e _ => ?_) (fun r _ => handled_clientTail hh r) (fun _ => hh) op
    · unfold checkErr; rw [hh]; exact hh
    · unfold pceFirst; rw [hh]; exact hh
    · rw [hs.pc_handled (Or.inl hp)] at hh; cases hh
    · rw [detect_handled hh]; exact hh
  | str i => exact sstep_cases (C := fun s' => s'.handled = some h) hh (fun _ _ _ _ => hh) (fun _ _ _ _ => hh)

theorem handled_run {s : State} (hs : InvW s) {h : CErr} (hh : s.handled = some h) (rf : Bool)
    (sched : List TaskId) : (run rf s sched).handled = some h :=
  (run_keeps (P := fun s => InvW s ∧ s.handled = some h)
    (fun _ l h => ⟨invW_step h.1 rf l, handled_step h.1 h.2 rf l⟩) ⟨hs, hh⟩ sched).2

/-! ### J, K: no lost wake-up when the waker is registered before the cell is read -/

structure InvT (s : State) : Prop where
  parked_idle : s.parked = true → s.pc = .idle
  /-- J -/
  waker_or_woken : s.pc = .mid ∨ s.pc = .armed ∨ s.parked = true → s.waker = true ∨ s.woken = true
  /-- K -/
  pending_wake : s.pc = .armed ∨ s.parked = true → s.cell ≠ none → s.woken = false →
    ∃ t ∈ s.tasks, t.mid ≠ none

theorem invT_init (todo : List (List Err)) : InvT (init todo) := by
  constructor <;> simp [init]

/-- `handle_connection_error` ends the poll with an error: the driver is idle, parked or not as before. -/
theorem detect_idle (s : State) (e : Err) : (detect s e).pc = .idle ∧ (detect s e).parked = s.parked := by
  unfold detect; split <;> simp [retHandled, observe]

theorem clientTail_idle (s : State) (r : Option QErr) :
    (clientTail s r).pc = .idle ∧ (clientTail s r).parked = s.parked := by
  unfold clientTail
  cases r with
  | none => exact detect_idle s _
  | some q =>
    exact ⟨(detect_idle _ _).1, (detect_idle _ _).2.trans (detect_idle _ _).2⟩

theorem invT_of_idle_not_parked {s : State} (hp : s.pc = .idle) (hnp : s.parked = false) : InvT s := by
  constructor <;> simp [hp, hnp]

theorem invT_dstep {s : State} (hs : InvT s) (op : DOp) : InvT (dstep true s op) := by
  -- a call that answers an error ends the poll: idle, and still not parked
  have ends : ∀ s' : State, s.pc ≠ .idle → s'.pc = .idle → s'.parked = s.parked → InvT s' :=
    fun s' hp h1 h2 => invT_of_idle_not_parked h1 (h2.trans (not_parked hs.parked_idle hp))
  refine dstep_cases hs (fun _ => ?_) (fun _ => ?_) (fun hp => ?_) (fun hp => ?_)
    (fun e hp => ends _ (ne_idle hp) (detect_idle s e).1 (detect_idle s e).2)
    (fun r hp => ends _ (ne_idle hp) (clientTail_idle s r).1 (clientTail_idle s r).2) (fun hp => ?_) op
  · constructor <;> simp
  · unfold checkErr
    split
    · exact invT_of_idle_not_parked rfl rfl
    · split
      · exact invT_of_idle_not_parked rfl rfl
      · exact hs
  · -- first half: the handled error, or the waker is registered
    have hnp := not_parked hs.parked_idle (ne_idle hp)
    unfold pceFirst
    split
    · exact ends _ (ne_idle hp) rfl rfl
    · constructor <;> simp [reg, hnp]
  · -- second half: the check after the registration
    have hnp := not_parked hs.parked_idle (by rw [hp]; nofun)
    simp only [pceSecond, if_true]
    unfold chk
    split
    · exact ends _ (by rw [hp]; nofun) rfl rfl
    · rename_i hc
      exact ⟨fun h => (by rw [hnp] at h; cases h), fun _ => hs.waker_or_woken (Or.inl hp), fun _ hne => absurd hc hne⟩
  · exact ⟨fun _ => rfl, fun _ => hs.waker_or_woken (Or.inr (Or.inl hp)), fun _ hc hw => hs.pending_wake (Or.inl hp) hc hw⟩

theorem invT_sstep {s : State} (hs : InvT s) (i : Nat) : InvT (sstep s i) := by
  have h2 := hs.waker_or_woken
  refine sstep_cases hs (fun t r _ _ => ?_) (fun t e rest ht => ?_)
  · -- wake: the notification is delivered if a waker is registered
    refine ⟨hs.parked_idle, fun hp => Or.inr ?_, fun hp _ hw => ?_⟩
    · simp only [swake, Bool.or_eq_true]
      exact (h2 hp).symm
    · -- K holds for want of a case: `woken || waker = false` after the wake contradicts J
      have := h2 (hp.elim (fun hp => Or.inr (Or.inl hp)) (fun hp => Or.inr (Or.inr hp)))
      simp only [swake, Bool.or_eq_false_iff] at hw
      rcases this with h | h <;> simp_all
  · -- store: this handle is now between its store and its wake
    have hlen : i < s.tasks.length := (List.getElem?_eq_some_iff.mp ht).1
    exact ⟨hs.parked_idle, h2, fun _ _ _ => ⟨_, List.mem_set hlen _, by simp⟩⟩

theorem invT_step {s : State} (hs : InvT s) (l : TaskId) : InvT (step true s l) := by
  cases l with
  | drv op => exact invT_dstep hs op
  | str i => exact invT_sstep hs i

theorem invT_run {s : State} (hs : InvT s) (sched : List TaskId) : InvT (run true s sched) :=
  run_keeps (P := InvT) (fun _ l h => invT_step h l) hs sched

theorem invT_not_lost {s : State} (hs : InvT s) : lostWakeup s = false := by
  cases hl : lostWakeup s with
  | false => rfl
  | true =>
    exfalso
    simp only [lostWakeup, quiescent, Bool.and_eq_true, beq_iff_eq, List.all_eq_true,
      Bool.not_eq_true'] at hl
    obtain ⟨⟨⟨⟨_, hq⟩, hc⟩, hp⟩, hw⟩ := hl
    have hne : s.cell ≠ none := by intro h; simp [h] at hc
    obtain ⟨t, ht, hm⟩ := hs.pending_wake (Or.inr hp) hne hw
    have := hq t ht
    cases hmid : t.mid <;> simp_all

/-! ### a parked driver is idle and has not handled an error (both orders) -/

def InvP (s : State) : Prop := s.parked = true → s.pc = .idle ∧ s.handled = none

theorem invP_init (todo : List (List Err)) : InvP (init todo) := by
  intro h; simp [init] at h

theorem invP_of_not_parked {s : State} (h : s.parked = false) : InvP s :=
  fun hp => by rw [h] at hp; cases hp

theorem invP_step {s : State} (hw : InvW s) (hp : InvP s) (rf : Bool) (l : TaskId) :
    InvP (step rf s l) := by
  cases l with
  | str i => exact sstep_cases (C := InvP) hp (fun _ _ _ _ => hp) (fun _ _ _ _ => hp)
  | drv op =>
    -- inside a poll the driver is not parked, and only `park` parks it: from `armed`, nothing handled
    have np := not_parked fun h => (hp h).1
    refine dstep_cases (C := InvP) hp (fun _ => invP_of_not_parked rfl) (fun _ => ?_)
      (fun hpc => invP_of_not_parked ((pceFirst_frame rf s).2.trans (np (ne_idle hpc))))
      (fun hpc => invP_of_not_parked ((pceSecond_frame rf s).2.trans (np (by rw [hpc]; nofun))))
      (fun e hpc => invP_of_not_parked ((detect_idle s e).2.trans (np (ne_idle hpc))))
      (fun r hpc => invP_of_not_parked ((clientTail_idle s r).2.trans (np (ne_idle hpc))))
      (fun hpc _ => ⟨rfl, hw.pc_handled (Or.inr hpc)⟩) op
    unfold checkErr
    split
    · exact invP_of_not_parked rfl
    · split
      · exact invP_of_not_parked rfl
      · exact hp

theorem invP_run {s : State} (hw : InvW s) (hp : InvP s) (rf : Bool) (sched : List TaskId) :
    InvP (run rf s sched) :=
  (run_keeps (P := fun s => InvW s ∧ InvP s) (fun _ l h => ⟨invW_step h.1 rf l, invP_step h.1 h.2 rf l⟩) ⟨hw, hp⟩ sched).2

theorem strs_frame {e : Err} (rf : Bool) (ms : List Nat) : ∀ u : State, u.cell = some e →
    ∃ w k ts, run rf u (ms.map .str) = { u with waker := w, woken := k, tasks := ts } := by
  induction ms with
  | nil => intro u _; exact ⟨_, _, _, rfl⟩
  | cons m ms ih =>
    intro u hu
    have h1 : ∃ w k ts, sstep u m = { u with waker := w, woken := k, tasks := ts } :=
      sstep_cases (C := fun s' => ∃ w k ts, s' = { u with waker := w, woken := k, tasks := ts }) ⟨_, _, _, rfl⟩
        (fun _ _ _ _ => ⟨_, _, _, rfl⟩) (fun _ e' _ _ => ⟨_, _, _, by rw [sset, hu]; rfl⟩)
    obtain ⟨w, k, ts, h1⟩ := h1
    obtain ⟨w', k', ts', h2⟩ := ih (sstep u m) (h1 ▸ hu)
    exact ⟨w', k', ts', by rw [List.map_cons, run, List.foldl_cons, ← run, step, h2, h1]⟩

theorem poll_reports {s : State} {e : Err} (hw : InvW s) (hc : s.cell = some e)
    (hidle : s.pc = .idle) (m1 m2 : List Nat) :
    let s' := run true s ([.drv .poll] ++ m1.map .str ++ [.drv .pce] ++ m2.map .str ++ [.drv .pce])
    s'.handled = some (convert e) ∧ s'.pc = .idle ∧ s'.parked = false ∧
    ∃ rest, s'.drets = convert e :: rest := by
  have hsplit : run true s ([.drv .poll] ++ m1.map .str ++ [.drv .pce] ++ m2.map .str ++ [.drv .pce])
      = step true (run true (step true (run true (step true s (.drv .poll)) (m1.map .str))
          (.drv .pce)) (m2.map .str)) (.drv .pce) := by
    simp [run, List.foldl_append]
  simp only []
  rw [hsplit]
  -- with the fields of `s` as variables the driver's steps compute; the handles' steps are `strs_frame`
  obtain ⟨cell, waker, woken, pc, parked, handled, closes, drets, tasks⟩ := s
  cases hc; cases hidle
  have ha : step true ⟨some e, waker, woken, .idle, parked, handled, closes, drets, tasks⟩ (.drv .poll) =
      ⟨some e, waker, false, .started, false, handled, closes, drets, tasks⟩ := rfl
  obtain ⟨w1, k1, t1, hb⟩ := strs_frame true m1 ⟨some e, waker, false, .started, false, handled, closes, drets, tasks⟩ rfl
  rw [ha, hb]
  cases handled with
  | some h =>
    -- the first half returns the handled error; the poll is over, the second `pce` finds the driver idle
    have hhe := (hw.of_cell rfl rfl).1
    obtain ⟨w2, k2, t2, hd⟩ := strs_frame true m2 ⟨some e, w1, k1, .idle, false, some h, closes, h :: drets, t1⟩ rfl
    simp only [step, dstep, pceFirst, retHandled]
    rw [hd]
    exact ⟨congrArg some hhe, rfl, rfl, drets, congrArg (· :: drets) hhe⟩
  | none =>
    -- the first half registers the waker, the second checks the cell and finds `e`
    obtain ⟨w2, k2, t2, hd⟩ := strs_frame true m2 ⟨some e, true, k1, .mid, false, none, closes, drets, t1⟩ rfl
    simp only [step, dstep, pceFirst, reg, if_true]
    rw [hd]
    exact ⟨rfl, rfl, rfl, drets, rfl⟩

end H3.ErrCell
