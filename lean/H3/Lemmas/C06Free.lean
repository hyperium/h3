import H3.Lemmas.C06Req
/-! C06 without the call-pattern hypothesis: `poll_recv_data` and the repaired `poll_recv_trailers`
    (`pollRecvTrailersG`) from ANY state of a request stream, the head call and `poll_recv_trailers` as it stands from
    any state with no DATA payload outstanding (`remaining = 0`).  No panic: `poll_recv_data` tests
    `has_data()` before it chooses between `poll_data` (no `assert!`) and `poll_next`, and the repaired
    `poll_recv_trailers` does the same.  Completion (`*_atEnd`, `calls_on_error`): once `AtEnd`
    holds no call answers `Pending`, and an error that is the transport's next answer is what the calls return. -/
namespace H3.C06
open H3.ReqRecv

theorem pollRecvData_never_panics (N : Nat) (st : RSt) : (pollRecvData fsSrc N st).1 ≠ .panic :=
  -- every answer is a concrete one other than `panic`, except after a DATA header, where it is the loop's
  pollRecvData_ind (P := fun _ _ x => x.1 ≠ .panic)
    (hzero := fun _ => nofun) (hfin := fun _ _ _ => final_ne_panic)
    (hdata := fun _ _ _ _ _ => nofun) (hdend := fun _ _ _ _ => nofun) (hdpend := fun _ _ _ _ => nofun)
    (hhdr := fun _ _ _ _ _ => nofun) (hskip := fun _ _ _ _ _ _ ih => ih)
    (hnone := fun _ _ _ _ => nofun) (hpend := fun _ _ _ _ => nofun) N st

theorem pollRecvTrailers_never_panics (H : Hdr) (st : RSt) (h0 : st.src.1.remaining = 0) :
    (pollRecvTrailers fsSrc H st).1 ≠ .panic :=
  pollRecvTrailers_cases H st h0 (fun _ => final_ne_panic) (fun _ _ => nofun) (fun _ _ _ _ _ => nofun)

/-- `h0` holds in particular in every configuration in which the documented pattern calls `recv_trailers`
    (`PhaseOK .trailers`) -/
theorem pollRecvTrailersG_eq (H : Hdr) (st : RSt) (h0 : st.src.1.remaining = 0) :
    pollRecvTrailersG fsSrc H st = pollRecvTrailers fsSrc H st := by
  unfold pollRecvTrailersG
  rw [if_neg (fun h => (hasData_iff st.src).mp h h0)]

theorem pollRecvTrailersG_never_panics (H : Hdr) (st : RSt) : (pollRecvTrailersG fsSrc H st).1 ≠ .panic := by
  by_cases h0 : st.src.1.remaining = 0
  · rw [pollRecvTrailersG_eq H st h0]
    exact pollRecvTrailers_never_panics H st h0
  · rw [pollRecvTrailersG, if_pos ((hasData_iff _).mpr h0)]
    nofun

theorem pollHead_never_panics (role : Role) (H : Hdr) (st : RSt) (h0 : st.src.1.remaining = 0) :
    (pollHead role fsSrc H st).1 ≠ .panic :=
  pollHead_cases role H st h0 (fun _ => final_ne_panic) (fun _ _ => nofun) (fun _ _ _ => nofun)

theorem pollRecvData_atEnd : ∀ (N : Nat) (st : RSt), AtEnd st.src → (pollRecvData fsSrc N st).1 ≠ .pending :=
  -- the two `Pending` arms contradict `AtEnd`; after a DATA header the stream is still at its end
  pollRecvData_ind (P := fun _ st x => AtEnd st.src → x.1 ≠ .pending)
    (hzero := fun _ _ => nofun) (hfin := fun _ _ _ h _ => final_ne_pending h)
    (hdata := fun _ _ _ _ _ _ => nofun) (hdend := fun _ _ _ _ _ => nofun)
    (hdpend := fun _ _ _ q hE => absurd rfl (q.atEnd hE).1)
    (hhdr := fun _ _ _ _ _ _ => nofun) (hskip := fun _ _ _ _ _ q ih hE => ih ((q.atEnd hE).2 rfl))
    (hnone := fun _ _ _ _ _ => nofun) (hpend := fun _ _ _ q hE => absurd rfl (q.atEnd hE).1)

theorem pollRecvTrailersG_atEnd (H : Hdr) (st : RSt) (hE : AtEnd st.src) :
    (pollRecvTrailersG fsSrc H st).1 ≠ .pending := by
  by_cases h0 : st.src.1.remaining = 0
  · rw [pollRecvTrailersG_eq H st h0]
    -- the look behind a block just read starts behind its frame, where the stream is still at its end
    exact pollRecvTrailers_cases H st h0 (fun _ => final_ne_pending) (fun _ q => absurd rfl (q.atEnd hE).1)
      (fun _ _ _ h1 q => absurd rfl (q.atEnd (h1.elim (fun h => h ▸ hE) (fun q1 => (q1.atEnd hE).2 rfl))).1)
  · rw [pollRecvTrailersG, if_pos ((hasData_iff _).mpr h0)]
    nofun

theorem pollHead_atEnd (role : Role) (H : Hdr) (st : RSt) (h0 : st.src.1.remaining = 0) (hE : AtEnd st.src) :
    (pollHead role fsSrc H st).1 ≠ .pending :=
  pollHead_cases role H st h0 (fun _ => final_ne_pending) (fun _ q => absurd rfl (q.atEnd hE).1)
    (fun _ _ _ => nofun)

/-- the error that is the transport's next answer is what the calls return (`eos` not yet read),
    and the state is left as it was: the error stays the transport's next answer -/
theorem calls_on_error (role : Role) (H : Hdr) (N : Nat) (st : RSt) (x : Nat) (r : List FS.Ev)
    (hs : st.src.2 = .reset x :: r) (heos : st.src.1.eos = false) :
    pollRecvData fsSrc (N + 1) st = (.errReset x, st) ∧
    (st.src.1.remaining = 0 → st.trailers = none → pollRecvTrailersG fsSrc H st = (.errReset x, st)) ∧
    (st.src.1.remaining = 0 → pollHead role fsSrc H st = (.errReset x, st)) := by
  obtain ⟨⟨s, sc⟩, tr, env⟩ := st
  simp only at hs heos
  subst hs
  refine ⟨?_, ?_, ?_⟩
  · exact pollRecvData_reset N _ s x r rfl heos
  · intro h0 ht
    simp only at h0 ht
    subst ht
    have hp := pollNext_reset FS.frameDec s x r h0 heos
    simp [pollRecvTrailersG, pollRecvTrailers, trailersFirst, fsSrc, h0, hp, fsErr]
  · intro h0
    simp only at h0
    have hp := pollNext_reset FS.frameDec s x r h0 heos
    cases role <;> simp [pollHead, pollResolve, pollRecvResponse, fsSrc, hp, fsErr]

end H3.C06
