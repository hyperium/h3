import H3.Model.Drain
import H3.Gen.DrainArms
/-! Agreement of the drain model (`H3.Drain`; C09) with what the translator reads, on every run, about the
    request-end channel (`H3.Gen.DrainArms`, `tools/extract.py` `drain_arms`): the constructor of the channel in
    `server::Builder::build` and the types of the fields that hold its ends, the whole body of
    `impl Drop for RequestEnd`, how the resolver and the request stream hold the `RequestEnd` (`Arc`), how
    `accept_with_frame` hands it on and what `split()` gives to each half.

    tokio's two channels are written down as far as a sender sees them (`callOn`: trusted), the generated `Drop`
    body is *run* on them (`runDrop`), the owners' bookkeeping is rebuilt from the generated sharing facts
    (`genDropHandle`, `genSplit`); each is proved equal to the model's function for every state.  With
    `mpsc::channel(n)`, a `Drop` body that does not send or does something else with the error (refused by the
    translator), a `RequestEnd` held by value, or a half of `split()` that gets something else, there is no such
    equality.  What the drain model takes from `poll_requests_completion` and the `Ok(None)` decision stands in
    `H3.Lemmas.GenAgreeGoaway`, with the generated items it shares with `H3.Goaway`. -/
namespace H3.GenAgree.Drain
open H3.Drain
open H3.Gen.DrainArms

/-- what one call of a sender's method gives -/
inductive SendRes where
  /-- the value is in the queue (and the receiver's registered waker is woken: tokio, trusted) -/
  | sent (q : List Nat)
  /-- `TrySendError::Full` -/
  | full
  /-- `SendError` / `TrySendError::Closed`: the receiver has been closed or dropped -/
  | closed
  /-- not a call that sends by itself: `UnboundedSender` has no `try_send`; `Sender::send` is a future, which a
      synchronous `drop` does not await -/
  | notACall
deriving DecidableEq, Repr

/-- tokio's mpsc channels seen from a sender: `q` = the values waiting (oldest first), `alive` = the receiver
    exists and has not been closed -/
def callOn : Chan → SendCall → (alive : Bool) → List Nat → Nat → SendRes
  | .unbounded, .send, true, q, id => .sent (q ++ [id])
  | .unbounded, .send, false, _, _ => .closed
  | .unbounded, .trySend, _, _, _ => .notACall
  | .bounded _, .send, _, _, _ => .notACall
  | .bounded cap, .trySend, true, q, id => if q.length < cap then .sent (q ++ [id]) else .full
  | .bounded _, .trySend, false, _, _ => .closed

/-- the constructor and the three field types name the same, unbounded, channel -/
theorem channel_unbounded :
    channel = .unbounded ∧ connSender = .unbounded ∧ connReceiver = .unbounded ∧ endSender = .unbounded :=
  ⟨rfl, rfl, rfl, rfl⟩

/-- **No capacity.**  Whatever is waiting in the request-end channel — any number of notifications —, a `send`
    while the connection exists appends the value: it is never refused for lack of room and there is nothing to
    wait for.  This is the model's `chan := s.chan ++ [id]`. -/
theorem send_never_full (q : List Nat) (id : Nat) : callOn channel .send true q id = .sent (q ++ [id]) := rfl

/-- the only way a `send` on this channel fails is a receiver that is gone -/
theorem send_fails_only_closed (alive : Bool) (q : List Nat) (id : Nat) :
    callOn channel .send alive q id = .sent (q ++ [id]) ∨ (alive = false ∧ callOn channel .send alive q id = .closed) := by
  cases alive
  · exact .inr ⟨rfl, rfl⟩
  · exact .inl rfl

/-- the state of a run of the `Drop` body: the channel's queue, whether a value went in (⇒ the receiver's task is
    woken), the `Result` of a call that nothing has looked at yet -/
structure DropSt where
  q : List Nat
  woke : Bool := false
  result : Option SendRes := none
deriving DecidableEq, Repr

/-- the generated `Drop` body run on a channel `ch` whose receiver is `alive`, for the `RequestEnd` of stream `id`:
    `none` = the body is not one this reading covers (a `Result` left unlooked-at, a second call before the first
    result is consumed, a method the sender does not have) -/
def runDrop (ch : Chan) (alive : Bool) (id : Nat) : List DropOp → DropSt → Option DropSt
  | [], st => if st.result.isNone then some st else none
  | .sendId call :: r, st =>
    match st.result, callOn ch call alive st.q id with
    | some _, _ => none
    | none, .notACall => none
    | none, .sent q' => runDrop ch alive id r { q := q', woke := true, result := some (.sent q') }
    | none, res => runDrop ch alive id r { st with result := some res }
  | .ignoreErr :: r, st =>
    match st.result with
    | none => none
    -- `Ok(())`, `Closed` and `Full` alike: nothing happens
    | some _ => runDrop ch alive id r { st with result := none }

/-- **`Drop` sends the stream id, once, and only that.**  While the connection exists the body leaves the queue
    with exactly `id` appended, whatever was waiting (no loss at any length), and the receiver woken. -/
theorem drop_sends (q : List Nat) (id : Nat) :
    runDrop channel true id dropBody { q := q } = some { q := q ++ [id], woke := true } := rfl

/-- … and once the connection (the receiver) is gone the body does nothing at all: the error of the closed channel
    is the one error there is (`send_fails_only_closed`), and it is ignored — no panic in `drop`. -/
theorem drop_after_connection_gone (q : List Nat) (id : Nat) :
    runDrop channel false id dropBody { q := q } = some { q := q } := rfl

/-- the body calls `send`, the method of the sender type the field has -/
theorem drop_calls_send : dropBody = [.sendId .send, .ignoreErr] ∧ endSender = .unbounded := ⟨rfl, rfl⟩

/-- `RequestEnd::drop` for stream `id` on the model's state: the generated body run on the connection's channel
    (the model has no state in which the connection is gone); a value that went in wakes the task awaiting
    `accept()` -/
def genEndDrop (s : State) (id : Nat) : Option State :=
  (runDrop channel true id dropBody { q := s.chan }).map fun r =>
    let s' := { s with chan := r.q }
    if r.woke then wakeUp s' else s'

/-- the `RequestEnd` is made inside an `Arc` and every handle holds that `Arc` -/
def shared : Bool := decide (created = .arc ∧ resolverHolds = .arc ∧ streamHolds = .arc)

/-- one owner of request `id` goes away.  Shared through an `Arc`: `RequestEnd::drop` runs when no other owner is
    left.  Held by value: every holder's own copy is dropped, each time. -/
def genDropHandle (s : State) (id : Nat) : Option State :=
  if s.handles.contains id then
    let h := s.handles.erase id
    if shared && h.contains id then some { s with handles := h }
    else genEndDrop { s with handles := h } id
  else some s

/-- **The model's `dropHandle` is the generated `Drop` body behind the generated sharing.** -/
theorem dropHandle_agrees (s : State) (id : Nat) : some (dropHandle s id) = genDropHandle s id := by
  have hsh : shared = true := by decide
  have hend : ∀ t : State, genEndDrop t id = some (wakeUp { t with chan := t.chan ++ [id] }) := by
    intro t
    simp [genEndDrop, drop_sends]
  unfold dropHandle genDropHandle
  by_cases h : s.handles.contains id = true
  · rw [if_pos h, if_pos h]
    by_cases h2 : (s.handles.erase id).contains id = true
    · simp only [h2, hsh, Bool.and_self, if_true]
    · have h2' : (s.handles.erase id).contains id = false := by simpa using h2
      simp only [h2', hsh, Bool.and_false, if_false, hend, Bool.false_eq_true]
  · rw [if_neg h, if_neg h]

/-- `accept_with_frame` moves the resolver's `Arc` into the request stream: the owners of the request are the same
    before and after (the model has no event for it) -/
theorem resolve_moves : resolveGets = .move := rfl

/-- `split(self)` for a holder of request `id`: every half that gets `self.<field>.clone()` is one more owner; a
    half that gets `self.<field>` takes over the owner that `self` was; if no half does, `self`'s own is dropped
    when `split` returns.  Two moves of one value are not Rust. -/
def genSplit (halves : List Gets) (s : State) (id : Nat) : Option State :=
  if s.handles.contains id then
    let withClones : State := { s with handles := (halves.filter (· == .clone)).foldl (fun h _ => id :: h) s.handles }
    match (halves.filter (· == .move)).length with
    | 0 => genDropHandle withClones id
    | 1 => some withClones
    | _ => none
  else some s

/-- **The model's `clone` event is `split()`**: two halves, one gets a clone of the `Arc`, the other the `Arc`
    itself — one owner more than before, none dropped. -/
theorem split_agrees (s : State) (id : Nat) : some (step s (.clone id)).1 = genSplit splitHalves s id := by
  unfold genSplit
  by_cases h : s.handles.contains id = true
  · have h' : id ∈ s.handles := by simpa using h
    simp [step, h', splitHalves]
  · have h' : id ∉ s.handles := by simpa using h
    simp [step, h']

theorem split_two_halves : splitHalves.length = 2 := rfl

/-- **The end of a split request is reported once, when the last half goes.**  For a request with one owner (the
    request stream): after `split()`, dropping one half leaves the channel as it was and the request among the
    owners; dropping the other appends the id to the channel — exactly once; a further drop does nothing. -/
theorem last_half_reports (s : State) (id : Nat) (h1 : s.handles.count id = 1) :
    let s1 := (step s (.clone id)).1
    let s2 := dropHandle s1 id
    let s3 := dropHandle s2 id
    s2.chan = s.chan ∧ s2.handles.contains id = true ∧
    s3.chan = s.chan ++ [id] ∧ s3.handles.contains id = false ∧ dropHandle s3 id = s3 := by
  have hm : id ∈ s.handles := List.count_pos_iff.mp (by omega)
  have he : id ∉ s.handles.erase id := by
    have : (s.handles.erase id).count id = 0 := by simp [List.count_erase_self, h1]
    exact List.count_eq_zero.mp this
  simp [step, hm, dropHandle, he, wakeUp]

end H3.GenAgree.Drain
