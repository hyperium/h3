import H3.Lemmas.FrameStream
/-! Facts about single calls of the `FrameStream` model that hold whatever the state (no invariant), read off
    `pollNextLoop_shape`, `pollNextLoop_of_eos` and the relation `DataRun`: `remaining_data` after a frame answer,
    `None` again at the end of the stream, the script never grows, `Pending` answers are inert and say why. -/
namespace H3.FS
variable {F E : Type}

theorem pollNext_frame_rem (D : Dec F E) (s s' : St) (script script' : List Ev) (f : F)
    (h : pollNext D s script = (.frame f, s', script')) : s'.remaining = (D.kind f).rem := by
  unfold pollNext at h
  by_cases h0 : s.remaining ≠ 0
  · rw [if_pos h0] at h
    simp only [Prod.mk.injEq] at h
    exact absurd h.1 (by intro hc; cases hc)
  · rw [if_neg h0] at h
    obtain ⟨_, _, _, hf, _⟩ := pollNextLoop_shape D h
    exact hf f rfl

/-- `poll_next` on a stream that has ended with nothing buffered: `Ok(None)` -/
theorem pollNext_at_end (D : Dec F E) (s : St) (script : List Ev) (h0 : s.remaining = 0)
    (he : s.eos = true) (hf : s.flat = []) : (pollNext D s script).1 = .none := by
  have hdl : decLoop D (s.flat.length + 1) s.flat s.expected 0 = .none 0 s.expected := by
    rw [hf]
    simp [decLoop]
  have hA : afterRecv D s .eos =
      some (.none, { s with buf := advance 0 s.buf, expected := s.expected }) := by
    unfold afterRecv
    rw [hdl]
    simp only
    have hfl : ({ s with buf := advance 0 s.buf, expected := s.expected } : St).flat = [] := by
      simp only [St.flat, advance_flatten, List.drop_zero]
      exact hf
    rw [if_pos hfl]
  obtain ⟨o, s', h1, h2⟩ := pollNextLoop_of_eos D s script he
  rw [hA] at h1
  cases h1
  rw [pollNext, if_neg (by simp [h0]), h2]

theorem pollNextLoop_pending_why (D : Dec F E) (script : List Ev) :
    ∀ (s s' : St) (script' : List Ev), pollNextLoop D s script = (.pending, s', script') →
      s.eos = false → ∃ taken, script = taken ++ script' ∧ (script' = [] ∨ Ev.pend ∈ taken) := by
  intro s s' script' h _
  obtain ⟨taken, h1, _, _, hp⟩ := pollNextLoop_shape D h
  exact ⟨taken, h1, (hp rfl).2.2.2.1⟩

theorem pollData_pending_why (s s' : St) (script script' : List Ev)
    (h : pollData (F := F) (E := E) s script = (.pending, s', script')) :
    ∃ taken, script = taken ++ script' ∧ (script' = [] ∨ Ev.pend ∈ taken) := by
  obtain ⟨_, _, _, tk, hs, hw, _⟩ := pollData_pending_inv h
  exact ⟨tk, hs, hw⟩

theorem lt_of_pending_why {taken r : List Ev} (hw : r = [] ∨ Ev.pend ∈ taken) (hne : r ≠ []) :
    r.length < (taken ++ r).length := by
  rcases hw with hw | hw
  · exact absurd hw hne
  · have : 0 < taken.length := List.length_pos_iff.mpr (fun hc => by rw [hc] at hw; cases hw)
    rw [List.length_append]
    omega

theorem pollNextLoop_pending_st (D : Dec F E) (script : List Ev) :
    ∀ (s s' : St) (script' : List Ev), pollNextLoop D s script = (.pending, s', script') →
      s.eos = false ∧ s'.eos = false ∧ s'.remaining = s.remaining := by
  intro s s' script' h
  obtain ⟨_, _, _, _, hp⟩ := pollNextLoop_shape D h
  exact ⟨(hp rfl).1, (hp rfl).2.1, (hp rfl).2.2.1⟩

theorem pollNextLoop_len (D : Dec F E) (script : List Ev) :
    ∀ s : St, (pollNextLoop D s script).2.2.length ≤ script.length := by
  intro s
  obtain ⟨taken, h1, _⟩ := pollNextLoop_shape D (rfl : pollNextLoop D s script = _)
  rw [congrArg List.length h1, List.length_append]
  exact Nat.le_add_left _ _

theorem pollNext_len (D : Dec F E) (s : St) (script : List Ev) :
    (pollNext D s script).2.2.length ≤ script.length := by
  unfold pollNext
  split
  · exact Nat.le_refl _
  · exact pollNextLoop_len D script s

theorem pollNext_pending_st (D : Dec F E) (s s' : St) (script script' : List Ev)
    (h : pollNext D s script = (.pending, s', script')) :
    s'.eos = false ∧ s'.remaining = 0 ∧ (script' ≠ [] → script'.length < script.length) := by
  unfold pollNext at h
  by_cases h0 : s.remaining ≠ 0
  · rw [if_pos h0] at h
    simp only [Prod.mk.injEq] at h
    exact absurd h.1 (by intro hc; cases hc)
  · rw [if_neg h0] at h
    obtain ⟨he, he', hr⟩ := pollNextLoop_pending_st D script s s' script' h
    obtain ⟨taken, rfl, hw⟩ := pollNextLoop_pending_why D script s s' script' h he
    exact ⟨he', by rw [hr]; simpa using h0, lt_of_pending_why hw⟩

theorem pollData_len (s : St) (script : List Ev) :
    (pollData (F := F) (E := E) s script).2.2.length ≤ script.length := by
  have hr := pollData_run (F := F) (E := E) s script
  generalize pollData (F := F) (E := E) s script = res at hr
  cases hr with
  | idle => exact Nat.le_refl _
  | reset => exact Nat.le_refl _
  | recv _ htr => rw [htr.shape.1, List.length_append]; exact Nat.le_add_left _ _

theorem pollData_pending_st (s s' : St) (script script' : List Ev)
    (h : pollData (F := F) (E := E) s script = (.pending, s', script')) :
    s'.remaining = s.remaining ∧ s.remaining ≠ 0 ∧ (script' ≠ [] → script'.length < script.length) := by
  obtain ⟨h0, _, rfl, tk, rfl, hw, _⟩ := pollData_pending_inv h
  exact ⟨rfl, h0, lt_of_pending_why hw⟩

end H3.FS
