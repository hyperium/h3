import H3.Model.Drain
import H3.Spec.Drain
/-! One step of `H3.Drain.step` for `H3.Props.C09` (`step_inv`): the invariant `Inv`, the relation
`Rel` to the history-level notions of `H3.Spec.Drain` (from `step_rel`, which needs no invariant),
and that `None` is never early; over the case principles `poll_cases` and `dropHandle_cases`. -/
namespace H3.Lemmas.Drain
open H3.Drain H3.Spec.Drain

structure Inv (s : State) : Prop where
  live_sub : ∀ id ∈ s.handles, id ∈ s.ongoing
  /-- every ID in `ongoing_streams` has a live handle or its end notification is in the channel
      (what fails without the D-09 repair) -/
  ongoing_sub : ∀ id ∈ s.ongoing, id ∈ s.handles ∨ id ∈ s.chan
  chan_dead : ∀ id ∈ s.chan, id ∉ s.handles
  /-- a parked (outstanding, not woken) `accept` has seen everything there is to see -/
  parked : s.inFlight = true → s.wake = false →
    s.chan = [] ∧ s.ctl = 0 ∧ s.incoming = [] ∧ s.failed = false ∧
    ¬ (s.recvClosing = true ∧ s.ongoing = [])

/-- how the history so far determines the parts of the state the oracle talks about. -/
structure Rel (pre : List Step) (s : State) : Prop where
  owners_eq : owners pre = s.handles
  goaway_iff : goawaySeen pre = true ↔ (s.recvClosing = true ∨ 0 < s.ctl)
  error_iff : errorSeen pre = true ↔ s.failed = true
  arrivals_eq : arrivals pre = handedOut pre ++ s.incoming

theorem inv_init : Inv {} := by
  constructor <;> simp

theorem rel_init : Rel [] {} := by
  constructor <;> simp [owners, goawaySeen, errorSeen, arrivals, handedOut]

theorem owners_snoc (pre : List Step) (st : Step) : owners (pre ++ [st]) = ownersStep (owners pre) st := by
  simp [owners, List.foldl_append]

theorem goawaySeen_snoc (pre : List Step) (st : Step) :
    goawaySeen (pre ++ [st]) = (goawaySeen pre || st.ev == .goaway) := by
  simp [goawaySeen, List.any_append]

theorem errorSeen_snoc (pre : List Step) (st : Step) :
    errorSeen (pre ++ [st]) = (errorSeen pre || st.ev == .connError) := by
  simp [errorSeen, List.any_append]

theorem arrivals_append (a b : List Step) : arrivals (a ++ b) = arrivals a ++ arrivals b := by
  induction a with
  | nil => rfl
  | cons st r ih =>
    obtain ⟨ev, obs⟩ := st
    cases ev <;> simp [arrivals, ih]

theorem handedOut_append (a b : List Step) : handedOut (a ++ b) = handedOut a ++ handedOut b := by
  induction a with
  | nil => rfl
  | cons st r ih => simp [handedOut, ih]

theorem mem_removeAll {o c : List Nat} {j : Nat} : j ∈ removeAll o c ↔ j ∈ o ∧ j ∉ c := by
  simp [removeAll]

theorem poll_cases {s : State} {C : State × List Obs → Prop}
    (skip : C (s, []))
    (err : C ({ catchUp s with inFlight := false }, [.acceptErr]))
    (take : ∀ id rest, s.incoming = id :: rest →
      C ({ catchUp s with incoming := rest, ongoing := id :: (catchUp s).ongoing, handles := id :: s.handles, inFlight := false },
        [.handedOut id]))
    (none : (catchUp s).recvClosing = true → (catchUp s).ongoing = [] →
      C ({ catchUp s with inFlight := false }, [.acceptNone]))
    (pending : s.inFlight = true → s.failed = false → s.incoming = [] →
      ¬ ((catchUp s).recvClosing = true ∧ (catchUp s).ongoing = []) → C (catchUp s, [.acceptPending])) :
    C (poll s) := by
  simp only [poll]
  split
  · rename_i hgo
    split
    · exact err
    · rename_i hf
      simp only [takeStream]
      split
      · rename_i id rest h; exact take id rest h
      · rename_i h
        simp only [verdict, Bool.and_eq_true, List.isEmpty_iff]
        split
        · rename_i hv; exact none hv.1 hv.2
        · rename_i hv; exact pending (Bool.and_eq_true_iff.mp hgo).1 (Bool.eq_false_iff.mpr hf) h hv
  · exact skip

theorem dropHandle_cases {s : State} {id : Nat} {C : State → Prop}
    (absent : id ∉ s.handles → C s)
    (more : id ∈ s.handles → id ∈ s.handles.erase id → C { s with handles := s.handles.erase id })
    (last : id ∈ s.handles → id ∉ s.handles.erase id →
      C (wakeUp { s with handles := s.handles.erase id, chan := s.chan ++ [id] })) : C (dropHandle s id) := by
  simp only [dropHandle]
  split
  · rename_i h
    split
    · rename_i h2; exact more (by simpa using h) (by simpa using h2)
    · rename_i h2; exact last (by simpa using h) (by simpa using h2)
  · rename_i h; exact absent (by simpa using h)

def RelStep (s : State) (e : Ev) (r : State × List Obs) : Prop :=
  r.1.handles = ownersStep s.handles ⟨e, r.2⟩ ∧
  (r.1.failed = true ↔ (s.failed = true ∨ e = .connError)) ∧
  ((r.1.recvClosing = true ∨ 0 < r.1.ctl) ↔ ((s.recvClosing = true ∨ 0 < s.ctl) ∨ e = .goaway)) ∧
  handedOutIn r.2 ++ r.1.incoming = s.incoming ++ arrivals [⟨e, r.2⟩]

theorem step_rel (s : State) (e : Ev) : RelStep s e (step s e) := by
  cases e with
  | poll =>
    exact poll_cases (C := RelStep s .poll) (by simp [RelStep, ownersStep, handedOutIn, arrivals])
      (by simp [RelStep, ownersStep, handedOutIn, arrivals, catchUp])
      (fun id rest h => by simp [RelStep, ownersStep, handedOutIn, arrivals, catchUp, h])
      (fun _ _ => by simp [RelStep, ownersStep, handedOutIn, arrivals, catchUp])
      (fun _ _ _ _ => by simp [RelStep, ownersStep, handedOutIn, arrivals, catchUp])
  | clone id => simp only [step]; split <;> simp_all [RelStep, ownersStep, handedOutIn, arrivals]
  | dropHandle id =>
    exact dropHandle_cases (C := fun s' => RelStep s (.dropHandle id) (s', []))
      (fun h => by simp [RelStep, ownersStep, handedOutIn, arrivals, List.erase_of_not_mem h])
      (fun _ _ => by simp [RelStep, ownersStep, handedOutIn, arrivals])
      (fun _ _ => by simp [RelStep, ownersStep, handedOutIn, arrivals, wakeUp])
  | callAccept => simp only [step]; split <;> simp [RelStep, ownersStep, handedOutIn, arrivals]
  | _ => simp [RelStep, step, wakeUp, ownersStep, handedOutIn, arrivals]

theorem rel_step {pre : List Step} {s : State} (hr : Rel pre s) (e : Ev) :
    Rel (pre ++ [⟨e, (step s e).2⟩]) (step s e).1 := by
  obtain ⟨h1, h2, h3, h4⟩ := step_rel s e
  refine ⟨?_, ?_, ?_, ?_⟩
  · rw [owners_snoc, hr.owners_eq, h1]
  · rw [goawaySeen_snoc, Bool.or_eq_true, hr.goaway_iff, h3, beq_iff_eq]
  · rw [errorSeen_snoc, Bool.or_eq_true, hr.error_iff, h2, beq_iff_eq]
  · rw [arrivals_append, handedOut_append, hr.arrivals_eq, List.append_assoc, ← h4]
    simp [handedOut]

theorem wakeUp_not_parked (u : State) (h1 : (wakeUp u).inFlight = true) (h2 : (wakeUp u).wake = false) : False := by
  have h1' : u.inFlight = true := h1
  simp only [wakeUp, h1', Bool.or_true] at h2
  cases h2

theorem Inv.caughtUp {s : State} (hi : Inv s) (j : Nat) : j ∈ (catchUp s).ongoing ↔ j ∈ s.handles := by
  refine mem_removeAll.trans ⟨fun ⟨h1, h2⟩ => (hi.ongoing_sub j h1).resolve_right h2,
    fun h => ⟨hi.live_sub j h, fun hc => hi.chan_dead j hc h⟩⟩

theorem Inv.caughtUp_nil {s : State} (hi : Inv s) : (catchUp s).ongoing = [] ↔ s.handles = [] := by
  simp only [List.eq_nil_iff_forall_not_mem, hi.caughtUp]

theorem inv_step {s : State} (hi : Inv s) (e : Ev) : Inv (step s e).1 := by
  cases e with
  | arrive _ | goaway | connError =>
    -- owners, `ongoing_streams` and the channel stay; the task is woken (or was not waiting)
    exact ⟨hi.live_sub, hi.ongoing_sub, hi.chan_dead, fun h1 h2 => (wakeUp_not_parked _ h1 h2).elim⟩
  | callAccept =>
    simp only [step]
    split
    · exact hi
    · exact ⟨hi.live_sub, hi.ongoing_sub, hi.chan_dead, fun _ h => by cases h⟩
  | clone id =>
    simp only [step]
    split
    · rename_i hc
      -- the clone is of a request that is owned: the owners are who they were
      have hm : ∀ j ∈ id :: s.handles, j ∈ s.handles := List.forall_mem_cons.mpr ⟨by simpa using hc, fun _ h => h⟩
      exact ⟨fun j hj => hi.live_sub j (hm j hj), fun j hj => (hi.ongoing_sub j hj).imp_left (List.mem_cons_of_mem _),
        fun j hj hj' => hi.chan_dead j hj (hm j hj'), hi.parked⟩
    · exact hi
  | dropHandle id =>
    refine dropHandle_cases (s := s) (C := Inv) (fun _ => hi) (fun _ hm2 => ?_) (fun _ hm2 => ?_)
    · -- another owner of `id` is left
      refine ⟨fun j hj => hi.live_sub _ (List.mem_of_mem_erase hj), fun j hj => ?_,
        fun j hj hj' => hi.chan_dead _ hj (List.mem_of_mem_erase hj'), hi.parked⟩
      rcases hi.ongoing_sub j hj with h | h
      · by_cases hji : j = id
        · subst hji; exact Or.inl hm2
        · exact Or.inl ((List.mem_erase_of_ne hji).mpr h)
      · exact Or.inr h
    · -- the last owner: the notification takes its place
      refine ⟨fun j hj => hi.live_sub _ (List.mem_of_mem_erase hj), fun j hj => ?_, fun j hj hj' => ?_,
        fun h1 h2 => (wakeUp_not_parked _ h1 h2).elim⟩
      · rcases hi.ongoing_sub j hj with h | h
        · by_cases hji : j = id
          · subst hji; exact Or.inr (List.mem_append_right _ List.mem_cons_self)
          · exact Or.inl ((List.mem_erase_of_ne hji).mpr h)
        · exact Or.inr (List.mem_append_left _ h)
      · rcases List.mem_append.mp hj with h | h
        · exact hi.chan_dead _ h (List.mem_of_mem_erase hj')
        · rw [List.mem_singleton.mp h] at hj'; exact hm2 hj'
  | poll =>
    -- a poll that runs has emptied the channel and left in `ongoing_streams` exactly the requests that are owned
    -- (the one it hands out is added to both); it ends the call, or parks it with nothing left to see
    have caught : ∀ u : State, (∀ j, j ∈ u.ongoing ↔ j ∈ u.handles) → u.chan = [] →
        (u.inFlight = true → u.wake = false → u.chan = [] ∧ u.ctl = 0 ∧ u.incoming = [] ∧ u.failed = false ∧
          ¬ (u.recvClosing = true ∧ u.ongoing = [])) → Inv u := fun u e hc hp =>
      ⟨fun j hj => (e j).mpr hj, fun j hj => Or.inl ((e j).mp hj), fun j hj => (by rw [hc] at hj; cases hj), hp⟩
    exact poll_cases (s := s) (C := fun r => Inv r.1) hi (caught _ hi.caughtUp rfl (fun h => by cases h))
      (fun id rest _ => caught _ (fun j => by simp only [List.mem_cons, hi.caughtUp]) rfl (fun h => by cases h))
      (fun _ _ => caught _ hi.caughtUp rfl (fun h => by cases h))
      (fun _ hf hin hv => caught _ hi.caughtUp rfl (fun _ _ => ⟨rfl, rfl, hin, hf, hv⟩))

theorem none_step {s : State} {pre : List Step} (hi : Inv s) (hr : Rel pre s) (e : Ev)
    (hn : returnsNone ⟨e, (step s e).2⟩ = true) : goawaySeen pre = true ∧ noneAlive pre = true := by
  have key : (catchUp s).recvClosing = true → (catchUp s).ongoing = [] → goawaySeen pre = true ∧ noneAlive pre = true := by
    intro h1 h2
    refine ⟨hr.goaway_iff.mpr (by simpa [catchUp] using h1), ?_⟩
    simp [noneAlive, hr.owners_eq, hi.caughtUp_nil.mp h2]
  cases e with
  | poll =>
    exact poll_cases (s := s) (C := fun r => returnsNone ⟨.poll, r.2⟩ = true → _) (by simp [returnsNone])
      (by simp [returnsNone]) (fun _ _ _ => by simp [returnsNone]) (fun h1 h2 _ => key h1 h2)
      (fun _ _ _ _ => by simp [returnsNone]) hn
  | callAccept => simp only [step] at hn; split at hn <;> simp [returnsNone] at hn
  | _ => simp [step, returnsNone] at hn

theorem step_inv (s : State) (pre : List Step) (e : Ev) (hi : Inv s) (hr : Rel pre s) :
    Inv (step s e).1 ∧ Rel (pre ++ [⟨e, (step s e).2⟩]) (step s e).1 ∧
    (returnsNone ⟨e, (step s e).2⟩ = true → goawaySeen pre = true ∧ noneAlive pre = true) :=
  ⟨inv_step hi e, rel_step hr e, none_step hi hr e⟩

end H3.Lemmas.Drain
