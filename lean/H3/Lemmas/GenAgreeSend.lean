import H3.Model.SendSide
import H3.Model.Qpack
import H3.Model.Config
import H3.Model.E2E
import H3.Gen.SendArms
/-! Agreement of the send-side models (`H3.SendSide`, `H3.Qpack.{sendSite, serverResolve}`,
    `H3.Config.{fromSettings, Cell}`, `H3.E2E.SOp`; C14, C10, C01, C13) with what the translator reads
    out of the Rust sources on every run (`H3.Gen.SendArms`): for each send call the *order* of its
    decisions (closing gate → headers built → stream opened → encode → which limit is read → the size
    test and its operator → which frame is written on which stream → grease frame → FIN), which
    variable the limit is read from, how the grease flag travels from the connection to the first
    handle, the 431 of `resolve`, and the conversion of the peer's SETTINGS.

    The decision lists are *run* by small interpreters over the model's vocabulary and the result is
    proved equal to the model's function for every input; a statement moved, a limit read from a field
    of the handle instead of the settings cell, `>` turned into `>=`, a `filter` on a received value
    change the generated list and the theorem about it stops to hold. -/
namespace H3.GenAgree.Send
open H3.Gen.Consts

abbrev Op := Gen.SendArms.Op

def cmp : Gen.SendArms.Cmp → Nat → Nat → Bool
  | .lt, a, b => decide (a < b)
  | .le, a, b => decide (a ≤ b)
  | .gt, a, b => decide (a > b)
  | .ge, a, b => decide (a ≥ b)
  | .eq, a, b => decide (a = b)
  | .ne, a, b => decide (a ≠ b)

/-- what a call can see when it runs -/
structure Env where
  /-- the settings cell of `SharedState` at that moment: the peer's MAX_FIELD_SECTION_SIZE once
      its SETTINGS have been applied, `none` before -/
  cell : Option Nat
  /-- whatever the handle's own fields hold (a value stored when the handle was created) -/
  field : String → Nat

structure HS where
  enc : Option (Qpack.Bytes × Nat) := none
  limit : Option Nat := none

/-- the decision list of a header-sending call, run up to its first write.  The steps in front of
    the encoder (closing gate, `Header::request`, `poll_open_bidi`) take no part in the size
    decision; anything else out of place (a size test before the limit was read, a write before the
    encoder ran, …) has no reading. -/
def runHdr (env : Env) (fs : List Qpack.Field) : List Op → HS → Option Qpack.SendOut
  | [], _ => none
  | .closingGate :: r, st => runHdr env fs r st
  | .buildHeaders _ _ :: r, st => runHdr env fs r st
  | .openBidi :: r, st => runHdr env fs r st
  | .encode _ _ :: r, st =>
    match Qpack.encodeStateless? fs with
    | none => some .panic
    | some e => runHdr env fs r { st with enc := some e }
  | .readLimit .peerSettingsAtCall :: r, st =>
    runHdr env fs r { st with limit := some (Qpack.peerLimit env.cell) }
  | .readLimit (.handleField n) :: r, st => runHdr env fs r { st with limit := some (env.field n) }
  | .refuseIf c :: r, st =>
    match st.enc, st.limit with
    | some e, some l => if cmp c e.2 l then some (.refused e.2 l) else runHdr env fs r st
    | _, _ => none
  | .write _ .headers :: _, st => st.enc.map (fun e => .written e.1)
  | _ :: _, _ => none

/-- encode, read the peer's limit from the settings cell, refuse above it, write: the part of the
    three header-sending calls that decides -/
theorem runHdr_core (env : Env) (fs : List Qpack.Field) (k : Gen.SendArms.Msg) (c : Nat)
    (t : Gen.SendArms.Target) (rest : List Op) :
    runHdr env fs (.encode k c :: .readLimit .peerSettingsAtCall :: .refuseIf .gt ::
      .write t .headers :: rest) {} = some (Qpack.sendSite env.cell fs) := by
  simp only [runHdr, Qpack.sendSite]
  cases Qpack.encodeStateless? fs with
  | none => rfl
  | some e =>
    simp only [cmp]
    by_cases hgt : e.2 > Qpack.peerLimit env.cell <;> simp [hgt]

theorem sendTrailers_limit (env : Env) (fs : List Qpack.Field) :
    runHdr env fs Gen.SendArms.sendTrailers {} = some (Qpack.sendSite env.cell fs) :=
  runHdr_core env fs _ _ _ _

theorem sendRequest_limit (env : Env) (fs : List Qpack.Field) :
    runHdr env fs Gen.SendArms.sendRequest {} = some (Qpack.sendSite env.cell fs) :=
  runHdr_core env fs .request 258 .opened _

theorem sendResponse_limit (env : Env) (fs : List Qpack.Field) :
    runHdr env fs Gen.SendArms.sendResponse {} = some (Qpack.sendSite env.cell fs) :=
  runHdr_core env fs .response 258 .own _

/-- the message a call encodes is the one it has built; a failing encoder is a connection error
    H3_INTERNAL_ERROR (the model: `encode_stateless` never answers `Err`) -/
theorem encoded_messages :
    (Gen.SendArms.sendRequest.filter fun o => match o with | .buildHeaders .. | .encode .. => true | _ => false) =
      [.buildHeaders .request (some CODE_H3_INTERNAL_ERROR), .encode .request CODE_H3_INTERNAL_ERROR] ∧
    (Gen.SendArms.sendResponse.filter fun o => match o with | .buildHeaders .. | .encode .. => true | _ => false) =
      [.buildHeaders .response none, .encode .response CODE_H3_INTERNAL_ERROR] ∧
    (Gen.SendArms.sendTrailers.filter fun o => match o with | .buildHeaders .. | .encode .. => true | _ => false) =
      [.encode .trailer CODE_H3_INTERNAL_ERROR] := ⟨rfl, rfl, rfl⟩

/-- `accept_with_frame` keeps the size `decode_stateless` stopped at; `resolve` first awaits
    `send_response(StatusCode::REQUEST_HEADER_FIELDS_TOO_LARGE)` — status 431 of the `http` crate,
    the field section `Qpack.response431` —, an error of that send is what it returns (`?`), else
    `HeaderTooBig { actual_size: <that size>, max_size: self.max_field_section_size }`. -/
theorem resolveTooBig_shape :
    Gen.SendArms.resolveTooBig =
      { status := "REQUEST_HEADER_FIELDS_TOO_LARGE", sendErrorPropagates := true, actualIsCancelSize := true,
        maxField := "max_field_section_size" } := rfl

/-- … and the model does exactly that, the send being the generated `send_response` list -/
theorem serverResolve_tooBig (env : Env) (mfs n m : Nat) (s : Option Nat) (block : Qpack.Bytes)
    (h : Qpack.recvSite .serverRequest mfs block = .tooBig n m s) :
    m = mfs ∧
    Qpack.serverResolve mfs env.cell block =
      match runHdr env Qpack.response431 Gen.SendArms.sendResponse {} with
      | some (.written b) => .tooBig n m (some b)
      | some (.refused a pm) => .tooBig a pm none
      | _ => .panic := by
  constructor
  · -- only the `HeaderTooLong` arm answers `tooBig`, with the limit it was given
    unfold Qpack.recvSite at h
    split at h
    · cases h
    · cases h; rfl
    · cases h
  · rw [sendResponse_limit]
    simp only [Qpack.serverResolve, h]
    cases Qpack.sendSite env.cell Qpack.response431 <;> rfl

/-- what a decision list does on the transport -/
inductive Eff where
  | write (on : Gen.SendArms.Target) (k : Gen.SendArms.Written)
  | greaseOnce (clears : Bool)
  | fin
deriving DecidableEq, Repr

def effects : List Op → List Eff
  | [] => []
  | .write on k :: r => .write on k :: effects r
  | .greaseOnce c :: r => .greaseOnce c :: effects r
  | .finish :: r => .fin :: effects r
  | _ :: r => effects r

def sframe (payload : List Nat) (gN : Nat) : Gen.SendArms.Written → WriteBuf.SFrame
  | .data => .data payload
  | .headers => .headers payload
  | .grease => .grease (WriteBuf.greaseId gN)

/-- the model's reading of the transport effects of one call on the handle's own stream: a single
    write starts a call; "the grease frame if this handle still owes one (clearing the flag), then
    `poll_finish`" is `finish()` -/
def onOwn (payload : List Nat) (gN : Nat) : List Eff → SendSide.Stream → Option SendSide.Stream
  | [.write .own k], s => some (s.start (WriteBuf.fromFrame (sframe payload gN k)))
  | [.greaseOnce true, .fin], s =>
    some (if s.grease then SendSide.greaseThenFin s (WriteBuf.fromFrame (sframe payload gN .grease))
          else { s with fin := true })
  | _, _ => none

theorem sendData_step (s : SendSide.Stream) (buf : List Nat) :
    E2E.SOp.apply s (.data buf) =
      SendSide.onRequest (fun s => (onOwn buf 0 (effects Gen.SendArms.sendData) s).getD s) s := rfl

theorem sendTrailers_step (s : SendSide.Stream) (fs : List Nat) :
    E2E.SOp.apply s (.headers fs) =
      SendSide.onRequest (fun s => (onOwn fs 0 (effects Gen.SendArms.sendTrailers) s).getD s) s := rfl

theorem sendResponse_step (s : SendSide.Stream) (fs : List Nat) :
    E2E.SOp.apply s (.headers fs) =
      SendSide.onRequest (fun s => (onOwn fs 0 (effects Gen.SendArms.sendResponse) s).getD s) s := rfl

theorem finish_step (s : SendSide.Stream) (gN : Nat) :
    E2E.SOp.apply s (.finish gN) =
      SendSide.onRequest (fun s => (onOwn [] gN (effects Gen.SendArms.finish) s).getD s) s := rfl

/-- the connection machine addresses the same functions (`step` of `H3.SendSide`) -/
theorem step_uses_calls (st : SendSide.State) (sid gN : Nat) (p : List Nat) :
    SendSide.step st (.sendData sid p) =
      { st with streams := SendSide.updateStream st.streams sid (fun s => E2E.SOp.apply s (.data p)) } ∧
    SendSide.step st (.sendHeaders sid p) =
      { st with streams := SendSide.updateStream st.streams sid (fun s => E2E.SOp.apply s (.headers p)) } ∧
    SendSide.step st (.finish sid gN) =
      { st with streams := SendSide.updateStream st.streams sid (fun s => E2E.SOp.apply s (.finish gN)) } :=
  ⟨rfl, rfl, rfl⟩

/-- the wrappers of `client::RequestStream` / `server::RequestStream` add nothing -/
theorem wrappers_delegate :
    Gen.SendArms.delegating =
      ["server::RequestStream::send_data", "server::RequestStream::send_trailers", "server::RequestStream::finish",
       "client::RequestStream::send_data", "client::RequestStream::send_trailers", "client::RequestStream::finish"] := rfl

/-- the part of a creating call behind its last early return, read into `H3.SendSide.State`: the
    new stream takes the connection's grease flag, the connection's flag is cleared -/
def create (st : SendSide.State) (sid : Nat) (cur : Option WriteBuf.WB) : List Op → Option SendSide.State
  | [.newHandle _ true, .clearConnGrease, .okHandle] =>
    some { st with
      streams := st.streams ++ [(sid, (SendSide.mkStream .request none false st.connGrease).start cur)],
      connGrease := false }
  | _ => none

def fromNewHandle : List Op → List Op
  | [] => []
  | .newHandle a b :: r => .newHandle a b :: r
  | _ :: r => fromNewHandle r

theorem sendRequest_creates (st : SendSide.State) (sid : Nat) (fs : List Nat)
    (h : st.built ∧ st.server = false ∧ sid % 4 = 0 ∧ SendSide.hasStream st.streams sid = false) :
    some (SendSide.step st (.sendRequest sid fs)) =
      create st sid (WriteBuf.fromFrame (sframe fs 0 .headers)) (fromNewHandle Gen.SendArms.sendRequest) := by
  simp only [SendSide.step, if_pos h]
  rfl

theorem accept_creates (st : SendSide.State) (sid : Nat)
    (h : st.built ∧ st.server = true ∧ sid % 4 = 0 ∧ SendSide.hasStream st.streams sid = false) :
    some (SendSide.step st (.acceptRequest sid)) = create st sid none Gen.SendArms.serverAccept := by
  simp only [SendSide.step, if_pos h]
  rfl

/-- the frame of `send_request` goes out on the stream the call has opened, before the handle exists;
    the field the new handle gets as its *receive* limit is the connection object's own
    `max_field_section_size` (not the peer's) -/
theorem sendRequest_write_before_handle :
    effects Gen.SendArms.sendRequest = [.write .opened .headers] ∧
    fromNewHandle Gen.SendArms.sendRequest = [.newHandle "max_field_section_size" true, .clearConnGrease, .okHandle] ∧
    Gen.SendArms.serverAccept = [.newHandle "max_field_section_size" true, .clearConnGrease, .okHandle] :=
  ⟨rfl, rfl, rfl⟩

/-- `RequestStream::new` stores its arguments unchanged: no value of the peer's settings is kept in
    the handle -/
theorem handle_fields :
    Gen.SendArms.handleInit =
      [("conn_state", "conn_state"), ("max_field_section_size", "max_field_section_size"),
       ("send_grease_frame", "grease"), ("stream", "stream"), ("trailers", "None")] := rfl

def natField (s : Settings.Settings) (dflt : Nat) (f : Gen.SendArms.FromSetting) : Option Nat :=
  match f.conv with
  | .raw => some ((Settings.get s f.id).getD dflt)
  | .rawZeroIsDefault => some (((Settings.get s f.id).filter (· != 0)).getD dflt)
  | .nonZero => none

def boolField (s : Settings.Settings) (dflt : Bool) (f : Gen.SendArms.FromSetting) : Option Bool :=
  match f.conv with
  | .nonZero => some (((Settings.get s f.id).map (· != 0)).getD dflt)
  | _ => none

/-- `From<&frame::Settings> for Settings` as the generated per-field table says -/
def genFrom (s : Settings.Settings) : Option Config.Record := do
  let mfs ← natField s Config.Record.default.mfs Gen.SendArms.from_max_field_section_size
  let wt ← boolField s Config.Record.default.wt Gen.SendArms.from_enable_webtransport
  let ec ← boolField s Config.Record.default.ec Gen.SendArms.from_enable_extended_connect
  let dg ← boolField s Config.Record.default.dg Gen.SendArms.from_enable_datagram
  let wts ← natField s Config.Record.default.wts Gen.SendArms.from_max_webtransport_sessions
  pure { mfs := mfs, wt := wt, ec := ec, dg := dg, wts := wts }

theorem fromSettings_agrees (s : Settings.Settings) : some (Config.fromSettings s) = genFrom s := rfl

/-- the settings cell: written once, read at every call (`settings()` = the stored record or the
    defaults) — the generated flag only records that the three shapes were found -/
theorem settings_cell (c : Config.Cell) (r r' : Config.Record) :
    Gen.SendArms.settingsCellWriteOnce = true ∧
    ((c.set r).set r').get = (c.set r).get ∧ Config.Cell.new.get = Config.Record.default ∧
    (Config.Cell.new.set r).get = r := by
  refine ⟨rfl, ?_, rfl, rfl⟩
  cases c with
  | mk v => cases v <;> rfl

end H3.GenAgree.Send
