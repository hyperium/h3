import H3.Lemmas.DynPrefix
import H3.Lemmas.DynSysInv
/-! Decoding a section. For every history: `decodeRep_ok`, `SysInv.prefix`. For histories without capacity change and
    cancellation: the additional invariant `PInv`, under which an undecoded section decodes to the original fields or is
    reported as blocked (`decode_todo`, `decode_head`) and no call fails. Last, the bridge to the oracle's own notions. -/
namespace H3.Dyn
open H3.Spec.Dyn (STable)

section
variable {d : Table} {stD : STable} {all : List Field} {base : Nat} {g : Field}

/-- where an entry the decoder still holds (absolute index `a`, 1-based) sits in its `fields` -/
theorem Abs.fields_of_entry1 {a : Nat} (habs : Abs d stD) (hpre : ∃ l, all = stD.all ++ l) (h1 : stD.dropped < a)
    (h2 : a ≤ stD.all.length) (hg : entry1 all a = some g) : d.fields[a - stD.dropped - 1]? = some g := by
  obtain ⟨l, rfl⟩ := hpre
  rw [habs.fields, List.getElem?_drop, ← hg]
  simp only [entry1]
  rw [if_neg (Nat.ne_of_gt (Nat.zero_lt_of_lt h1)), List.getElem?_append_left (Nat.sub_one_lt_of_le (Nat.zero_lt_of_lt h1) h2)]
  congr 1; omega

theorem getRelativeBase_live {rel a : Nat}
    (habs : Abs d stD) (hpre : ∃ l, all = stD.all ++ l) (he : base - rel = a) (h1 : stD.dropped < a)
    (h2 : a ≤ stD.all.length) (hg : entry1 all a = some g) : d.getRelativeBase base rel = .ok g := by
  have hrb : d.vas.relativeBase base rel = some (a - stD.dropped - 1) := by
    unfold Vas.relativeBase
    rw [habs.delta, habs.length, habs.drp, if_neg (by omega)]; congr 1; omega
  simp only [Table.getRelativeBase, hrb, habs.fields_of_entry1 hpre h1 h2 hg]

theorem getPostBase_live {i a : Nat}
    (habs : Abs d stD) (hpre : ∃ l, all = stD.all ++ l) (he : base + i + 1 = a) (h1 : stD.dropped < a)
    (h2 : a ≤ stD.all.length) (hg : entry1 all a = some g) : d.getPostBase base i = .ok g := by
  have hpb : d.vas.postBase base i = some (a - stD.dropped - 1) := by
    unfold Vas.postBase
    rw [habs.delta, habs.length, habs.drp, habs.ins, if_neg (by omega)]; congr 1; omega
  simp only [Table.getPostBase, hpb, habs.fields_of_entry1 hpre h1 h2 hg]

/-- `base'` is the decoder's Base, `base` the section's; `href` ties them wherever `r` refers to the table (with
    `required = 0` the decoder's is 0 and nothing refers).  The `lit*` forms are the indexed ones with the value
    replaced, on both sides. -/
theorem decodeRep_ok {base' : Nat} {r : Rep} {f : Field}
    (habs : Abs d stD) (hpre : ∃ l, all = stD.all ++ l) (hden : denoteRepAll all base r = some f)
    (href : ∀ a, r.absRef base = some a → base' = base ∧ stD.dropped < a ∧ a ≤ stD.all.length) :
    decodeRep d base' r = .ok f := by
  cases r with
  | indexedStatic i => simp only [decodeRep, staticGetR, show staticGet i = some f from hden]
  | litStatic i v =>
    obtain ⟨g, hg, rfl⟩ := Option.map_eq_some_iff.mp hden
    simp only [decodeRep, staticGetR, hg, Res.bind_ok]
  | lit n v => cases hden; rfl
  | indexedDyn rel =>
    obtain ⟨rfl, h1, h2⟩ := href _ rfl
    exact getRelativeBase_live habs hpre rfl h1 h2 hden
  | indexedPost i =>
    obtain ⟨rfl, h1, h2⟩ := href _ rfl
    exact getPostBase_live habs hpre rfl h1 h2 hden
  | litDyn rel v =>
    obtain ⟨rfl, h1, h2⟩ := href _ rfl
    obtain ⟨g, hg, rfl⟩ := Option.map_eq_some_iff.mp hden
    simp only [decodeRep, getRelativeBase_live habs hpre rfl h1 h2 hg, Res.bind_ok]
  | litPost i v =>
    obtain ⟨rfl, h1, h2⟩ := href _ rfl
    obtain ⟨g, hg, rfl⟩ := Option.map_eq_some_iff.mp hden
    simp only [decodeRep, getPostBase_live habs hpre rfl h1 h2 hg, Res.bind_ok]

theorem decodeReps_ok {base' : Nat} {reps : List Rep}
    {fs : List Field} (habs : Abs d stD) (hpre : ∃ l, all = stD.all ++ l)
    (hden : denoteAll all base reps = some fs)
    (hrefs : ∀ r ∈ reps, ∀ a, r.absRef base = some a → base' = base ∧ stD.dropped < a ∧ a ≤ stD.all.length) :
    decodeReps d base' reps = .ok fs := by
  induction reps generalizing fs with
  | nil => cases hden; rfl
  | cons r rs ih =>
    obtain ⟨f, fs', rfl, hr, hrs⟩ := denoteAll_cons hden
    simp only [decodeReps, decodeRep_ok habs hpre hr (hrefs r (List.mem_cons_self ..)),
      ih hrs (fun r' hr' => hrefs r' (List.mem_cons_of_mem _ hr')), Res.bind_ok]

end

/-- Section Acknowledgements for `sid` written by the decoder and not yet read by the encoder -/
def inflight (s : Sys) (sid : Nat) : Nat := (s.decQ.drop s.decDel).count (.ack sid)

/-- What holds in addition to `SysInv` while the history has no `setCapacity` and no `cancel`: the capacity is still `cap0`
    (`noSU`); every Section Acknowledgement in flight has a decoded, unreleased block (`acks`); every entry the decoder
    has not received is referenced by an undecoded block, so the encoder cannot have evicted it (`unrecv`); the Required
    Insert Count of an undecoded block was encoded with `cap0` and is within `cap0 / 32` of the decoder (`window`). -/
structure PInv (cap0 : Nat) (s : Sys) (stE stD : STable) : Prop where
  noSU : ∀ i ∈ s.encQ, ∀ c, i ≠ .sizeUpdate c
  notCancelled : ∀ sid, (s.stream sid).cancelled = false
  noCancelInstr : ∀ i ∈ s.decQ.drop s.decDel, ∀ sid, i ≠ .cancel sid
  decDelLe : s.decDel ≤ s.decQ.length
  acks : ∀ sid, (s.stream sid).npop + inflight s sid ≤ (s.stream sid).done.length
  doneReq : ∀ sid, ∀ b ∈ (s.stream sid).done, b.required ≤ stD.all.length
  unrecv : ∀ a, stD.all.length < a → a ≤ stE.all.length →
    ∃ sid, ∃ b ∈ (s.stream sid).todo, 1 ≤ cnt b.refMap a ∧ a ≤ b.required
  window : ∀ sid, ∀ b ∈ (s.stream sid).todo, b.required ≤ stD.all.length + cap0 / 32 ∧
    ∃ T, b.required ≤ T ∧ prefixNew b.required b.base T cap0 = .ok b.blk.pfx

variable {cap0 : Nat} {s : Sys} {stE stD : STable}
variable {s' : Sys} {log : List EncInstr} {t : Table} {ss : List (Nat × StreamSt)}

theorem PInv.capE (h : SysInv cap0 s stE stD) (p : PInv cap0 s stE stD) : stE.cap = cap0 := by
  rw [STable.run_noSU_cap h.enc.run p.noSU]; rfl

theorem PInv.capD (h : SysInv cap0 s stE stD) (p : PInv cap0 s stE stD) : stD.cap = cap0 := by
  rw [STable.run_noSU_cap h.decRun (fun i hi => p.noSU i (List.mem_of_mem_take hi))]; rfl

/-- the decoder's abstract table is an earlier stage of the encoder's -/
theorem SysInv.prefix (h : SysInv cap0 s stE stD) : (∃ l, stE.all = stD.all ++ l) ∧ stD.dropped ≤ stE.dropped := by
  have hr := h.enc.run
  rw [← List.take_append_drop s.encDel s.encQ] at hr
  obtain ⟨s1, h1, h2⟩ := STable.run_prefix hr
  cases h.decRun.symm.trans h1
  exact STable.run_mono h2

/-- an undecoded block is still tracked (no acknowledgement can have released it) -/
theorem PInv.todo_unreleased (p : PInv cap0 s stE stD) {sid : Nat} {b : BlockRec} (hb : b ∈ (s.stream sid).todo) :
    b ∈ ((s.stream sid).done ++ (s.stream sid).todo).drop (s.stream sid).npop := by
  have := p.acks sid
  rw [List.drop_append_of_le_length (by omega)]
  exact List.mem_append_right _ hb

theorem PInv.dropped_le (h : SysInv cap0 s stE stD) (p : PInv cap0 s stE stD) : stE.dropped ≤ stD.all.length :=
  dropped_le_of h (fun sid => Nat.le_trans (Nat.le_add_right _ _) (p.acks sid)) p.unrecv

/-- the prefix of an undecoded section reads back at the decoder (a Required Insert Count of 0 comes with Base 0) -/
theorem prefixGet_todo (h : SysInv cap0 s stE stD) (p : PInv cap0 s stE stD)
    {sid : Nat} {b : BlockRec} (hb : b ∈ (s.stream sid).todo) :
    prefixGet b.blk.pfx stD.all.length cap0 = .ok (b.required, if b.required = 0 then 0 else b.base) := by
  obtain ⟨hwin, T, hT, hpfx⟩ := p.window sid b hb
  by_cases hr0 : b.required = 0
  · have hp0 := prefix_zero b.base T cap0 stD.all.length
    rw [hr0, hp0.1] at hpfx
    rw [← Res.ok.inj hpfx, hr0]
    exact hp0.2
  · have hbk : BlockOK stE.all b := h.blocks sid b (List.mem_append_right _ hb)
    -- the Required Insert Count is itself a referenced, hence live, entry
    have hlive : stE.dropped < b.required ∧ b.required ≤ stE.all.length := by
      rcases hbk.req with h0 | ⟨r, hr, ha⟩
      · exact absurd h0 hr0
      · exact (h.unreleased_live (p.todo_unreleased hb) (hbk.refs r hr _ ha).1).2
    have hlen := h.enc.abs.length_le
    rw [p.capE h] at hlen
    obtain ⟨⟨l, hl⟩, _⟩ := h.prefix
    have hle : stD.all.length ≤ stE.all.length := by rw [hl]; simp
    -- the window of §4.5.1.1: `required` is live, so the capacity holds an entry; and the decoder is behind the encoder
    -- (`hle`), whose at most `cap0 / 32` entries (`hlen`) start no later than `required` (`hlive.1`)
    have hcap : 1 ≤ cap0 / 32 := Nat.le_trans (Nat.le_sub_of_add_le' (Nat.lt_of_lt_of_le hlive.1 hlive.2)) hlen
    have hlow : stD.all.length < b.required + cap0 / 32 :=
      Nat.lt_of_le_of_lt hle (Nat.lt_of_le_of_lt (Nat.sub_le_iff_le_add'.mp hlen) (Nat.add_lt_add_right hlive.1 _))
    obtain ⟨p', hp1, hp2⟩ :=
      prefix_roundtrip b.required b.base T cap0 stD.all.length (Nat.pos_of_ne_zero hr0) hT hcap hwin hlow
    cases hp1.symm.trans hpfx
    rw [if_neg hr0]; exact hp2

theorem decode_todo (h : SysInv cap0 s stE stD) (p : PInv cap0 s stE stD)
    {sid : Nat} {b : BlockRec} (hb : b ∈ (s.stream sid).todo) :
    (b.required ≤ stD.all.length → decodeHeader s.dec b.blk = .ok (b.orig, decide (b.required > 0))) ∧
    (stD.all.length < b.required → decodeHeader s.dec b.blk = .err (.missingRefs b.required)) := by
  have hbk : BlockOK stE.all b := h.blocks sid b (List.mem_append_right _ hb)
  have hmax : s.dec.maxSize = cap0 := by rw [h.decAbs.max, p.capD h]
  have htot : s.dec.totalInserted = stD.all.length := h.decAbs.ins
  obtain ⟨hpre, hdm⟩ := h.prefix
  unfold decodeHeader
  rw [hmax, htot, prefixGet_todo h p hb]
  simp only [Res.bind_ok]
  refine ⟨fun hle => ?_, fun hlt => if_pos hlt⟩
  rw [if_neg (Nat.not_lt.mpr hle)]
  -- what a representation refers to is held by this unacknowledged section, so the encoder has not evicted it, and is
  -- at most `required`, so the decoder has it
  have hdec : decodeReps s.dec (if b.required = 0 then 0 else b.base) b.blk.reps = .ok b.orig :=
    decodeReps_ok h.decAbs hpre hbk.den (fun r hr a ha => by
      have h1 := hbk.refs r hr a ha
      have h2 := (h.unreleased_live (p.todo_unreleased hb) h1.1).2.1
      exact ⟨if_neg (by omega), by omega, by omega⟩)
  rw [hdec]; rfl

theorem decode_head {cap0 : Nat} {s : Sys} {stE stD : STable} (h : SysInv cap0 s stE stD) (p : PInv cap0 s stE stD)
    {sid : Nat} {b : BlockRec} {rest : List BlockRec} (ht : (s.stream sid).todo = b :: rest) :
    (b.required ≤ stD.all.length → decodeHeader s.dec b.blk = .ok (b.orig, decide (b.required > 0))) ∧
    (stD.all.length < b.required → decodeHeader s.dec b.blk = .err (.missingRefs b.required)) :=
  decode_todo h p (ht ▸ List.mem_cons_self ..)

theorem pinv_init {cap bl : Nat} (h : Sys.init cap bl = .ok s) : PInv cap s (initST cap) (initST cap) := by
  obtain ⟨rfl, _⟩ := init_spec h
  exact {
    noSU := by intro i hi; cases hi
    notCancelled := by intro sid; simp [Sys.stream]
    noCancelInstr := by intro i hi; cases hi
    decDelLe := Nat.le_refl _
    acks := by intro sid; simp [Sys.stream, inflight]
    doneReq := by intro sid b hb; simp [Sys.stream] at hb
    unrecv := by intro a h1 h2; simp [initST] at h1 h2; omega
    window := by intro sid b hb; simp [Sys.stream] at hb }

theorem forall_stream_aset {P : Nat → StreamSt → Prop} {sid : Nat} {st' : StreamSt}
    (hst : s'.streams = aset s.streams sid st') (h : ∀ x, sid ≠ x → P x (s.stream x)) (hs : P sid st') :
    ∀ x, P x (s'.stream x) := by
  intro x
  rw [stream_of_aset hst x]
  by_cases hx : sid = x
  · subst hx; rw [if_pos rfl]; exact hs
  · rw [if_neg hx]; exact h x hx

theorem drop_decQ_append {w : List DecInstr} (hq : s'.decQ = s.decQ ++ w) (hd : s'.decDel = s.decDel)
    (hle : s.decDel ≤ s.decQ.length) : s'.decQ.drop s'.decDel = s.decQ.drop s.decDel ++ w := by
  rw [hq, hd, List.drop_append_of_le_length hle]

theorem pinv_encode {sid : Nat} {fields : List Field} {out : Out}
    (h : SysInv cap0 s stE stD) (p : PInv cap0 s stE stD) (hs : step s (.encode sid fields) = .ok (s', out)) :
    ∃ stE', SysInv cap0 s' stE' stD ∧ PInv cap0 s' stE' stD := by
  obtain ⟨enc, stE', hi, hf, _, hq, hdq, hdd, hst⟩ := step_encode_inv h hs
  refine ⟨stE', hi, ?_⟩
  have hinfl : ∀ x, inflight s' x = inflight s x := by intro x; simp [inflight, hdq, hdd]
  have hacks : ∀ x, (s'.stream x).npop + inflight s' x ≤ (s'.stream x).done.length :=
    forall_stream_aset (P := fun x st => st.npop + inflight s' x ≤ st.done.length) hst
      (fun x _ => hinfl x ▸ p.acks x) (hinfl sid ▸ p.acks sid)
  have hun : ∀ a, stD.all.length < a → a ≤ stE'.all.length →
      ∃ x, ∃ b ∈ (s'.stream x).todo, 1 ≤ cnt b.refMap a ∧ a ≤ b.required := by
    intro a h1 h2
    by_cases ha : a ≤ stE.all.length
    · obtain ⟨x, b, hb, hc⟩ := p.unrecv a h1 ha
      exact ⟨x, b, forall_stream_aset (P := fun x st => b ∈ (s.stream x).todo → b ∈ st.todo) hst (fun _ _ hb => hb)
        (List.mem_append_left _) x hb, hc⟩
    · refine ⟨sid, .ofEncoded fields enc s.enc.maxSize, ?_, hf.new a (by omega) h2⟩
      rw [stream_of_aset hst sid, if_pos rfl]; simp
  have hcapE : stE.cap = cap0 := p.capE h
  exact {
    noSU := by rw [hq]; exact List.forall_mem_append.mpr ⟨p.noSU, hf.noSU⟩
    notCancelled := forall_stream_aset (P := fun _ st => st.cancelled = false) hst (fun x _ => p.notCancelled x) (p.notCancelled sid)
    noCancelInstr := by rw [hdq, hdd]; exact p.noCancelInstr
    decDelLe := by rw [hdq, hdd]; exact p.decDelLe
    acks := hacks
    doneReq := forall_stream_aset (P := fun _ st => ∀ b ∈ st.done, b.required ≤ stD.all.length) hst (fun x _ => p.doneReq x)
      (p.doneReq sid)
    unrecv := hun
    window := by
      refine forall_stream_aset (P := fun _ st => ∀ b ∈ st.todo, b.required ≤ stD.all.length + cap0 / 32 ∧
        ∃ T, b.required ≤ T ∧ prefixNew b.required b.base T cap0 = .ok b.blk.pfx) hst (fun x _ => p.window x) ?_
      refine forall_mem_snoc (p.window sid) ?_
      -- the new block: all it requires is in the encoder's table (`reqLe`), which holds at most `cap0 / 32` entries
      -- (`hlen`), none of them evicted before the decoder received it (`hW`)
      have hlen := hi.enc.abs.length_le
      rw [hf.cap, hcapE] at hlen
      have hW := dropped_le_of hi (fun x => Nat.le_trans (Nat.le_add_right _ _) (hacks x)) hun
      refine ⟨Nat.le_trans hf.reqLe (Nat.le_trans (Nat.sub_le_iff_le_add'.mp hlen) (Nat.add_le_add_right hW _)),
        stE'.all.length, hf.reqLe, ?_⟩
      have := hf.pfx; rw [hcapE] at this; exact this }

theorem pinv_deliverEnc {k : Nat} {out : Out}
    (h : SysInv cap0 s stE stD) (p : PInv cap0 s stE stD) (hs : step s (.deliverEnc k) = .ok (s', out)) :
    ∃ stD', SysInv cap0 s' stE stD' ∧ PInv cap0 s' stE stD' := by
  obtain ⟨s2, out2, stD', h2, hi, he, hst, hq, hdd, hmono, hdq⟩ := step_deliverEnc_ok h k
  cases Res.ok_inj h2 hs
  refine ⟨stD', hi, ?_⟩
  have hstream : ∀ x, s'.stream x = s.stream x := fun x => by unfold Sys.stream; rw [hst]
  -- at most an Insert Count Increment was written
  obtain ⟨w, hw, hwi⟩ : ∃ w, s'.decQ = s.decQ ++ w ∧ ∀ i ∈ w, ∃ n, i = .incr n := by
    rcases hdq with e | ⟨n, e⟩
    · exact ⟨[], by rw [e, List.append_nil], fun _ hi => nomatch hi⟩
    · exact ⟨[.incr n], e, fun i hi => ⟨n, List.mem_singleton.mp hi⟩⟩
  have hdrop := drop_decQ_append hw hdd p.decDelLe
  exact {
    noSU := by rw [hq]; exact p.noSU
    notCancelled := by intro x; rw [hstream x]; exact p.notCancelled x
    noCancelInstr := by
      rw [hdrop]
      refine List.forall_mem_append.mpr ⟨p.noCancelInstr, fun i hi x e => ?_⟩
      obtain ⟨n, rfl⟩ := hwi i hi; cases e
    decDelLe := by rw [hw, hdd, List.length_append]; exact Nat.le_trans p.decDelLe (Nat.le_add_right _ _)
    acks := by
      intro x
      have : w.count (.ack x) = 0 := List.count_eq_zero.mpr fun hm => by obtain ⟨n, e⟩ := hwi _ hm; cases e
      simp only [inflight]; rw [hdrop, List.count_append, this, hstream x]; exact p.acks x
    doneReq := by intro x b hb; rw [hstream x] at hb; exact Nat.le_trans (p.doneReq x b hb) hmono
    unrecv := by
      intro a h1 h2'
      obtain ⟨x, b, hb, hc⟩ := p.unrecv a (Nat.lt_of_le_of_lt hmono h1) h2'
      exact ⟨x, b, by rw [hstream x]; exact hb, hc⟩
    window := by
      intro x b hb; rw [hstream x] at hb
      obtain ⟨w1, w2⟩ := p.window x b hb
      exact ⟨Nat.le_trans w1 (Nat.add_le_add_right hmono _), w2⟩ }

theorem pinv_deliverBlock {sid : Nat} {out : Out}
    (h : SysInv cap0 s stE stD) (p : PInv cap0 s stE stD) (hs : step s (.deliverBlock sid) = .ok (s', out)) :
    SysInv cap0 s' stE stD ∧ PInv cap0 s' stE stD := by
  obtain ⟨hi, _, hq, hdd, hcase⟩ := step_deliverBlock_inv h hs
  refine ⟨hi, ?_⟩
  rcases hcase with e | ⟨b, rest, dynRef, fs, ht, hdec, hst, hdq⟩
  · subst e; exact p
  · -- the block was not blocked, so the decoder had everything it requires
    have hreq : b.required ≤ stD.all.length := by
      apply Nat.le_of_not_lt; intro hlt
      rw [(decode_head h p ht).2 hlt] at hdec; cases hdec
    -- at most its Section Acknowledgement was written
    have hsub : List.Sublist (if dynRef then [DecInstr.ack sid] else []) [.ack sid] := by cases dynRef <;> simp
    have hdrop := drop_decQ_append hdq hdd p.decDelLe
    have hcount : ∀ x, inflight s' x ≤ inflight s x + (if sid = x then 1 else 0) := by
      intro x; simp only [inflight]; rw [hdrop, List.count_append]
      have := hsub.count_le (.ack x)
      simp only [List.count_singleton, beq_iff_eq, DecInstr.ack.injEq] at this
      exact Nat.add_le_add_left this _
    exact {
      noSU := by rw [hq]; exact p.noSU
      notCancelled := forall_stream_aset (P := fun _ st => st.cancelled = false) hst (fun x _ => p.notCancelled x) (p.notCancelled sid)
      noCancelInstr := by
        rw [hdrop]
        refine List.forall_mem_append.mpr ⟨p.noCancelInstr, fun i hi x e => ?_⟩
        cases List.mem_singleton.mp (hsub.subset hi); cases e
      decDelLe := by rw [hdq, hdd, List.length_append]; exact Nat.le_trans p.decDelLe (Nat.le_add_right _ _)
      acks := by
        refine forall_stream_aset (P := fun x st => st.npop + inflight s' x ≤ st.done.length) hst (fun x hx => ?_) ?_
        · have h1 := hcount x; have h2 := p.acks x
          rw [if_neg hx] at h1; omega
        · have h1 := hcount sid; have h2 := p.acks sid
          rw [if_pos rfl] at h1; simp only [List.length_append, List.length_singleton]; omega
      doneReq := forall_stream_aset (P := fun _ st => ∀ b ∈ st.done, b.required ≤ stD.all.length) hst (fun x _ => p.doneReq x)
        (forall_mem_snoc (p.doneReq sid) hreq)
      unrecv := by
        intro a h1 h2
        obtain ⟨x, b', hb', hc1, hc2⟩ := p.unrecv a h1 h2
        refine ⟨x, b', forall_stream_aset (P := fun x st => b' ∈ (s.stream x).todo → b' ∈ st.todo) hst (fun _ _ hb => hb)
          (fun hb => ?_) x hb', hc1, hc2⟩
        rw [ht] at hb
        rcases List.mem_cons.mp hb with e | e
        · subst e; omega
        · exact e
      window := forall_stream_aset (P := fun _ st => ∀ b ∈ st.todo, b.required ≤ stD.all.length + cap0 / 32 ∧
          ∃ T, b.required ≤ T ∧ prefixNew b.required b.base T cap0 = .ok b.blk.pfx) hst (fun x _ => p.window x)
        (fun b' hb' => p.window sid b' (by rw [ht]; exact List.mem_cons_of_mem _ hb')) }

theorem popGhost_stream (t : Table) (ss : List (Nat × StreamSt)) {i : DecInstr} (hno : ∀ sid, i ≠ .cancel sid)
    (sid : Nat) :
    (aget (popGhost t ss i) sid).getD {} =
      { (aget ss sid).getD {} with npop := ((aget ss sid).getD {}).npop + (if i = .ack sid then 1 else 0) } := by
  cases i with
  | cancel x => exact absurd rfl (hno x)
  | incr n => simp only [popGhost]; rw [if_neg (fun e => nomatch e)]; exact (StreamSt.npop_add_zero _).symm
  | ack x =>
    simp only [popGhost, stream_aset]
    by_cases hx : x = sid
    · subst hx; simp
    · rw [if_neg hx, if_neg (fun e => hx (DecInstr.ack.inj e))]; exact (StreamSt.npop_add_zero _).symm

theorem popGhost_view (t : Table) (ss : List (Nat × StreamSt)) {i : DecInstr} (hno : ∀ sid, i ≠ .cancel sid)
    (sid : Nat) :
    ((aget (popGhost t ss i) sid).getD {}).done = ((aget ss sid).getD {}).done ∧
    ((aget (popGhost t ss i) sid).getD {}).npop = ((aget ss sid).getD {}).npop + (if i = .ack sid then 1 else 0) := by
  rw [popGhost_stream t ss hno sid]; exact ⟨rfl, rfl⟩

theorem acks_step (t : Table) (ss : List (Nat × StreamSt)) {i : DecInstr} {r rest : List DecInstr}
    (hno : ∀ sid, i ≠ .cancel sid)
    (hacks : ∀ sid, ((aget ss sid).getD {}).npop + (i :: r ++ rest).count (.ack sid) ≤ ((aget ss sid).getD {}).done.length)
    (sid : Nat) :
    ((aget (popGhost t ss i) sid).getD {}).npop + (r ++ rest).count (.ack sid) ≤
      ((aget (popGhost t ss i) sid).getD {}).done.length := by
  obtain ⟨hdone, hnpop⟩ := popGhost_view t ss hno sid
  have := hacks sid
  rw [hdone, hnpop]
  simp only [List.cons_append, List.count_cons, beq_iff_eq] at this ⊢
  omega

theorem deliverAcks_counts {t t' : Table} {ss ss' : List (Nat × StreamSt)} {ins : List DecInstr} (rest : List DecInstr)
    (hno : ∀ i ∈ ins, ∀ sid, i ≠ .cancel sid) (hok : deliverAcks t ss ins = .ok (t', ss'))
    (hacks : ∀ sid, ((aget ss sid).getD {}).npop + (ins ++ rest).count (.ack sid) ≤ ((aget ss sid).getD {}).done.length) :
    (∀ sid, ((aget ss' sid).getD {}).done = ((aget ss sid).getD {}).done ∧
            ((aget ss' sid).getD {}).todo = ((aget ss sid).getD {}).todo ∧
            ((aget ss' sid).getD {}).cancelled = ((aget ss sid).getD {}).cancelled) ∧
    (∀ sid, ((aget ss' sid).getD {}).npop + rest.count (.ack sid) ≤ ((aget ss' sid).getD {}).done.length) := by
  induction ins generalizing t ss with
  | nil => cases hok; exact ⟨fun _ => ⟨rfl, rfl, rfl⟩, hacks⟩
  | cons i r ih =>
    obtain ⟨t1, _, hok⟩ := Res.bind_eq_ok.mp hok
    have hnoi := hno i (List.mem_cons_self ..)
    obtain ⟨h1, h2⟩ := ih (fun j hj => hno j (List.mem_cons_of_mem _ hj)) hok (acks_step t ss hnoi hacks)
    refine ⟨fun sid => ?_, h2⟩
    have := h1 sid
    rw [popGhost_stream t ss hnoi sid] at this
    exact this

theorem drop_take_length (l : List α) (k : Nat) : l.drop (l.take k).length = l.drop k := by
  simp [List.length_take, List.drop_eq_drop_iff]

theorem decQ_split (s : Sys) (k : Nat) :
    (s.decQ.drop s.decDel).take k ++ s.decQ.drop (s.decDel + ((s.decQ.drop s.decDel).take k).length) =
      s.decQ.drop s.decDel := by
  rw [← List.drop_drop, drop_take_length, List.take_append_drop]

theorem pinv_deliverAck {k : Nat} {out : Out}
    (h : SysInv cap0 s stE stD) (p : PInv cap0 s stE stD) (hs : step s (.deliverAck k) = .ok (s', out)) :
    SysInv cap0 s' stE stD ∧ PInv cap0 s' stE stD := by
  rcases step_deliverAck_inv h k with ⟨e, he⟩ | ⟨s2, out2, h2, hi, _, hq, hdq, hdd, hda⟩
  · rw [he] at hs; cases hs
  · cases Res.ok_inj h2 hs
    refine ⟨hi, ?_⟩
    obtain ⟨hv, hacks⟩ := deliverAcks_counts (s.decQ.drop (s.decDel + ((s.decQ.drop s.decDel).take k).length))
      (fun i hi' => p.noCancelInstr i (List.mem_of_mem_take hi')) hda (by
        intro sid; rw [decQ_split]; exact p.acks sid)
    exact {
      noSU := by rw [hq]; exact p.noSU
      notCancelled := fun x => (hv x).2.2.trans (p.notCancelled x)
      noCancelInstr := by
        intro i hi' x
        rw [hdq, hdd, ← List.drop_drop] at hi'
        exact p.noCancelInstr i (List.mem_of_mem_drop hi') x
      decDelLe := by
        rw [hdq, hdd]; simp only [List.length_take, List.length_drop]; have := p.decDelLe; omega
      acks := by intro x; simp only [inflight]; rw [hdq, hdd]; exact hacks x
      doneReq := fun x b hb => p.doneReq x b (by
        show b ∈ ((aget s.streams x).getD {}).done; rw [← (hv x).1]; exact hb)
      unrecv := by
        intro a h1 h2
        obtain ⟨x, b, hb, hc'⟩ := p.unrecv a h1 h2
        exact ⟨x, b, by show b ∈ ((aget s'.streams x).getD {}).todo; rw [(hv x).2.1]; exact hb, hc'⟩
      window := fun x b hb => p.window x b (by
        show b ∈ ((aget s.streams x).getD {}).todo; rw [← (hv x).2.1]; exact hb) }

def Event.plain : Event → Bool
  | .setCapacity _ => false
  | .cancel _ => false
  | _ => true

/-- the decidable predicate that delimits the partial theorem: no `setCapacity`, no `cancel` -/
def plainHistory (evs : List Event) : Bool := evs.all Event.plain

theorem step_pinv {ev : Event} {out : Out}
    (h : SysInv cap0 s stE stD) (p : PInv cap0 s stE stD) (hp : ev.plain = true) (hs : step s ev = .ok (s', out)) :
    ∃ stE' stD', SysInv cap0 s' stE' stD' ∧ PInv cap0 s' stE' stD' := by
  cases ev with
  | encode sid fields =>
    obtain ⟨stE1, h1, p1⟩ := pinv_encode h p hs
    exact ⟨stE1, stD, h1, p1⟩
  | deliverEnc k =>
    obtain ⟨stD1, h1, p1⟩ := pinv_deliverEnc h p hs
    exact ⟨stE, stD1, h1, p1⟩
  | deliverBlock sid => exact ⟨stE, stD, pinv_deliverBlock h p hs⟩
  | deliverAck k => exact ⟨stE, stD, pinv_deliverAck h p hs⟩
  | setCapacity c => cases hp
  | cancel sid => cases hp

theorem decoderInstr_ok (h : AckInv cap0 log stE t ss) {i : DecInstr}
    (hack : ∀ sid, i = .ack sid → ((aget ss sid).getD {}).npop < ((aget ss sid).getD {}).done.length) :
    ∃ t', decoderInstr t i = .ok t' ∧ AckInv cap0 log stE t' (popGhost t ss i) := by
  rcases decoderInstr_inv h i with ⟨sid, rfl, hn, _⟩ | ⟨t', h1, hi, _⟩
  · -- `track_blocks` has no queue for the stream: every block on it is released
    have hlen := congrArg (fun q => (Option.getD q []).length) (h.queues sid)
    have hlt := hack sid rfl
    simp only [hn, getD_qOf, Option.getD_none, List.length_nil, List.length_map, List.length_drop,
      List.length_append] at hlen
    omega
  · exact ⟨t', h1, hi⟩

theorem deliverAcks_ok (h : AckInv cap0 log stE t ss) {ins : List DecInstr} (rest : List DecInstr)
    (hno : ∀ i ∈ ins, ∀ sid, i ≠ .cancel sid)
    (hacks : ∀ sid, ((aget ss sid).getD {}).npop + (ins ++ rest).count (.ack sid) ≤ ((aget ss sid).getD {}).done.length) :
    ∃ t' ss', deliverAcks t ss ins = .ok (t', ss') := by
  induction ins generalizing t ss with
  | nil => exact ⟨t, ss, rfl⟩
  | cons i r ih =>
    obtain ⟨t1, h1, hi1⟩ := decoderInstr_ok h (i := i) (by
      intro sid hi
      have := hacks sid
      subst hi
      simp only [List.cons_append, List.count_cons_self] at this
      omega)
    simp only [deliverAcks, h1, Res.bind_ok]
    exact ih hi1 (fun j hj => hno j (List.mem_cons_of_mem _ hj))
      (acks_step t ss (hno i (List.mem_cons_self ..)) hacks)

/-- **`deliverAck` is total** in the states of plain histories: whatever the decoder has written is
    accepted by the encoder -/
theorem step_deliverAck_ok {cap0 : Nat} {s : Sys} {stE stD : STable} (h : SysInv cap0 s stE stD)
    (p : PInv cap0 s stE stD) (k : Nat) :
    ∃ s', step s (.deliverAck k) = .ok (s', .ackRecv (min k (s.decQ.length - s.decDel))) ∧
      s'.decDel = s.decDel + min k (s.decQ.length - s.decDel) ∧ s'.decQ = s.decQ := by
  obtain ⟨t', ss', hok⟩ := deliverAcks_ok h.toAck (s.decQ.drop (s.decDel + ((s.decQ.drop s.decDel).take k).length))
    (fun i hi' => p.noCancelInstr i (List.mem_of_mem_take hi')) (by
      intro sid; rw [decQ_split]; exact p.acks sid)
  have hlen : ((s.decQ.drop s.decDel).take k).length = min k (s.decQ.length - s.decDel) := by
    simp [List.length_take, List.length_drop]
  simp only [step, hok, Res.bind_ok, hlen]
  exact ⟨_, rfl, rfl, rfl⟩

theorem step_plain_ok (h : SysInv cap0 s stE stD)
    (p : PInv cap0 s stE stD) {ev : Event} (hp : ev.plain = true) : ∃ s' out, step s ev = .ok (s', out) := by
  cases ev with
  | encode sid fields =>
    obtain ⟨enc, stE', he, _⟩ := encode_spec h.enc sid fields
    simp only [step, he, Res.bind_ok]
    exact ⟨_, _, rfl⟩
  | deliverEnc k =>
    obtain ⟨s', out, _, hs, _⟩ := step_deliverEnc_ok h k
    exact ⟨s', out, hs⟩
  | deliverBlock sid =>
    have hnc := p.notCancelled sid
    cases ht : (s.stream sid).todo with
    | nil => exact ⟨s, .skip, by simp [step, hnc, ht]⟩
    | cons b rest =>
      obtain ⟨hd1, hd2⟩ := decode_head h p ht
      rcases Nat.lt_or_ge stD.all.length b.required with hlt | hle
      · exact ⟨s, .blocked b.required, by simp only [step, hnc, ht, hd2 hlt]⟩
      · simp only [step, hnc, ht, hd1 hle]
        exact ⟨_, _, rfl⟩
  | deliverAck k =>
    obtain ⟨s', hs, _⟩ := step_deliverAck_ok h p k
    exact ⟨s', _, hs⟩
  | setCapacity c => cases hp
  | cancel sid => cases hp

theorem run_plain {evs : List Event} (h : SysInv cap0 s stE stD) (p : PInv cap0 s stE stD)
    (hp : plainHistory evs = true) :
    ∃ s' stE' stD', run s evs = some s' ∧ SysInv cap0 s' stE' stD' ∧ PInv cap0 s' stE' stD' := by
  induction evs generalizing s stE stD with
  | nil => exact ⟨s, stE, stD, rfl, h, p⟩
  | cons ev r ih =>
    obtain ⟨hp1, hp2⟩ := Bool.and_eq_true_iff.mp (show (ev.plain && plainHistory r) = true from hp)
    obtain ⟨s1, out, hs⟩ := step_plain_ok h p hp1
    obtain ⟨stE1, stD1, h1, p1⟩ := step_pinv h p hp1 hs
    simp only [run, hs]
    exact ih h1 p1 hp2

theorem run_plain_total {cap bl : Nat} {s0 : Sys} {evs : List Event} (h0 : Sys.init cap bl = .ok s0)
    (hp : plainHistory evs = true) : ∃ s, run s0 evs = some s :=
  let ⟨s, _, _, hr, _⟩ := run_plain (init_inv h0) (pinv_init h0) hp
  ⟨s, hr⟩

theorem run_pinv {cap bl : Nat} {s0 s : Sys} {evs : List Event} (h0 : Sys.init cap bl = .ok s0)
    (hp : plainHistory evs = true) (hr : run s0 evs = some s) :
    ∃ stE stD, SysInv cap s stE stD ∧ PInv cap s stE stD := by
  obtain ⟨s', stE, stD, hr', h, p⟩ := run_plain (init_inv h0) (pinv_init h0) hp
  cases hr'.symm.trans hr
  exact ⟨stE, stD, h, p⟩

theorem foldl_max_eq {L : List Nat} {init r : Nat} (hle : ∀ x ∈ L, x ≤ r) (hi : init ≤ r)
    (hatt : init = r ∨ r ∈ L) : L.foldl max init = r := by
  induction L generalizing init with
  | nil => simp at hatt ⊢; exact hatt
  | cons x xs ih =>
    simp only [List.foldl_cons]
    apply ih (fun y hy => hle y (List.mem_cons_of_mem _ hy))
    · exact Nat.max_le.mpr ⟨hi, hle x (by simp)⟩
    · rcases hatt with h | h
      · subst h; left; exact Nat.max_eq_left (hle x (by simp))
      · rcases List.mem_cons.mp h with e | e
        · subst e; left; exact Nat.max_eq_right hi
        · exact Or.inr e

theorem insertCountOf_eq_some {base : Nat} {r : Rep} {x : Nat} :
    H3.Spec.Dyn.insertCountOf base r = some x ↔ r.absRef base = some x ∧ 1 ≤ x := by
  have hdyn : ∀ rel, (match some (if rel < base then some (base - 1 - rel) else none : Option Nat) with
      | some (some a) => some (a + 1) | _ => none) = some x ↔ some (base - rel) = some x ∧ 1 ≤ x := by
    intro rel
    by_cases h : rel < base
    · rw [if_pos h]; simp only [Option.some.injEq]; omega
    · rw [if_neg h]; simp only [Option.some.injEq, reduceCtorEq, false_iff]; omega
  cases r <;> simp only [H3.Spec.Dyn.insertCountOf, H3.Spec.Dyn.absIndex, Rep.absRef, reduceCtorEq, false_and]
  · exact hdyn _
  · simp only [Option.some.injEq]; omega
  · exact hdyn _
  · simp only [Option.some.injEq]; omega

theorem BlockOK.required_eq_spec {all : List Field} {b : BlockRec} (h : BlockOK all b) :
    b.required = H3.Spec.Dyn.requiredInsertCount b.base b.blk.reps := by
  unfold H3.Spec.Dyn.requiredInsertCount
  symm
  apply foldl_max_eq
  · intro x hx
    obtain ⟨r, hr, he⟩ := List.mem_filterMap.mp hx
    exact (h.refs r hr x (insertCountOf_eq_some.mp he).1).2.1
  · exact Nat.zero_le _
  · exact h.req.imp Eq.symm fun ⟨r, hr, ha⟩ =>
      List.mem_filterMap.mpr ⟨r, hr, insertCountOf_eq_some.mpr ⟨ha, (h.refs r hr _ ha).2.2⟩⟩

theorem denoteRep_of_all {st : STable} {base : Nat} {r : Rep} {f : Field}
    (hden : denoteRepAll st.all base r = some f)
    (hlive : ∀ a, r.absRef base = some a → st.dropped < a) : H3.Spec.Dyn.denoteRep st base r = some f := by
  have hent : ∀ a, st.dropped < a → entry1 st.all a = st.entry (a - 1) := by
    intro a ha; unfold entry1 STable.entry; rw [if_neg (by omega), if_neg (by omega)]
  have hdyn : ∀ rel, st.dropped < base - rel → rel < base ∧ entry1 st.all (base - rel) = st.entry (base - 1 - rel) := by
    intro rel hl
    rw [hent _ hl, show base - rel - 1 = base - 1 - rel by omega]; exact ⟨by omega, rfl⟩
  have hpost : ∀ i, st.dropped < base + i + 1 → entry1 st.all (base + i + 1) = st.entry (base + i) :=
    fun i hl => hent _ hl
  cases r with
  | indexedStatic i => exact hden
  | litStatic i v => exact hden
  | lit n v => exact hden
  | indexedDyn rel =>
    obtain ⟨hlt, he⟩ := hdyn rel (hlive _ rfl)
    simp only [H3.Spec.Dyn.denoteRep, if_pos hlt, ← he]; exact hden
  | indexedPost i => simp only [H3.Spec.Dyn.denoteRep, ← hpost i (hlive _ rfl)]; exact hden
  | litDyn rel v =>
    obtain ⟨hlt, he⟩ := hdyn rel (hlive _ rfl)
    simp only [H3.Spec.Dyn.denoteRep, if_pos hlt, ← he]; exact hden
  | litPost i v => simp only [H3.Spec.Dyn.denoteRep, ← hpost i (hlive _ rfl)]; exact hden

theorem denote_of_all {st : STable} {base : Nat} {reps : List Rep} {fs : List Field}
    (hden : denoteAll st.all base reps = some fs)
    (hlive : ∀ r ∈ reps, ∀ a, r.absRef base = some a → st.dropped < a) :
    H3.Spec.Dyn.denote st base reps = some fs := by
  induction reps generalizing fs with
  | nil => simpa [denoteAll, H3.Spec.Dyn.denote] using hden
  | cons r rs ih =>
    obtain ⟨f, fs', hfs, hr, hrs⟩ := denoteAll_cons hden
    subst hfs
    simp only [H3.Spec.Dyn.denote, denoteRep_of_all hr (hlive r (by simp)), Option.bind_some,
      ih hrs (fun r' hr' => hlive r' (List.mem_cons_of_mem _ hr')), Option.map_some]

end H3.Dyn
