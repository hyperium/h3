import H3.Model.ReqRecv
import H3.Gen.ReqArms
import H3.Gen.FirstFrame
import H3.Gen.FrameErrCodes
/-! Agreement of the request-stream model (`H3.ReqRecv`, C03/C06/C07) with the decision tables the
    translator reads out of the Rust sources on every run:

    * `H3.Gen.ReqArms`    — the arms of the `match`es of `RequestStream::poll_recv_data` and
                            `poll_recv_trailers` (`h3/src/connection.rs`),
    * `H3.Gen.FirstFrame` — server `accept_with_frame`, client `recv_response`,
    * `H3.Gen.FrameErrCodes` — `got_frame_error`, `handle_frame_stream_error_on_request_stream`.

    The model's step functions decide inline (a `match` on the frame layer's answer inside
    `pollRecvData`, `trailersFirst`, `trailersCheck`, `pollResolve`, `pollRecvResponse`).  Every theorem
    here says: *on this answer of the frame layer the step function does exactly what the
    generated table says, read through a fixed interpretation of the table's action names*
    (`bodyReact`, `firstReact`, `afterReact`, `headReact`).  When an arm of the Rust source
    changes, the generated table changes and the theorem about it stops to hold. -/
namespace H3.GenAgree.Req
open H3.Frame H3.ReqRecv H3.Gen.Consts

variable {σ : Type}

/-! ### the variants of `enum Frame` and the frames of the model -/

def kindOf : Frame → Gen.ReqArms.Kind
  | .data _ => .data
  | .headers _ => .headers
  | .cancelPush _ => .cancelPush
  | .settings _ => .settings
  | .pushPromise _ _ => .pushPromise
  | .goaway _ => .goaway
  | .maxPushId _ => .maxPushId
  | .webTransport _ => .webTransportStream

def kindOf1 : Frame → Gen.FirstFrame.Kind
  | .data _ => .data
  | .headers _ => .headers
  | .cancelPush _ => .cancelPush
  | .settings _ => .settings
  | .pushPromise _ _ => .pushPromise
  | .goaway _ => .goaway
  | .maxPushId _ => .maxPushId
  | .webTransport _ => .webTransportStream

/-- Every variant of the Rust `enum Frame` is a frame of the model, except `Grease` (which only the
    send side builds; `Frame::decode` has no arm producing it — `H3.GenAgree.Frame`).  A variant
    added to the enum makes this fail. -/
theorem kindOf_covers : ∀ k : Gen.ReqArms.Kind, k = .grease ∨ ∃ f, kindOf f = k := by
  intro k
  cases k
  · exact .inr ⟨.data 0, rfl⟩
  · exact .inr ⟨.headers [], rfl⟩
  · exact .inr ⟨.cancelPush 0, rfl⟩
  · exact .inr ⟨.settings [], rfl⟩
  · exact .inr ⟨.pushPromise 0 [], rfl⟩
  · exact .inr ⟨.goaway 0, rfl⟩
  · exact .inr ⟨.maxPushId 0, rfl⟩
  · exact .inr ⟨.webTransport 0, rfl⟩
  · exact .inl rfl

theorem kindOf1_covers : ∀ k : Gen.FirstFrame.Kind, k = .grease ∨ ∃ f, kindOf1 f = k := by
  intro k
  cases k
  · exact .inr ⟨.data 0, rfl⟩
  · exact .inr ⟨.headers [], rfl⟩
  · exact .inr ⟨.cancelPush 0, rfl⟩
  · exact .inr ⟨.settings [], rfl⟩
  · exact .inr ⟨.pushPromise 0 [], rfl⟩
  · exact .inr ⟨.goaway 0, rfl⟩
  · exact .inr ⟨.maxPushId 0, rfl⟩
  · exact .inr ⟨.webTransport 0, rfl⟩
  · exact .inl rfl

/-- the block a pattern `Frame::Headers(block)` binds -/
def blockOf : Frame → Option Bytes
  | .headers enc => some enc
  | _ => none

/-! ### `handle_frame_stream_error_on_request_stream` -/

/-- the frame-error classes of the model and the variants of `FrameProtocolError` they stand for -/
def protoOf : FrameErr → Gen.FrameErrCodes.ProtoErr
  | .malformed => .malformed
  | .unsupported _ => .forbiddenFrame
  | .settings _ => .settings

/-- `got_frame_error` -/
theorem frameErrCode_agrees : ∀ e, frameErrCode e = Gen.FrameErrCodes.code (protoOf e) := by
  intro e
  cases e <;> rfl

/-- the three arms: `Quic(e)` is the stream's own error, `Proto(e)` a connection error with the code
    of `got_frame_error`, `UnexpectedEnd` a connection error with the generated code -/
theorem fsErr_agrees (st : St σ) :
    (∀ c, fsErr st (.errQuic c) = (.errReset c, st)) ∧
    (∀ e, fsErr st (.errProto e) = connErr st (Gen.FrameErrCodes.code (protoOf e))) ∧
    fsErr st .errEnd = connErr st Gen.FrameErrCodes.requestStreamUnexpectedEnd :=
  ⟨fun _ => rfl, fun e => by cases e <;> rfl, rfl⟩

/-! ### `poll_recv_data` -/

/-- what the model does for an action of the `match` inside `while !has_data()`; `st'` is the
    state after `poll_next`, `o` its answer -/
def bodyReact (S : Src σ) (fuel : Nat) (st' : St σ) (o : FOut) (block : Option Bytes) :
    Gen.ReqArms.Act → Res × St σ
  | .fsErr => fsErr st' o
  | .none_ => (.end_, st')
  | .keepTrailers =>
    match block with
    | some enc => (.end_, { st' with trailers := some enc })
    | none => (.invalid, st')
  | .goOn => pollRecvData S fuel st'
  | .connErr c => connErr st' c
  | _ => (.invalid, st')

theorem pollRecvData_frame (S : Src σ) (fuel : Nat) (st : St σ) (f : Frame) (s' : σ)
    (hd : S.hasData st.src = false) (hn : S.pollNext st.src = (.frame f, s')) :
    pollRecvData S (fuel + 1) st =
      bodyReact S fuel { st with src := s' } (.frame f) (blockOf f) (Gen.ReqArms.body (kindOf f)) := by
  rw [pollRecvData]
  simp only [hd, hn]
  cases f <;> rfl

theorem pollRecvData_fin (S : Src σ) (fuel : Nat) (st : St σ) (s' : σ)
    (hd : S.hasData st.src = false) (hn : S.pollNext st.src = (.none, s')) :
    pollRecvData S (fuel + 1) st =
      bodyReact S fuel { st with src := s' } .none none Gen.ReqArms.bodyOnFin := by
  rw [pollRecvData]
  simp only [hd, hn]
  rfl

/-- the answers `Err(_)` of `poll_next` -/
def IsErr : FOut → Prop
  | .errQuic _ | .errProto _ | .errEnd => True
  | _ => False

theorem pollRecvData_err (S : Src σ) (fuel : Nat) (st : St σ) (o : FOut) (s' : σ) (ho : IsErr o)
    (hd : S.hasData st.src = false) (hn : S.pollNext st.src = (o, s')) :
    pollRecvData S (fuel + 1) st =
      bodyReact S fuel { st with src := s' } o none Gen.ReqArms.bodyOnErr := by
  rw [pollRecvData]
  simp only [hd, hn]
  cases o <;> first | rfl | exact absurd ho (by simp [IsErr])

/-! ### `poll_recv_trailers` -/

/-- the first `match` (no trailers remembered by `poll_recv_data`) -/
def firstReact (S : Src σ) (H : Hdr) (st' : St σ) (o : FOut) (block : Option Bytes) :
    Gen.ReqArms.Act → Res × St σ
  | .fsErr => fsErr st' o
  | .none_ => (.noTrailers, st')
  | .block =>
    match block with
    | some enc => trailersTail S H st' enc
    | none => (.invalid, st')
  | .connErr c => connErr st' c
  | _ => (.invalid, st')

theorem trailersFirst_frame (S : Src σ) (H : Hdr) (st : St σ) (f : Frame) (s' : σ)
    (hn : S.pollNext st.src = (.frame f, s')) :
    trailersFirst S H st =
      firstReact S H { st with src := s' } (.frame f) (blockOf f) (Gen.ReqArms.trailers (kindOf f)) := by
  unfold trailersFirst
  simp only [hn]
  cases f <;> rfl

theorem trailersFirst_fin (S : Src σ) (H : Hdr) (st : St σ) (s' : σ)
    (hn : S.pollNext st.src = (.none, s')) :
    trailersFirst S H st = firstReact S H { st with src := s' } .none none Gen.ReqArms.trailersOnFin := by
  unfold trailersFirst
  simp only [hn]
  rfl

theorem trailersFirst_err (S : Src σ) (H : Hdr) (st : St σ) (o : FOut) (s' : σ) (ho : IsErr o)
    (hn : S.pollNext st.src = (o, s')) :
    trailersFirst S H st = firstReact S H { st with src := s' } o none Gen.ReqArms.trailersOnErr := by
  unfold trailersFirst
  simp only [hn]
  cases o <;> first | rfl | exact absurd ho (by simp [IsErr])

/-- the trailers' QPACK failure code -/
theorem decodeTrailers_qpack (H : Hdr) (st : St σ) (enc : Bytes) (h : H.trailer enc = .qpack) :
    decodeTrailers H st enc = connErr st Gen.ReqArms.trailersQpackErr := by
  unfold decodeTrailers
  rw [h]
  rfl

/-- the second `match` (`if !self.stream.is_eos()`): the look behind the trailers -/
def afterReact (H : Hdr) (st' : St σ) (o : FOut) (enc : Bytes) : Gen.ReqArms.Act → Res × St σ
  | .fsErr => fsErr st' o
  | .goOn => decodeTrailers H st' enc
  | .keepPending => (.pending, { st' with trailers := some enc })
  | .connErr c => connErr st' c
  | _ => (.invalid, st')

theorem trailersCheck_frame (S : Src σ) (H : Hdr) (st : St σ) (enc : Bytes) (f : Frame) (s' : σ)
    (hn : S.pollNext st.src = (.frame f, s')) :
    trailersCheck S H st enc =
      afterReact H { st with src := s' } (.frame f) enc (Gen.ReqArms.after (kindOf f)) := by
  unfold trailersCheck
  simp only [hn]
  cases f <;> rfl

theorem trailersCheck_fin (S : Src σ) (H : Hdr) (st : St σ) (enc : Bytes) (s' : σ)
    (hn : S.pollNext st.src = (.none, s')) :
    trailersCheck S H st enc = afterReact H { st with src := s' } .none enc Gen.ReqArms.afterOnFin := by
  unfold trailersCheck
  simp only [hn]
  rfl

theorem trailersCheck_pending (S : Src σ) (H : Hdr) (st : St σ) (enc : Bytes) (s' : σ)
    (hn : S.pollNext st.src = (.pending, s')) :
    trailersCheck S H st enc = afterReact H { st with src := s' } .pending enc Gen.ReqArms.afterOnPending := by
  unfold trailersCheck
  simp only [hn]
  rfl

theorem trailersCheck_err (S : Src σ) (H : Hdr) (st : St σ) (enc : Bytes) (o : FOut) (s' : σ) (ho : IsErr o)
    (hn : S.pollNext st.src = (o, s')) :
    trailersCheck S H st enc = afterReact H { st with src := s' } o enc Gen.ReqArms.afterOnErr := by
  unfold trailersCheck
  simp only [hn]
  cases o <;> first | rfl | exact absurd ho (by simp [IsErr])

/-! ### the first frame: server `accept_with_frame`, client `recv_response` -/

def firstTable : Role → Gen.FirstFrame.Kind → Gen.FirstFrame.Act
  | .server => Gen.FirstFrame.server
  | .client => Gen.FirstFrame.client

def firstOnFin : Role → Gen.FirstFrame.Act
  | .server => Gen.FirstFrame.serverOnFin
  | .client => Gen.FirstFrame.clientOnFin

def firstOnErr : Role → Gen.FirstFrame.Act
  | .server => Gen.FirstFrame.serverOnErr
  | .client => Gen.FirstFrame.clientOnErr

def qpackErr : Role → Nat
  | .server => Gen.FirstFrame.serverQpackErr
  | .client => Gen.FirstFrame.clientQpackErr

/-- a message head that QPACK-decodes but is not well-formed (the codes are C12's:
    `H3.Gen.Headers.resolveCode`, `recvResponseArms`) -/
def malformedHead (role : Role) (st' : St σ) : Res × St σ :=
  match role with
  | .server =>
    (.errStream CODE_H3_MESSAGE_ERROR,
     { st' with env := { st'.env with rst := first st'.env.rst CODE_H3_MESSAGE_ERROR,
                                      stop := first st'.env.stop CODE_H3_MESSAGE_ERROR } })
  | .client =>
    (.errStream CODE_H3_MESSAGE_ERROR,
     { st' with env := { st'.env with stop := first st'.env.stop CODE_H3_MESSAGE_ERROR } })

def headReact (role : Role) (H : Hdr) (st' : St σ) (o : FOut) (block : Option Bytes) :
    Gen.FirstFrame.Act → Res × St σ
  | .fsErr => fsErr st' o
  | .accept =>
    match block with
    | some enc =>
      match H.head enc with
      | .ok => (.head enc, st')
      | .qpack => connErr st' (qpackErr role)
      | .malformed => malformedHead role st'
    | none => (.invalid, st')
  | .connErr c => connErr st' c
  | .resetStreamErr r c => (.errStream c, { st' with env := { st'.env with rst := first st'.env.rst r } })
  | .streamErr c => (.errStream c, st')

theorem pollHead_frame (role : Role) (S : Src σ) (H : Hdr) (st : St σ) (f : Frame) (s' : σ)
    (hn : S.pollNext st.src = (.frame f, s')) :
    pollHead role S H st =
      headReact role H { st with src := s' } (.frame f) (blockOf f) (firstTable role (kindOf1 f)) := by
  cases role
  · unfold pollHead pollResolve
    simp only [hn]
    -- every frame by `rfl` but HEADERS, where `headReact` branches on `H.head`
    cases f <;> first | rfl | (simp only [headReact, firstTable, kindOf1, Gen.FirstFrame.server, blockOf]; split <;> rfl)
  · unfold pollHead pollRecvResponse
    simp only [hn]
    cases f <;> first | rfl | (simp only [headReact, firstTable, kindOf1, Gen.FirstFrame.client, blockOf]; split <;> rfl)

theorem pollHead_fin (role : Role) (S : Src σ) (H : Hdr) (st : St σ) (s' : σ)
    (hn : S.pollNext st.src = (.none, s')) :
    pollHead role S H st = headReact role H { st with src := s' } .none none (firstOnFin role) := by
  cases role
  · unfold pollHead pollResolve
    simp only [hn]
    rfl
  · unfold pollHead pollRecvResponse
    simp only [hn]
    rfl

theorem pollHead_err (role : Role) (S : Src σ) (H : Hdr) (st : St σ) (o : FOut) (s' : σ) (ho : IsErr o)
    (hn : S.pollNext st.src = (o, s')) :
    pollHead role S H st = headReact role H { st with src := s' } o none (firstOnErr role) := by
  cases role
  · unfold pollHead pollResolve
    simp only [hn]
    cases o <;> first | rfl | exact absurd ho (by simp [IsErr])
  · unfold pollHead pollRecvResponse
    simp only [hn]
    cases o <;> first | rfl | exact absurd ho (by simp [IsErr])

/-! ### the guard in front of `poll_recv_trailers` (repair of D-06t) -/

theorem guard_code {c : Nat} (hc : Gen.ReqArms.trailersGuard = some c) : c = CODE_H3_FRAME_UNEXPECTED := by
  unfold Gen.ReqArms.trailersGuard at hc
  -- the generated table is `some 261` for a source with the guard and `none` for one without: one alternative each
  first
    | (cases hc; rfl)
    | cases hc

/-- When the source has the guard `if self.stream.has_data() { return Ready(Err(StreamError::StreamError
    { code, .. })) }` (`Gen.ReqArms.trailersGuard = some code`), the model of the whole function,
    `pollRecvTrailersG`, answers that very stream error while a DATA payload is outstanding and leaves
    the state alone; behind the guard it is `pollRecvTrailers`, whose arms are tied above.  (On a
    source without the guard the table says `none` and this lemma says nothing: there the function is
    `pollRecvTrailers` alone, `assert!` included.) -/
theorem trailersGuard_agrees (c : Nat) (hc : Gen.ReqArms.trailersGuard = some c) (S : Src σ) (H : Hdr) (st : St σ) :
    (S.hasData st.src = true → pollRecvTrailersG S H st = (.errStream c, st)) ∧
    (S.hasData st.src = false → pollRecvTrailersG S H st = pollRecvTrailers S H st) := by
  cases guard_code hc
  constructor
  · intro hd; simp [pollRecvTrailersG, hd]
  · intro hd; simp [pollRecvTrailersG, hd]

/-- the function the scenario machine calls (`pollRecvTrailersT`, driven by the generated table) is the
    repaired function when the source has the guard, and the unguarded one when it has not -/
theorem pollRecvTrailersT_eq (S : Src σ) (H : Hdr) (st : St σ) :
    (∀ c, Gen.ReqArms.trailersGuard = some c → pollRecvTrailersT S H st = pollRecvTrailersG S H st) ∧
    (Gen.ReqArms.trailersGuard = none → pollRecvTrailersT S H st = pollRecvTrailers S H st) := by
  constructor
  · intro c hc
    cases guard_code hc
    unfold pollRecvTrailersT pollRecvTrailersG
    rw [hc]
  · intro hn
    unfold pollRecvTrailersT
    rw [hn]

end H3.GenAgree.Req
