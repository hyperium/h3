import H3.Model.WriteBuf
import H3.Lemmas.VarintSpec
import H3.Lemmas.BufCursor
/-! Lemmas about the `WriteBuf` model: the header array after the `From` conversions, the
    `Buf` view (`remaining`/`chunk`/`advance` against the abstract `view`), one transport step,
    the `poll_ready` loop. -/
namespace H3.WriteBuf
open H3.Varint H3.Gen.WriteBuf

def WB.WF (w : WB) : Prop :=
  w.pos ≤ w.len ∧ w.len ≤ w.buf.length ∧ w.buf.length = WRITE_BUF_ENCODE_SIZE

theorem new_wf (p : Option Bytes) : (WB.new p).WF := by
  simp [WB.new, WB.WF]

def WB.hdr (w : WB) : Bytes := w.buf.take w.len

theorem view_eq (w : WB) : w.view = w.hdr.drop w.pos ++ w.pay := rfl

theorem hdr_length {w : WB} (hwf : w.WF) : w.hdr.length = w.len := by
  obtain ⟨_, h2, _⟩ := hwf
  simp only [WB.hdr, List.length_take]; omega

theorem put_some {w w' : WB} {bs : Bytes} (h : w.put bs = some w') :
    w.len + bs.length ≤ WRITE_BUF_ENCODE_SIZE ∧
    w' = { w with buf := w.buf.take w.len ++ bs ++ w.buf.drop (w.len + bs.length),
                  len := w.len + bs.length } := by
  unfold WB.put at h
  split at h
  · exact ⟨‹_›, (Option.some.inj h).symm⟩
  · cases h

theorem put_isSome {w : WB} {bs : Bytes} (h : w.len + bs.length ≤ WRITE_BUF_ENCODE_SIZE) :
    ∃ w', w.put bs = some w' := by
  unfold WB.put; rw [if_pos h]; exact ⟨_, rfl⟩

theorem put_spec {w w' : WB} {bs : Bytes} (hwf : w.WF) (h : w.put bs = some w') :
    w'.WF ∧ w'.hdr = w.hdr ++ bs ∧ w'.pos = w.pos ∧ w'.payload = w.payload ∧
    w'.len = w.len + bs.length := by
  obtain ⟨h1, h2, h3⟩ := hwf
  obtain ⟨hle, rfl⟩ := put_some h
  have hl : (w.buf.take w.len ++ bs).length = w.len + bs.length := by
    rw [List.length_append, List.length_take, Nat.min_eq_left h2]
  have hb : (w.buf.take w.len ++ bs ++ w.buf.drop (w.len + bs.length)).length = w.buf.length := by
    rw [List.length_append, hl, List.length_drop]; omega
  exact ⟨⟨Nat.le_trans h1 (Nat.le_add_right ..), by rw [hb, h3]; exact hle, hb.trans h3⟩,
    List.take_left' hl, rfl, rfl, rfl⟩

theorem pay_eq (w : WB) : w.pay = w.payload.getD [] := by
  unfold WB.pay; cases w.payload <;> rfl

theorem put_new {p : Option Bytes} {bs : Bytes} {w : WB} (h : (WB.new p).put bs = some w) :
    w.WF ∧ w.hdr = bs ∧ w.pos = 0 ∧ w.payload = p ∧ w.len = bs.length := by
  obtain ⟨hwf, hh, hp, hpl, hl⟩ := put_spec (new_wf p) h
  exact ⟨hwf, hh, hp, hpl, hl.trans (Nat.zero_add _)⟩

/-- every `From` conversion ends in `(WB.new payload).putOpt encoding` -/
theorem putOpt_new {p : Option Bytes} {ob : Option Bytes} {w : WB}
    (h : (WB.new p).putOpt ob = some w) : ∃ bs, ob = some bs ∧ w.WF ∧ w.view = bs ++ p.getD [] := by
  cases ob with
  | none => cases h
  | some bs =>
    obtain ⟨hwf, hh, hp, hpl, _⟩ := put_new (show (WB.new p).put bs = some w from h)
    exact ⟨bs, rfl, hwf, by rw [view_eq, hh, hp, pay_eq, hpl]; rfl⟩

theorem putOpt_new_some (p : Option Bytes) (bs : Bytes) (h : bs.length ≤ WRITE_BUF_ENCODE_SIZE) :
    ∃ w, (WB.new p).putOpt (some bs) = some w :=
  put_isSome (by simpa [WB.new] using h)

theorem putOpt_new_view {p ob : Option Bytes} {bs : Bytes} (he : ob = some bs)
    (hl : bs.length ≤ WRITE_BUF_ENCODE_SIZE) :
    ∃ w, (WB.new p).putOpt ob = some w ∧ w.WF ∧ w.view = bs ++ p.getD [] := by
  subst he
  obtain ⟨w, hw⟩ := putOpt_new_some p bs hl
  obtain ⟨bs', hbs, hwf, hv⟩ := putOpt_new hw
  cases hbs
  exact ⟨w, hw, hwf, hv⟩

theorem writeVar_some {x : Nat} {b : Bytes} (h : writeVar x = some b) : x < 2^62 ∧ b = encode x := by
  by_cases hx : x < 2^62
  · rw [writeVar_eq x hx] at h; cases h; exact ⟨hx, rfl⟩
  · rw [writeVar_none x hx] at h; cases h

theorem fromPair_spec {ty : Nat} {f : SFrame} {w : WB} (h : fromPair ty f = some w) :
    ∃ hb, ty < 2^62 ∧ encodeFrame f = some hb ∧ w.WF ∧
      w.view = encode ty ++ hb ++ (framePayload f).getD [] := by
  unfold fromPair at h
  cases htb : writeVar ty with
  | none => rw [htb] at h; cases h
  | some tb =>
    cases h1 : (WB.new (framePayload f)).putOpt (some tb) with
    | none => rw [htb, h1] at h; cases h
    | some w1 =>
      cases h2 : encodeFrame f with
      | none => rw [htb, h1, h2] at h; cases h
      | some hb =>
        rw [htb, h1, h2] at h
        obtain ⟨hwf1, hh1, hp1, hpl1, _⟩ := put_new (show (WB.new _).put tb = some w1 from h1)
        obtain ⟨hwf, hh, hp, hpl, _⟩ := put_spec hwf1 (show w1.put hb = some w from h)
        obtain ⟨hty, rfl⟩ := writeVar_some htb
        exact ⟨hb, hty, rfl, hwf, by rw [view_eq, hh, hh1, hp, hp1, pay_eq, hpl, hpl1]; rfl⟩

theorem fromPair_some (ty : Nat) (f : SFrame) (tb hb : Bytes) (h1 : writeVar ty = some tb)
    (h2 : encodeFrame f = some hb) (hle : (tb ++ hb).length ≤ WRITE_BUF_ENCODE_SIZE) :
    ∃ w, fromPair ty f = some w := by
  rw [List.length_append] at hle
  obtain ⟨w1, hw1⟩ := putOpt_new_some (framePayload f) tb (by omega)
  have hl := (put_new (show (WB.new _).put tb = some w1 from hw1)).2.2.2.2
  unfold fromPair
  rw [h1, h2, hw1]
  exact put_isSome (by rw [hl]; exact hle)

theorem fromUniHeader_spec {h : UniHeader} {w : WB} (hw : fromUniHeader h = some w) :
    w.WF ∧ encodeUniHeader h = some w.view := by
  obtain ⟨bs, hbs, hwf, hv⟩ := putOpt_new hw
  exact ⟨hwf, by rw [hbs, hv]; exact congrArg some (List.append_nil bs).symm⟩

theorem chunk_cur (w : WB) (hwf : w.WF) : w.chunk = curChunk w.hdr w.pay w.pos := by
  unfold WB.chunk curChunk
  rw [hdr_length hwf]; rfl

theorem remaining_eq_view (w : WB) (hwf : w.WF) : w.remaining = w.view.length := by
  rw [WB.remaining, view_eq, List.length_append, List.length_drop, hdr_length hwf]

theorem remaining_eq_zero (w : WB) (hwf : w.WF) : w.remaining = 0 ↔ w.view = [] := by
  rw [remaining_eq_view w hwf, List.length_eq_zero_iff]

theorem chunk_prefix (w : WB) (hwf : w.WF) : ∃ t, w.view = w.chunk ++ t := by
  rw [chunk_cur w hwf]; exact cur_prefix _ _ _

theorem chunk_ne_nil (w : WB) (hwf : w.WF) (h : w.view ≠ []) : w.chunk ≠ [] := by
  rw [chunk_cur w hwf]; exact cur_ne _ _ _ h

theorem advance_spec (w : WB) (hwf : w.WF) (cnt : Nat) (hc : cnt ≤ w.remaining) :
    ∃ w', w.advance cnt = some w' ∧ w'.WF ∧ w'.view = w.view.drop cnt := by
  have hl := hdr_length hwf
  obtain ⟨h1, h2, h3⟩ := hwf
  rw [view_eq, cur_drop, hl]
  -- the header part of `advance`: `min cnt 0 = 0` when the header is exhausted
  have hm : (if w.len - w.pos > 0 then min cnt (w.len - w.pos) else 0) = min cnt (w.len - w.pos) := by
    split <;> omega
  unfold WB.remaining WB.pay at hc
  unfold WB.advance WB.view WB.pay
  simp only [hm]
  cases hp : w.payload with
  | none => exact ⟨_, rfl, ⟨by simp only; omega, h2, h3⟩, by simp only [List.drop_nil]; rfl⟩
  | some p =>
    rw [hp] at hc
    simp only at hc ⊢
    rw [if_pos (by omega)]
    exact ⟨_, rfl, ⟨by simp only; omega, h2, h3⟩, rfl⟩

theorem advance_no_payload (w : WB) (hp : w.payload = none) (cnt : Nat) :
    ∃ w', w.advance cnt = some w' := by
  unfold WB.advance
  simp only [hp]
  exact ⟨_, rfl⟩

/-- one transport step: it receives a prefix of the view and exactly that is removed -/
theorem step_spec (w : WB) (hwf : w.WF) (k : Nat) :
    ∃ o w', w.step k = some (o, w') ∧ w'.WF ∧ o ++ w'.view = w.view ∧
      o.length = min k w.chunk.length ∧ (0 < k → w.view ≠ [] → o ≠ []) := by
  obtain ⟨t, ht⟩ := chunk_prefix w hwf
  have hle : min k w.chunk.length ≤ w.remaining := by
    rw [remaining_eq_view w hwf, ht, List.length_append]
    omega
  obtain ⟨w', ha, hwf', hv⟩ := advance_spec w hwf _ hle
  refine ⟨w.chunk.take (min k w.chunk.length), w', ?_, hwf', ?_, ?_, ?_⟩
  · unfold WB.step; simp only [ha, Option.map_some]
  · rw [hv, ht]; exact take_chunk _ t (Nat.min_le_right ..)
  · simp
  · intro hk hne hnil
    have hpos : 0 < w.chunk.length := List.length_pos_iff.mpr (chunk_ne_nil w hwf hne)
    have : (w.chunk.take (min k w.chunk.length)).length = 0 := by rw [hnil]; rfl
    simp only [List.length_take] at this
    omega

/-- a positive entry of the script takes at least one byte while there is one: what a script must
    still hold to empty the buffer goes down with every step -/
theorem filter_pos_step {k : Nat} {ks : List Nat} {n m l : Nat} (hlen : n = l + m)
    (hprog : 0 < k → n ≠ 0 → 0 < l) (h : n ≤ ((k :: ks).filter (0 < ·)).length) :
    m ≤ (ks.filter (0 < ·)).length := by
  by_cases hk : 0 < k
  · simp only [List.filter_cons, hk, decide_true, if_true, List.length_cons] at h
    by_cases hn : n = 0
    · omega
    · have := hprog hk hn
      omega
  · simp only [List.filter_cons, hk, decide_false, Bool.false_eq_true, if_false] at h
    omega

/-- The `poll_ready` loop over any acceptance script: no panic, every byte once and in order, progress at
    every poll that accepts a byte, and what `write` then answers. -/
theorem drain_full (w : WB) (hwf : w.WF) (ks : List Nat) :
    ∃ o w', w.drain ks = some (o, w') ∧ w'.WF ∧ o ++ w'.view = w.view ∧
      (w.view.length ≤ (ks.filter (0 < ·)).length → w'.view = []) ∧
      write (some w) ks = if w'.view = [] then .ready o else .pending o w' := by
  have key : ∃ o w', w.drain ks = some (o, w') ∧ w'.WF ∧ o ++ w'.view = w.view ∧
      (w.view.length ≤ (ks.filter (0 < ·)).length → w'.view = []) := by
    induction ks generalizing w with
    | nil => exact ⟨[], w, rfl, hwf, rfl, fun h => List.eq_nil_of_length_eq_zero (by simpa using h)⟩
    | cons k ks ih =>
      obtain ⟨o, w1, hs, hwf1, hv1, _, hprog⟩ := step_spec w hwf k
      obtain ⟨o', w2, hd, hwf2, hv2, hc2⟩ := ih w1 hwf1
      refine ⟨o ++ o', w2, ?_, hwf2, ?_, fun h => hc2 ?_⟩
      · simp only [WB.drain, hs, hd]
      · rw [List.append_assoc, hv2, hv1]
      · refine filter_pos_step (by rw [← hv1, List.length_append]) (fun hk hn => ?_) h
        exact List.length_pos_iff.mpr (hprog hk (fun hnil => hn (by rw [hnil]; rfl)))
  obtain ⟨o, w', hd, hwf', hv, hc⟩ := key
  refine ⟨o, w', hd, hwf', hv, hc, ?_⟩
  simp only [write, hd, remaining_eq_zero w' hwf']

theorem drain_spec (w : WB) (hwf : w.WF) (ks : List Nat) :
    ∃ o w', w.drain ks = some (o, w') ∧ w'.WF ∧ o ++ w'.view = w.view := by
  obtain ⟨o, w', hd, hwf', hv, _⟩ := drain_full w hwf ks
  exact ⟨o, w', hd, hwf', hv⟩

/-- every poll that accepts at least one byte makes progress: a script with as many positive
    entries as there are bytes empties the buffer -/
theorem drain_complete (w : WB) (hwf : w.WF) (ks : List Nat)
    (h : w.view.length ≤ (ks.filter (0 < ·)).length) :
    ∃ o w', w.drain ks = some (o, w') ∧ w'.view = [] ∧ o = w.view := by
  obtain ⟨o, w', hd, _, hv, hc, _⟩ := drain_full w hwf ks
  exact ⟨o, w', hd, hc h, by rw [← hv, hc h, List.append_nil]⟩

theorem write_ready (w : WB) (hwf : w.WF) (ks : List Nat)
    (h : w.view.length ≤ (ks.filter (0 < ·)).length) : write (some w) ks = .ready w.view := by
  obtain ⟨o, w', _, _, hv, hc, hw⟩ := drain_full w hwf ks
  rw [hw, if_pos (hc h), ← hv, hc h, List.append_nil]

end H3.WriteBuf
