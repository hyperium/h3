import H3.Spec.FrameAgree
import H3.Lemmas.FrameSpec
import H3.Lemmas.FrameLaws
/-! The reference automaton for `frameDec`, run over a well-formed byte string, agrees with
    the RFC 9114 §7.1 oracle `observe` (relation `Agree`); `agree_noraw`: on such bytes no frame puts the reader
    in raw mode, which is the premise of `readerG_spec`. -/
namespace H3.Spec.Framing
open H3.Frame H3.FS H3.Varint

theorem observe_nil (fuel : Nat) (e : Ending) : observe (fuel + 1) [] e = [endTok e true] := by
  rw [observe, if_pos rfl]

theorem observe_hdr1 (fuel : Nat) (w : Varint.Bytes) (e : Ending) (hnil : w ≠ [])
    (h1 : rfcDecode w = none) : observe (fuel + 1) w e = [endTok e false] := by
  rw [observe, if_neg hnil]
  simp only [h1]

theorem observe_outside (fuel : Nat) (w r1 : Varint.Bytes) (e : Ending) (hnil : w ≠ [])
    (h1 : rfcDecode w = some (0x41, r1)) : observe (fuel + 1) w e = [.outside] := by
  rw [observe, if_neg hnil]
  simp only [h1, ↓reduceIte]

theorem observe_hdr2 (fuel : Nat) (w r1 : Varint.Bytes) (ty : Nat) (e : Ending) (hnil : w ≠ [])
    (h1 : rfcDecode w = some (ty, r1)) (hty : ty ≠ 0x41) (h2 : rfcDecode r1 = none) :
    observe (fuel + 1) w e = [endTok e false] := by
  rw [observe, if_neg hnil]
  simp only [h1]
  rw [if_neg hty]
  simp only [h2]

theorem observe_body (fuel : Nat) (w r1 r2 : Varint.Bytes) (ty len : Nat) (e : Ending) (hnil : w ≠ [])
    (h1 : rfcDecode w = some (ty, r1)) (hty : ty ≠ 0x41) (h2 : rfcDecode r1 = some (len, r2)) :
    observe (fuel + 1) w e =
      if ty = 0x0 then
        if len = 0 then .frame (.data 0) :: observe fuel r2 e
        else if len ≤ r2.length then
          .frame (.data len) :: .data (r2.take len) :: observe fuel (r2.drop len) e
        else match e with
          | .fin => .frame (.data len) :: ((if r2 = [] then [] else [.partialData r2]) ++ [.truncated])
          | .open_ => .frame (.data len) :: ((if r2 = [] then [] else [.data r2]) ++ [.pending])
      else if r2.length < len then [endTok e false]
      else if isKnown ty then
        match classify ty (r2.take len) with
        | .frame f => .frame f :: observe fuel (r2.drop len) e
        | .okSettings => .okSettings :: observe fuel (r2.drop len) e
        | t => [t]
      else observe fuel (r2.drop len) e := by
  rw [observe, if_neg hnil]
  simp only [h1]
  rw [if_neg hty]
  simp only [h2]
  rfl

theorem frameDec_kind (f : Frame) : frameDec.kind f = frameKind f := rfl

theorem plainFrame_rem {f : Frame} (h : plainFrame f = true) : (frameDec.kind f).rem = 0 := by
  cases f <;> first | rfl | cases h

theorem run_inc (w : Varint.Bytes) (hnil : w ≠ []) (h : (frameDec.dec w).isIncomplete = true)
    (e : Ending) :
    Agree e (run frameDec (.hdr []) w).1 (run frameDec (.hdr []) w).2 [endTok e false] := by
  rw [run_incomplete frameDec frameDec_laws w (Or.inr h)]
  exact Agree.inFrame w hnil

theorem reference_is_spec_aux (e : Ending) : ∀ (fuel : Nat) (w : Varint.Bytes), WF w → w.length < fuel →
    Tok.outside ∉ observe fuel w e →
    Agree e (run frameDec (.hdr []) w).1 (run frameDec (.hdr []) w).2 (observe fuel w e) := by
  intro fuel
  induction fuel with
  | zero => intro w _ h; omega
  | succ fuel ih =>
    intro w hwf hlen hno
    by_cases hnil : w = []
    · subst hnil
      rw [observe_nil]
      exact Agree.clean
    · have hview : frameDec.dec w = liftRes (H3.Frame.decode w) := rfl
      rw [decode_rfc w hwf] at hview
      cases h1 : rfcDecode w with
      | none =>
        rw [observe_hdr1 fuel w e hnil h1]
        rw [rfc2_none (.inl h1)] at hview
        exact run_inc w hnil (by rw [hview]; rfl) e
      | some p1 =>
        obtain ⟨ty, r1⟩ := p1
        by_cases hty : ty = 0x41
        · subst hty
          rw [observe_outside fuel w r1 e hnil h1] at hno
          exact absurd (List.mem_singleton.mpr rfl) hno
        · cases h2 : rfcDecode r1 with
          | none =>
            rw [observe_hdr2 fuel w r1 ty e hnil h1 hty h2]
            rw [rfc2_none (.inr ⟨_, _, h1, h2⟩)] at hview
            exact run_inc w hnil (by rw [hview]; rfl) e
          | some p2 =>
            obtain ⟨len, r2⟩ := p2
            have hwt : ty ≠ H3.Gen.Consts.FRAME_WEBTRANSPORT_BI_STREAM := hty
            rw [rfc2_some h1 h2] at hview
            simp only [if_neg hwt] at hview
            obtain ⟨_, hlt62, hwf2, hl2, hr2⟩ := rfc2_facts hwf (rfc2_some h1 h2)
            have hlen2 : r2.length < fuel := by omega
            rw [observe_body fuel w r1 r2 ty len e hnil h1 hty h2] at hno ⊢
            generalize hh : w.length - r2.length = h at *
            -- the forks below are the arms of `observe_body`, in its order
            by_cases hdata : ty = 0x0
            · -- DATA: header only
              subst hdata
              rw [if_pos rfl] at hno ⊢
              have hdec : frameDec.dec w = .frame (.data len) h := by
                rw [hview, if_pos (show (0:Nat) = H3.Gen.Consts.FRAME_DATA from rfl)]; rfl
              rw [run_dec_frame frameDec_laws hdec, ← hr2, show (frameDec.kind (.data len)).rem = len from rfl]
              by_cases hl0 : len = 0
              · subst hl0
                rw [if_pos rfl] at hno ⊢
                exact Agree.data0 _ _ _ (ih r2 hwf2 hlen2 (fun hm => hno (List.mem_cons_of_mem _ hm)))
              · rw [if_neg hl0] at hno ⊢
                rw [PSt.ofRem_pos hl0]
                by_cases hle : len ≤ r2.length
                · rw [if_pos hle] at hno ⊢
                  rw [run_data_full frameDec len r2 hl0 hle]
                  refine Agree.data len (r2.take len) _ _ _ hl0 hlt62 (by simp; omega) ?_
                  exact ih (r2.drop len) (WF_drop hwf2 _) (by simp; omega)
                    (fun hm => hno (List.mem_cons_of_mem _ (List.mem_cons_of_mem _ hm)))
                · rw [if_neg hle]
                  rw [run_data_short frameDec len r2 (by omega)]
                  have := Agree.dataCut (e := e) len r2 hlt62 (by omega)
                  cases e <;> exact this
            · rw [if_neg hdata] at hno ⊢
              have hdt : ty ≠ H3.Gen.Consts.FRAME_DATA := hdata
              by_cases hshort : r2.length < len
              · rw [if_pos hshort]
                refine run_inc w hnil ?_ e
                rw [hview, if_neg hdt, if_pos hshort]; rfl
              · rw [if_neg hshort] at hno ⊢
                have hbody : frameDec.dec w = liftRes (typed ty (r2.take len) (h + len)) := by
                  rw [hview, if_neg hdt, if_neg hshort]
                have hdrop : w.drop (h + len) = r2.drop len := by
                  rw [hr2, List.drop_drop]
                have hwfp : WF (r2.take len) := WF_take hwf2 _
                have hlen3 : (r2.drop len).length < fuel := by simp; omega
                by_cases hk : isKnown ty = true
                · rw [if_pos hk] at hno ⊢
                  have hTA := typed_classify ty (r2.take len) (h + len) hwfp hk
                  generalize classify ty (r2.take len) = c at hTA hno ⊢
                  generalize typed ty (r2.take len) (h + len) = r at hTA hbody
                  cases hTA with
                  | frame f hplain =>
                    rw [run_dec_frame frameDec_laws hbody, hdrop, plainFrame_rem hplain]
                    exact Agree.frame f _ _ _ hplain
                      (ih _ (WF_drop hwf2 _) hlen3 (fun hm => hno (List.mem_cons_of_mem _ hm)))
                  | okSettings es =>
                    rw [run_dec_frame frameDec_laws hbody, hdrop]
                    exact Agree.settings es _ _ _
                      (ih _ (WF_drop hwf2 _) hlen3 (fun hm => hno (List.mem_cons_of_mem _ hm)))
                  | malformed =>
                    rw [run_of_error frameDec frameDec_laws w _ hbody]
                    exact Agree.malformed
                  | h2 t =>
                    rw [run_of_error frameDec frameDec_laws w _ hbody]
                    exact Agree.h2 t
                  | badSettings err =>
                    rw [run_of_error frameDec frameDec_laws w _ hbody]
                    exact Agree.badSettings err
                · have hk' : isKnown ty = false := by simpa using hk
                  rw [if_neg hk] at hno ⊢
                  rw [typed_unknown ty _ _ hk'] at hbody
                  rw [run_dec_unknown frameDec_laws hbody, hdrop]
                  exact ih _ (WF_drop hwf2 _) hlen3 hno

theorem reference_is_spec (w : Varint.Bytes) (e : Ending) (hwf : WF w)
    (hno : Tok.outside ∉ observe (w.length + 1) w e) :
    Agree e (run frameDec (.hdr []) w).1 (run frameDec (.hdr []) w).2 (observe (w.length + 1) w e) :=
  reference_is_spec_aux e (w.length + 1) w hwf (by omega) hno

/-- every DATA length the oracle accepts is below 2^62 < `USIZE_MAX`, so `poll_data` never runs in raw mode on such bytes -/
theorem agree_noraw {e : Ending} {p : PSt} {ts : List RTok} {ss : List Tok} (h : Agree e p ts ss) :
    ∀ f, FS.Tok.frame f ∈ ts → (frameDec.kind f).rem < USIZE_MAX := by
  have h62 : (2:Nat)^62 < USIZE_MAX := by decide
  induction h with
  | clean => intro f hf; cases hf
  | inFrame acc _ => intro f hf; cases hf
  | frame f p ts ss hp _ ih =>
    intro g hg
    simp only [List.mem_cons, FS.Tok.frame.injEq] at hg
    rcases hg with rfl | hg
    · rw [plainFrame_rem hp]; exact usize_pos
    · exact ih g hg
  | settings es p ts ss _ ih =>
    intro g hg
    simp only [List.mem_cons, FS.Tok.frame.injEq] at hg
    rcases hg with rfl | hg
    · exact usize_pos
    · exact ih g hg
  | data0 p ts ss _ ih =>
    intro g hg
    simp only [List.mem_cons, FS.Tok.frame.injEq] at hg
    rcases hg with rfl | hg
    · exact usize_pos
    · exact ih g hg
  | data len bs p ts ss _ hlt _ _ ih =>
    intro g hg
    simp only [List.mem_cons, FS.Tok.frame.injEq, List.mem_append, List.mem_map] at hg
    rcases hg with rfl | ⟨_, _, hc⟩ | hg
    · simp only [frameDec_kind, frameKind, Kind.rem]; omega
    · cases hc
    · exact ih g hg
  | dataCut len bs hlt _ =>
    intro g hg
    simp only [List.mem_cons, FS.Tok.frame.injEq, List.mem_map] at hg
    rcases hg with rfl | ⟨_, _, hc⟩
    · simp only [frameDec_kind, frameKind, Kind.rem]; omega
    · cases hc
  | malformed => intro f hf; simp at hf
  | h2 ty => intro f hf; simp at hf
  | badSettings err => intro f hf; simp at hf

end H3.Spec.Framing
