import H3.Model.SendSide
import H3.Lemmas.SendSide
/-! The extended machine (`XState`, `xstep`): streams whose send side has ended where it was are
    frozen with the judgement they had; everything else is the invariant of `H3.SendSide`. -/
namespace H3.SendSide
open H3.Spec.Output

/-- a frozen stream: judged valid as it stands (a prefix of valid output, whole frames if it had
    been finished), and reset by h3 only if it is a request stream -/
def FInv (cx : Ctx) (e : Nat × Stream × Option Nat) : Prop :=
  checkStream cx e.1 e.2.1.log e.2.1.fin = none ∧ (e.2.2.isSome = true → e.1 % 4 = 0)

def XInv (x : XState) : Prop := Inv x.st ∧ ∀ e ∈ x.frozen, FInv (cxOf x.st) e

theorem freeze_inv (x : XState) (sid : Nat) (code : Option Nat) (h : XInv x)
    (hc : code.isSome = true → sid % 4 = 0) : XInv (freeze x sid code) := by
  obtain ⟨hi, hf⟩ := h
  refine ⟨?_, ?_⟩
  · intro e he
    simp only [freeze] at he
    exact hi e (List.mem_filter.mp he).1
  · intro e he
    simp only [freeze, List.mem_append, List.mem_map] at he
    rcases he with he | ⟨e0, he0, rfl⟩
    · exact hf e he
    · obtain ⟨hm, hs⟩ := List.mem_filter.mp he0
      have hv := sinv_valid _ _ _ (hi e0 hm)
      refine ⟨hv, ?_⟩
      intro hsome
      have : e0.1 = sid := by simpa using hs
      rw [this]
      exact hc hsome

theorem resetCode_inv (x : XState) (sid code : Nat) (h : XInv x) (hs : sid % 4 = 0) :
    XInv (resetCode x sid code) := by
  obtain ⟨hi, hf⟩ := h
  refine ⟨hi, ?_⟩
  intro e he
  simp only [resetCode, List.mem_map] at he
  obtain ⟨e0, he0, rfl⟩ := he
  have h0 := hf e0 he0
  split
  · rename_i hc
    simp only [Bool.and_eq_true, beq_iff_eq] at hc
    refine ⟨h0.1, fun _ => ?_⟩
    show e0.1 % 4 = 0
    rw [hc.1]; exact hs
  · exact h0

theorem xstep_cx (x : XState) (s : XStep) : cxOf (xstep x s).st = cxOf x.st := by
  cases s with
  | api s | sendRequestVia h sid fs =>
    simp only [xstep]
    split
    · rfl
    · exact step_cx _ _
  | stopStream sid code =>
    simp only [xstep]
    split <;> rfl
  | cloneSender h | peerStop sid code | abandon sid | stopSending sid code | peerReset sid code | split sid => rfl

theorem xstep_inv (x : XState) (s : XStep) (h : XInv x) : XInv (xstep x s) := by
  cases s with
  | api s =>
    simp only [xstep]
    split
    · exact h
    · refine ⟨step_inv _ _ h.1, ?_⟩
      intro e he
      have := h.2 e he
      simp only [step_cx]
      exact this
  | sendRequestVia hd sid fs =>
    simp only [xstep]
    split
    · exact h
    · have hi : Inv { x.st with connGrease := (handleFlags x).getD hd false } := h.1
      refine ⟨step_inv _ _ hi, ?_⟩
      intro e he
      have := h.2 e he
      simp only [step_cx]
      exact this
  | stopStream sid code =>
    simp only [xstep]
    split
    · rename_i hs
      exact resetCode_inv _ sid code (freeze_inv x sid (some code) h (fun _ => hs)) hs
    · exact h
  | peerStop sid code | abandon sid => exact freeze_inv x sid none h (fun hc => by cases hc)
  | cloneSender hd | stopSending sid code | peerReset sid code | split sid => exact h

theorem xrun_inv (x : XState) (steps : List XStep) (h : XInv x) : XInv (xrun x steps) := by
  induction steps generalizing x with
  | nil => exact h
  | cons s r ih => exact ih (xstep x s) (xstep_inv x s h)

theorem xrun_cx (x : XState) (steps : List XStep) : cxOf (xrun x steps).st = cxOf x.st := by
  induction steps generalizing x with
  | nil => rfl
  | cons s r ih =>
    have := ih (xstep x s)
    simp only [xrun, List.foldl_cons] at this ⊢
    rw [this, xstep_cx]

/-- a request stream with no write in flight holds a whole number of frames, finished or not -/
theorem sinv_idle_request_whole (cx : Ctx) (sid : Nat) (st : Stream) (h : SInv cx sid st)
    (hk : st.kind = .request) (hc : st.cur = none) : checkRequest st.log true = none := by
  have := legal_fin cx _ _ (h.idle hc) (Or.inl hk)
  rwa [hk] at this

end H3.SendSide
