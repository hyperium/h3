import H3.Lemmas.C06Frame
/-! The control stream for C06.  `ctlOuts`: the answers of `FrameStream::poll_next` on one transport script, polled
    again after every frame without payload and after every `Pending` while events are left (the driver
    `Drv.C04.ctlItems` stops at a `Pending`; nothing here relates the two); `itemOf` renames them to inputs of
    `Control.step`.  No answer is the panic outcome; with the end of the stream in the script the last answer is
    one on which the control machine raises a connection error. -/
namespace H3.C06
open H3.Control H3.Gen.Consts
open H3.Lemmas.C04 (firstErr)

def ctlOuts : Nat → FS.St → List FS.Ev → List FS.FOut
  | 0, _, _ => []
  | k+1, s, rx =>
    match FS.pollNext FS.frameDec s rx with
    | (.frame f, s1, rx1) => .frame f :: (if s1.remaining ≠ 0 then [] else ctlOuts k s1 rx1)
    | (.pending, s1, rx1) => .pending :: (if rx1.isEmpty then [] else ctlOuts k s1 rx1)
    | (o, _, _) => [o]

/-- the `Control.In` that stands for an answer of `poll_next` (a renaming; the `match` of `poll_control` is
    `Control.classify`); `none` = an answer `poll_next` does not give when it is called with
    `remaining_data = 0` (a data piece, the panic outcome) -/
def itemOf : FS.FOut → Option In
  | .frame f => some (.item (.frame f))
  | .none => some (.item .fin)
  | .errEnd => some (.item .truncated)
  | .errQuic c => some (.item (.reset c))
  | .errProto e => some (.item (.proto e))
  | .pending => some .pend
  | .data _ => none
  | .panic => none

def ctlIns (k : Nat) (s : FS.St) (rx : List FS.Ev) : List In := (ctlOuts k s rx).filterMap itemOf

/-- answers after which the control machine has raised a connection error -/
def terminalOut : FS.FOut → Prop
  | .none => True
  | .errEnd => True
  | .errQuic _ => True
  | .errProto _ => True
  | .frame f => FS.frameKind f ≠ .plain
  | _ => False

theorem ctlOuts_no_panic (k : Nat) (s : FS.St) (rx : List FS.Ev) (h0 : s.remaining = 0) :
    ∀ o ∈ ctlOuts k s rx, NextOutOK o := by
  fun_induction ctlOuts k s rx with
  | case1 => nofun
  | case2 k s rx f s1 rx1 hp ih =>
    intro o ho
    rcases List.mem_cons.mp ho with rfl | ho
    · trivial
    · split at ho
      · cases ho
      · exact ih (by simpa using ‹¬ s1.remaining ≠ 0›) o ho
  | case3 k s rx s1 rx1 hp ih =>
    have hN := pollNext_safe FS.frameDec s rx h0
    rw [hp] at hN
    intro o ho
    rcases List.mem_cons.mp ho with rfl | ho
    · trivial
    · split at ho
      · cases ho
      · exact ih ((show s1.remaining = s.remaining from hN.rem).trans h0) o ho
  | case4 k s rx o s1 rx1 _ _ hp =>
    have hN := pollNext_safe FS.frameDec s rx h0
    rw [hp] at hN
    intro o' ho
    rw [List.mem_singleton.mp ho]
    exact hN.out

theorem itemOf_isSome {o : FS.FOut} (h : NextOutOK o) : ∃ x, itemOf o = some x := by
  cases o <;> first | exact ⟨_, rfl⟩ | exact h.elim

theorem ctlOuts_complete (k : Nat) (s : FS.St) (rx : List FS.Ev) (h0 : s.remaining = 0)
    (hG : Good FS.frameDec s rx) (hE : Ends s rx) (hk : mu s rx < k) :
    ∃ pre last, ctlOuts k s rx = pre ++ [last] ∧ terminalOut last := by
  fun_induction ctlOuts k s rx with
  | case1 => omega
  | case2 k s rx f s1 rx1 hp ih =>
    have hN := pollNext_safe FS.frameDec s rx h0
    rw [hp] at hN
    obtain ⟨hE', hL⟩ := pollNext_live FS.frameDec FS.frameDec_laws s rx hG h0 _ s1 rx1 hp
    have hL' : Good FS.frameDec s1 rx1 ∧ mu s1 rx1 < mu s rx := hL
    split
    · -- a frame with a payload is the last answer
      rename_i h1
      refine ⟨[], .frame f, rfl, fun hk' => h1 ?_⟩
      rw [show s1.remaining = (FS.frameKind f).rem from hN.rem, hk']
      rfl
    · rename_i h1
      obtain ⟨pre, last, h2, h3⟩ := ih (by simpa using h1) hL'.1 (hE' hE) (by omega)
      exact ⟨.frame f :: pre, last, by rw [h2]; rfl, h3⟩
  | case3 k s rx s1 rx1 hp ih =>
    have hN := pollNext_safe FS.frameDec s rx h0
    rw [hp] at hN
    obtain ⟨hE', hL⟩ := pollNext_live FS.frameDec FS.frameDec_laws s rx hG h0 _ s1 rx1 hp
    have hL' : Good FS.frameDec s1 rx1 ∧ mu s1 rx1 ≤ mu s rx ∧
        (rx ≠ [] → mu s1 rx1 < mu s rx) ∧ (rx = [] → rx1 = []) := hL
    split
    · -- `Pending` with the script used up: but the end of the stream was promised, and `eos` is not set
      rename_i hemp
      have h2 := hN.pend rfl
      rw [ends_nil (List.isEmpty_iff.mp hemp ▸ hE' hE)] at h2
      cases h2
    · rename_i hemp
      have hlt := hL'.2.2.1 (fun hnil => hemp (by rw [hL'.2.2.2 hnil]; rfl))
      obtain ⟨pre, last, h2, h3⟩ :=
        ih ((show s1.remaining = s.remaining from hN.rem).trans h0) hL'.1 (hE' hE) (by omega)
      exact ⟨.pending :: pre, last, by rw [h2]; rfl, h3⟩
  | case4 k s rx o s1 rx1 hnf hnp hp =>
    have hout := (pollNext_safe FS.frameDec s rx h0).out
    rw [hp] at hout
    cases o with
    | frame f => exact (hnf f rfl).elim
    | pending => exact (hnp rfl).elim
    | data d | panic => exact hout.elim
    | _ => exact ⟨[], _, rfl, trivial⟩

theorem step_terminal (cfg : Cfg) (c : Conn) (o : FS.FOut) (x : In) (hc : c.control = true)
    (ht : terminalOut o) (hx : itemOf o = some x) : ∃ e, (step cfg c x).2.2 = some e := by
  cases o with
  | none | errEnd | errQuic q | errProto e =>
    simp only [itemOf, Option.some.injEq] at hx; subst hx; simp [step, hc, classify]
  | frame f =>
    simp only [itemOf, Option.some.injEq] at hx
    subst hx
    have ht' : FS.frameKind f ≠ .plain := ht
    cases f with
    | data n | webTransport sid =>
      simp only [step, hc, if_true, classify, classifyLater]
      cases c.gotSettings <;> simp
    | _ => exact absurd rfl ht'
  | pending | data d | panic => exact ht.elim

/-- the codes with which the end of the control stream itself is reported -/
theorem step_stream_end (cfg : Cfg) (c : Conn) (hc : c.control = true) :
    (step cfg c (.item .fin)).2.2 = some CODE_H3_CLOSED_CRITICAL_STREAM ∧
    (∀ q, (step cfg c (.item (.reset q))).2.2 = some CODE_H3_CLOSED_CRITICAL_STREAM) ∧
    (step cfg c (.item .truncated)).2.2 = some CODE_H3_FRAME_ERROR := by
  simp [step, hc, classify]

def after (cfg : Cfg) (c : Conn) (ins : List In) : Conn := ins.foldl (fun c x => (step cfg c x).1) c

theorem after_control (cfg : Cfg) : ∀ (ins : List In) (c : Conn), c.control = true →
    (after cfg c ins).control = true := by
  intro ins
  induction ins with
  | nil => intro c h; exact h
  | cons y r ih => intro c hc; exact ih _ ((H3.Lemmas.C04.step_keeps cfg c y).1 hc)

theorem firstErr_append (cfg : Cfg) : ∀ (a b : List In) (c : Conn),
    firstErr cfg c (a ++ b) = (firstErr cfg c a).or (firstErr cfg (after cfg c a) b) := by
  intro a
  induction a with
  | nil => intro b c; rfl
  | cons y r ih =>
    intro b c
    simp only [List.cons_append, firstErr, after, List.foldl_cons]
    cases (step cfg c y).2.2 with
    | some e => rfl
    | none => exact ih b _

/-- a run of answers that ends with a terminal one makes the control machine — the reference run,
    hence by C04 the polled driver whatever the grease stream does — end with a connection error -/
theorem firstErr_of_terminal (cfg : Cfg) (last : FS.FOut) (ht : terminalOut last) (pre : List FS.FOut)
    (c : Conn) (hc : c.control = true) :
    ∃ e, firstErr cfg c ((pre ++ [last]).filterMap itemOf) = some e := by
  have hok : NextOutOK last := by cases last <;> first | exact trivial | exact ht.elim
  obtain ⟨x, hx⟩ := itemOf_isSome hok
  obtain ⟨e, he⟩ := step_terminal cfg _ last x (after_control cfg (pre.filterMap itemOf) c hc) ht hx
  rw [List.filterMap_append, firstErr_append]
  cases firstErr cfg c (pre.filterMap itemOf) with
  | some e' => exact ⟨e', rfl⟩
  | none => exact ⟨e, by simp [hx, firstErr, he]⟩

end H3.C06
