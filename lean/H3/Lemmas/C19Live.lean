import H3.Lemmas.C19IO
import H3.Lemmas.FrameStreamPend
/-! Liveness of the WebTransport bidi header (C19): polling `poll_next` again after every `Pending`
    reaches the WebTransport frame before the transport script is used up, for every cutting of
    `hdr ++ payload`.  Generic in the frame decoder (three laws + "the decoder reads `hdr` as the
    frame `f` whatever follows").  `first_frame_of_run` belongs to the signal theorem of Props/C19
    (`C19_signal_only_at_first_bytes_partial`): a run whose only token is a frame, no unknown frame skipped before it,
    decoded that frame from the first bytes. -/
namespace H3.FS
variable {F E : Type}

def Out.isPending : Out F E → Bool
  | .pending => true
  | _ => false

/-- `poll_next` polled again and again: after a `Pending` answer the caller is woken when the
    transport has more to say (the rest of the script is not empty) and polls again; any other
    answer — and a `Pending` with nothing more to come — is the result.  `fuel` bounds the number
    of polls. -/
def pollUntil (D : Dec F E) : Nat → St → List Ev → Out F E × St × List Ev
  | 0, s, sc => (.pending, s, sc)
  | fuel+1, s, sc =>
    if (pollNext D s sc).1.isPending && !(pollNext D s sc).2.2.isEmpty then
      pollUntil D fuel (pollNext D s sc).2.1 (pollNext D s sc).2.2
    else pollNext D s sc

theorem pollUntil_reach (D : Dec F E) (sc0 : List Ev) (fuel : Nat) (toks : List (Tok F E)) (s : St)
    (script : List Ev) (hR : Reach D sc0 toks s script) (o : Out F E) (s' : St) (r : List Ev)
    (h : pollUntil D fuel s script = (o, s', r)) (hne : o.isErr = false) :
    Reach D sc0 (toks ++ o.toks) s' r := by
  fun_induction pollUntil D fuel s script with
  | case1 s script =>  -- no fuel: `Pending`, nothing polled
    cases h
    simpa [Out.toks] using hR
  | case2 fuel s script hc ih =>  -- `Pending` and the transport has more to say: poll again
    have hpend : (pollNext D s script).1 = .pending := by
      cases ho : (pollNext D s script).1 <;> simp [ho, Out.isPending] at hc
      rfl
    have hR' := Reach.next hR (o := .pending) (by rw [← hpend]) rfl
    simp only [Out.toks, List.append_nil] at hR'
    exact ih hR' h
  | case3 fuel s script hc => exact Reach.next hR h hne  -- this poll's answer is the result

theorem flat_of_no_tok (D : Dec F E) (L : Laws D) (hdr payload : Bytes) (f : F)
    (hdec : ∀ p, D.dec (hdr ++ p) = .frame f hdr.length)
    (seen more : Bytes) (s : St) (hI : Inv D seen [] s) (hall : seen ++ more = hdr ++ payload) :
    s.remaining = 0 ∧ s.flat = seen := by
  obtain ⟨consumed, hseen, hrun⟩ := hI.split
  rw [hseen, List.append_assoc] at hall
  rcases run_on_header D L hdec hall hrun with ⟨hp, _⟩ | ⟨_, _, _, _, ht, _⟩
  · obtain ⟨h0, hc⟩ := PSt.ofRem_eq_hdr hp
    exact ⟨h0, by rw [hseen, hc, List.nil_append]⟩
  · cases ht

theorem not_stuck_of_all (D : Dec F E) (L : Laws D) (hdr payload : Bytes) (f : F)
    (hdec : ∀ p, D.dec (hdr ++ p) = .frame f hdr.length)
    (seen : Bytes) (s : St) (hI : Inv D seen [] s) (hall : seen = hdr ++ payload)
    (hst : Stuck D s) : False := by
  obtain ⟨_, hflat⟩ := flat_of_no_tok D L hdr payload f hdec seen [] s hI (by simpa using hall)
  -- an empty buffer is incomplete too (`Laws.nil`); but the buffer is `hdr ++ payload`, which decodes
  have hinc : (D.dec s.flat).isIncomplete = true := hst.elim (fun h => h ▸ L.nil) id
  rw [hflat, hall, hdec payload] at hinc
  cases hinc

theorem pollNextLoop_errQuic_stuck (D : Dec F E) (L : Laws D) (script : List Ev) (seen : Bytes)
    (toks : List (Tok F E)) (s : St) (hI : Inv D seen toks s) (h0 : s.remaining = 0)
    (hsc : ScriptOK script) (hst : Stuck D s) (c : Nat) (s' : St) (script' : List Ev)
    (h : pollNextLoop D s script = (.errQuic c, s', script')) : Stuck D s' := by
  have hr := pollNextLoop_run D script s
  generalize pollNextLoop D s script = res at h hr
  induction hr generalizing seen with
  -- the script starts with `reset`: this is the one branch that reports it, and the state is `s`
  | reset => cases h; exact hst
  -- a chunk after which nothing decodes (`decLoop … = .none d exp`): the loop goes on with the rest
  -- of the script from a state that `afterRecv_spec` says is `Stuck`
  | @more s _ tk s1 r d exp res ht hdl _ ih =>
    obtain ⟨_, hI1, _⟩ := ht.spec hI hsc
    obtain ⟨rfl, _, hrem, _⟩ := ht.shape
    have hA := afterRecv_spec D L _ toks _ hI1 (hrem.trans h0) .more nofun nofun []
    simp only [afterRecv, hdl, AfterSpec] at hA
    obtain ⟨_, _, _, ⟨⟩, hI2, hst2⟩ := hA
    exact ih _ hI2 (hrem.trans h0) (scriptOK_suffix hsc) hst2 h
  -- the answer is that of the decode step (stream ended before / script empty / `pend` / `fin` /
  -- a chunk that decodes): never a RESET
  | answer _ hA =>
    cases h
    exact (afterRecv_safe D _ _ _ _ hA).2.1.elim

theorem first_frame_of_run (D : Dec F E) (L : Laws D) (w : Bytes) (g : F) (p : PSt)
    (hrun : run D (.hdr []) w = (p, [.frame g])) (hun : ∀ n, D.dec w ≠ .unknown n) :
    ∃ n, D.dec w = .frame g n := by
  cases hd : D.dec w with
  | incomplete m =>
    rw [run_incomplete D L w (.inr (by rw [hd]; rfl))] at hrun
    simp at hrun
  | unknown n => exact absurd hd (hun n)
  | error e =>
    rw [run_of_error D L w e hd] at hrun
    simp at hrun
  | frame f n =>
    rw [run_dec_frame L hd] at hrun
    simp only [Prod.mk.injEq, List.cons.injEq, Tok.frame.injEq] at hrun
    exact ⟨n, by rw [hrun.2.1]⟩

end H3.FS

namespace H3.Session
open H3.FS
variable {F E : Type}

/-- **Liveness of a raw-mode header.**  `hdr` is read by the decoder as the frame `f` whatever
    follows; the script `sc0` carries `hdr ++ payload` in any cutting, with `Pending` anywhere and
    nothing delivered behind FIN / RESET.  From any configuration reached without a token having
    been handed out, in which nothing that is buffered decodes and the end of the stream has not
    been seen (in particular the initial one), `poll_next` polled again after every `Pending`
    answers `frame f` — not `Pending` with the script used up, not an error, not the end of the
    stream — and the configuration it stops in is reachable with exactly that token handed out. -/
theorem pollUntil_answers (D : Dec F E) (L : Laws D) (hdr payload : Bytes) (f : F)
    (hdec : ∀ p, D.dec (hdr ++ p) = .frame f hdr.length)
    (sc0 : List Ev) (hsc : ScriptOK sc0) (hend : EndLast sc0) (hbytes : evBytes sc0 = hdr ++ payload) :
    ∀ (fuel : Nat) (s : St) (script : List Ev), Reach D sc0 [] s script → Stuck D s → s.eos = false →
      script.length < fuel →
      ∃ s' rest, pollUntil D fuel s script = (.frame f, s', rest) ∧ Reach D sc0 [.frame f] s' rest := by
  intro fuel
  induction fuel with
  | zero => intro s script _ _ _ h; omega
  | succ fuel ih =>
    intro s script hR hst heos hfuel
    obtain ⟨taken, hsc0, htk, hI⟩ := reach_inv D L sc0 hsc hR
    have hall : evBytes taken ++ evBytes script = hdr ++ payload := by
      rw [← evBytes_append, ← hsc0, hbytes]
    obtain ⟨h0, hflat⟩ := flat_of_no_tok D L hdr payload f hdec _ _ s hI hall
    have hscS : ScriptOK script := by rw [hsc0] at hsc; exact scriptOK_suffix hsc
    have hpl : pollNext D s script = pollNextLoop D s script := by
      unfold pollNext; rw [if_neg (by simp [h0])]
    rcases pollNext_preserves D L _ [] s script hI hscS with ⟨hne, _⟩ | ⟨_, hp⟩
    · exact absurd h0 hne
    cases hres : pollNext D s script with
    | mk o rest' =>
    obtain ⟨s', script'⟩ := rest'
    rw [hres] at hp
    -- `hout : NextOut … o` (Lemmas/FrameStreamInv): what each answer `o` says of the state it leaves
    obtain ⟨tk, hscr, htk', hout⟩ := hp
    have hall' : (evBytes taken ++ evBytes tk) ++ evBytes script' = hdr ++ payload := by
      rw [List.append_assoc, ← evBytes_append, ← hscr, hall]
    have hendS : EndLast script := by rw [hsc0] at hend; exact endLast_suffix taken script hend
    have hend' : EndLast script' := by rw [hscr] at hendS; exact endLast_suffix tk script' hendS
    -- every byte delivered + nothing decodes: impossible
    have hdone : evBytes script' = [] → Inv D (evBytes taken ++ evBytes tk) [] s' → Stuck D s' → False := by
      intro hnil hI' hst'
      rw [hnil, List.append_nil] at hall'
      exact not_stuck_of_all D L hdr payload f hdec _ s' hI' hall' hst'
    have hfinBehind : s'.eos = true → evBytes script' = [] := by
      intro he
      rw [heos, he] at htk'
      simp only [TakenOK, Bool.false_eq_true, if_false, if_true] at htk'
      obtain ⟨pre, hpre, _⟩ := htk'.2
      rw [hscr, hpre, List.append_assoc] at hendS
      exact endLast_suffix pre (.fin :: script') hendS
    cases o with
    | frame f' =>
      obtain ⟨consumed, hseen, hrun⟩ := Inv.split hout
      rw [hseen, List.append_assoc] at hall'
      rcases run_on_header D L hdec hall' hrun with ⟨_, ht⟩ | ⟨_, _, _, _, ht, _⟩
      · cases ht
      cases ht
      refine ⟨s', script', ?_, Reach.next hR hres rfl⟩
      simp only [pollUntil, hres, Out.isPending, Bool.false_and, Bool.false_eq_true, if_false]
    | pending =>
      obtain ⟨hI', hst', heos', h0'⟩ := hout
      by_cases hnil : script' = []
      · exact (hdone (by rw [hnil]; rfl) hI' hst').elim
      · have hlt := (pollNext_pending_st D s s' script script' hres).2.2 hnil
        have hR' : Reach D sc0 [] s' script' := Reach.next hR hres rfl
        obtain ⟨s2, rest2, hpu, hR2⟩ := ih s' script' hR' hst' heos' (by omega)
        refine ⟨s2, rest2, ?_, hR2⟩
        have hne : script'.isEmpty = false := by
          cases script' with
          | nil => exact absurd rfl hnil
          | cons _ _ => rfl
        simp only [pollUntil, hres, Out.isPending, hne, Bool.not_false, Bool.and_self, if_true]
        exact hpu
    | none =>
      obtain ⟨hI', hfl, he, _⟩ := hout
      exact (hdone (hfinBehind he) hI' (Or.inl hfl)).elim
    | errEnd =>
      obtain ⟨hI', _, hinc, he, _⟩ := hout
      exact (hdone (hfinBehind he) hI' (Or.inr hinc)).elim
    | errQuic c =>
      obtain ⟨hI', ⟨r, hr⟩, _⟩ := hout
      have hst' : Stuck D s' := by
        rw [hpl] at hres
        exact pollNextLoop_errQuic_stuck D L script _ [] s hI h0 hscS hst c s' script' hres
      have hnil : evBytes script' = [] := by
        rw [hr] at hend' ⊢
        exact hend'
      exact (hdone hnil hI' hst').elim
    | errProto e =>
      obtain ⟨consumed, n, hseen, hrun, hn1, hn2, hdead⟩ := hout
      exfalso
      rw [hseen, List.append_assoc] at hall'
      rcases run_on_header D L hdec hall' hrun with ⟨hc, _⟩ | ⟨_, _, _, _, ht, _⟩
      · cases hc
        rw [List.nil_append, ← List.take_append_drop n s'.flat, List.append_assoc] at hall'
        rcases run_on_header D L hdec hall' hdead with ⟨hc, _⟩ | ⟨_, _, _, _, ht, _⟩
        · cases hc
        · cases ht
      · cases ht
    | data _ | panic => exact hout.elim

end H3.Session
