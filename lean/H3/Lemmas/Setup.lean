import H3.Model.Setup
/-! Lemmas about `H3.Setup` (the setup of a connection against an arbitrary transport).  One walk through
    `buildPoll` says what a poll answers (`ResOK`) and which answer of the transport, in SOME state of it (`Said`; the
    model keeps no transcript of the calls of a run), explains it: an error of `build`
    is an error answered on the control stream (`CtlErr`), a poll that saw `Pending` was answered `Pending` (`Waits`);
    `CtlOk` and `NoWait` deny the two explanations. -/
namespace H3.Lemmas.Setup
open H3.Setup H3.ErrCell H3.Gen.Consts

/-! ### `handle_connection_error` -/

theorem convert_ne_remote_timeout (e : Err) : convert e ≠ .remote .timeout := by
  cases e with
  | internal c t => simp [convert]
  | quic q => cases q <;> simp [convert]

theorem outcome_convert (e : Err) : OutcomeOK (convert e) (closeCode e) := by
  cases e with
  | internal c t => simp [convert, closeCode, closeOf, OutcomeOK]
  | quic q => cases q <;> simp [convert, closeCode, closeOf, OutcomeOK]

theorem raise_fresh (e : Err) :
    raise {} e = ({ handled := some (convert e), closes := closeCode e }, convert e) := by
  simp [raise]

theorem raise_sticky (d : Drv) (h : CErr) (e : Err) (hd : d.handled = some h) : raise d e = (d, h) := by
  simp [raise, hd]

theorem outcome_openCtlErr (e : SErr) : OutcomeOK (openCtlErr e).1 (openCtlErr e).2.toList := by
  cases e with
  | conn q => cases q <;> simp [openCtlErr, rawQuic, OutcomeOK]
  | terminated c | unknown t => simp [openCtlErr, rawH3, OutcomeOK]

/-! ### The transport's answers: what is assumed of them (`CtlOk`, `NoWait`) and what explains an outcome (`Said`) -/

def NoPending {T : Type} (tr : Transport T) : Prop := ∀ t c, (tr.call t c).2 ≠ .pending

/-- the calls on the control stream (open, `send_data`, `poll_ready` of stream 0) never answer an error -/
def CtlOk {T : Type} (tr : Transport T) : Prop :=
  ∀ t e, (tr.call t (.openSend 0)).2 ≠ .err e ∧ (tr.call t (.sendData 0)).2 ≠ .err e ∧
    (tr.call t (.pollReady 0)).2 ≠ .err e

/-- no opening and no `poll_ready` answers `Pending` (what a transport does once the connection has
    failed: every call is answered at once) -/
def NoWait {T : Type} (tr : Transport T) : Prop :=
  ∀ t k, (tr.call t (.openSend k)).2 ≠ .pending ∧ (tr.call t (.pollReady k)).2 ≠ .pending

variable {T : Type} (tr : Transport T)

/-- in some state the transport answers `a` to the call `c` (all states, as in `CtlOk` and `NoWait`) -/
def Said (c : Call) (a : Ans) : Prop := ∃ t, (tr.call t c).2 = a

theorem said {tr : Transport T} {t t1 : T} {c : Call} {a : Ans} (h : tr.call t c = (t1, a)) : Said tr c a :=
  ⟨t, by rw [h]⟩

def CtlErr (e : SErr) : Prop :=
  Said tr (.openSend 0) (.err e) ∨ Said tr (.sendData 0) (.err e) ∨ Said tr (.pollReady 0) (.err e)

def Waits : Prop := ∃ k, Said tr (.openSend k) .pending ∨ Said tr (.pollReady k) .pending

theorem CtlOk.not_ctlErr {tr : Transport T} (h : CtlOk tr) (e : SErr) : ¬ CtlErr tr e := by
  rintro (⟨t, ht⟩ | ⟨t, ht⟩ | ⟨t, ht⟩)
  · exact (h t e).1 ht
  · exact (h t e).2.1 ht
  · exact (h t e).2.2 ht

theorem NoWait.not_waits {tr : Transport T} (h : NoWait tr) : ¬ Waits tr := by
  rintro ⟨k, ⟨t, ht⟩ | ⟨t, ht⟩⟩
  · exact (h t k).1 ht
  · exact (h t k).2 ht

/-! ### `stream::write` -/

def WriteOK (w : WSt) (p : Bool) : Prop := (∃ r, w = .done r) ∨ (w = .flushing ∧ p = true)

/-- one poll of the write future on stream `k`, from `w`: how it ends, and which answer explains an error or a wait -/
structure WriteWhy (k : Nat) (w : WSt) (o : T × WSt × Bool) : Prop where
  ok : WriteOK o.2.1 o.2.2
  err : ∀ e, o.2.1 = .done (some e) →
    w = .done (some e) ∨ Said tr (.sendData k) (.err e) ∨ Said tr (.pollReady k) (.err e)
  pend : o.2.2 = true → Said tr (.pollReady k) .pending

theorem pollFlush_why (t : T) (k : Nat) (w : WSt) : WriteWhy tr k w (pollFlush tr t k) := by
  unfold pollFlush
  rcases h : tr.call t (.pollReady k) with ⟨t1, a⟩
  cases a with
  | pending => exact ⟨Or.inr ⟨rfl, rfl⟩, nofun, fun _ => said h⟩
  | ok => exact ⟨Or.inl ⟨_, rfl⟩, nofun, nofun⟩
  | err e => exact ⟨Or.inl ⟨_, rfl⟩, fun e' he => by cases he; exact Or.inr (Or.inr (said h)), nofun⟩

theorem pollWrite_why (t : T) (k : Nat) (w : WSt) : WriteWhy tr k w (pollWrite tr t k w) := by
  cases w with
  | start =>
    unfold pollWrite
    rcases h : tr.call t (.sendData k) with ⟨t1, a⟩
    cases a with
    | err e => exact ⟨Or.inl ⟨_, rfl⟩, fun e' he => by cases he; exact Or.inr (Or.inl (said h)), nofun⟩
    | ok | pending => exact pollFlush_why tr t1 k _
  | flushing => exact pollFlush_why tr t k _
  | done r => exact ⟨Or.inl ⟨_, rfl⟩, fun e he => Or.inl he, nofun⟩

def SetupCode (e : CErr) : Prop :=
  ∀ c t, e = .localApp c t → c = CODE_H3_CLOSED_CRITICAL_STREAM ∨ c = CODE_H3_INTERNAL_ERROR

def ResOK (o : PollOut T) : Prop :=
  match o.res with
  | none => o.st.drv = {} ∧ o.st.phase ≠ .finished ∧ o.sawPending = true
  | some none => o.st.drv = {} ∧ o.st.phase = .finished
  | some (some e) => OutcomeOK e o.st.drv.closes ∧ o.st.phase = .finished ∧ SetupCode e

/-- the error of the control stream that the phase remembers -/
def Held : Phase → SErr → Prop
  | .opening got, e => got[0]? = some (some e)
  | .headers wc _ _, e => wc = .done (some e)
  | .finished, _ => False

/-- `H` = the errors of the control stream known so far -/
structure PollWhy (H : SErr → Prop) (o : PollOut T) : Prop where
  ok : ResOK o
  held : ∀ e, Held o.st.phase e → H e
  err : ∀ e, o.res = some (some e) → ∃ se, H se ∧ (e = convert (ctlStreamErr se) ∨ e = (openCtlErr se).1)
  pend : o.sawPending = true → Waits tr

theorem setupCode_convert_ctl (e : SErr) : SetupCode (convert (ctlStreamErr e)) := by
  intro c t h
  cases e with
  | conn q => cases q <;> simp [ctlStreamErr, convert] at h
  | terminated x | unknown x => simp [ctlStreamErr, convert] at h; exact Or.inl h.1.symm

theorem setupCode_openCtlErr (e : SErr) : SetupCode (openCtlErr e).1 := by
  intro c t h
  cases e with
  | conn q => cases q <;> simp [openCtlErr, rawQuic] at h <;> exact Or.inr h.1.symm
  | terminated x | unknown x => simp [openCtlErr, rawH3] at h; exact Or.inl h.1.symm

theorem joinHeaders_why (t : T) (wc wd we : WSt) (p1 p2 p3 : Bool)
    (h1 : WriteOK wc p1) (h2 : WriteOK wd p2) (h3 : WriteOK we p3)
    {H : SErr → Prop} (hc : ∀ e, wc = .done (some e) → H e) (hp : (p1 || p2 || p3) = true → Waits tr) :
    PollWhy tr H (joinHeaders t {} wc wd we (p1 || p2 || p3)) := by
  unfold joinHeaders
  rcases h1 with ⟨r, rfl⟩ | ⟨rfl, rfl⟩
  · by_cases hdone : (wd.isDone && we.isDone) = true
    · simp only [hdone, if_true]
      cases r with
      | none => exact ⟨by simp [ResOK, finishHeaders], nofun, by simp [finishHeaders], hp⟩
      | some e =>
        refine ⟨?_, nofun, fun e' he => ⟨e, hc e rfl, Or.inl ?_⟩, hp⟩
        · simp only [ResOK, finishHeaders, raise_fresh]
          exact ⟨outcome_convert _, trivial, setupCode_convert_ctl e⟩
        · simpa [finishHeaders, raise_fresh] using he.symm
    · simp only [hdone]
      refine ⟨⟨rfl, by simp, ?_⟩, hc, nofun, hp⟩
      rcases h2 with ⟨r2, rfl⟩ | ⟨rfl, rfl⟩
      · rcases h3 with ⟨r3, rfl⟩ | ⟨rfl, rfl⟩
        · simp [WSt.isDone] at hdone
        · simp
      · simp
  · exact ⟨by simp [ResOK], hc, nofun, hp⟩

theorem pollHeaders_why (t : T) (wc wd we : WSt) :
    PollWhy tr (fun e => wc = .done (some e) ∨ CtlErr tr e) (pollHeaders tr t {} wc wd we) := by
  unfold pollHeaders
  have w1 := pollWrite_why tr t 0 wc
  have w2 := pollWrite_why tr (pollWrite tr t 0 wc).1 2 wd
  have w3 := pollWrite_why tr (pollWrite tr (pollWrite tr t 0 wc).1 2 wd).1 1 we
  refine joinHeaders_why tr _ _ _ _ _ _ _ w1.ok w2.ok w3.ok (fun e he => ?_) (fun hp => ?_)
  · rcases w1.err e he with h | h | h
    · exact Or.inl h
    · exact Or.inr (Or.inr (Or.inl h))
    · exact Or.inr (Or.inr (Or.inr h))
  · simp only [Bool.or_eq_true] at hp
    rcases hp with (hp | hp) | hp
    · exact ⟨_, Or.inr (w1.pend hp)⟩
    · exact ⟨_, Or.inr (w2.pend hp)⟩
    · exact ⟨_, Or.inr (w3.pend hp)⟩

theorem pollOpens_why (n : Nat) (t : T) (got : List (Option SErr)) :
    ((pollOpens tr n t got).2.2 = true → Waits tr) ∧
    ∀ e, (pollOpens tr n t got).2.1[0]? = some (some e) →
      got[0]? = some (some e) ∨ Said tr (.openSend 0) (.err e) := by
  induction n generalizing t got with
  | zero => exact ⟨nofun, fun e h => Or.inl h⟩
  | succ n ih =>
    unfold pollOpens
    rcases hc : tr.call t (.openSend got.length) with ⟨t1, a⟩
    -- an answer `x` joins `got` and the awaits go on: the head is the old head, or (`got = []`) `x`
    have arm : ∀ x : Option SErr, (∀ e, x = some e → a = .err e) →
        ∀ e, (pollOpens tr n t1 (got ++ [x])).2.1[0]? = some (some e) →
          got[0]? = some (some e) ∨ Said tr (.openSend 0) (.err e) := by
      intro x hx e h
      rcases (ih t1 _).2 e h with h | h
      · cases got with
        | cons y r => exact Or.inl h
        | nil => exact Or.inr (hx e (Option.some.inj h) ▸ said hc)
      · exact Or.inr h
    cases a with
    | pending => exact ⟨fun _ => ⟨_, Or.inl (said hc)⟩, fun e h => Or.inl h⟩
    | ok => exact ⟨(ih t1 _).1, arm none nofun⟩
    | err e' => exact ⟨(ih t1 _).1, arm (some e') fun e h => by cases h; rfl⟩

theorem afterOpens_why (t : T) (got : List (Option SErr)) {H : SErr → Prop}
    (hg : ∀ e, got[0]? = some (some e) → H e) (hH : ∀ e, CtlErr tr e → H e) :
    PollWhy tr H (afterOpens tr t {} got false) := by
  unfold afterOpens
  split
  · rename_i e he
    refine ⟨?_, nofun, fun e' he' => ⟨e, hg e he, Or.inr (by simpa using he'.symm)⟩, nofun⟩
    simp only [ResOK]
    exact ⟨by simpa using outcome_openCtlErr e, trivial, setupCode_openCtlErr e⟩
  · have h := pollHeaders_why tr t .start (qpackStart got[2]?) (qpackStart got[1]?)
    have hs : ∀ e, (WSt.start = .done (some e) ∨ CtlErr tr e) → H e := fun e he => he.elim nofun (hH e)
    exact ⟨by simpa [ResOK] using h.ok, fun e he => hs e (h.held e he), fun e he => (h.err e he).imp fun se h => ⟨hs se h.1, h.2⟩,
      by simpa using h.pend⟩

theorem buildPoll_why (t : T) (s : BSt) (hd : s.drv = {}) (hp : s.phase ≠ .finished) :
    PollWhy tr (fun e => Held s.phase e ∨ CtlErr tr e) (buildPoll tr t s) := by
  unfold buildPoll
  cases hph : s.phase with
  | finished => exact absurd hph hp
  | headers wc wd we =>
    simp only
    rw [hd]
    exact pollHeaders_why tr t wc wd we
  | opening got =>
    have ho := pollOpens_why tr (3 - got.length) t got
    simp only
    rcases hpo : pollOpens tr (3 - got.length) t got with ⟨t1, got1, p⟩
    rw [hpo] at ho
    have hg : ∀ e, got1[0]? = some (some e) → Held (.opening got) e ∨ CtlErr tr e :=
      fun e h => (ho.2 e h).imp id Or.inl
    cases p with
    | true => exact ⟨by simp [ResOK, hd], hg, nofun, fun _ => ho.1 rfl⟩
    | false =>
      simp only
      rw [hd]
      exact afterOpens_why tr t1 got1 hg fun _ => Or.inr

def RunOK (r : BSt × Res) : Prop :=
  match r.2 with
  | none => r.1.drv = {}
  | some none => r.1.drv = {}
  | some (some e) => OutcomeOK e r.1.drv.closes ∧ SetupCode e

theorem buildRun_why (fuel : Nat) (t : T) (s : BSt) (hd : s.drv = {}) (hp : s.phase ≠ .finished)
    (hc : ∀ e, Held s.phase e → CtlErr tr e) :
    RunOK (buildRun tr fuel t s).2 ∧ ∀ e, (buildRun tr fuel t s).2.2 = some (some e) →
      ∃ se, CtlErr tr se ∧ (e = convert (ctlStreamErr se) ∨ e = (openCtlErr se).1) := by
  induction fuel generalizing t s with
  | zero => exact ⟨by simpa [buildRun, RunOK] using hd, nofun⟩
  | succ n ih =>
    have h := buildPoll_why tr t s hd hp
    have hs : ∀ e, Held s.phase e ∨ CtlErr tr e → CtlErr tr e := fun e he => he.elim (hc e) id
    have hk := h.ok
    unfold buildRun
    cases hr : (buildPoll tr t s).res with
    | none =>
      simp only [ResOK, hr] at hk
      simpa [hr] using ih _ _ hk.1 hk.2.1 fun e he => hs e (h.held e he)
    | some r =>
      simp only [hr]
      refine ⟨?_, fun e he => (h.err e (by rw [hr, ← he])).imp fun se h => ⟨hs se h.1, h.2⟩⟩
      cases r with
      | none => simp only [ResOK, hr] at hk; simpa [RunOK] using hk.1
      | some e => simp only [ResOK, hr] at hk; exact ⟨hk.1, hk.2.2⟩

end H3.Lemmas.Setup
