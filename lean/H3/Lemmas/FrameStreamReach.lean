import H3.Lemmas.FrameStreamInv
/-! Induction over arbitrary call sequences: `Inv` holds in every reachable configuration (`reach_inv`), a call
    from a reachable configuration leads to one (`Reach.call`), and so does the model's own call runner
    (`runCalls_reach`); the consumed offsets are segment boundaries (`Good`, `boundary_of_run`); `ScriptOK` is
    decidable (the `H3.ReqRecv` block at the end). -/
namespace H3.FS
variable {F E : Type}

theorem inv_init (D : Dec F E) : Inv D [] [] {} :=
  ⟨by simp, ⟨[], by simp [St.flat], rfl⟩, expSound_none D _, fun _ => rfl⟩

/-- the invariant of a configuration, relative to the whole script -/
def CInv (D : Dec F E) (sc0 : List Ev) (toks : List (Tok F E)) (s : St) (script : List Ev) : Prop :=
  ∃ taken, sc0 = taken ++ script ∧ TakenOK false s.eos taken ∧ Inv D (evBytes taken) toks s

theorem pollNext_preserves (D : Dec F E) (L : Laws D) (seen : Bytes) (toks : List (Tok F E))
    (s : St) (script : List Ev) (hI : Inv D seen toks s) (hsc : ScriptOK script) :
    (s.remaining ≠ 0 ∧ pollNext D s script = (.panic, s, script)) ∨
    (s.remaining = 0 ∧ NextPost D seen toks s script (pollNext D s script)) := by
  unfold pollNext
  by_cases h0 : s.remaining = 0
  · right
    rw [if_neg (by simpa using h0)]
    exact ⟨h0, pollNextLoop_spec D L script seen toks s hI h0 hsc⟩
  · left
    rw [if_pos h0]
    exact ⟨h0, rfl⟩

theorem reach_inv (D : Dec F E) (L : Laws D) (sc0 : List Ev) (hsc : ScriptOK sc0)
    {toks : List (Tok F E)} {s : St} {script : List Ev} (h : Reach D sc0 toks s script) :
    CInv D sc0 toks s script := by
  induction h with
  | init => exact ⟨[], by simp, by simp [TakenOK], by simpa [evBytes] using inv_init D⟩
  | @next toks s script o s' script' _ hcall hne ih =>
    obtain ⟨taken, rfl, htk, hI⟩ := ih
    rcases pollNext_preserves D L _ toks s script hI (scriptOK_suffix hsc) with ⟨_, hp⟩ | ⟨_, hp⟩
    · rw [hp] at hcall
      cases hcall
      cases hne
    · rw [hcall] at hp
      obtain ⟨tk, rfl, htk', hout⟩ := hp
      refine ⟨taken ++ tk, by simp, takenOK_trans htk htk', ?_⟩
      rw [evBytes_append]
      cases o with
      | frame f => exact hout
      | pending => simpa [Out.toks] using hout.1
      | none => simpa [Out.toks] using hout.1
      | data _ => exact absurd hout id
      | errProto _ => cases hne
      | errEnd => cases hne
      | errQuic _ => cases hne
      | panic => cases hne
  | @data toks s script o s' script' _ hcall hne ih =>
    obtain ⟨taken, rfl, htk, hI⟩ := ih
    have hp := pollData_spec D _ toks s script hI (scriptOK_suffix hsc)
    rw [hcall] at hp
    obtain ⟨tk, rfl, htk', hout⟩ := hp
    refine ⟨taken ++ tk, by simp, takenOK_trans htk htk', ?_⟩
    rw [evBytes_append]
    cases o with
    | data d => exact hout.2.2.2
    | pending => simpa [Out.toks] using hout.1
    | none => simpa [Out.toks] using hout.1
    | frame _ => exact absurd hout id
    | errProto _ => cases hne
    | errEnd => cases hne
    | errQuic _ => cases hne
    | panic => cases hne

theorem Out.toks_of_isErr {o : Out F E} (h : o.isErr = true) : o.toks = [] := by
  cases o <;> first | rfl | cases h

theorem Reach.call {D : Dec F E} {sc0 : List Ev} {toks : List (Tok F E)} {s : St} {script : List Ev}
    (h : Reach D sc0 toks s script) {o : Out F E} {s' : St} {r : List Ev}
    (hc : pollNext D s script = (o, s', r) ∨ pollData s script = (o, s', r)) :
    ∃ s2 r2, Reach D sc0 (toks ++ o.toks) s2 r2 ∧ (o.isErr = false → s2 = s' ∧ r2 = r) := by
  cases he : o.isErr with
  | false =>
    rcases hc with hc | hc
    · exact ⟨s', r, Reach.next h hc he, fun _ => ⟨rfl, rfl⟩⟩
    · exact ⟨s', r, Reach.data h hc he, fun _ => ⟨rfl, rfl⟩⟩
  | true =>
    exact ⟨s, script, by rw [Out.toks_of_isErr he, List.append_nil]; exact h, fun hc => nomatch hc⟩

theorem runCalls_reach (sc0 : List Ev) (calls : List Call) :
    ∀ (toks : List (Tok H3.Frame.Frame H3.Frame.FrameErr)) (s : St) (script : List Ev), Reach frameDec sc0 toks s script →
      ∃ s' script', Reach frameDec sc0 (toks ++ (runCalls s script calls).flatMap Out.toks) s' script' := by
  induction calls with
  | nil => intro toks s script h; exact ⟨s, script, by simpa [runCalls] using h⟩
  | cons c cs ih =>
    intro toks s script h
    -- after a call that answered `o`: the run stops, or `o` is no error and it goes on from `(s', r)`
    have step : ∀ (o : FOut) (s' : St) (r : List Ev) (rest : List FOut),
        (pollNext frameDec s script = (o, s', r) ∨ pollData s script = (o, s', r)) →
        rest = [] ∨ (o.isErr = false ∧ rest = runCalls s' r cs) →
        ∃ s2 r2, Reach frameDec sc0 (toks ++ (o :: rest).flatMap Out.toks) s2 r2 := by
      intro o s' r rest hc hrest
      obtain ⟨s1, r1, h1, h2⟩ := h.call hc
      rcases hrest with rfl | ⟨he, rfl⟩
      · exact ⟨s1, r1, by simpa using h1⟩
      · obtain ⟨rfl, rfl⟩ := h2 he
        obtain ⟨s2, r2, h3⟩ := ih _ _ _ h1
        exact ⟨s2, r2, by simpa [List.flatMap_cons, List.append_assoc] using h3⟩
    cases c with
    | next =>
      rw [runCalls]
      cases hres : pollNext frameDec s script with
      | mk o rest =>
      obtain ⟨s', r⟩ := rest
      cases o with
      | frame f => exact step _ s' r _ (.inl hres) (.inr ⟨rfl, rfl⟩)
      | pending => exact step _ s' r _ (.inl hres) (.inr ⟨rfl, rfl⟩)
      | _ => exact step _ s' r _ (.inl hres) (.inl rfl)
    | data =>
      rw [runCalls]
      cases hres : pollData (F := H3.Frame.Frame) (E := H3.Frame.FrameErr) s script with
      | mk o rest =>
      obtain ⟨s', r⟩ := rest
      cases o with
      | data d => exact step _ s' r _ (.inr hres) (.inr ⟨rfl, rfl⟩)
      | pending => exact step _ s' r _ (.inr hres) (.inr ⟨rfl, rfl⟩)
      | none => exact step _ s' r _ (.inr hres) (.inr ⟨rfl, rfl⟩)
      | _ => exact step _ s' r _ (.inr hres) (.inl rfl)

/-- the automaton state `p` after the bytes `x`, in terms of the segmentation -/
def Good (D : Dec F E) (x : Bytes) : PSt → Prop
  | .hdr acc => ∃ x0, x = x0 ++ acc ∧ Boundary D x0 0 ∧ (acc = [] ∨ (D.dec acc).isIncomplete = true)
  | .data r => r ≠ 0 ∧ Boundary D x r
  | .dead => True

theorem good_ofRem (D : Dec F E) (x : Bytes) (r : Nat) (h : Boundary D x r) :
    Good D x (PSt.ofRem r) := by
  unfold PSt.ofRem
  split
  · rename_i h0
    subst h0
    exact ⟨x, by simp, h, .inl rfl⟩
  · rename_i h0
    exact ⟨h0, h⟩

theorem good_feed (D : Dec F E) (L : Laws D) (x : Bytes) (p : PSt) (b : Nat) (h : Good D x p) :
    Good D (x ++ [b]) (feed D p b).1 := by
  cases p with
  | dead => trivial
  | data r =>
    obtain ⟨hr, hb⟩ := h
    simp only [feed]
    have := Boundary.data (d := [b]) hb (by simp; omega)
    exact good_ofRem D _ _ (by simpa using this)
  | hdr acc =>
    obtain ⟨x0, rfl, hb, hinc⟩ := h
    simp only [feed]
    -- no prefix of `acc` decodes (L1), so a reported position is the whole of `acc ++ [b]` (L2)
    have hfull : ∀ n, (D.dec (acc ++ [b])).pos? = some n → n = (acc ++ [b]).length := by
      intro n hpos
      have ⟨h1, hle⟩ := L.pos_le _ n hpos
      have ⟨_, hmin⟩ := L.minimal _ n hpos
      rcases Nat.lt_or_ge n (acc ++ [b]).length with hlt | hge
      · exfalso
        simp only [List.length_append, List.length_singleton] at hlt
        have h2 := prefix_incomplete D L acc (hinc.resolve_left (by rintro rfl; simp at hlt; omega)) n
        rw [List.take_append_of_le_length (by omega)] at hmin
        rw [hmin, DecRes.definite_of_pos hpos] at h2
        cases h2
      · omega
    cases hd : D.dec (acc ++ [b]) with
    | incomplete m =>
      exact ⟨x0, by simp, hb, .inr (by rw [hd]; rfl)⟩
    | error e => trivial
    | frame f n =>
      rw [hfull n (by rw [hd]; rfl)] at hd
      have := Boundary.frame hb hd
      rw [← List.append_assoc] at this
      exact good_ofRem D _ _ this
    | unknown n =>
      rw [hfull n (by rw [hd]; rfl)] at hd
      have := Boundary.skip hb hd
      exact ⟨_, by simp, this, .inl rfl⟩

theorem good_run (D : Dec F E) (L : Laws D) (y : Bytes) :
    ∀ (x : Bytes) (p : PSt), Good D x p → Good D (x ++ y) (run D p y).1 := by
  induction y with
  | nil => intro x p h; simpa [run] using h
  | cons b y ih =>
    intro x p h
    have := ih (x ++ [b]) (feed D p b).1 (good_feed D L x p b h)
    simpa [run, List.append_assoc] using this

theorem boundary_of_run (D : Dec F E) (L : Laws D) (x : Bytes) (r : Nat) (toks : List (Tok F E))
    (h : run D (.hdr []) x = (PSt.ofRem r, toks)) : Boundary D x r := by
  have hg := good_run D L x [] (.hdr []) ⟨[], by simp, Boundary.nil, .inl rfl⟩
  rw [h] at hg
  simp only [List.nil_append] at hg
  unfold PSt.ofRem at hg
  split at hg
  · rename_i h0
    obtain ⟨x0, hx, hb, _⟩ := hg
    simp only [List.append_nil] at hx
    rw [hx, h0]; exact hb
  · exact hg.2

end H3.FS

namespace H3.ReqRecv

def scriptOKB (sc : List FS.Ev) : Bool :=
  sc.all fun ev => match ev with | .chunk b => !b.isEmpty | _ => true

theorem scriptOK_iff (sc : List FS.Ev) : FS.ScriptOK sc ↔ scriptOKB sc = true := by
  unfold FS.ScriptOK scriptOKB
  rw [List.all_eq_true]
  constructor
  · intro h ev hev
    cases ev with
    | chunk b => simpa using h b hev
    | _ => rfl
  · intro h b hb
    simpa using h _ hb

instance (sc : List FS.Ev) : Decidable (FS.ScriptOK sc) := decidable_of_iff _ (scriptOK_iff sc).symm

end H3.ReqRecv
