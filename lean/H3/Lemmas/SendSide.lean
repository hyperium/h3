import H3.Model.SendSide
import H3.Lemmas.SendFrames
import H3.Lemmas.Settings
/-! The invariant of the `H3.SendSide` machine: the log of every stream is
    `base ++ item.take c` where `base` is a legal complete content for the kind of stream,
    `item` is the legal next item in flight (the view of the `WriteBuf` being drained is
    `item.drop c`) — and what that means for the output specification. -/
namespace H3.SendSide
open H3.Varint H3.WriteBuf H3.Gen.Consts H3.Gen.WriteBuf H3.Spec.Output H3.Spec.Framing

def chk (cx : Ctx) : Kind → Bytes → Bool → Option Violation
  | .request, w, fin => checkRequest w fin
  | _, w, fin => checkUni cx w fin

/-- control stream content after which the specification expects later control frames -/
def CtlBase (cx : Ctx) (base : Bytes) : Prop :=
  ∀ rest, checkUni cx (base ++ rest) false = walkTop (ctlTyOk cx.server) ctlPayOk rest false

def CtlHeader (item : Bytes) : Prop :=
  ∃ es, SettingsFine es ∧ (pairsWire es).length < 2^62 ∧ item = [0] ++ wire 4 (pairsWire es)

def GreaseBytes (item : Bytes) : Prop :=
  ∃ n rest, greaseId n < 2^62 ∧ item = encode (greaseId n) ++ rest

def Legal (cx : Ctx) : Kind → Bytes → Bytes → Prop
  | .request, base, item =>
    Transparent reqTyOk noPayCheck base ∧ (item = [] ∨ IsFrame reqTyOk noPayCheck item)
  | .control, base, item =>
    (base = [] ∧ CtlHeader item) ∨
    (CtlBase cx base ∧ (item = [] ∨ IsFrame (ctlTyOk cx.server) ctlPayOk item))
  | .qpackEnc, base, item => (base = [] ∧ item = [2]) ∨ (base = [2] ∧ item = [])
  | .qpackDec, base, item => (base = [] ∧ item = [3]) ∨ (base = [3] ∧ item = [])
  | .greaseStream, base, item => (base = [] ∧ GreaseBytes item) ∨ (GreaseBytes base ∧ item = [])

theorem ctlHeader_base (cx : Ctx) {item : Bytes} (h : CtlHeader item) : CtlBase cx item := by
  obtain ⟨es, hf, hl, rfl⟩ := h
  intro rest
  simp only [List.cons_append, List.nil_append]
  unfold checkUni
  rw [rfcDecode_byte 0 (by decide)]
  simp only [if_true, Bool.false_eq_true, if_false]
  unfold checkControlBody
  rw [if_neg (List.append_ne_nil_of_left_ne_nil (wire_ne_nil 4 _ (by decide)) rest)]
  rw [frameStep_whole firstTyOk firstPayOk _ 4 (pairsWire es) rest false (by decide) hl (by decide)
    (settingsOk_pairsWire es hf)]
  rfl

theorem ctlHeader_partial (cx : Ctx) {item : Bytes} (h : CtlHeader item) (c : Nat) :
    checkUni cx (item.take c) false = none := by
  by_cases hc : item.length ≤ c
  · have := ctlHeader_base cx h []
    rw [List.append_nil, walkTop_nil] at this
    rw [List.take_of_length_le hc, this]
  obtain ⟨es, hf, hl, rfl⟩ := h
  cases c with
  | zero => simp [checkUni, rfcDecode, endOr]
  | succ c =>
    simp only [List.cons_append, List.nil_append, List.take_succ_cons]
    unfold checkUni
    rw [rfcDecode_byte 0 (by decide)]
    simp only [if_true, Bool.false_eq_true, if_false]
    unfold checkControlBody
    split
    · rfl
    · exact frameStep_partial _ _ _ 4 _ (by decide) hl (by decide) c (by simp at hc; omega)

theorem ctlBase_append (cx : Ctx) {base item : Bytes} (hb : CtlBase cx base)
    (hi : IsFrame (ctlTyOk cx.server) ctlPayOk item) : CtlBase cx (base ++ item) := by
  intro rest
  rw [List.append_assoc, hb, walkTop_frame hi]

theorem checkUni_reserved (cx : Ctx) {ty : Nat} (hty : ty < 2^62) (hr : isReserved ty = true)
    (rest : Bytes) (fin : Bool) : checkUni cx (encode ty ++ rest) fin = none := by
  have h : ∀ y, isReserved y = false → (ty = y) = False := fun y hy => eq_false (reserved_ne hr hy)
  unfold checkUni
  rw [rfcDecode_encode _ hty]
  -- 0, 1, 2, 3, 0x54: the stream types `checkUni` tests for; a reserved one falls through them all
  simp only [h 0 (by decide), h 1 (by decide), h 2 (by decide), h 3 (by decide), h 0x54 (by decide),
    hr, if_false, if_true, decide_false, Bool.or_self, Bool.false_eq_true]

theorem GreaseBytes.ne_nil {item : Bytes} (h : GreaseBytes item) : item ≠ [] := by
  obtain ⟨n, rest, hn, rfl⟩ := h
  exact List.append_ne_nil_of_left_ne_nil (List.ne_nil_of_length_pos (encode_length_pos _ hn)) rest

theorem greaseBytes_ok (cx : Ctx) {item : Bytes} (h : GreaseBytes item) (c : Nat) :
    checkUni cx (item.take c) false = none := by
  obtain ⟨n, rest, hn, rfl⟩ := h
  by_cases hc : c < (encode (greaseId n)).length
  · unfold checkUni
    rw [rfcDecode_encode_take _ hn, if_pos hc]
    rfl
  · rw [List.take_append, List.take_of_length_le (by omega)]
    exact checkUni_reserved cx hn (greaseId_reserved n) _ false

theorem legal_complete (cx : Ctx) (k : Kind) (base item : Bytes) (h : Legal cx k base item) :
    Legal cx k (base ++ item) [] := by
  cases k with
  | request =>
    obtain ⟨hb, hi⟩ := h
    refine ⟨?_, Or.inl rfl⟩
    rcases hi with rfl | hi
    · simpa using hb
    · exact transparent_append hb hi
  | control =>
    rcases h with ⟨rfl, hh⟩ | ⟨hb, hi⟩
    · exact Or.inr ⟨by simpa using ctlHeader_base cx hh, Or.inl rfl⟩
    · refine Or.inr ⟨?_, Or.inl rfl⟩
      rcases hi with rfl | hi
      · simpa using hb
      · exact ctlBase_append cx hb hi
  | qpackEnc | qpackDec =>
    rcases h with ⟨rfl, rfl⟩ | ⟨rfl, rfl⟩
    · exact Or.inr ⟨rfl, rfl⟩
    · exact Or.inr ⟨rfl, rfl⟩
  | greaseStream =>
    rcases h with ⟨rfl, hg⟩ | ⟨hg, rfl⟩
    · exact Or.inr ⟨by simpa using hg, rfl⟩
    · exact Or.inr ⟨by simpa using hg, rfl⟩

theorem qpack_ok (cx : Ctx) (b : Nat) (hb : b = 2 ∨ b = 3) (c : Nat) :
    checkUni cx (([b] : Bytes).take c) false = none := by
  cases c with
  | zero => simp [checkUni, rfcDecode, endOr]
  | succ c =>
    simp only [List.take_succ_cons, List.take_nil]
    unfold checkUni
    rw [rfcDecode_byte b (by omega)]
    rcases hb with rfl | rfl <;> simp

theorem qpack_open (cx : Ctx) (b : Nat) (hb : b = 2 ∨ b = 3) {base item : Bytes}
    (h : (base = [] ∧ item = [b]) ∨ (base = [b] ∧ item = [])) (c : Nat) :
    checkUni cx (base ++ item.take c) false = none := by
  rcases h with ⟨rfl, rfl⟩ | ⟨rfl, rfl⟩
  · simpa using qpack_ok cx b hb c
  · simpa using qpack_ok cx b hb 1

theorem legal_open (cx : Ctx) (k : Kind) (base item : Bytes) (h : Legal cx k base item)
    (c : Nat) : chk cx k (base ++ item.take c) false = none := by
  cases k with
  | request =>
    obtain ⟨hb, hi⟩ := h
    simp only [chk, checkRequest_eq]
    rw [hb]
    rcases hi with rfl | hi
    · simp [walkTop_nil]
    · exact walkTop_partial hi c
  | control =>
    simp only [chk]
    rcases h with ⟨rfl, hh⟩ | ⟨hb, hi⟩
    · simpa using ctlHeader_partial cx hh c
    · rw [hb]
      rcases hi with rfl | hi
      · simp [walkTop_nil]
      · exact walkTop_partial hi c
  | qpackEnc => exact qpack_open cx 2 (Or.inl rfl) h c
  | qpackDec => exact qpack_open cx 3 (Or.inr rfl) h c
  | greaseStream =>
    simp only [chk]
    rcases h with ⟨rfl, hg⟩ | ⟨hg, rfl⟩
    · simpa using greaseBytes_ok cx hg c
    · -- `base = base.take base.length`
      simpa using greaseBytes_ok cx hg base.length

theorem legal_fin (cx : Ctx) (k : Kind) (base : Bytes) (h : Legal cx k base [])
    (hk : k = .request ∨ k = .greaseStream) : chk cx k base true = none := by
  rcases hk with rfl | rfl
  · obtain ⟨hb, _⟩ := h
    simp only [chk, checkRequest_eq]
    have := hb [] true
    rw [List.append_nil] at this
    rw [this, walkTop_nil]
  · simp only [chk]
    rcases h with ⟨rfl, hg⟩ | ⟨hg, _⟩
    · exact absurd rfl hg.ne_nil
    · obtain ⟨n, rest, hn, rfl⟩ := hg
      exact checkUni_reserved cx hn (greaseId_reserved n) rest true

def KindOk (server : Bool) (sid : Nat) : Kind → Prop
  | .request => sid % 4 = 0
  | _ => sid % 4 = (if server then 3 else 2)

def CurOk : Option WB → Bytes → Nat → Prop
  | none, item, _ => item = []
  | some w, item, c => w.WF ∧ w.view = item.drop c ∧ w.view ≠ []

structure SInv (cx : Ctx) (sid : Nat) (st : Stream) : Prop where
  kindOk : KindOk cx.server sid st.kind
  ex : ∃ base item c, st.log = base ++ item.take c ∧ CurOk st.cur item c ∧
        Legal cx st.kind base item
  fin1 : st.fin = true → st.cur = none
  -- a finished control or QPACK stream is `criticalClosed` for `checkUni`: only the other two kinds are ever finished
  fin2 : (st.fin = true ∨ st.finAfter = true) → (st.kind = .request ∨ st.kind = .greaseStream)

theorem checkStream_uni {cx : Ctx} {sid : Nat} (h : sid % 4 = (if cx.server then 3 else 2))
    (w : Bytes) (fin : Bool) : checkStream cx sid w fin = checkUni cx w fin := by
  unfold checkStream
  rw [h]
  cases cx.server <;> rfl

theorem checkStream_of_chk {cx : Ctx} {sid : Nat} {k : Kind} {w : Bytes} {fin : Bool}
    (hk : KindOk cx.server sid k) (h : chk cx k w fin = none) : checkStream cx sid w fin = none := by
  cases k
  case request =>
    unfold checkStream
    rw [if_pos (show sid % 4 = 0 from hk)]
    split
    · rfl
    · exact h
  all_goals exact (checkStream_uni hk w fin).trans h

theorem SInv.idle {cx : Ctx} {sid : Nat} {st : Stream} (h : SInv cx sid st) (hc : st.cur = none) :
    Legal cx st.kind st.log [] := by
  obtain ⟨base, item, c, hlog, hcur, hleg⟩ := h.ex
  rw [hc] at hcur
  cases (hcur : item = [])
  rw [hlog, List.take_nil, List.append_nil]
  exact hleg

/-- what the invariant means for the specification -/
theorem sinv_valid (cx : Ctx) (sid : Nat) (st : Stream) (h : SInv cx sid st) :
    checkStream cx sid st.log st.fin = none := by
  refine checkStream_of_chk h.kindOk ?_
  cases hfin : st.fin with
  | false =>
    obtain ⟨base, item, c, hlog, _, hleg⟩ := h.ex
    rw [hlog]
    exact legal_open cx _ _ _ hleg c
  | true => exact legal_fin cx _ _ (h.idle (h.fin1 hfin)) (h.fin2 (Or.inl hfin))

theorem take_drop_step {item o v : Bytes} {c : Nat} (h : item.drop c = o ++ v) :
    item.take (c + o.length) = item.take c ++ o ∧ item.drop (c + o.length) = v := by
  rw [List.take_add, ← List.drop_drop, h]
  simp

/-- one poll of a stream with a buffer in flight: the transport takes a prefix `o` of the view; if
    nothing is left the call is complete (`poll_finish` follows when owed) -/
theorem poll_cases (s : Stream) (k : Nat) {w : WB} (hc : s.cur = some w) (hwf : w.WF) :
    ∃ o w', w'.WF ∧ o ++ w'.view = w.view ∧
      s.poll k = if w'.view = [] then
          { s with log := s.log ++ o, cur := none, fin := s.fin || s.finAfter, finAfter := false }
        else { s with log := s.log ++ o, cur := some w' } := by
  obtain ⟨o, w', hs, hwf', hov, _, _⟩ := step_spec w hwf k
  refine ⟨o, w', hwf', hov, ?_⟩
  unfold Stream.poll
  simp only [hc, hs, remaining_eq_zero w' hwf']

theorem poll_inv (cx : Ctx) (sid : Nat) (st : Stream) (k : Nat) (h : SInv cx sid st) :
    SInv cx sid (st.poll k) := by
  obtain ⟨hk, ⟨base, item, c, hlog, hcur, hleg⟩, hf1, hf2⟩ := h
  cases hc : st.cur with
  | none => unfold Stream.poll; rw [hc]; exact ⟨hk, ⟨base, item, c, hlog, hcur, hleg⟩, hf1, hf2⟩
  | some w =>
    rw [hc] at hcur
    obtain ⟨hwf, hview, hne⟩ := hcur
    obtain ⟨o, w', hwf', hov, hp⟩ := poll_cases st k hc hwf
    rw [hp]
    have hnf : st.fin = false := by
      cases hfin : st.fin with
      | false => rfl
      | true => have := hf1 hfin; rw [hc] at this; cases this
    obtain ⟨htake, hdrop⟩ := take_drop_step (hview.symm.trans hov.symm)
    split
    · -- the buffer is empty: the call's write is complete
      rename_i hrem
      rw [← hdrop, List.drop_eq_nil_iff] at hrem
      refine ⟨hk, ⟨base ++ item, [], 0, ?_, rfl, legal_complete cx _ _ _ hleg⟩, fun _ => rfl, ?_⟩
      · simp only [hlog, List.take_nil, List.append_nil, List.append_assoc]
        rw [← htake, List.take_of_length_le hrem]
      · intro hh
        simp only [hnf, Bool.false_or] at hh
        rcases hh with hh | hh
        · exact hf2 (Or.inr hh)
        · cases hh
    · rename_i hrem
      refine ⟨hk, ⟨base, item, c + o.length, ?_, ⟨hwf', hdrop.symm, hrem⟩, hleg⟩, ?_, hf2⟩
      · simp only [hlog, List.append_assoc]; rw [htake]
      · intro hh; rw [hnf] at hh; cases hh

theorem idle_flags {st : Stream} (h : st.idle = true) :
    st.cur = none ∧ st.finAfter = false ∧ st.fin = false := by
  unfold Stream.idle at h
  simp only [Bool.and_eq_true, Bool.not_eq_true', Option.isNone_iff_eq_none] at h
  exact ⟨h.1.1, h.1.2, h.2⟩

/-- a new item is handed to an idle stream (possibly as the first half of `finish()`) -/
theorem start_inv (cx : Ctx) (sid : Nat) (st : Stream) (w : WB) (fa g : Bool)
    (h : SInv cx sid st) (hidle : st.idle = true) (hwf : w.WF) (hne : w.view ≠ [])
    (hnew : ∀ base, Legal cx st.kind base [] → Legal cx st.kind base w.view)
    (hfa : fa = true → (st.kind = .request ∨ st.kind = .greaseStream)) :
    SInv cx sid { st with cur := some w, finAfter := fa, grease := g } := by
  obtain ⟨hcn, _, hfn⟩ := idle_flags hidle
  refine ⟨h.kindOk, ⟨st.log, w.view, 0, by simp, ⟨hwf, rfl, hne⟩, hnew _ (h.idle hcn)⟩, ?_, ?_⟩
  · intro hh; simp only at hh; rw [hfn] at hh; cases hh
  · intro hh
    simp only at hh
    rcases hh with hh | hh
    · rw [hfn] at hh; cases hh
    · exact hfa hh

theorem reqTyOk_reserved {ty : Nat} (hr : isReserved ty = true) : reqTyOk ty = none := by
  unfold reqTyOk
  rw [reserved_not_mem hr h2Types (by decide)]
  simp [hr]

theorem fromFrame_request {f : SFrame} {w : WB}
    (hf : (∃ p, f = .data p) ∨ (∃ p, f = .headers p) ∨ ∃ n, f = .grease (greaseId n))
    (hw : fromFrame f = some w) : w.WF ∧ IsFrame reqTyOk noPayCheck w.view := by
  have hl : HasLength f := by rcases hf with ⟨p, rfl⟩ | ⟨p, rfl⟩ | ⟨n, rfl⟩ <;> trivial
  obtain ⟨_, hwf, hv, hty, hp⟩ := fromFrame_spec hl hw
  refine ⟨hwf, _, _, hty, hp, ?_, rfl, hv⟩
  rcases hf with ⟨p, rfl⟩ | ⟨p, rfl⟩ | ⟨n, rfl⟩
  · exact (by decide : reqTyOk 0 = none)
  · exact (by decide : reqTyOk 1 = none)
  · exact reqTyOk_reserved (greaseId_reserved n)

theorem start_request_inv (cx : Ctx) (sid : Nat) (st : Stream) (w : WB) (fa g : Bool)
    (h : SInv cx sid st) (hk : st.kind = .request) (hidle : st.idle = true)
    (hw : w.WF ∧ IsFrame reqTyOk noPayCheck w.view) :
    SInv cx sid { st with cur := some w, finAfter := fa, grease := g } := by
  obtain ⟨hwf, ty, p, hty, hp, h1, h2, he⟩ := hw
  refine start_inv cx sid st w fa g h hidle hwf (by rw [he]; exact wire_ne_nil ty p hty) ?_
    (fun _ => Or.inl hk)
  rw [hk]
  exact fun base hl => ⟨hl.1, Or.inr ⟨ty, p, hty, hp, h1, h2, he⟩⟩

theorem isFrame_goaway (server : Bool) (id : Nat) (hid : id < 2^62) :
    IsFrame (ctlTyOk server) ctlPayOk (wire 7 (encode id)) := by
  refine ⟨7, encode id, by decide, ?_, ?_, ?_, rfl⟩
  · have := encode_length_le id hid; omega
  · cases server <;> decide
  · unfold ctlPayOk exactlyOneVarint
    have := rfcDecode_encode id hid []
    rw [List.append_nil] at this
    rw [this]
    simp

theorem sendFrame_inv (cx : Ctx) (sid : Nat) (st : Stream) (f : SFrame)
    (hf : (∃ p, f = .data p) ∨ (∃ p, f = .headers p) ∨ ∃ n, f = .grease (greaseId n))
    (h : SInv cx sid st) : SInv cx sid (onRequest (fun s => s.start (fromFrame f)) st) := by
  unfold onRequest
  split
  · rename_i hc
    unfold Stream.start
    cases hw : fromFrame f with
    | none => exact h
    | some w =>
      exact start_request_inv cx sid st w st.finAfter st.grease h hc.1 hc.2 (fromFrame_request hf hw)
  · exact h

theorem finish_inv (cx : Ctx) (sid : Nat) (st : Stream) (gN : Nat) (h : SInv cx sid st) :
    SInv cx sid (onRequest (finishStream gN) st) := by
  unfold onRequest
  split
  · rename_i hc
    unfold finishStream
    split
    · unfold greaseThenFin
      cases hw : fromFrame (.grease (greaseId gN)) with
      | none => exact h
      | some w =>
        exact start_request_inv cx sid st w true false h hc.1 hc.2
          (fromFrame_request (Or.inr (Or.inr ⟨gN, rfl⟩)) hw)
    · exact ⟨h.kindOk, h.ex, fun _ => (idle_flags hc.2).1, fun _ => Or.inl hc.1⟩
  · exact h

theorem goaway_inv (cx : Ctx) (sid : Nat) (st : Stream) (id : Nat) (h : SInv cx sid st) :
    SInv cx sid (onControl (fun s => s.start (fromFrame (.goaway id))) st) := by
  unfold onControl
  split
  · rename_i hc
    obtain ⟨hkind, hidle⟩ := hc
    unfold Stream.start
    cases hw : fromFrame (.goaway id) with
    | none => exact h
    | some w =>
      obtain ⟨hlt, hwf, hv, hty, _⟩ := fromFrame_spec (f := .goaway id) trivial hw
      refine start_inv cx sid st w st.finAfter st.grease h hidle hwf
        (by rw [hv]; exact wire_ne_nil _ _ hty) ?_
        (by rw [(idle_flags hidle).2.1]; exact nofun)
      rw [hkind, hv]
      intro base hl
      rcases hl with ⟨_, es, _, _, he⟩ | ⟨hb, _⟩
      · cases he
      · exact Or.inr ⟨hb, Or.inr (isFrame_goaway cx.server id hlt)⟩
  · exact h

theorem fresh_request_inv (cx : Ctx) (sid : Nat) (hs : sid % 4 = 0) (g : Bool) :
    SInv cx sid (mkStream .request none false g) :=
  ⟨hs, ⟨[], [], 0, rfl, rfl, ⟨transparent_nil _ _, Or.inl rfl⟩⟩, (fun h => by cases h),
    (fun h => by rcases h with h | h <;> cases h)⟩

theorem new_request_inv (cx : Ctx) (sid : Nat) (hs : sid % 4 = 0) (g : Bool) (fs : Bytes) :
    SInv cx sid ((mkStream .request none false g).start (fromFrame (.headers fs))) := by
  have h0 := fresh_request_inv cx sid hs g
  unfold Stream.start
  cases hw : fromFrame (.headers fs) with
  | none => exact h0
  | some w =>
    exact start_request_inv cx sid _ w false g h0 rfl rfl
      (fromFrame_request (Or.inr (Or.inl ⟨fs, rfl⟩)) hw)

theorem fresh_stream_inv (cx : Ctx) (sid : Nat) (k : Kind) (w : WB) (fa : Bool)
    (hk : KindOk cx.server sid k) (hwf : w.WF) (hne : w.view ≠ []) (hleg : Legal cx k [] w.view)
    (hfa : fa = true → k = .request ∨ k = .greaseStream) :
    SInv cx sid (mkStream k (some w) fa false) :=
  ⟨hk, ⟨[], w.view, 0, rfl, ⟨hwf, rfl, hne⟩, hleg⟩, nofun, fun h => h.elim nofun hfa⟩

theorem grease_stream_inv (cx : Ctx) (sid : Nat) (hs : sid % 4 = (if cx.server then 3 else 2))
    (gS gF : Nat) (w : WB) (hw : fromPair (greaseId gS) (.grease (greaseId gF)) = some w) :
    SInv cx sid (mkStream .greaseStream (some w) true false) := by
  obtain ⟨hb, hlt, _, hwf, hv⟩ := fromPair_spec hw
  have hg : GreaseBytes w.view := ⟨gS, _, hlt, by rw [hv, List.append_assoc]⟩
  exact fresh_stream_inv cx sid _ w true hs hwf hg.ne_nil (Or.inl ⟨rfl, hg⟩) (fun _ => Or.inr rfl)

def cxOf (st : State) : Ctx := { server := st.server, wt := st.cfg.wt }

def Inv (st : State) : Prop := ∀ e ∈ st.streams, SInv (cxOf st) e.1 e.2

theorem update_inv (cx : Ctx) (ss : List (Nat × Stream)) (sid : Nat) (f : Stream → Stream)
    (h : ∀ e ∈ ss, SInv cx e.1 e.2) (hf : ∀ s, SInv cx sid s → SInv cx sid (f s)) :
    ∀ e ∈ updateStream ss sid f, SInv cx e.1 e.2 := by
  intro e he
  unfold updateStream at he
  rw [List.mem_map] at he
  obtain ⟨e0, he0, rfl⟩ := he
  by_cases hs : e0.1 = sid
  · rw [if_pos hs]
    simp only
    rw [hs]
    exact hf _ (by rw [← hs]; exact h e0 he0)
  · rw [if_neg hs]
    exact h e0 he0

theorem uniId_mod (server : Bool) (i : Nat) : uniId server i % 4 = (if server then 3 else 2) := by
  unfold uniId
  cases server <;> simp <;> omega

theorem step_cx (st : State) (s : Step) : cxOf (step st s) = cxOf st := by
  cases s with
  | poll sid k | sendHeaders sid fs | sendData sid buf | finish sid gN => rfl
  | sendRequest sid fs | acceptRequest sid | goaway id => simp only [step]; split <;> rfl
  | greaseStream sid gS gF =>
    simp only [step]
    split
    · split <;> rfl
    · rfl

theorem step_inv (st : State) (s : Step) (h : Inv st) : Inv (step st s) := by
  unfold Inv
  rw [step_cx]
  unfold Inv at h
  cases s with
  | poll sid k =>
    simp only [step]
    exact update_inv _ _ _ _ h (fun s hs => poll_inv _ _ s k hs)
  | sendRequest sid fs =>
    simp only [step]
    split
    · rename_i hc
      exact List.forall_mem_append.mpr ⟨h, List.forall_mem_singleton.mpr (new_request_inv _ sid hc.2.2.1 _ fs)⟩
    · exact h
  | acceptRequest sid =>
    simp only [step]
    split
    · rename_i hc
      exact List.forall_mem_append.mpr ⟨h, List.forall_mem_singleton.mpr (fresh_request_inv _ sid hc.2.2.1 _)⟩
    · exact h
  | sendHeaders sid fs =>
    simp only [step]
    exact update_inv _ _ _ _ h (fun s hs => sendFrame_inv _ _ s _ (Or.inr (Or.inl ⟨fs, rfl⟩)) hs)
  | sendData sid buf =>
    simp only [step]
    exact update_inv _ _ _ _ h (fun s hs => sendFrame_inv _ _ s _ (Or.inl ⟨buf, rfl⟩) hs)
  | finish sid gN =>
    simp only [step]
    exact update_inv _ _ _ _ h (fun s hs => finish_inv _ _ s gN hs)
  | goaway id =>
    simp only [step]
    split
    · exact update_inv _ _ _ _ h (fun s hs => goaway_inv _ _ s id hs)
    · exact h
  | greaseStream sid gS gF =>
    simp only [step]
    split
    · rename_i hc
      cases hw : fromPair (greaseId gS) (.grease (greaseId gF)) with
      | none => exact h
      | some w =>
        simp only
        refine List.forall_mem_append.mpr ⟨h, List.forall_mem_singleton.mpr (grease_stream_inv _ sid ?_ gS gF w hw)⟩
        have := hc.2.2.1
        rw [uniId_mod] at this
        exact this
    · exact h

/-- the configuration as C13's model has it -/
def toConfig (c : Config) : H3.Config.Config := ⟨c.grease, ⟨c.mfs, c.wt, c.ec, c.dg, c.wts⟩⟩

/-- `SettingId::grease()` is modelled twice, from two generated constant files -/
theorem greaseId_eq : greaseId = H3.Settings.greaseId := rfl

/-- `TryFrom<Config>` is modelled twice; the entry lists agree.  Both sides are evaluated: if this `rfl`
    fails, one of these no longer matches its counterpart in `Config.entriesOf`: the generated
    `configSettingOrder` (identifiers and their order), the string keys of `fieldVal`,
    `CONFIG_GREASE_SETTING_VALUE` (0 there), `boolVal`, or `greaseId` (`greaseId_eq`). -/
theorem configSettings_eq (c : Config) (gN : Nat) :
    configSettings c gN = H3.Config.entriesOf (toConfig c) gN := by
  obtain ⟨g, mfs, wt, ec, dg, wts⟩ := c
  cases g <;> rfl

theorem configSettings_fine (c : Config) (gN : Nat)
    (hb : ∀ e ∈ configSettings c gN, e.1 < 2^62 ∧ e.2 < 2^62) :
    SettingsFine (configSettings c gN) := by
  have key : ∀ e ∈ configSettings c gN, h2Settings.contains e.1 = false ∧
      (definedSettings.contains e.1 || isReserved e.1) = true := by
    rw [configSettings_eq]
    exact H3.Config.entriesOf_ids _ gN
      (P := fun id => h2Settings.contains id = false ∧ (definedSettings.contains id || isReserved id) = true)
      ⟨reserved_not_mem (greaseId_reserved gN) _ (by decide),
        (Bool.or_eq_true _ _).mpr (Or.inr (greaseId_reserved gN))⟩ (by decide)
  refine ⟨hb, fun e he => (key e he).1, fun e he => (key e he).2, ?_⟩
  rw [configSettings_eq]
  exact H3.Config.entriesOf_nodup _ _

theorem encodeUniHeader_control (es : List (Nat × Nat)) :
    encodeUniHeader (.control es) = (settingsEncode es).map ([0] ++ ·) := by
  simp only [encodeUniHeader, STREAM_CONTROL]
  rw [writeVar_eq 0 (by decide)]
  cases settingsEncode es <;> rfl

theorem fromUniHeader_control {es : List (Nat × Nat)} {w : WB}
    (h : fromUniHeader (.control es) = some w) :
    w.WF ∧ (∀ e ∈ es, e.1 < 2^62 ∧ e.2 < 2^62) ∧ (pairsWire es).length < 2^62 ∧
    w.view = [0] ++ wire 4 (pairsWire es) := by
  obtain ⟨hwf, he⟩ := fromUniHeader_spec h
  rw [encodeUniHeader_control] at he
  cases hs : settingsEncode es with
  | none => rw [hs] at he; cases he
  | some sb =>
    rw [hs] at he
    obtain ⟨hb, hl, rfl⟩ := settingsEncode_some hs
    exact ⟨hwf, hb, hl, (Option.some.inj he).symm⟩

theorem fromUniHeader_control_some {es : List (Nat × Nat)} (hb : H3.Settings.Fits es)
    (hl : (pairsWire es).length < 2^62)
    (hfit : ([0] ++ wire 4 (pairsWire es)).length ≤ WRITE_BUF_ENCODE_SIZE) :
    ∃ w, fromUniHeader (.control es) = some w ∧ w.WF ∧ w.view = [0] ++ wire 4 (pairsWire es) := by
  have henc : encodeUniHeader (.control es) = some ([0] ++ wire 4 (pairsWire es)) := by
    rw [encodeUniHeader_control, settingsEncode_of_fine hb hl]; rfl
  obtain ⟨w, hw, hwf, hv⟩ := putOpt_new_view (p := none) henc hfit
  exact ⟨w, hw, hwf, hv.trans (List.append_nil _)⟩

theorem init_inv (server : Bool) (cfg : Config) (gN : Nat) (st : State)
    (h : init server cfg gN = some st) : Inv st := by
  unfold init at h
  split at h
  · rename_i c e d hc he hd
    cases h
    obtain ⟨cwf, cb, cl, cv⟩ := fromUniHeader_control hc
    obtain ⟨ewf, ev⟩ := fromUniHeader_spec he
    obtain ⟨dwf, dv⟩ := fromUniHeader_spec hd
    have ev : e.view = [2] := (Option.some.inj ev).symm
    have dv : d.view = [3] := (Option.some.inj dv).symm
    intro x hx
    simp only [List.mem_cons, List.not_mem_nil, or_false] at hx
    rcases hx with rfl | rfl | rfl
    · exact fresh_stream_inv _ _ _ c false (uniId_mod server 0) cwf (by rw [cv]; simp)
        (Or.inl ⟨rfl, _, configSettings_fine cfg gN cb, cl, cv⟩) nofun
    · exact fresh_stream_inv _ _ _ e false (uniId_mod server 1) ewf (by rw [ev]; simp)
        (Or.inl ⟨rfl, ev⟩) nofun
    · exact fresh_stream_inv _ _ _ d false (uniId_mod server 2) dwf (by rw [dv]; simp)
        (Or.inl ⟨rfl, dv⟩) nofun
  · cases h

/-- `Builder::build` cannot panic in `WriteBuf::from(UniStreamHeader::Control(settings))`:
    whatever the configuration (values representable as varints), the stream type and the
    SETTINGS frame take at most 42 of the `WRITE_BUF_ENCODE_SIZE` bytes. -/
theorem control_header_fits (cfg : Config) (gN : Nat) (hm : cfg.mfs < 2^62)
    (hw : cfg.wts < 2^62) (hg : gN < GREASE_RANGE_END) :
    ∃ w, fromUniHeader (.control (configSettings cfg gN)) = some w ∧
      w.view.length ≤ 42 := by
  have hb : H3.Settings.Fits (configSettings cfg gN) := by
    rw [configSettings_eq]
    exact H3.Config.entriesOf_fits (toConfig cfg) gN hm hw (greaseId_eq ▸ greaseId_lt gN hg)
  have hlen : (pairsWire (configSettings cfg gN)).length ≤ 39 := by
    rw [pairsWire_eq, H3.Settings.encPairs_length _ hb, configSettings_eq]
    exact H3.Config.entriesOf_size _ _
  -- one byte each for the stream type, the frame type and the length
  have hwl : ([0] ++ wire 4 (pairsWire (configSettings cfg gN))).length ≤ 42 := by
    rw [wire, encode_small 4 (by decide), encode_small _ (by omega : _ < 64)]
    simp only [List.length_append, List.length_cons, List.length_nil]
    omega
  obtain ⟨w, hw', _, hv⟩ := fromUniHeader_control_some hb (by omega) (Nat.le_trans hwl (by decide))
  exact ⟨w, hw', by rw [hv]; exact hwl⟩

theorem init_isSome (server : Bool) (cfg : Config) (gN : Nat) (hm : cfg.mfs < 2^62)
    (hw : cfg.wts < 2^62) (hg : gN < GREASE_RANGE_END) : (init server cfg gN).isSome = true := by
  obtain ⟨w, hw', _⟩ := control_header_fits cfg gN hm hw hg
  unfold init
  rw [hw']
  have he : ∃ e, fromUniHeader .encoder = some e := Option.isSome_iff_exists.mp (by decide)
  have hd : ∃ d, fromUniHeader .decoder = some d := Option.isSome_iff_exists.mp (by decide)
  obtain ⟨e, he⟩ := he
  obtain ⟨d, hd⟩ := hd
  rw [he, hd]
  rfl

theorem init_cx (server : Bool) (cfg : Config) (gN : Nat) (st : State)
    (h : init server cfg gN = some st) : cxOf st = { server := server, wt := cfg.wt } := by
  unfold init at h
  split at h
  · cases h; rfl
  · cases h

end H3.SendSide
