import H3.Model.Frame
import H3.Gen.FrameDispatch
import H3.Gen.FrameErrCodes
/-! Agreement of the frame decoder model (`H3.Frame.decode`, C02/C06) with the dispatch table the
    translator reads out of `Frame::decode` (`h3/src/proto/frame.rs`) on every run
    (`H3.Gen.FrameDispatch`: which frame type goes to which payload parser and which `Frame`
    variant, which types are refused as HTTP/2-reserved, everything else skipped as unknown), and
    of the decoder loop's three classes of failure with the arms of `FrameDecoder::decode`
    (`H3.Gen.FrameErrCodes.decoder`). -/
namespace H3.GenAgree.Frame
open H3.Frame H3.Varint H3.Gen.Consts
open H3.Gen.FrameDispatch (Kind Parse Disp dispatch)

abbrev DRes := H3.Frame.DecRes

/-- a payload that has to be exactly one varint -/
def one (payload : Bytes) (n : Nat) (mk : Nat → Frame) : DRes :=
  match oneVarint payload with
  | none => .error .malformed
  | some v => .frame (mk v) n

/-- the model's reading of "`Ok(Frame::<k>(<p>))`" for the arms of the `match ty` (the payload is
    buffered in full; bytes left over make the frame malformed: `oneVarint`).  `none`: a pairing
    of variant and parser the model does not know. -/
def parse (payload : Bytes) (n : Nat) : Kind → Parse → Option DRes
  | .headers, .bytes => some (.frame (.headers payload) n)
  | .settings, .settings =>
    some (match settingsDecode payload with
          | .error e => .error (.settings e)
          | .ok es => .frame (.settings es) n)
  | .cancelPush, .pushId => some (one payload n .cancelPush)
  | .pushPromise, .pushPromise =>
    some (match Varint.decode payload with
          | .endOf _ => .error .malformed
          | .ok id rest => .frame (.pushPromise id rest) n)
  | .goaway, .varint => some (one payload n .goaway)
  | .maxPushId, .pushId => some (one payload n .maxPushId)
  | _, _ => none

/-- `Frame::decode` written over the generated dispatch table -/
def genDecode (bs : Bytes) : Option DRes :=
  match Varint.decode bs with
  | .endOf _ => some (.incomplete (bs.length + 1))
  | .ok ty r1 =>
    match dispatch ty with
    | .frame .webTransportStream .sessionId =>
      -- the early return in front of the length field
      match Varint.decode r1 with
      | .endOf k => some (.incomplete k)
      | .ok sid r2 => some (.frame (.webTransport sid) (bs.length - r2.length))
    | d =>
      match Varint.decode r1 with
      | .endOf _ => some (.incomplete (bs.length + 1))
      | .ok len r2 =>
        match d with
        | .frame .data .lenOnly => some (.frame (.data len) (bs.length - r2.length))
        | .frame k p =>
          if r2.length < len then some (.incomplete (2 + len))
          else parse (r2.take len) (bs.length - r2.length + len) k p
        | .unsupported =>
          if r2.length < len then some (.incomplete (2 + len)) else some (.error (.unsupported ty))
        | .unknown =>
          if r2.length < len then some (.incomplete (2 + len))
          else some (.unknown (bs.length - r2.length + len))

/-- the frame types the table knows; for every other value it answers `unknown` -/
def known : List Nat :=
  [FRAME_DATA, FRAME_HEADERS, FRAME_H2_PRIORITY, FRAME_CANCEL_PUSH, FRAME_SETTINGS, FRAME_PUSH_PROMISE,
   FRAME_H2_PING, FRAME_GOAWAY, FRAME_H2_WINDOW_UPDATE, FRAME_H2_CONTINUATION, FRAME_MAX_PUSH_ID,
   FRAME_WEBTRANSPORT_BI_STREAM]

theorem dispatch_other (ty : Nat) (h : ty ∉ known) : dispatch ty = .unknown := by
  simp only [known, FRAME_DATA, FRAME_HEADERS, FRAME_H2_PRIORITY, FRAME_CANCEL_PUSH, FRAME_SETTINGS,
    FRAME_PUSH_PROMISE, FRAME_H2_PING, FRAME_GOAWAY, FRAME_H2_WINDOW_UPDATE, FRAME_H2_CONTINUATION,
    FRAME_MAX_PUSH_ID, FRAME_WEBTRANSPORT_BI_STREAM, List.mem_cons, List.not_mem_nil, or_false, not_or] at h
  simp [dispatch, h]

theorem typed_other (ty : Nat) (payload : Bytes) (n : Nat) (h : ty ∉ known) : typed ty payload n = .unknown n := by
  simp only [known, FRAME_DATA, FRAME_HEADERS, FRAME_H2_PRIORITY, FRAME_CANCEL_PUSH, FRAME_SETTINGS,
    FRAME_PUSH_PROMISE, FRAME_H2_PING, FRAME_GOAWAY, FRAME_H2_WINDOW_UPDATE, FRAME_H2_CONTINUATION,
    FRAME_MAX_PUSH_ID, FRAME_WEBTRANSPORT_BI_STREAM, List.mem_cons, List.not_mem_nil, or_false, not_or] at h
  simp [typed, isH2, h, FRAME_HEADERS, FRAME_H2_PRIORITY, FRAME_CANCEL_PUSH, FRAME_SETTINGS,
    FRAME_PUSH_PROMISE, FRAME_H2_PING, FRAME_GOAWAY, FRAME_H2_WINDOW_UPDATE, FRAME_H2_CONTINUATION,
    FRAME_MAX_PUSH_ID]

/-- `isH2` is the list of the types the `match ty` answers with `UnsupportedFrame` -/
theorem isH2_agrees : ∀ ty, isH2 ty = decide (ty ∈ Gen.FrameDispatch.unsupportedIds) := by
  intro ty
  rw [Bool.eq_iff_iff]
  simp [isH2, Gen.FrameDispatch.unsupportedIds, FRAME_H2_PRIORITY, FRAME_H2_PING, FRAME_H2_WINDOW_UPDATE,
    FRAME_H2_CONTINUATION, or_assoc]

/-- what the table says of a frame whose payload is buffered -/
def row (d : Disp) (ty : Nat) (payload : Bytes) (n : Nat) : Option DRes :=
  match d with
  | .frame k p => parse payload n k p
  | .unsupported => some (.error (.unsupported ty))
  | .unknown => some (.unknown n)

/-- the table against `typed`: a fact about the frame type alone -/
theorem typed_row (ty : Nat) (hwt : ty ≠ FRAME_WEBTRANSPORT_BI_STREAM) (hd : ty ≠ FRAME_DATA) :
    dispatch ty ≠ .frame .webTransportStream .sessionId ∧ dispatch ty ≠ .frame .data .lenOnly ∧
    ∀ payload n, some (typed ty payload n) = row (dispatch ty) ty payload n := by
  by_cases hk : ty ∈ known
  · simp only [known, List.mem_cons, List.not_mem_nil, or_false] at hk
    rcases hk with h | h | h | h | h | h | h | h | h | h | h | h <;> subst h <;>
      first | exact absurd rfl hd | exact absurd rfl hwt | exact ⟨by decide, by decide, fun _ _ => rfl⟩
  · rw [dispatch_other ty hk]
    exact ⟨by decide, by decide, fun p n => by rw [typed_other ty p n hk]; rfl⟩

/-- The model decoder is the generated dispatch table, for every byte string. -/
theorem decode_agrees : ∀ bs : Bytes, some (H3.Frame.decode bs) = genDecode bs := by
  intro bs
  unfold H3.Frame.decode genDecode
  cases Varint.decode bs with
  | endOf k => rfl
  | ok ty r1 =>
    dsimp only
    by_cases hwt : ty = FRAME_WEBTRANSPORT_BI_STREAM
    · subst hwt; cases Varint.decode r1 <;> rfl
    · by_cases hd : ty = FRAME_DATA
      · subst hd; rw [if_neg hwt, afterType]; cases Varint.decode r1 <;> rfl
      · -- the bytes are read in the same way on both sides; what is done with the payload is `typed_row`
        obtain ⟨h1, h2, hrow⟩ := typed_row ty hwt hd
        rw [if_neg hwt, afterType]
        generalize dispatch ty = d at h1 h2 hrow
        cases Varint.decode r1 with
        | endOf k =>
          dsimp only
          split
          · exact absurd rfl h1
          · rfl
        | ok len r2 =>
          dsimp only
          rw [if_neg hd]
          by_cases hs : r2.length < len
          · simp only [if_pos hs]
            split
            · exact absurd rfl h2
            all_goals rfl
          · simp only [if_neg hs]
            split
            · exact absurd rfl h2
            all_goals exact hrow _ _

/-- The arms of `FrameDecoder::decode` as the translator reads them (`Gen.FrameErrCodes.decoder`):
    `UnknownFrame` is skipped, `Incomplete` waits, the three errors the model has are protocol
    errors — the classes `H3.FS.decLoop` has for `unknown`, `incomplete`, `error` (that correspondence
    is by reading `decLoop`; the statement evaluates the table only). -/
theorem decoder_classes :
    Gen.FrameErrCodes.decoder .unknownFrame = .skip ∧
    Gen.FrameErrCodes.decoder .incomplete = .needMore ∧
    Gen.FrameErrCodes.decoder .malformed = .proto .malformed ∧
    Gen.FrameErrCodes.decoder .unsupportedFrame = .proto .forbiddenFrame ∧
    Gen.FrameErrCodes.decoder .settings = .proto .settings :=
  ⟨rfl, rfl, rfl, rfl, rfl⟩

end H3.GenAgree.Frame
