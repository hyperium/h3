import H3.Model.Huffman
import H3.Lemmas.Bits
import H3.Lemmas.HuffWalk
import H3.Lemmas.BitWindow
/-! Byte level → bit level for the Huffman decoder model: `read_bits` returns the addressed bits (`readBits_eq`),
    `check_eof` judges the bits left by `eofOK` (`checkEof_eq`), and `decode_next` on a byte string (`WF`) is the
    level walk of `H3.Lemmas.HuffWalk` on its bits, related by `Rel` (`bridgeL`). -/
namespace H3.Huffman
open H3.Bits
open H3.Gen.HuffDec (Level Entry)

/-- bytes; the same predicate as `H3.Varint.WF` and `H3.Qpack.Lemmas.WF` (those files are not imported here) and as
    the `∀ b ∈ s, b < 256` the encoder lemmas and `H3.Props.C15` spell out -/
def WF (bs : List Nat) : Prop := ∀ b ∈ bs, b < 256

theorem drop_cons_of_lt (src : List Nat) (hsrc : WF src) (i : Nat) (h : i < src.length) :
    ∃ a, src.drop i = a :: src.drop (i + 1) ∧ src.getD i 0 = a ∧ a < 256 :=
  ⟨src[i], List.drop_eq_getElem_cons h, by simp [List.getD_eq_getElem?_getD, h], hsrc _ (List.getElem_mem h)⟩

/-- the `len` bits behind the first `bit` bits of a `w`-bit word -/
private theorem shl_mod_shr (a bit len w : Nat) (h : bit + len ≤ w) :
    ((a <<< bit) % 2 ^ w) >>> (w - len) = a / 2 ^ (w - bit - len) % 2 ^ len := by
  have hw : w = (w - len) + len := by omega
  have hk : w - len = bit + (w - bit - len) := by omega
  rw [Nat.shiftLeft_eq, Nat.shiftRight_eq_div_pow]
  conv => lhs; rw [hw, Nat.pow_add, Nat.add_sub_cancel, Nat.mod_mul_right_div_self, hk, Nat.pow_add,
    Nat.mul_comm a, Nat.mul_div_mul_left _ _ (Nat.pow_pos (by decide))]

theorem readBits_none (src : List Nat) (byte bit len : Nat)
    (h : len = 0 ∨ len > 8 ∨ src.length * 8 < byte * 8 + bit + len) :
    readBits src byte bit len = none := by
  unfold readBits; rw [if_pos h]

theorem readBits_eq (src : List Nat) (hsrc : WF src) (byte bit len : Nat) (hbit : bit < 8)
    (hl1 : 1 ≤ len) (hl8 : len ≤ 8) (hfit : byte * 8 + bit + len ≤ src.length * 8) :
    readBits src byte bit len = some (val (((bitsOf src).drop (8 * byte + bit)).take len)) := by
  unfold readBits
  rw [if_neg (by omega)]
  have hb8 : bit / 8 = 0 := by omega
  simp only [hb8, Nat.add_zero, Nat.zero_mul, Nat.sub_zero]
  have hlt : byte < src.length := by omega
  obtain ⟨a, hd, hga, ha⟩ := drop_cons_of_lt src hsrc byte hlt
  have hdrop : (bitsOf src).drop (8 * byte + bit) = (bitsN 8 a ++ bitsOf (src.drop (byte + 1))).drop bit := by
    rw [← List.drop_drop, drop_bitsOf, hd, bitsOf]
  rw [hdrop, hga]
  by_cases hs : bit + len ≤ 8
  · rw [if_pos hs]
    congr 1
    rw [List.drop_append_of_le_length (by simp; omega),
      List.take_append_of_le_length (by simp; omega), val_take_drop_bitsN 8 bit len a hs]
    exact shl_mod_shr a bit len 8 hs
  · rw [if_neg hs]
    obtain ⟨b, hd1, hgb, hb⟩ := drop_cons_of_lt src hsrc (byte + 1) (by omega)
    rw [hgb, hd1]
    congr 1
    have hor : (a <<< 8) ||| b = a * 256 + b := by
      rw [← Nat.shiftLeft_add_eq_or_of_lt (by simpa using hb), Nat.shiftLeft_eq]
    rw [hor, bitsOf, ← List.append_assoc, bitsN8_pair a b hb,
      List.drop_append_of_le_length (by simp; omega),
      List.take_append_of_le_length (by simp; omega),
      val_take_drop_bitsN 16 bit len _ (by omega)]
    rw [shl_mod_shr _ bit len 16 (by omega)]
    exact Nat.mod_eq_of_lt (Nat.lt_of_lt_of_le (Nat.mod_lt _ (Nat.pow_pos (by decide)))
      (Nat.pow_le_pow_right (by decide) hl8))

/-- what `check_eof` makes of the bits `q` between the current level's start and the end of the
    input: accepted iff there are none, or at most eight (the rest of the last byte), all ones -/
def eofOK (q : List Bool) : Bool := q.isEmpty || (decide (q.length ≤ 8) && q.all (· == true))

private theorem filler_eq : ∀ bit < 8, ((2 <<< (8 - bit % 8 - 1)) - 1) % 256 = 2 ^ (8 - bit) - 1 := by
  decide

theorem checkEof_eq (inp : List Nat) (hinp : WF inp) (w : BitWindow) (hbit : w.bit < 8)
    (hstart : 8 * w.byte + w.bit ≤ 8 * inp.length) :
    checkEof w inp =
      if eofOK ((bitsOf inp).drop (8 * w.byte + w.bit)) = true then .ok () else .error (.missingBits w) := by
  have hql : ((bitsOf inp).drop (8 * w.byte + w.bit)).length = 8 * inp.length - (8 * w.byte + w.bit) := by
    simp
  generalize hq : (bitsOf inp).drop (8 * w.byte + w.bit) = q at hql
  unfold checkEof
  by_cases h1 : w.byte + 1 > inp.length
  · rw [if_pos h1, List.eq_nil_of_length_eq_zero (by omega : q.length = 0)]
    rfl
  · rw [if_neg h1]
    have hne : q.isEmpty = false := by
      cases q with
      | nil => simp at hql; omega
      | cons _ _ => rfl
    by_cases h2 : w.byte + 1 = inp.length
    · rw [if_pos h2]
      have hlen : q.length = 8 - w.bit := by omega
      have hrd : readBits inp w.opposite.byte w.opposite.bit w.opposite.count = some (val q) := by
        have hc : w.opposite.count = 8 - w.bit := by
          simp only [BitWindow.opposite]; omega
        rw [hc]
        simp only [BitWindow.opposite]
        rw [readBits_eq inp hinp w.byte w.bit (8 - w.bit) hbit (by omega) (by omega) (by omega), hq,
          List.take_of_length_le (by omega)]
      have hf : ((2 <<< (w.opposite.count - 1)) - 1) % 256 = 2 ^ q.length - 1 := by
        simp only [BitWindow.opposite]
        rw [hlen]; exact filler_eq w.bit hbit
      have hle : decide (q.length ≤ 8) = true := by simp; omega
      simp only [hrd, hf, Nat.and_two_pow_sub_one_eq_mod, Nat.mod_eq_of_lt (val_lt q), eofOK, hne, hle,
        Bool.false_or, Bool.true_and]
      by_cases hv : val q = 2 ^ q.length - 1
      · rw [if_pos hv, if_pos ((val_eq_ones_iff q).1 hv)]
      · rw [if_neg hv, if_neg (fun h => hv ((val_eq_ones_iff q).2 h))]
    · have hle : decide (q.length ≤ 8) = false := by simp; omega
      rw [if_neg h2, if_neg (by simp [eofOK, hne, hle])]

/-- `res` (a `decode_next` result on `inp`) is what the bit-level walk predicts -/
def Rel (inp : List Nat) (res : BitWindow × Step) : WalkRes → Prop
  | .sym s rest => res.2 = .sym s ∧ res.1.endPos + rest.length = 8 * inp.length
  | .short q => (eofOK q = true → res.2 = .done) ∧
      (eofOK q = false → ∃ w, res.2 = .err (.missingBits w)) ∧
      8 * res.1.byte + res.1.bit + q.length = 8 * inp.length
  | .unhandled => ∃ w v, res.2 = .err (.unhandled w v)

mutual
theorem bridgeL (inp : List Nat) (hinp : WF inp) : ∀ (l : Level) (w : BitWindow),
    w.endPos ≤ 8 * inp.length →
    Rel inp (decodeNext l w inp) (walkL l ((bitsOf inp).drop w.endPos))
  | .mk k tbl, w, hpos => by
    obtain ⟨hs, hb, hc⟩ := forwards_start w k
    have htl : ((bitsOf inp).drop w.endPos).length = 8 * inp.length - w.endPos := by simp
    rw [decodeNext, walkL_mk]
    by_cases hcond : k = 0 ∨ k > 8 ∨ ((bitsOf inp).drop w.endPos).length < k
    · rw [if_pos hcond]
      have hrd : readBits inp (w.forwards k).byte (w.forwards k).bit (w.forwards k).count = none := by
        apply readBits_none
        rw [hc]; omega
      simp only [hrd]
      have hce := checkEof_eq inp hinp (w.forwards k) hb (by omega)
      rw [hs] at hce
      rw [hce]
      refine ⟨fun h => ?_, fun h => ?_, ?_⟩
      · rw [if_pos h]
      · rw [if_neg (by rw [h]; decide)]; exact ⟨_, rfl⟩
      · split <;> (simp only; omega)
    · rw [if_neg hcond]
      have hrd : readBits inp (w.forwards k).byte (w.forwards k).bit (w.forwards k).count =
          some (val (((bitsOf inp).drop w.endPos).take k)) := by
        rw [hc, readBits_eq inp hinp _ _ k hb (by omega) (by omega) (by omega), hs]
      simp only [hrd]
      have he : (w.forwards k).endPos = w.endPos + k := by
        simp only [BitWindow.endPos] at hs ⊢; omega
      have := bridgeT inp hinp tbl (val (((bitsOf inp).drop w.endPos).take k))
        (val (((bitsOf inp).drop w.endPos).take k)) (w.forwards k) (by omega)
      rw [he, ← List.drop_drop] at this
      exact this
theorem bridgeT (inp : List Nat) (hinp : WF inp) : ∀ (tbl : List Entry) (i v : Nat) (w : BitWindow),
    w.endPos ≤ 8 * inp.length →
    Rel inp (tableGet tbl i v w inp) (walkT tbl i ((bitsOf inp).drop w.endPos))
  | [], i, v, w, _ => by
    rw [tableGet, walkT]; exact ⟨w, v, rfl⟩
  | e :: _, 0, v, w, hpos => by
    rw [tableGet, walkT]; exact bridgeE inp hinp e w hpos
  | _ :: es, i+1, v, w, hpos => by
    rw [tableGet, walkT]; exact bridgeT inp hinp es i v w hpos
theorem bridgeE (inp : List Nat) (hinp : WF inp) : ∀ (e : Entry) (w : BitWindow),
    w.endPos ≤ 8 * inp.length →
    Rel inp (entryGo e w inp) (walkE e ((bitsOf inp).drop w.endPos))
  | .sym s, w, hpos => by
    rw [entryGo, walkE]
    refine ⟨rfl, ?_⟩
    simp; omega
  | .sub l, w, hpos => by
    rw [entryGo, walkE]; exact bridgeL inp hinp l w hpos
end

end H3.Huffman
