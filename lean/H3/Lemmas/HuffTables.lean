import H3.Lemmas.HuffSpec
import H3.Lemmas.HuffLoop
import H3.Lemmas.HuffEnc
/-! The generated encode table against the decode tree (`table_paths`, kernel evaluation on numbers: the rows, grouped
    by length, are the tree's paths): with the tree's agreement with the RFC's canonical code (`root_paths_eos` …
    `root_walk_code`, in `H3.Lemmas.HuffLoop`) every row is the RFC code word (`codeT_eq_codeOf`); hence the encoder's
    output is the RFC encoding, and the strict branch of the decoder accepts exactly that (`hdecodeX_strict_iff`). -/
namespace H3.Huffman
open H3.Bits H3.Spec.Huffman
open H3.Gen.HuffDec (root)

/-- rows ((length, value), symbol) grouped by length, each group in symbol order: the canonical order -/
def canonRows (Z : List ((Nat × Nat) × Nat)) : List ((Nat × Nat) × Nat) :=
  (List.range 31).flatMap fun l => Z.filter fun p => p.1.1 == l

theorem mem_canonRows {Z : List ((Nat × Nat) × Nat)} {x : (Nat × Nat) × Nat} (hx : x ∈ Z) (hl : x.1.1 < 31) :
    x ∈ canonRows Z :=
  List.mem_flatMap.2 ⟨x.1.1, List.mem_range.2 hl, List.mem_filter.2 ⟨hx, beq_self_eq_true _⟩⟩

theorem table_paths :
    (canonRows H3.Gen.HuffEnc.table.zipIdx).map (fun p => (p.2, p.1.1, p.1.2)) = pathsNL root 0 0 := by
  decide +kernel

theorem codeT_mem_paths (c : Nat) (hc : c < 256) : (codeT c, c) ∈ pathsL root := by
  obtain ⟨_, hlen, h31, _⟩ := rows_zip
  obtain ⟨⟨l, v⟩, hr⟩ : ∃ r, H3.Gen.HuffEnc.table[c]? = some r :=
    ⟨_, List.getElem?_eq_getElem (hlen ▸ hc : c < H3.Gen.HuffEnc.table.length)⟩
  have hm : ((l, v), c) ∈ canonRows H3.Gen.HuffEnc.table.zipIdx :=
    mem_canonRows (List.mem_zipIdx_iff_getElem?.2 hr) (h31 _ (List.mem_of_getElem? hr))
  rw [root_paths_word, ← table_paths, List.map_map, codeT, hr]
  exact List.mem_map.2 ⟨_, hm, rfl⟩

theorem codeT_eq_codeOf (c : Nat) (hc : c < 256) : codeT c = codeOf c :=
  (root_path_mem _ _ (codeT_mem_paths c hc)).2.symm

theorem encT_eq_enc (s : List Nat) (hs : ∀ x ∈ s, x < 256) : encT s = enc s := by
  induction s with
  | nil => rfl
  | cons x s ih =>
    rw [encT, enc, codeT_eq_codeOf x (hs x (by simp)), ih (fun y hy => hs y (by simp [hy]))]

theorem hencode_spec (s : List Nat) (hs : ∀ x ∈ s, x < 256) : hencode s = specEncode s := by
  rw [hencode_eq s hs, encT_eq_enc s hs, specEncode]

/-- RFC 7541 §5.2 read as a relation is a function both ways: the padding is fixed by the byte boundary, so the only
    coding of `s` is `specEncode s` -/
theorem specDecode_eq_iff (b : List Nat) (hb : WF b) (s : List Nat) :
    specDecode b = some s ↔ (∀ x ∈ s, x < 256) ∧ b = specEncode s := by
  rw [specDecode_iff]
  constructor
  · rintro ⟨hs, pad, h, hp⟩
    refine ⟨hs, ?_⟩
    obtain ⟨hl, ha⟩ := (validPad_iff pad).1 hp
    have hlen := congrArg List.length h
    rw [length_bitsOf, List.length_append] at hlen
    have hpad : pad = List.replicate ((8 - (enc s).length % 8) % 8) true :=
      List.eq_replicate_iff.2 ⟨by omega, ha⟩
    rw [← pack_bitsOf b hb, h, hpad, specEncode, ← bitsOf_pack, pack_bitsOf _ (pack_lt _)]
  · rintro ⟨hs, rfl⟩
    exact ⟨hs, _, bitsOf_pack _, by simp [validPad]; omega⟩

theorem hdecodeX_strict_iff (b : List Nat) (hb : WF b) (s : List Nat) :
    hdecodeX b = .ok (s, false) ↔ (∀ x ∈ s, x < 256) ∧ b = hencode s := by
  rw [hdecodeX_false_iff b hb, specDecode_eq_iff b hb]
  exact and_congr_right fun hs => by rw [hencode_spec s hs]

theorem hdecodeX_hencode (s : List Nat) (hs : ∀ x ∈ s, x < 256) :
    hdecodeX (hencode s) = .ok (s, false) :=
  (hdecodeX_strict_iff _ (by rw [hencode_eq s hs]; exact pack_lt _) s).2 ⟨hs, rfl⟩

end H3.Huffman
