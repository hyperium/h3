import H3.Model.E2E
import H3.Lemmas.FrameStreamReader
import H3.Lemmas.FrameLaws
import H3.Lemmas.FrameStreamPoll
/-! The frame layer (`H3.FS` over a transport script) while it reads a byte string `w` that the
    reference automaton takes to a frame boundary with tokens `T`: every answer of
    `poll_next` / `poll_data` is forced by `T` — whatever the chunking, wherever `pend` stands.
    Built on the C02 invariant, through the cases of one call (`FS.Step`) and `FinalOK.on_wire`. -/
namespace H3.E2E
open H3.FS H3.ReqRecv

abbrev RTok' := H3.FS.Tok H3.Frame.Frame H3.Frame.FrameErr

/-- the frame layer in the middle of reading `w`: the C02 invariant for the bytes taken so far
    and the tokens handed out so far; what is still to come completes `w` and ends with FIN -/
structure Rdy (w seen : Bytes) (toks : List RTok') (c : FSt) : Prop where
  inv : Inv frameDec seen toks c.1
  ok : ScriptOK c.2
  nr : NoReset c.2
  hw : wOf seen c.1.eos c.2 = w
  hfin : finOf c.1.eos c.2 = true

theorem rdy_init (script : List Ev) (hsc : ScriptOK script) (hnr : NoReset script)
    (hfin : hasFin script = true) : Rdy (evBytes (upToFin script)) [] [] ({}, script) :=
  ⟨inv_init frameDec, hsc, hnr, by simp [wOf], by simpa [finOf] using hfin⟩

theorem rdy_next {w seen : Bytes} {T toks xs rest : List RTok'} {c : FSt} {p : PSt}
    (hW : run frameDec (.hdr []) w = (p, T)) (h : Rdy w seen (toks ++ xs) c) (hT : T = toks ++ rest) :
    ∃ more, rest = xs ++ more := by
  obtain ⟨more, hm⟩ := inv_toks_prefix frameDec h.inv (if c.1.eos then [] else evBytes (upToFin c.2))
  have : seen ++ (if c.1.eos then [] else evBytes (upToFin c.2)) = w := h.hw
  rw [this, hW, hT, List.append_assoc] at hm
  exact ⟨more, List.append_cancel_left hm⟩

theorem rdy_script_ne {w seen : Bytes} {toks : List RTok'} {c : FSt} (h : Rdy w seen toks c)
    (he : c.1.eos = false) : c.2 ≠ [] := by
  intro hn
  have := h.hfin
  rw [he, hn] at this
  simp [finOf, hasFin] at this

theorem Rdy.step {w seen : Bytes} {toks toks' : List RTok'} {s s' : FS.St} {taken script' : List Ev}
    (h : Rdy w seen toks (s, taken ++ script')) (htk : TakenOK s.eos s'.eos taken)
    (hI : Inv frameDec (seen ++ evBytes taken) toks' s') : Rdy w (seen ++ evBytes taken) toks' (s', script') := by
  obtain ⟨hw', hfin'⟩ := w_step seen s.eos s'.eos taken script' htk
  exact ⟨hI, scriptOK_suffix h.ok, fun c hc => h.nr c (List.mem_append_right _ hc), hw'.trans h.hw,
    hfin'.trans h.hfin⟩

def isByte : RTok' → Bool
  | .byte _ => true
  | _ => false

def lead : List RTok' → Nat
  | t :: r => if isByte t then lead r + 1 else 0
  | [] => 0

theorem lead_bytes (bs : Bytes) (r : List RTok') : lead (bs.map .byte ++ r) = bs.length + lead r := by
  induction bs with
  | nil => simp
  | cons b bs ih => simp [lead, isByte, ih]; omega

theorem run_hdr_lead (x : Bytes) : ∀ acc, lead (run frameDec (.hdr acc) x).2 = 0 := by
  induction x with
  | nil => intro acc; rfl
  | cons b x ih =>
    intro acc
    simp only [run, feed]
    cases hd : frameDec.dec (acc ++ [b]) with
    | frame f n => simp [lead, isByte]
    | unknown n => simpa using ih []
    | incomplete m => simpa using ih (acc ++ [b])
    | error e => simp [lead, isByte]

/-- `remaining_data` is the number of payload bytes that `T` says come next -/
theorem rdy_rem {w seen : Bytes} {T toks rest : List RTok'} {c : FSt}
    (hW : run frameDec (.hdr []) w = (.hdr [], T)) (h : Rdy w seen toks c) (hT : T = toks ++ rest) :
    c.1.remaining = lead rest := by
  -- `w` cut at the bytes consumed: the run from `PSt.ofRem remaining` over the rest `z` emits `rest`; cut short it would not end at `.hdr []`
  obtain ⟨consumed, hseen, hrun⟩ := h.inv.split
  have hw : w = consumed ++ (c.1.flat ++ (if c.1.eos then [] else evBytes (upToFin c.2))) := by
    rw [← h.hw]; unfold wOf; rw [hseen, List.append_assoc]
  generalize c.1.flat ++ (if c.1.eos then [] else evBytes (upToFin c.2)) = z at hw
  rw [hw, run_append, hrun] at hW
  simp only [Prod.mk.injEq] at hW
  obtain ⟨hst, htk⟩ := hW
  rw [hT] at htk
  have hrest : (run frameDec (PSt.ofRem c.1.remaining) z).2 = rest := List.append_cancel_left htk
  by_cases h0 : c.1.remaining = 0
  · rw [h0, PSt.ofRem_zero] at hrest
    rw [h0, ← hrest, run_hdr_lead]
  · rw [PSt.ofRem_pos h0] at hrest hst
    by_cases hlen : c.1.remaining ≤ z.length
    · rw [run_data_full frameDec _ z h0 hlen] at hrest
      simp only at hrest
      rw [← hrest, lead_bytes, run_hdr_lead]
      simp only [List.length_take]
      omega
    · rw [run_data_short frameDec _ z (by omega)] at hst
      cases hst

theorem fsFuel_pos (c : FSt) : 0 < fsFuel c := by unfold fsFuel; omega

theorem Rdy.on_wire {w seen : Bytes} {toks : List RTok'} {s s' : FS.St} {taken script' : List Ev}
    (h : Rdy w seen toks (s, taken ++ script')) (htk : TakenOK s.eos s'.eos taken) :
    seen ++ evBytes taken <+: w ∧ (s'.eos = true → seen ++ evBytes taken = w) := by
  have hw' := (w_step seen s.eos s'.eos taken script' htk).1.trans h.hw
  exact ⟨⟨_, hw'⟩, fun he => by rw [← hw']; simp [wOf, he]⟩

/-- `hW`: the reference run over `w` ends at a frame boundary (`.hdr []`), so it neither stops inside a
    frame nor dies: that rules out every error answer of `poll_next`. -/
theorem fs_next {w seen : Bytes} {T toks : List RTok'} {c : FSt}
    (hW : run frameDec (.hdr []) w = (.hdr [], T)) (h : Rdy w seen toks c) (h0 : c.1.remaining = 0) :
    ∃ seen',
      ((fsSrc.pollNext c).1 = .pending ∧ Rdy w seen' toks (fsSrc.pollNext c).2 ∧ c.1.eos = false ∧
        (fsSrc.pollNext c).2.1.eos = false ∧ fsFuel (fsSrc.pollNext c).2 < fsFuel c) ∨
      (∃ f, (fsSrc.pollNext c).1 = .frame f ∧ Rdy w seen' (toks ++ [.frame f]) (fsSrc.pollNext c).2 ∧
        fsFuel (fsSrc.pollNext c).2 < fsFuel c) ∨
      ((fsSrc.pollNext c).1 = .none ∧ toks = T ∧ Rdy w seen' toks (fsSrc.pollNext c).2 ∧
        (fsSrc.pollNext c).2.1.eos = true ∧ (fsSrc.pollNext c).2.1.flat = []) := by
  obtain ⟨s, script⟩ := c
  simp only at h0
  rcases hres : pollNext frameDec s script with ⟨o, s', script'⟩
  obtain ⟨tk, rfl, htk, hst⟩ := pollNext_step frameDec frameDec_laws h.inv h.ok h0 hres
  obtain ⟨hpre, hfull⟩ := h.on_wire htk
  rw [fs_pollNext s _ o s' script' hres]
  refine ⟨seen ++ evBytes tk, ?_⟩
  simp only [fsFuel_mu, Nat.add_lt_add_iff_right]
  cases hst with
  | frame f hI' _ hmu => exact .inr (.inl ⟨f, rfl, h.step htk hI', hmu⟩)
  | wait hI' _ heos heos' _ hmu _ => exact .inl ⟨rfl, h.step htk hI', heos, heos', hmu (rdy_script_ne h heos)⟩
  | none hI' _ hfl heos' hR =>
    exact .inr (.inr ⟨rfl, (hR.on_wire hW hpre hfull).2.2 rfl, h.step htk hI', heos', hfl⟩)
  | errEnd hR => exact absurd rfl (hR.on_wire hW hpre hfull).1
  | errProto e hR => exact absurd rfl ((hR.on_wire hW hpre hfull).2.1 e)
  | errQuic c _ hr _ =>
    obtain ⟨r, rfl⟩ := hr
    exact absurd (by simp) (h.nr c)

/-- `fs_next` for a caller that knows what `T` says comes next (`rest`): the frame answered is the head of
    `rest`, and `None` means `rest` is empty -/
theorem fs_next_rest {w seen : Bytes} {T toks rest : List RTok'} {c : FSt}
    (hW : run frameDec (.hdr []) w = (.hdr [], T)) (h : Rdy w seen toks c) (hT : T = toks ++ rest)
    (hl : lead rest = 0) :
    ∃ seen' o c', fsSrc.pollNext c = (o, c') ∧
      ((o = .pending ∧ Rdy w seen' toks c' ∧ c.1.eos = false ∧ c'.1.eos = false ∧ fsFuel c' < fsFuel c) ∨
       (∃ f more, o = .frame f ∧ rest = .frame f :: more ∧ Rdy w seen' (toks ++ [.frame f]) c' ∧
         fsFuel c' < fsFuel c) ∨
       (o = .none ∧ toks = T ∧ rest = [] ∧ Rdy w seen' toks c' ∧ c'.1.eos = true ∧ c'.1.flat = [])) := by
  obtain ⟨seen', hN⟩ := fs_next hW h (by rw [rdy_rem hW h hT, hl])
  rcases hres : fsSrc.pollNext c with ⟨o, c'⟩
  rw [hres] at hN
  refine ⟨seen', o, c', rfl, ?_⟩
  rcases hN with hp | ⟨f, ho, hR', hfu⟩ | ⟨ho, htoks, hn⟩
  · exact .inl hp
  · obtain ⟨more, hm⟩ := rdy_next hW hR' hT
    exact .inr (.inl ⟨f, more, ho, hm, hR', hfu⟩)
  · exact .inr (.inr ⟨ho, htoks, List.self_eq_append_right.mp (htoks ▸ hT), hn⟩)

theorem fs_data {w seen : Bytes} {T toks : List RTok'} {c : FSt}
    (hW : run frameDec (.hdr []) w = (.hdr [], T)) (h : Rdy w seen toks c) (h0 : c.1.remaining ≠ 0) :
    ∃ seen',
      ((fsSrc.pollData c).1 = .pending ∧ Rdy w seen' toks (fsSrc.pollData c).2 ∧
        (fsSrc.pollData c).2.1.eos = false ∧ fsFuel (fsSrc.pollData c).2 < fsFuel c) ∨
      (∃ d, (fsSrc.pollData c).1 = .data d ∧ d ≠ [] ∧ d.length ≤ c.1.remaining ∧
        Rdy w seen' (toks ++ d.map .byte) (fsSrc.pollData c).2 ∧
        fsFuel (fsSrc.pollData c).2 < fsFuel c) := by
  obtain ⟨s, script⟩ := c
  simp only at h0
  rcases hres : pollData (F := H3.Frame.Frame) (E := H3.Frame.FrameErr) s script with ⟨o, s', script'⟩
  obtain ⟨tk, rfl, htk, hst⟩ := pollData_step frameDec h.inv h.ok h0 hres
  obtain ⟨hpre, hfull⟩ := h.on_wire htk
  rw [fs_pollData s _ o s' script' hres]
  refine ⟨seen ++ evBytes tk, ?_⟩
  simp only [fsFuel_mu, Nat.add_lt_add_iff_right]
  cases hst with
  | data d hd hle _ hI' hmu => exact .inr ⟨d, rfl, hd, hle, h.step htk hI', hmu⟩
  | wait hI' _ heos heos' _ hmu _ => exact .inl ⟨rfl, h.step htk hI', heos', hmu (rdy_script_ne h heos)⟩
  | errEnd hR => exact absurd rfl (hR.on_wire hW hpre hfull).1
  | errQuic c _ hr _ =>
    obtain ⟨r, rfl⟩ := hr
    exact absurd (by simp) (h.nr c)
  | rawEnd _ heos' hR =>
    rw [hfull heos', hW] at hR
    cases hR

end H3.E2E
