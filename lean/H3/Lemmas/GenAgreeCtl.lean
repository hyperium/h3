import H3.Model.Control
import H3.Gen.CtlArms
import H3.Gen.UniArms
import H3.Gen.FrameErrCodes
/-! Agreement of the control-stream / unidirectional-stream models (`H3.Control`, `H3.UniAccept`;
    C04, C06) with the decision tables the translator reads out of the Rust sources on every run:

    * `H3.Gen.CtlArms`       — `ConnectionInner::poll_control`, `process_goaway`, server
                               `poll_next_control`, client `poll_close`,
    * `H3.Gen.UniArms`       — `AcceptRecvStream::{poll_type,into_stream}`, `poll_accept_recv`,
    * `H3.Gen.FrameErrCodes` — `got_frame_error`.

    Each theorem says: the model's decision function equals the generated table, read through a
    fixed interpretation of the table's action names.  A changed arm in the Rust source changes the
    generated table and the theorem about it stops to hold. -/
namespace H3.GenAgree.Ctl
open H3.Frame H3.Control H3.Gen.Consts

def kindOf : Frame → Gen.CtlArms.Kind
  | .data _ => .data
  | .headers _ => .headers
  | .cancelPush _ => .cancelPush
  | .settings _ => .settings
  | .pushPromise _ _ => .pushPromise
  | .goaway _ => .goaway
  | .maxPushId _ => .maxPushId
  | .webTransport _ => .webTransportStream

/-- every variant of the Rust `enum Frame` but `Grease` is a frame of the model -/
theorem kindOf_covers : ∀ k : Gen.CtlArms.Kind, k = .grease ∨ ∃ f, kindOf f = k := by
  intro k
  cases k
  · exact .inr ⟨.data 0, rfl⟩
  · exact .inr ⟨.headers [], rfl⟩
  · exact .inr ⟨.cancelPush 0, rfl⟩
  · exact .inr ⟨.settings [], rfl⟩
  · exact .inr ⟨.pushPromise 0 [], rfl⟩
  · exact .inr ⟨.goaway 0, rfl⟩
  · exact .inr ⟨.maxPushId 0, rfl⟩
  · exact .inr ⟨.webTransport 0, rfl⟩
  · exact .inl rfl

/-! ### `ConnectionInner::poll_control` -/

/-- the frame-error classes of the model and the variants of `FrameProtocolError` they stand for -/
def protoOf : FrameErr → Gen.FrameErrCodes.ProtoErr
  | .malformed => .malformed
  | .unsupported _ => .forbiddenFrame
  | .settings _ => .settings

/-- `got_frame_error` -/
theorem protoCode_agrees : ∀ e, protoCode e = Gen.FrameErrCodes.code (protoOf e) := by
  intro e
  cases e <;> rfl

/-- where the model's frame-error classes come from: the arms of `FrameDecoder::decode` -/
theorem protoOf_decoder :
    Gen.FrameErrCodes.decoder .malformed = .proto (protoOf .malformed) ∧
    (∀ ty, Gen.FrameErrCodes.decoder .unsupportedFrame = .proto (protoOf (.unsupported ty))) ∧
    (∀ e, Gen.FrameErrCodes.decoder .settings = .proto (protoOf (.settings e))) :=
  ⟨rfl, fun _ => rfl, fun _ => rfl⟩

/-- the model's reading of an action of `poll_control`'s `match`; `e?` is the frame error of a
    `Proto` item -/
def react (c : Conn) (f? : Option Frame) (e? : Option FrameErr) : Gen.CtlArms.Act → Option Class
  | .pass => f?.map (fun f => .pass f c)
  | .applySettings => f?.map (fun f => .pass f { c with gotSettings := true })
  | .err code => some (.error code)
  | .gotFrameError => e?.map (fun e => .error (Gen.FrameErrCodes.code (protoOf e)))
  | .passConnErr => none

def frameTable (c : Conn) : Gen.CtlArms.Kind → Gen.CtlArms.Act :=
  if c.gotSettings then Gen.CtlArms.afterSettings else Gen.CtlArms.beforeSettings

theorem classify_frame : ∀ (c : Conn) (f : Frame),
    some (classify c (.frame f)) = react c (some f) none (frameTable c (kindOf f)) := by
  intro c f
  cases hg : c.gotSettings <;> cases f <;> simp [classify, classifyLater, hg, frameTable, kindOf, react,
    Gen.CtlArms.beforeSettings, Gen.CtlArms.afterSettings, CODE_H3_FRAME_UNEXPECTED, CODE_H3_MISSING_SETTINGS]

theorem classify_fin (c : Conn) : some (classify c .fin) = react c none none Gen.CtlArms.onFin := rfl

theorem classify_reset (c : Conn) (x : Nat) :
    some (classify c (.reset x)) = react c none none Gen.CtlArms.onReset := rfl

theorem classify_truncated (c : Conn) :
    some (classify c .truncated) = react c none none Gen.CtlArms.onTruncated := rfl

theorem classify_proto (c : Conn) (e : FrameErr) :
    some (classify c (.proto e)) = react c none (some e) Gen.CtlArms.onProto := by
  cases e <;> rfl

/-- the property theorems are about `blocking = false`: the tail of `poll_control` does not wait
    for the grease stream -/
theorem grease_not_blocking : Gen.CtlArms.greaseBlocking = false := rfl

/-! ### the role handlers -/

/-- `process_goaway` -/
theorem processGoaway_agrees (c : Conn) (id : Nat) :
    processGoaway c id =
      match c.recvClosing with
      | some prev =>
        if prev < id then (c.fail Gen.CtlArms.goawayIncreaseCode, some Gen.CtlArms.goawayIncreaseCode)
        else ({ c with recvClosing := some id }, none)
      | none => ({ c with recvClosing := some id }, none) := rfl

def goawayId : Frame → Option Nat
  | .goaway id => some id
  | _ => none

def hReact (c : Conn) (f : Frame) : Gen.CtlArms.HAct → Option (Conn × Option Nat)
  | .nothing => some (c, none)
  | .goaway => (goawayId f).map (processGoaway c)
  | .goawayRequestId code =>
    (goawayId f).map (fun id => if id % 4 = 0 then processGoaway c id else (c.fail code, some code))
  | .err code => some (c.fail code, some code)

def roleTable : Role → Gen.CtlArms.Kind → Gen.CtlArms.HAct
  | .server => Gen.CtlArms.server
  | .client => Gen.CtlArms.client

theorem handle_agrees : ∀ (role : Role) (c : Conn) (f : Frame),
    some (handle role c f) = hReact c f (roleTable role (kindOf f)) := by
  intro role c f
  cases role <;> cases f <;> rfl

/-! ### unidirectional streams: `poll_type`, `into_stream`, `poll_accept_recv` -/

open H3.UniAccept in
/-- `matches!(self.ty, Some(StreamType::PUSH | StreamType::WEBTRANSPORT_UNI))` -/
theorem needsId_agrees : ∀ ty, needsId ty = decide (ty ∈ Gen.UniArms.needsId) := by
  intro ty
  rw [Bool.eq_iff_iff]
  simp [needsId, Gen.UniArms.needsId, STREAM_PUSH, STREAM_WEBTRANSPORT_UNI]

def kindFor (ty : Nat) (id : Option Nat) : Gen.UniArms.Accepted → Option UniAccept.Kind
  | .control => some .control
  | .push => some .push
  | .encoder => some .encoder
  | .decoder => some .decoder
  | .webTransportUni => id.map .wtUni
  | .unknown => some (.unknown ty)

theorem intoStream_agrees : ∀ (s : UniAccept.St) (ty : Nat), s.ty = some ty →
    UniAccept.intoStream s = kindFor ty s.id (Gen.UniArms.intoStream ty) := by
  intro s ty h
  -- both are `if`-chains over the same five type values
  obtain rfl | rfl | rfl | rfl | rfl | ⟨h0, h1, h2, h3, h4⟩ :
      ty = 0 ∨ ty = 1 ∨ ty = 2 ∨ ty = 3 ∨ ty = 84 ∨ (ty ≠ 0 ∧ ty ≠ 1 ∧ ty ≠ 2 ∧ ty ≠ 3 ∧ ty ≠ 84) := by omega
  all_goals
    simp [UniAccept.intoStream, kindFor, Gen.UniArms.intoStream, STREAM_CONTROL, STREAM_PUSH, STREAM_ENCODER,
      STREAM_DECODER, STREAM_WEBTRANSPORT_UNI, *]
  -- left: type 84, the one arm that reads `s.id`
  cases s.id <;> rfl

/-- only the arms that the table marks as reading `self.id` can hit the `expect` on it -/
theorem usesId_agrees : ∀ a ty, Gen.UniArms.usesId a = false → (kindFor ty none a).isSome = true := by
  intro a ty h
  cases a <;> first | rfl | exact absurd h (by decide)

def acceptedOf : UniAccept.Kind → Gen.UniArms.Accepted
  | .control => .control
  | .push => .push
  | .encoder => .encoder
  | .decoder => .decoder
  | .wtUni _ => .webTransportUni
  | .unknown _ => .unknown

def slot (c : Conn) : UniAccept.Kind → Option (Bool × Conn)
  | .control => some (c.control, { c with control := true })
  | .encoder => some (c.encoder, { c with encoder := true })
  | .decoder => some (c.decoder, { c with decoder := true })
  | _ => none

def accReact (c : Conn) (k : UniAccept.Kind) : Gen.UniArms.AccAct → Option AccRes
  | .unique code =>
    (slot c k).map (fun (taken, c') =>
      if taken then { conn := c.fail code, err := some code } else { conn := c' })
  | .store =>
    match k with
    | .wtUni sid => some { conn := { c with wtUni := c.wtUni ++ [sid] } }
    | _ => none
  | .stopSending code => some { conn := c, stop := some code }
  | .drop => some { conn := c }

def acceptTable (wt : Bool) : Gen.UniArms.Accepted → Gen.UniArms.AccAct :=
  if wt then Gen.UniArms.acceptWt else Gen.UniArms.acceptNoWt

theorem acceptKind_agrees : ∀ (cfg : Cfg) (c : Conn) (k : UniAccept.Kind),
    some (acceptKind cfg c k) = accReact c k (acceptTable cfg.wt (acceptedOf k)) := by
  rintro ⟨role, wt⟩ c k
  cases wt <;> cases k <;> rfl

theorem acceptArrival_agrees (cfg : Cfg) (c : Conn) :
    (Gen.UniArms.onEndOfStream = .forget ∧ acceptArrival cfg c .dropped = { conn := c }) ∧
    (Gen.UniArms.onInternalError = .connErr ∧
      acceptArrival cfg c .internal =
        { conn := c.fail Gen.UniArms.internalCode, err := some Gen.UniArms.internalCode }) ∧
    Gen.UniArms.onOk = .resolved ∧ Gen.UniArms.onPending = .wait :=
  ⟨⟨rfl, rfl⟩, ⟨rfl, rfl⟩, rfl, rfl⟩

end H3.GenAgree.Ctl
