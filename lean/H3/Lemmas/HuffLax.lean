import H3.Lemmas.HuffSpec
import H3.Lemmas.HuffLoop
/-! The D-15 flag, exactly.  Of the bits `tail` behind the last complete symbol the levels of the decode tree consume
    a path `c`, up to the level whose `lookup` bits are not there, and `check_eof` judges the rest `q` only
    (`walkL root tail = .short q`, `tail = c ++ q`, `eofOK q`).  `hdecodeX_iff` says that this is ALL the decoder accepts
    and that the ghost flag is `!validPad tail`; so the flagged set (accepted although RFC 7541 §5.2 forbids it) is:
    such a `c ++ q` that is longer than 7 bits or has a zero bit in `c` (`lax_iff`). -/
namespace H3.Huffman
open H3.Bits H3.Spec.Huffman
open H3.Gen.HuffDec (root)

theorem eofOK_iff (q : List Bool) : eofOK q = true ↔ q = [] ∨ (q.length ≤ 8 ∧ ∀ x ∈ q, x = true) := by
  simp only [eofOK, Bool.or_eq_true, Bool.and_eq_true, decide_eq_true_eq, List.isEmpty_iff, List.all_eq_true,
    beq_iff_eq]

theorem validPad_false_iff (c q : List Bool) (hq : q = [] ∨ (q.length ≤ 8 ∧ ∀ x ∈ q, x = true)) :
    validPad (c ++ q) = false ↔ 7 < c.length + q.length ∨ ∃ x ∈ c, x = false := by
  rw [← Bool.not_eq_true, validPad_iff, List.length_append]
  constructor
  · intro h
    by_cases hlen : 7 < c.length + q.length
    · exact .inl hlen
    · refine .inr (Classical.byContradiction fun hno => h ⟨by omega, fun x hx => ?_⟩)
      rcases List.mem_append.1 hx with hx | hx
      · cases x with
        | true => rfl
        | false => exact absurd ⟨false, hx, rfl⟩ hno
      · rcases hq with rfl | ⟨_, hq2⟩
        · cases hx
        · exact hq2 x hx
  · rintro (h | ⟨x, hx, rfl⟩) ⟨h1, h2⟩
    · omega
    · cases h2 false (List.mem_append_left q hx)

theorem lax_iff (b : List Nat) (hb : WF b) (s : List Nat) :
    hdecodeX b = .ok (s, true) ↔
      (∀ x ∈ s, x < 256) ∧ ∃ c q, bitsOf b = enc s ++ (c ++ q) ∧ walkL root (c ++ q) = .short q ∧
        (q = [] ∨ (q.length ≤ 8 ∧ ∀ x ∈ q, x = true)) ∧
        (7 < c.length + q.length ∨ ∃ x ∈ c, x = false) := by
  rw [hdecodeX_iff b hb s true]
  constructor
  · rintro ⟨hs, tail, q, ht, hwq, hq, hl⟩
    obtain ⟨c, rfl⟩ := walkL_short_suffix root tail q hwq
    have hq' := (eofOK_iff q).mp hq
    exact ⟨hs, c, q, ht, hwq, hq', (validPad_false_iff c q hq').1 (by simpa using hl.symm)⟩
  · rintro ⟨hs, c, q, ht, hwq, hq', hbad⟩
    exact ⟨hs, c ++ q, q, ht, hwq, (eofOK_iff q).mpr hq', by rw [(validPad_false_iff c q hq').2 hbad]; rfl⟩

theorem lax_true_iff (b : List Nat) : lax b = true ↔ ∃ s, hdecodeX b = .ok (s, true) := by
  unfold lax
  cases hdecodeX b with
  | error e => simp
  | ok v => obtain ⟨s, l⟩ := v; simp

end H3.Huffman
