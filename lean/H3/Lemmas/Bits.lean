import H3.Model.Bits
/-! Lemmas about bit strings of numbers and byte strings (`H3.Bits`); before them a root-level `DecidableEq` for
    `Except`, and among them `word`, a Huffman code word as bits, which the Huffman lemma files build on. -/
/-- equality of model results is decidable (for `decide` witnesses) -/
instance {ε α : Type} [DecidableEq ε] [DecidableEq α] : DecidableEq (Except ε α) := fun a b =>
  match a, b with
  | .ok x, .ok y => if h : x = y then isTrue (by rw [h]) else isFalse (fun hc => h (by injection hc))
  | .error x, .error y => if h : x = y then isTrue (by rw [h]) else isFalse (fun hc => h (by injection hc))
  | .ok _, .error _ => isFalse (fun hc => by cases hc)
  | .error _, .ok _ => isFalse (fun hc => by cases hc)

namespace H3.Bits

@[simp] theorem length_bitsN (n x : Nat) : (bitsN n x).length = n := by
  induction n with
  | zero => rfl
  | succ n ih => simp [bitsN, ih]

theorem val_lt (l : List Bool) : val l < 2 ^ l.length := by
  induction l with
  | nil => simp [val]
  | cons b r ih =>
    simp only [val, List.length_cons, Nat.pow_succ]
    cases b <;> simp <;> omega

theorem val_append (a b : List Bool) : val (a ++ b) = val a * 2 ^ b.length + val b := by
  induction a with
  | nil => simp [val]
  | cons x a ih =>
    simp only [List.cons_append, val, ih, List.length_append, Nat.pow_add]
    rw [Nat.add_mul, Nat.mul_assoc, Nat.add_assoc]

theorem val_bitsN (n x : Nat) : val (bitsN n x) = x % 2 ^ n := by
  induction n with
  | zero => simp [bitsN, val, Nat.mod_one]
  | succ n ih =>
    simp only [bitsN, val, ih, length_bitsN]
    have h2 : x % 2 ^ (n + 1) = (x / 2 ^ n % 2) * 2 ^ n + x % 2 ^ n := by
      rw [Nat.pow_succ, Nat.mod_mul, Nat.add_comm, Nat.mul_comm]
    rw [h2]
    have : x / 2 ^ n % 2 = 0 ∨ x / 2 ^ n % 2 = 1 := by omega
    rcases this with h | h <;> simp [h]

theorem val_inj : ∀ (a b : List Bool), a.length = b.length → val a = val b → a = b
  | [], [], _, _ => rfl
  | x :: a, y :: b, hl, hv => by
    have hl' : a.length = b.length := Nat.succ.inj hl
    have ha := val_lt a
    have hb := val_lt b
    simp only [val, hl'] at hv ha
    have hxy : x = y := by cases x <;> cases y <;> simp at hv ⊢ <;> omega
    rw [hxy, val_inj a b hl' (by subst hxy; omega)]

theorem bitsN_congr (n x y : Nat) (h : x % 2 ^ n = y % 2 ^ n) : bitsN n x = bitsN n y :=
  val_inj _ _ (by simp) (by rw [val_bitsN, val_bitsN, h])

theorem bitsN_mod (n x : Nat) : bitsN n (x % 2 ^ n) = bitsN n x :=
  bitsN_congr _ _ _ (Nat.mod_mod _ _)

theorem bitsN_add (m n x : Nat) : bitsN (m + n) x = bitsN m (x / 2 ^ n) ++ bitsN n x := by
  induction m with
  | zero => simp [bitsN]
  | succ m ih =>
    have : m + 1 + n = (m + n) + 1 := by omega
    rw [this]
    simp only [bitsN, ih, List.cons_append]
    rw [Nat.div_div_eq_div_mul, ← Nat.pow_add, Nat.add_comm]

/-- a code word given as numbers (symbol, length, value), spelt out: the form `Spec.Huffman.assign` produces -/
def word (t : Nat × Nat × Nat) : List Bool × Nat := (bitsN t.2.1 t.2.2, t.1)

theorem bitsN_snoc (n k v i : Nat) (hi : i < 2 ^ k) : bitsN (n + k) (v * 2 ^ k + i) = bitsN n v ++ bitsN k i := by
  rw [bitsN_add]
  congr 1
  · congr 1
    rw [Nat.mul_comm, Nat.mul_add_div (Nat.two_pow_pos k), Nat.div_eq_of_lt hi, Nat.add_zero]
  · apply bitsN_congr
    rw [Nat.mul_comm, Nat.mul_add_mod]

theorem bitsN_val (l : List Bool) : bitsN l.length (val l) = l :=
  val_inj _ _ (by simp) (by rw [val_bitsN, Nat.mod_eq_of_lt (val_lt l)])

theorem take_drop_bitsN (n i l x : Nat) (h : i + l ≤ n) :
    ((bitsN n x).drop i).take l = bitsN l (x / 2 ^ (n - i - l)) := by
  have e1 : n = i + (l + (n - i - l)) := by omega
  have : bitsN n x = bitsN i (x / 2 ^ (l + (n - i - l))) ++
      (bitsN l (x / 2 ^ (n - i - l)) ++ bitsN (n - i - l) x) := by
    conv => lhs; rw [e1]
    rw [bitsN_add, bitsN_add]
  rw [this, List.drop_append_of_le_length (by simp), List.drop_of_length_le (by simp)]
  simp

theorem val_take_drop_bitsN (n i l x : Nat) (h : i + l ≤ n) :
    val (((bitsN n x).drop i).take l) = x / 2 ^ (n - i - l) % 2 ^ l := by
  rw [take_drop_bitsN n i l x h, val_bitsN]

theorem val_eq_ones_iff (l : List Bool) : val l = 2 ^ l.length - 1 ↔ l.all (· == true) = true := by
  induction l with
  | nil => simp [val]
  | cons b r ih =>
    have hr := val_lt r
    have hp : 0 < 2 ^ r.length := Nat.two_pow_pos _
    simp only [val, List.length_cons, Nat.pow_succ, List.all_cons, Bool.and_eq_true, ← ih]
    cases b <;> simp <;> omega

theorem any_false_eq (w : List Bool) : w.any (· == false) = !w.all (· == true) := by
  rw [List.any_eq_not_all_not]
  congr 2
  funext x
  cases x <;> rfl

@[simp] theorem length_bitsOf (bs : List Nat) : (bitsOf bs).length = 8 * bs.length := by
  induction bs with
  | nil => rfl
  | cons b r ih => simp [bitsOf, ih]; omega

theorem bitsOf_append (a b : List Nat) : bitsOf (a ++ b) = bitsOf a ++ bitsOf b := by
  induction a with
  | nil => rfl
  | cons x a ih => simp [bitsOf, ih]

theorem drop_bitsOf (bs : List Nat) (i : Nat) : (bitsOf bs).drop (8 * i) = bitsOf (bs.drop i) := by
  induction i generalizing bs with
  | zero => simp
  | succ i ih =>
    cases bs with
    | nil => simp [bitsOf]
    | cons b r =>
      have : 8 * (i + 1) = 8 + 8 * i := by omega
      rw [this, bitsOf, ← List.drop_drop, List.drop_left' (length_bitsN 8 b), ih]
      simp

theorem bitsN8_pair (a b : Nat) (hb : b < 256) :
    bitsN 8 a ++ bitsN 8 b = bitsN 16 (a * 256 + b) :=
  (bitsN_snoc 8 8 a b hb).symm

end H3.Bits
