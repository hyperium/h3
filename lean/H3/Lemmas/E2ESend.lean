import H3.Lemmas.E2EWire
import H3.Lemmas.SendSide
/-! The sender of a message on one request stream: what the transport has been handed once every
    call has been awaited — for every acceptance script — and why steps that address other streams
    do not matter (the connection machine `H3.SendSide.step` projected to one stream). -/
namespace H3.E2E
open H3.WriteBuf H3.SendSide H3.Gen.WriteBuf

theorem poll_cur_none (s : Stream) (k : Nat) (h : s.cur = none) : s.poll k = s := by
  unfold Stream.poll; rw [h]

theorem polls_cur_none (script : List Nat) (s : Stream) (h : s.cur = none) :
    script.foldl Stream.poll s = s := by
  induction script with
  | nil => rfl
  | cons k r ih => simp only [List.foldl_cons, poll_cur_none s k h, ih]

/-- the transport polls of one call: the log grows by a prefix of the buffer's content; when the
    buffer has been drained it has grown by exactly the content, and `poll_finish` has followed if
    the call was `finish()` -/
theorem polls_spec (script : List Nat) : ∀ (s : Stream) (w : WB), s.cur = some w → w.WF → w.view ≠ [] →
    (script.foldl Stream.poll s).kind = s.kind ∧ (script.foldl Stream.poll s).grease = s.grease ∧
    (∃ c, (script.foldl Stream.poll s).log = s.log ++ w.view.take c) ∧
    ((script.foldl Stream.poll s).cur = none →
      (script.foldl Stream.poll s).log = s.log ++ w.view ∧
      (script.foldl Stream.poll s).fin = (s.fin || s.finAfter) ∧
      (script.foldl Stream.poll s).finAfter = false) := by
  induction script with
  | nil =>
    intro s w hc _ _
    refine ⟨rfl, rfl, ⟨0, by simp⟩, ?_⟩
    intro h; simp only [List.foldl_nil] at h; rw [hc] at h; cases h
  | cons k r ih =>
    intro s w hc hwf hne
    obtain ⟨o, w', hwf', hov, hp⟩ := poll_cases s k hc hwf
    simp only [List.foldl_cons, hp]
    split
    · -- this poll drains the buffer
      rename_i hv0
      have ho : o = w.view := by rw [← hov, hv0]; simp
      rw [polls_cur_none r _ rfl]
      exact ⟨rfl, rfl, ⟨w.view.length, by simp [ho]⟩, fun _ => ⟨by simp [ho], rfl, rfl⟩⟩
    · rename_i hv1
      obtain ⟨h1, h2, ⟨c, h3⟩, h4⟩ := ih { s with log := s.log ++ o, cur := some w' } w' rfl hwf' hv1
      refine ⟨h1, h2, ⟨o.length + c, ?_⟩, ?_⟩
      · rw [h3, List.append_assoc, ← hov, List.take_length_add_append]
      · intro hn
        obtain ⟨a, b, c'⟩ := h4 hn
        exact ⟨by rw [a, List.append_assoc, hov], b, c'⟩

theorem runS_polls (s : Stream) (script : List Nat) :
    runS s (script.map .poll) = script.foldl Stream.poll s := by
  induction script generalizing s with
  | nil => rfl
  | cons k r ih => simp only [List.map_cons, runS, List.foldl_cons, SOp.apply]; exact ih _

/-- the frames the message calls send -/
def Sendable : SFrame → Prop
  | .data p => p.length < 2^62
  | .headers p => p.length < 2^62
  | _ => False

theorem fromFrame_frameBytes {f : SFrame} {w : WB} (h : fromFrame f = some w) : w.view = frameBytes f := by
  obtain ⟨bs, hbs, _, hv⟩ := putOpt_new h
  rw [hv, frameBytes, hbs]; rfl

theorem fromFrame_sendable (f : SFrame) (hf : Sendable f) :
    ∃ w, fromFrame f = some w ∧ w.WF ∧ w.view = frameBytes f ∧ w.view ≠ [] := by
  have hl : HasLength f := by cases f <;> first | trivial | exact hf.elim
  have hb : Bounded f := by cases f <;> first | exact hf | exact hf.elim
  obtain ⟨w, hw⟩ := fromFrame_some f hb hl (fun es h => by subst h; exact hf.elim)
  obtain ⟨_, hwf, hv, hty, _⟩ := fromFrame_spec hl hw
  exact ⟨w, hw, hwf, fromFrame_frameBytes hw, by rw [hv]; exact H3.Spec.Output.wire_ne_nil _ _ hty⟩

theorem frameOp_apply (f : SFrame) (hf : Sendable f) (s : Stream) :
    (frameOp f).apply s = onRequest (fun s => s.start (fromFrame f)) s := by
  cases f with
  | data p => rfl
  | headers p => rfl
  | _ => exact hf.elim

/-- an idle request-stream handle between two calls -/
structure Idle (s : Stream) : Prop where
  kind : s.kind = .request
  idle : s.idle = true

/-- `send_data(buf).await` / `send_response(..).await` / `send_trailers(..).await` on an idle
    handle, any acceptance script under which the call completes -/
theorem callS_frame (s : Stream) (hs : Idle s) (f : SFrame) (hf : Sendable f) (script : List Nat)
    (hdone : (callS s (frameOp f, script)).cur = none) :
    (callS s (frameOp f, script)).log = s.log ++ frameBytes f ∧ Idle (callS s (frameOp f, script)) ∧
    (callS s (frameOp f, script)).grease = s.grease := by
  obtain ⟨w, hw, hwf, hv, hne⟩ := fromFrame_sendable f hf
  obtain ⟨hcn, hfa, hfn⟩ := idle_flags hs.idle
  have hstart : (frameOp f).apply s = { s with cur := some w } := by
    rw [frameOp_apply f hf, onRequest, if_pos ⟨hs.kind, hs.idle⟩]
    simp only [Stream.start, hw]
  unfold callS at hdone ⊢
  simp only at hdone ⊢
  rw [hstart, runS_polls] at hdone ⊢
  obtain ⟨h1, h2, _, h4⟩ := polls_spec script { s with cur := some w } w rfl hwf hne
  obtain ⟨a, b, c⟩ := h4 hdone
  refine ⟨by rw [a, hv], ⟨by rw [h1]; exact hs.kind, ?_⟩, h2⟩
  unfold Stream.idle
  rw [hdone, b, c]
  simp [hfa, hfn]

/-- `finish().await`: the grease frame first if this handle owes it, then `poll_finish` -/
theorem callS_finish (s : Stream) (hs : Idle s) (gN : Nat) (hg : gN < GREASE_RANGE_END)
    (script : List Nat) (hdone : (callS s (.finish gN, script)).cur = none) :
    (callS s (.finish gN, script)).log = s.log ++ greaseBytes (if s.grease then some gN else none) ∧
    (callS s (.finish gN, script)).fin = true := by
  obtain ⟨hcn, hfa, hfn⟩ := idle_flags hs.idle
  unfold callS at hdone ⊢
  simp only [SOp.apply, onRequest, if_pos (And.intro hs.kind hs.idle), finishStream] at hdone ⊢
  rw [runS_polls] at hdone ⊢
  by_cases hgr : s.grease = true
  · rw [if_pos hgr] at hdone ⊢
    have hlt := greaseId_lt gN hg
    obtain ⟨w, hw⟩ := fromFrame_some (.grease (greaseId gN)) hlt trivial nofun
    obtain ⟨_, hwf, hv, _⟩ := fromFrame_spec (f := .grease (greaseId gN)) trivial hw
    have hne : w.view ≠ [] := by rw [hv]; exact H3.Spec.Output.wire_ne_nil _ _ hlt
    simp only [greaseThenFin, hw] at hdone ⊢
    obtain ⟨_, _, _, h4⟩ := polls_spec script
      { s with cur := some w, finAfter := true, grease := false } w rfl hwf hne
    obtain ⟨a, b, _⟩ := h4 hdone
    refine ⟨?_, by rw [b]; simp⟩
    rw [a, fromFrame_frameBytes hw, hgr]
    rfl
  · have hgf : s.grease = false := by simpa using hgr
    rw [if_neg hgr] at hdone ⊢
    rw [polls_cur_none script _ (by simpa using hcn)]
    simp [hgf, greaseBytes]

theorem sendAll_cons (s : Stream) (c : SOp × List Nat) (r : List (SOp × List Nat)) :
    sendAll s (c :: r) = sendAll (callS s c) r := rfl

theorem sendAll_append (s : Stream) (a b : List (SOp × List Nat)) :
    sendAll s (a ++ b) = sendAll (sendAll s a) b := by
  simp [sendAll, List.foldl_append]

theorem awaited_append (a b : List (SOp × List Nat)) : ∀ s,
    Awaited s (a ++ b) ↔ Awaited s a ∧ Awaited (sendAll s a) b := by
  induction a with
  | nil => intro s; simp [Awaited, sendAll]
  | cons c r ih =>
    intro s
    simp only [List.cons_append, Awaited, ih, sendAll_cons, and_assoc]

theorem sendAll_frames (fs : List SFrame) (hfs : ∀ f ∈ fs, Sendable f) :
    ∀ (s : Stream) (scripts : List (List Nat)), Idle s → Awaited s (frameCalls fs scripts) →
    (sendAll s (frameCalls fs scripts)).log = s.log ++ wireOf fs ∧
    Idle (sendAll s (frameCalls fs scripts)) ∧ (sendAll s (frameCalls fs scripts)).grease = s.grease := by
  induction fs with
  | nil => intro s _ hs _; exact ⟨by simp [frameCalls, sendAll, wireOf], hs, rfl⟩
  | cons f r ih =>
    intro s scripts hs haw
    simp only [frameCalls, Awaited] at haw
    obtain ⟨hdone, hrest⟩ := haw
    obtain ⟨a, b, c⟩ := callS_frame s hs f (hfs f (by simp)) _ hdone
    obtain ⟨a', b', c'⟩ := ih (fun x hx => hfs x (by simp [hx])) _ scripts.tail b hrest
    simp only [frameCalls, sendAll_cons]
    refine ⟨?_, b', by rw [c', c]⟩
    rw [a', a, wireOf_cons, List.append_assoc]

theorem freshStream_idle (g : Bool) : Idle (freshStream g) := ⟨rfl, rfl⟩

/-- all calls of a message, awaited, under any acceptance scripts: the stream carries the frames of
    the message (then the grease frame if owed) and is finished -/
theorem sendAll_message (fs : List SFrame) (hfs : ∀ f ∈ fs, Sendable f) (g : Bool) (gN : Nat)
    (hg : gN < GREASE_RANGE_END) (scripts : List (List Nat))
    (haw : Awaited (freshStream g) (callsOf fs gN scripts)) :
    (sendAll (freshStream g) (callsOf fs gN scripts)).log =
      wireOf fs ++ greaseBytes (if g then some gN else none) ∧
    (sendAll (freshStream g) (callsOf fs gN scripts)).fin = true ∧
    (sendAll (freshStream g) (callsOf fs gN scripts)).cur = none := by
  unfold callsOf at haw ⊢
  rw [awaited_append] at haw
  obtain ⟨h1, h2⟩ := haw
  obtain ⟨a, b, c⟩ := sendAll_frames fs hfs (freshStream g) scripts (freshStream_idle g) h1
  simp only [Awaited, and_true] at h2
  rw [sendAll_append]
  obtain ⟨d, e⟩ := callS_finish _ b gN hg _ h2
  refine ⟨?_, e, h2⟩
  show (callS _ _).log = _
  rw [d, a, c]
  rfl

theorem getStream_update (ss : List (Nat × Stream)) (sid' sid : Nat) (f : Stream → Stream) :
    getStream (updateStream ss sid' f) sid =
      (getStream ss sid).map (fun s => if sid' = sid then f s else s) := by
  induction ss with
  | nil => rfl
  | cons e r ih =>
    obtain ⟨i, s⟩ := e
    unfold getStream updateStream at *
    simp only [List.map_cons, List.find?_cons]
    by_cases h1 : i = sid
    · subst h1
      by_cases h2 : i = sid'
      · subst h2; simp
      · have : ¬ sid' = i := fun e => h2 e.symm
        simp [h2, this]
    · have hb : (i == sid) = false := by simpa using h1
      by_cases h2 : i = sid'
      · subst h2; simp only [if_true, hb]; exact ih
      · simp only [if_neg h2, hb]; exact ih

theorem getStream_append (ss : List (Nat × Stream)) (e : Nat × Stream) (sid : Nat) (s : Stream)
    (h : getStream ss sid = some s) : getStream (ss ++ [e]) sid = some s := by
  unfold getStream at *
  rw [List.find?_append]
  cases hf : ss.find? (fun e => e.1 == sid) with
  | none => rw [hf] at h; cases h
  | some x => rw [hf] at h; simpa using h

/-- **Locality of a step of the connection machine.**  A step either addresses request stream
    `sid` — then it acts on that stream's record alone, as `proj` says — or it leaves the record
    untouched (whatever it does to other streams and to the connection's flags). -/
theorem getStream_step (st : State) (x : Step) (sid : Nat) (hsid : sid % 4 = 0) (s : Stream)
    (h : getStream st.streams sid = some s) :
    getStream (step st x).streams sid =
      some (match proj sid x with | some op => op.apply s | none => s) := by
  cases x with
  | poll s' a | sendHeaders s' a | sendData s' a | finish s' a =>
    simp only [step, proj, getStream_update, h, Option.map_some]
    by_cases e : s' = sid <;> simp [e, SOp.apply]
  | sendRequest s' fs | acceptRequest s' =>
    simp only [step, proj]
    split
    · exact getStream_append _ _ _ _ h
    · exact h
  | goaway id =>
    simp only [step, proj]
    split
    · simp only [getStream_update, h, Option.map_some]
      have : ¬ uniId st.server 0 = sid := by
        intro e
        have hm := uniId_mod st.server 0
        rw [e, hsid] at hm
        cases hsv : st.server <;> rw [hsv] at hm <;> simp at hm
      simp [this]
    · exact h
  | greaseStream s' gS gF =>
    simp only [step, proj]
    split
    · split
      · exact h
      · exact getStream_append _ _ _ _ h
    · exact h

/-- ... hence over a whole run: the record of stream `sid` is the result of the steps that address
    it, in their order — every other step of the interleaving is irrelevant to it -/
theorem getStream_run (steps : List Step) : ∀ (st : State) (sid : Nat) (s : Stream), sid % 4 = 0 →
    getStream st.streams sid = some s →
    getStream (run st steps).streams sid = some (runS s (steps.filterMap (proj sid))) := by
  induction steps with
  | nil => intro st sid s _ h; exact h
  | cons x r ih =>
    intro st sid s hsid h
    have h1 := getStream_step st x sid hsid s h
    simp only [run, List.foldl_cons] at ih ⊢
    rw [ih (step st x) sid _ hsid h1]
    cases hp : proj sid x with
    | none => simp [hp]
    | some op => simp [hp, runS]

end H3.E2E
