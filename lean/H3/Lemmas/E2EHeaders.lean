import H3.Model.E2E
import H3.Lemmas.Headers
import H3.Props.C11Closed
/-! The field section of a message, there and back: what `Header::try_from` and
    `into_request_parts` / `into_response_parts` / `into_trailers` make of the very field list
    `Header::{request,response,trailer}` hands to the QPACK encoder (the completeness direction
    that C12's soundness theorems do not state), and what `decode_stateless` makes of h3's own
    `encode_stateless` output (C10/C11). -/
namespace H3.E2E
open H3.Headers
open H3.Spec.Headers (optField)

def addStep (m : HeaderMap) (f : FieldLine) : HeaderMap := hmAppend m f.1 f.2

theorem mapOf_eq (l : List FieldLine) : mapOf l = l.foldl addStep [] := rfl

/-- distinct names, no empty group (what `http::HeaderMap` guarantees) -/
def HMOk (m : HeaderMap) : Prop := hmWF m ∧ ∀ g ∈ m, g.2 ≠ []

theorem hmAppend_nonempty (m : HeaderMap) (n v : Bytes) (h : ∀ g ∈ m, g.2 ≠ []) :
    ∀ g ∈ hmAppend m n v, g.2 ≠ [] := by
  induction m with
  | nil => intro g hg; simp [hmAppend] at hg; subst hg; simp
  | cons g0 r ih =>
    obtain ⟨k, vs⟩ := g0
    intro g hg
    unfold hmAppend at hg
    split at hg
    · simp only [List.mem_cons] at hg
      rcases hg with rfl | hg
      · simp
      · exact h g (by simp [hg])
    · simp only [List.mem_cons] at hg
      rcases hg with rfl | hg
      · exact h _ (by simp)
      · exact ih (fun x hx => h x (by simp [hx])) g hg

theorem hmOk_append (m : HeaderMap) (n v : Bytes) (h : HMOk m) : HMOk (hmAppend m n v) :=
  ⟨hmWF_append m n v h.1, hmAppend_nonempty m n v h.2⟩

theorem hmOk_foldl (l : List FieldLine) : ∀ acc, HMOk acc → HMOk (l.foldl addStep acc) := by
  induction l with
  | nil => intro acc h; exact h
  | cons f r ih => intro acc h; exact ih _ (hmOk_append acc f.1 f.2 h)

theorem hmOk_mapOf (l : List FieldLine) : HMOk (mapOf l) :=
  hmOk_foldl l [] ⟨by simp [hmWF], by simp⟩

theorem hmGroup_foldl (n : Bytes) (l : List FieldLine) : ∀ acc,
    hmGroup (l.foldl addStep acc) n = hmGroup acc n ++ (l.filter (fun f => f.1 = n)).map (·.2) := by
  induction l with
  | nil => intro acc; simp
  | cons f r ih =>
    intro acc
    simp only [List.foldl_cons, ih, addStep, hmGroup_append]
    by_cases hf : f.1 = n
    · simp [hf]
    · simp [hf]

theorem hmGroup_mapOf (l : List FieldLine) (n : Bytes) : hmGroup (mapOf l) n = H3.Spec.Headers.valuesOf n l := by
  rw [mapOf_eq, hmGroup_foldl]; rfl

/-- **per-name order**: the values the map iterates for a name are the submitted ones, in the
    submitted order -/
theorem hmIter_mapOf_filter (l : List FieldLine) (n : Bytes) :
    (hmIter (mapOf l)).filter (fun f => f.1 = n) = l.filter (fun f => f.1 = n) :=
  hmIter_filter_of_group (hmOk_mapOf l).1 (hmGroup_mapOf l n)

theorem hmAppend_new (m : HeaderMap) (n v : Bytes) (h : n ∉ m.map (·.1)) :
    hmAppend m n v = m ++ [(n, [v])] := by
  induction m with
  | nil => rfl
  | cons g r ih =>
    obtain ⟨k, vs⟩ := g
    simp only [List.map_cons, List.mem_cons, not_or] at h
    have hk : ¬ k = n := fun e => h.1 e.symm
    simp [hmAppend, hk, ih h.2]

theorem hmAppend_last (acc : HeaderMap) (n : Bytes) (vs : List Bytes) (v : Bytes)
    (h : n ∉ acc.map (·.1)) : hmAppend (acc ++ [(n, vs)]) n v = acc ++ [(n, vs ++ [v])] := by
  induction acc with
  | nil => simp [hmAppend]
  | cons g r ih =>
    obtain ⟨k, ws⟩ := g
    simp only [List.map_cons, List.mem_cons, not_or] at h
    have hk : ¬ k = n := fun e => h.1 e.symm
    simp [hmAppend, hk, ih h.2]

theorem foldl_group (acc : HeaderMap) (k : Bytes) (hk : k ∉ acc.map (·.1)) (vs : List Bytes) :
    ∀ vs0, (vs.map (fun v => (k, v))).foldl addStep (acc ++ [(k, vs0)]) = acc ++ [(k, vs0 ++ vs)] := by
  induction vs with
  | nil => intro vs0; simp
  | cons v r ih =>
    intro vs0
    simp only [List.map_cons, List.foldl_cons, addStep]
    rw [hmAppend_last acc k vs0 v hk, ih]
    simp

theorem foldl_hmIter (M : HeaderMap) : ∀ acc, HMOk M → (∀ g ∈ M, g.1 ∉ acc.map (·.1)) →
    (hmIter M).foldl addStep acc = acc ++ M := by
  induction M with
  | nil => intro acc _ _; simp [hmIter]
  | cons g r ih =>
    obtain ⟨k, vs⟩ := g
    intro acc hM hd
    have hk : k ∉ acc.map (·.1) := hd (k, vs) (by simp)
    have hvs : vs ≠ [] := hM.2 (k, vs) (by simp)
    have hnd := List.nodup_cons.mp hM.1
    have hr : HMOk r := ⟨hnd.2, fun x hx => hM.2 x (by simp [hx])⟩
    obtain ⟨v, vs', rfl⟩ := List.exists_cons_of_ne_nil hvs
    simp only [hmIter, List.foldl_append, List.map_cons, List.foldl_cons, addStep]
    rw [hmAppend_new acc k v hk, foldl_group acc k hk vs' [v]]
    rw [ih (acc ++ [(k, [v] ++ vs')]) hr]
    · simp
    · intro x hx
      simp only [List.map_append, List.map_cons, List.map_nil, List.mem_append, List.mem_singleton, not_or]
      refine ⟨hd x (by simp [hx]), ?_⟩
      intro e
      exact hnd.1 (List.mem_map.mpr ⟨x, hx, e⟩)

theorem foldl_hmIter_mapOf (l : List FieldLine) : (hmIter (mapOf l)).foldl addStep [] = mapOf l := by
  simpa using foldl_hmIter (mapOf l) [] (hmOk_mapOf l) (by simp)

theorem tryFromLoop_append (H : Http) (a b : List FieldLine) : ∀ h,
    tryFromLoop H h (a ++ b) = (tryFromLoop H h a).bind (fun h' => tryFromLoop H h' b) := by
  induction a with
  | nil => intro h; rfl
  | cons f r ih =>
    intro h
    obtain ⟨n, v⟩ := f
    simp only [List.cons_append, tryFromLoop]
    cases Field.parse H n v with
    | ok fld =>
      simp only
      split
      · unfold mapFull; split <;> rfl
      · exact ih _
    | err e => rfl
    | panic => rfl

def RegularOk (f : FieldLine) : Prop := nameAccepted f.1 = true ∧ validValue f.2 = true

theorem parse_regular (H : Http) (f : FieldLine) (h : RegularOk f) :
    Field.parse H f.1 f.2 = .ok (.header f.1 f.2) := by
  obtain ⟨h1, h2⟩ := h
  obtain ⟨he, hp⟩ := nameAccepted_facts h1
  simp [Field.parse, he, hp, h1, h2]

theorem fillFrom_cons_some {m M : HeaderMap} {f : FieldLine} {r : List FieldLine}
    (h : fillFrom m (f :: r) = some M) :
    m.length < hmMaxEntries ∧ fillFrom (hmAppend m f.1 f.2) r = some M := by
  simp only [fillFrom, hmTryAppend] at h
  split at h
  · rename_i m' hm'
    split at hm'
    · rename_i hlt; cases hm'; exact ⟨hlt, h⟩
    · cases hm'
  · cases h

theorem fillFrom_some (l : List FieldLine) : ∀ (m M : HeaderMap), fillFrom m l = some M →
    M = l.foldl addStep m := by
  induction l with
  | nil => intro m M h; simp only [fillFrom, Option.some.injEq] at h; exact h.symm
  | cons f r ih =>
    intro m M h
    exact ih _ _ (fillFrom_cons_some h).2

theorem holdable_mapOf {l : List FieldLine} (h : Holdable l) : fillFrom [] l = some (mapOf l) := by
  unfold Holdable at h
  cases e : fillFrom [] l with
  | none => rw [e] at h; cases h
  | some M => rw [fillFrom_some l [] M e]; rfl

/-- a full map ends with a name that has a single value (it was the last `append`) -/
def Tight (m : HeaderMap) : Prop :=
  m.length = hmMaxEntries → ∃ m' k v, m = m' ++ [(k, [v])]

theorem fillFrom_tight (l : List FieldLine) : ∀ (m M : HeaderMap), Tight m → m.length ≤ hmMaxEntries →
    fillFrom m l = some M → Tight M ∧ M.length ≤ hmMaxEntries := by
  induction l with
  | nil => intro m M ht hc h; simp only [fillFrom, Option.some.injEq] at h; subst h; exact ⟨ht, hc⟩
  | cons f r ih =>
    intro m M ht hc h
    obtain ⟨hlt, h⟩ := fillFrom_cons_some h
    refine ih _ _ ?_ ?_ h
    · by_cases hin : f.1 ∈ m.map (·.1)
      · intro hlen; rw [hmAppend_length, if_pos hin] at hlen; omega
      · intro _; exact ⟨m, f.1, f.2, hmAppend_new m f.1 f.2 hin⟩
    · have := hmAppend_length_le m f.1 f.2; omega

theorem holdable_tight {l : List FieldLine} (h : Holdable l) :
    Tight (mapOf l) ∧ (mapOf l).length ≤ hmMaxEntries :=
  fillFrom_tight l [] _ (by intro h0; simp [hmMaxEntries] at h0) (by simp) (holdable_mapOf h)

theorem fillFrom_group (acc : HeaderMap) (k : Bytes) (hk : k ∉ acc.map (·.1)) (vs : List Bytes) :
    ∀ vs0, (vs = [] ∨ acc.length + 1 < hmMaxEntries) →
    ∀ R, fillFrom (acc ++ [(k, vs0)]) (vs.map (fun v => (k, v)) ++ R) =
      fillFrom (acc ++ [(k, vs0 ++ vs)]) R := by
  induction vs with
  | nil => intro vs0 _ R; simp
  | cons v r ih =>
    intro vs0 hc R
    have hlt : acc.length + 1 < hmMaxEntries := by
      rcases hc with hc | hc
      · cases hc
      · exact hc
    simp only [List.map_cons, List.cons_append, fillFrom, hmTryAppend]
    rw [if_pos (by simp; omega), hmAppend_last acc k vs0 v hk]
    simp only
    rw [ih (vs0 ++ [v]) (Or.inr hlt) R]
    simp

/-- re-inserting the entries of a map that is not over-full, in iteration order, never finds the
    map full (and rebuilds the map) -/
theorem fillFrom_hmIter (M : HeaderMap) : ∀ acc, HMOk M → (∀ g ∈ M, g.1 ∉ acc.map (·.1)) →
    (acc ++ M).length ≤ hmMaxEntries → Tight (acc ++ M) →
    fillFrom acc (hmIter M) = some (acc ++ M) := by
  induction M with
  | nil => intro acc _ _ _ _; simp [hmIter, fillFrom]
  | cons g r ih =>
    obtain ⟨k, vs⟩ := g
    intro acc hM hd hlen ht
    have hk : k ∉ acc.map (·.1) := hd (k, vs) (by simp)
    have hvs : vs ≠ [] := hM.2 (k, vs) (by simp)
    have hnd := List.nodup_cons.mp hM.1
    have hr : HMOk r := ⟨hnd.2, fun x hx => hM.2 x (by simp [hx])⟩
    obtain ⟨v, vs', rfl⟩ := List.exists_cons_of_ne_nil hvs
    simp only [List.length_append, List.length_cons] at hlen
    simp only [hmIter, List.map_cons, List.cons_append, fillFrom, hmTryAppend]
    rw [if_pos (by omega), hmAppend_new acc k v hk]
    simp only
    have hgrp : vs' = [] ∨ acc.length + 1 < hmMaxEntries := by
      by_cases hv : vs' = []
      · exact Or.inl hv
      · right
        cases r with
        | cons g' r' => simp only [List.length_cons] at hlen; omega
        | nil =>
          -- the last name has more than one value: the map is not full
          have hne : (acc ++ [(k, v :: vs')]).length ≠ hmMaxEntries := by
            intro hfull
            obtain ⟨m', k', v', he⟩ := ht hfull
            have := congrArg List.getLast? he
            simp only [List.getLast?_append, List.getLast?_singleton, Option.some_or,
              Option.some.injEq, Prod.mk.injEq, List.cons.injEq] at this
            exact hv this.2.2
          simp only [List.length_append, List.length_cons, List.length_nil] at hne hlen
          omega
    rw [fillFrom_group acc k hk vs' [v] hgrp (hmIter r)]
    have e : acc ++ (k, v :: vs') :: r = (acc ++ [(k, [v] ++ vs')]) ++ r := by simp
    rw [e] at ht ⊢
    refine ih (acc ++ [(k, [v] ++ vs')]) hr ?_ (by simp only [List.length_append, List.length_cons, List.length_nil]; omega) ht
    intro x hx
    simp only [List.map_append, List.map_cons, List.map_nil, List.mem_append, List.mem_singleton, not_or]
    refine ⟨hd x (by simp [hx]), ?_⟩
    intro e'
    exact hnd.1 (List.mem_map.mpr ⟨x, hx, e'⟩)

theorem fillFrom_hmIter_mapOf {l : List FieldLine} (h : Holdable l) :
    fillFrom [] (hmIter (mapOf l)) = some (mapOf l) := by
  obtain ⟨ht, hc⟩ := holdable_tight h
  simpa using fillFrom_hmIter (mapOf l) [] (hmOk_mapOf l) (by simp) (by simpa using hc) (by simpa using ht)

theorem tryFromLoop_regular (H : Http) (R : List FieldLine) (hR : ∀ f ∈ R, RegularOk f) : ∀ (h : Header) M,
    fillFrom h.fields R = some M → tryFromLoop H h R = .ok { h with fields := M } := by
  induction R with
  | nil => intro h M hf; simp only [fillFrom, Option.some.injEq] at hf; subst hf; rfl
  | cons f r ih =>
    intro h M hf
    obtain ⟨n, v⟩ := f
    have hp := parse_regular H (n, v) (hR _ (by simp))
    simp only at hp
    obtain ⟨hlt, hf⟩ := fillFrom_cons_some hf
    have hfull : h.full (.header n v) = false := by
      simp only [Header.full, decide_eq_false_iff_not]; omega
    simp only [tryFromLoop, hp, hfull, Bool.false_eq_true, if_false]
    exact ih (fun x hx => hR x (by simp [hx])) (h.add (.header n v)) M hf

/-! `Field::parse` run forwards on each of the six names (`parse_cases` only reads an answer backwards: it
    does not say when the answer is an error).  The names are literal byte lists, so `simp` settles every
    `name = n…` test of the chain by comparing the literals. -/

theorem parse_method (H : Http) (m : Bytes) (h : validMethod m = true) :
    Field.parse H nMethod m = .ok (.method m) := by
  simp [Field.parse, pseudoValueSyntax, nMethod, nScheme, nAuthority, nPath, isPseudoName, colon, h]

theorem syntax_passes {n v : Bytes} (hy : pseudoValueSyntax n v = true) :
    (H3.Gen.Headers.pseudoSyntaxChecked && !pseudoValueSyntax n v) = false := by
  rw [hy]; simp

theorem parse_scheme (H : Http) (s : Bytes) (h : H.parseScheme s = some s) (hy : schemeSyntax s = true) :
    Field.parse H nScheme s = .ok (.scheme s) := by
  unfold Field.parse
  rw [syntax_passes (by simpa [pseudoValueSyntax] using hy)]
  simp [nScheme, isPseudoName, colon, tryValue, h]

theorem parse_authority (H : Http) (a : Bytes) (h : H.parseAuthority a = some a) (hy : authoritySyntax a = true) :
    Field.parse H nAuthority a = .ok (.authority a) := by
  unfold Field.parse
  rw [syntax_passes (by simpa [pseudoValueSyntax, nScheme, nAuthority] using hy)]
  simp [nScheme, nAuthority, isPseudoName, colon, tryValue, h]

theorem parse_path (H : Http) (p : Bytes) (h : H.parsePath p = some p) (hy : pathSyntax p = true) :
    Field.parse H nPath p = .ok (.path p) := by
  unfold Field.parse
  rw [syntax_passes (by simpa [pseudoValueSyntax, nScheme, nAuthority, nPath] using hy)]
  simp [nScheme, nAuthority, nPath, isPseudoName, colon, tryValue, h]

theorem parse_status (H : Http) (st : Nat) (h1 : 100 ≤ st) (h2 : st ≤ 999) :
    Field.parse H nStatus (statusDigits st) = .ok (.status st) := by
  obtain ⟨a, b⟩ := status_digits st h1 h2
  simp [Field.parse, pseudoValueSyntax, nScheme, nAuthority, nPath, nMethod, nStatus, isPseudoName, colon, a, b]

theorem parse_protocol (H : Http) (p : Bytes) (h : parseProtocol p = some p) :
    Field.parse H nProtocol p = .ok (.protocol p) := by
  simp [Field.parse, pseudoValueSyntax, nScheme, nAuthority, nPath, nMethod, nStatus, nProtocol, isPseudoName, colon,
    tryValue, h]

/-- the pseudo-header part of a sent `Header` is parsed back to itself: every value is one its
    parser accepts and prints unchanged — and (D-12g fix) `:scheme`, `:authority`, `:path` pass the
    receiver's own syntax check (`pseudo_value_syntax`) -/
structure PseudoBack (H : Http) (p : Pseudo) : Prop where
  method : ∀ m, p.method = some m → validMethod m = true
  scheme : ∀ s, p.scheme = some s → H.parseScheme s = some s
  authority : ∀ a, p.authority = some a → H.parseAuthority a = some a
  path : ∀ x, p.path = some x → H.parsePath x = some x
  status : ∀ st, p.status = some st → 100 ≤ st ∧ st ≤ 999
  protocol : ∀ x, p.protocol = some x → parseProtocol x = some x
  schemeSyntax : ∀ s, p.scheme = some s → schemeSyntax s = true
  authoritySyntax : ∀ a, p.authority = some a → authoritySyntax a = true
  pathSyntax : ∀ x, p.path = some x → pathSyntax x = true

/-- one optional pseudo-header field taken by the loop: `g o` is the header afterwards, whether the
    field is there or not, so that the cases do not multiply -/
theorem loop_opt (H : Http) (n : Bytes) (f : Bytes → Field) (o : Option Bytes) (g : Option Bytes → Header)
    (R : List FieldLine) (hnh : ∀ v, (g none).full (f v) = false) (hadd : ∀ v, (g none).add (f v) = g (some v))
    (hp : ∀ v, o = some v → Field.parse H n v = .ok (f v)) :
    tryFromLoop H (g none) (optField n o ++ R) = tryFromLoop H (g o) R := by
  cases o with
  | none => rfl
  | some v => simp only [optField, List.cons_append, List.nil_append, tryFromLoop, hp v rfl, hnh v, hadd,
      Bool.false_eq_true, if_false]

theorem tryFromLoop_pseudo (H : Http) (p : Pseudo) (hp : PseudoBack H p) (R : List FieldLine) :
    tryFromLoop H {} (pseudoList p ++ R) =
      tryFromLoop H { pseudo := { p with len := (pseudoList p).length }, fields := [] } R := by
  obtain ⟨m, s, a, pa, st, pr, len⟩ := p
  have hst : ∀ v, st.map statusDigits = some v → Field.parse H nStatus v = .ok (.status (statusVal v)) := by
    intro v hv
    cases st with
    | none => cases hv
    | some x =>
      cases hv
      obtain ⟨h1, h2⟩ := hp.status x rfl
      rw [parse_status H x h1 h2, (status_digits x h1 h2).2]
  have hsv : (st.map statusDigits).map statusVal = st := by
    cases st with
    | none => rfl
    | some x => simp [(status_digits x (hp.status x rfl).1 (hp.status x rfl).2).2]
  simp only [pseudoList, List.append_assoc, List.length_append, ← Nat.add_assoc]
  refine (loop_opt H nMethod .method m (fun o => ⟨{ method := o, len := (optField nMethod o).length }, []⟩) _
    (fun _ => rfl) (fun _ => rfl) (fun v hv => parse_method H v (hp.method v hv))).trans ?_
  generalize (optField nMethod m).length = k
  refine (loop_opt H nScheme .scheme s
    (fun o => ⟨{ method := m, scheme := o, len := k + (optField nScheme o).length }, []⟩) _
    (fun _ => rfl) (fun _ => rfl) (fun v hv => parse_scheme H v (hp.scheme v hv) (hp.schemeSyntax v hv))).trans ?_
  generalize k + (optField nScheme s).length = k
  refine (loop_opt H nAuthority .authority a
    (fun o => ⟨{ method := m, scheme := s, authority := o, len := k + (optField nAuthority o).length }, []⟩) _
    (fun _ => rfl) (fun _ => rfl)
    (fun v hv => parse_authority H v (hp.authority v hv) (hp.authoritySyntax v hv))).trans ?_
  generalize k + (optField nAuthority a).length = k
  refine (loop_opt H nPath .path pa
    (fun o => ⟨{ method := m, scheme := s, authority := a, path := o, len := k + (optField nPath o).length }, []⟩) _
    (fun _ => rfl) (fun _ => rfl) (fun v hv => parse_path H v (hp.path v hv) (hp.pathSyntax v hv))).trans ?_
  generalize k + (optField nPath pa).length = k
  refine (loop_opt H nStatus (fun v => .status (statusVal v)) (st.map statusDigits)
    (fun o => ⟨{ method := m, scheme := s, authority := a, path := pa, status := o.map statusVal,
                 len := k + (optField nStatus o).length }, []⟩) _
    (fun _ => rfl) (fun _ => rfl) hst).trans ?_
  generalize k + (optField nStatus (st.map statusDigits)).length = k
  rw [hsv]
  exact loop_opt H nProtocol .protocol pr
    (fun o => ⟨{ method := m, scheme := s, authority := a, path := pa, status := st, protocol := o,
                 len := k + (optField nProtocol o).length }, []⟩) _
    (fun _ => rfl) (fun _ => rfl) (fun v hv => parse_protocol H v (hp.protocol v hv))
/-- **`Header::try_from` on the wire fields of a `Header`** whose pseudo values parse back and
    whose map the sender filled by `append` — and could hold (`Holdable`) — with acceptable names
    and values: the same `Header` (`len` recomputed).  The number of fields plays no role. -/
theorem tryFrom_wireFields (H : Http) (p : Pseudo) (l : List FieldLine) (hp : PseudoBack H p)
    (hl : ∀ f ∈ l, RegularOk f) (hhold : Holdable l) :
    tryFrom H ({ pseudo := p, fields := mapOf l } : Header).wireFields =
      .ok { pseudo := { p with len := (pseudoList p).length }, fields := mapOf l } := by
  rw [tryFrom_eq_loop, wireFields_eq, tryFromLoop_pseudo H p hp]
  have hreg : ∀ f ∈ hmIter (mapOf l), RegularOk f := by
    intro f hf
    -- every entry the map iterates is one of the submitted fields
    have hmem : f ∈ (hmIter (mapOf l)).filter (fun g => g.1 = f.1) := by
      simp [List.mem_filter, hf]
    rw [hmIter_mapOf_filter] at hmem
    exact hl f (List.mem_filter.mp hmem).1
  rw [tryFromLoop_regular H _ hreg _ (mapOf l) (fillFrom_hmIter_mapOf hhold)]

/-- the bytes that go to `uri.authority(..)` at the receiver (`into_request_parts`) -/
def effAuthority (uriAuth host : Option Bytes) : Bytes :=
  match uriAuth, host with
  | some a, none => a
  | _, some h => h
  | none, none => []

/-- what is asked of a request so that it survives the trip -/
structure RequestOk (H : Http) (method : Bytes) (uri : UriParts) (ext : Option Bytes)
    (l : List FieldLine) (u : Uri) : Prop where
  pseudo : PseudoBack H (Pseudo.request method uri ext)
  regular : ∀ f ∈ l, RegularOk f
  /-- `Uri::builder()` accepts the three parts at the receiver -/
  builds : H.uriBuild (Pseudo.request method uri ext).scheme
      (effAuthority uri.authority (hmGet (mapOf l) nHost)) (Pseudo.request method uri ext).path = some u
  /-- the submitted `Host` values (if any) are all the same value: the sender compares only the
      first one with the URI's authority, the receiver refuses a request whose `Host` values differ
      (D-12e); several identical ones pass -/
  hosts : allFirst (hmGroup (mapOf l) nHost) = true

/-- the authority decision at the receiver follows the sender's: what `Header::request` lets through,
    `into_request_parts` resolves to `effAuthority` -/
theorem request_chooses {method : Bytes} {uri : UriParts} {fields : HeaderMap} {ext : Option Bytes} {h : Header}
    (hreq : Header.request method uri fields ext = .ok h) :
    chooseAuthority uri.authority (hmGet fields nHost) = .ok (effAuthority uri.authority (hmGet fields nHost)) := by
  unfold Header.request at hreq
  cases ha : uri.authority <;> cases hh : hmGet fields nHost <;> rw [ha, hh] at hreq
  · cases hreq
  · rfl
  · rfl
  · simp only at hreq
    split at hreq
    · cases hreq
    · rename_i hax
      simp [chooseAuthority, effAuthority, Decidable.not_not.mp hax]

theorem recvRequest_sent (H : Http) (method : Bytes) (uri : UriParts) (ext : Option Bytes)
    (l : List FieldLine) (u : Uri) (h : Header)
    (hreq : Header.request method uri (mapOf l) ext = .ok h)
    (hok : RequestOk H method uri ext l u) (hcap : Holdable l) :
    recvRequest H h.wireFields =
      .ok { method := method, uri := u, protocol := (Pseudo.request method uri ext).protocol,
            headers := mapOf l } := by
  obtain rfl := request_ok hreq
  unfold recvRequest
  rw [tryFrom_wireFields H _ l hok.pseudo hok.regular hcap]
  -- a request h3 builds carries no `:status` (D-12f: the receiver refuses one that does)
  have hstatus : (Pseudo.request method uri ext).status = none := rfl
  simp only [Res.bind, Header.intoRequestParts, hstatus, Option.isSome_none, hok.hosts, Bool.not_true,
    Bool.and_false, Bool.false_eq_true, if_false]
  have hb := hok.builds
  have hauthority : (Pseudo.request method uri ext).authority = uri.authority := rfl
  have hmethod : (Pseudo.request method uri ext).method = some method := rfl
  simp only [hauthority, request_chooses hreq, hmethod, hb]

theorem recvResponse_sent (H : Http) (status : Nat) (l : List FieldLine) (h1 : 100 ≤ status)
    (h2 : status ≤ 999) (hl : ∀ f ∈ l, RegularOk f) (hcap : Holdable l) :
    recvResponse H (Header.response status (mapOf l)).wireFields = .ok (status, mapOf l) := by
  unfold recvResponse Header.response at *
  have hp : PseudoBack H { status := some status, len := 1 } :=
    ⟨by simp, by simp, by simp, by simp, by intro st hst; cases hst; exact ⟨h1, h2⟩, by simp, by simp, by simp, by simp⟩
  rw [tryFrom_wireFields H _ l hp hl hcap]
  -- a response h3 builds carries `:status` and no request pseudo-header field (D-12f: the receiver
  -- refuses one that does): `Pseudo.hasRequestField` of it evaluates to `false`
  rfl

theorem recvTrailers_sent (H : Http) (l : List FieldLine) (hl : ∀ f ∈ l, RegularOk f)
    (hcap : Holdable l) :
    recvTrailers H (Header.trailer (mapOf l)).wireFields = .ok (mapOf l) := by
  unfold recvTrailers Header.trailer at *
  have hp : PseudoBack H {} := ⟨by simp, by simp, by simp, by simp, by simp, by simp, by simp, by simp, by simp⟩
  rw [tryFrom_wireFields H _ l hp hl hcap]
  simp [Res.bind, Header.intoTrailers, pseudoList, optField]

theorem lines_qfields (l : List FieldLine) : lines (qfields l) = l := by
  simp [lines, qfields, List.map_map, Function.comp_def]

/-- octets, Huffman codings shorter than 2^29 − 2 octets (C11's `Encodable`: what `prefix_string::decode` accepts) -/
def FieldsEncodable (l : List FieldLine) : Prop :=
  ∀ f ∈ l, H3.Qpack.Lemmas.Encodable ⟨f.1, f.2⟩

/-- RFC 9114 §4.2.2 size of a field list -/
def sectionSize (l : List FieldLine) : Nat := Spec.Qpack.size (H3.Qpack.Lemmas.pairs (qfields l))

theorem qfields_encodable {l : List FieldLine} (henc : FieldsEncodable l) :
    ∀ f ∈ qfields l, H3.Qpack.Lemmas.Encodable f := by
  intro f hf
  simp only [qfields, List.mem_map] at hf
  obtain ⟨g, hg, rfl⟩ := hf
  exact henc g hg

theorem decode_fieldSection (h : Header) (henc : FieldsEncodable h.wireFields) (max : Nat)
    (hsz : sectionSize h.wireFields ≤ max) :
    Qpack.decodeStateless (fieldSection h) max =
      .ok (qfields h.wireFields) (sectionSize h.wireFields) := by
  have hfs := qfields_encodable henc
  exact (H3.Props.C11.C10_own_encoding_exact_closed _ hfs max).2.1.mpr hsz

theorem fieldSection_wf (h : Header) (henc : FieldsEncodable h.wireFields) :
    ∀ b ∈ fieldSection h, b < 256 := by
  have hfs := qfields_encodable henc
  exact (H3.Props.C11.C11_encode_then_rfc_decode_closed _ (fun f hf => (hfs f hf).writable)).2.2.2.1

theorem decodeWith_fieldSection {α : Type} (parse : List FieldLine → Headers.Res α) (h : Header)
    (henc : FieldsEncodable h.wireFields) (max : Nat) (hsz : sectionSize h.wireFields ≤ max) :
    decodeWith max parse (fieldSection h) = optOf (parse h.wireFields) ∧
    classifyBlock max parse (fieldSection h) = classOf (parse h.wireFields) := by
  unfold decodeWith classifyBlock
  rw [decode_fieldSection h henc max hsz]
  simp only [lines_qfields, and_self]

end H3.E2E
