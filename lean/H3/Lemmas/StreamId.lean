import H3.Model.StreamId
/-! `StreamId` arithmetic: the two type bits of an identifier are `id % 4`, and `impl Add<usize>` is one saturation
    of the index at 2^60 − 1 with the type bits kept (`add_eq`). -/
namespace H3.StreamId

theorem low_bits (id : Nat) : dir id * 2 + initiator id = id % 4 := by
  rw [dir, initiator, show 4 = 2 * 2 from rfl, Nat.mod_mul, Nat.add_comm, Nat.mul_comm]

theorem isRequest_iff (id : Nat) : isRequest id = true ↔ id % 4 = 0 := by
  rw [← low_bits, Nat.add_eq_zero_iff, Nat.mul_eq_zero]
  simp only [isRequest, Bool.and_eq_true, beq_iff_eq, Nat.succ_ne_zero, or_false]

/-- the two saturations collapse into one (the index saturates at 2^60 − 1, below `u64::MAX`), the
    shift of `new` does not wrap, the two type bits stay. -/
theorem add_eq (id rhs : Nat) :
    add id rhs = 4 * min (id / 4 + rhs) (2^60 - 1) + id % 4 := by
  have hidx : min (satAdd (index id) rhs) (VARINT_MAX / 4) = min (id / 4 + rhs) (2^60 - 1) := by
    rw [satAdd, index, Nat.min_assoc, Nat.min_eq_right (by decide : VARINT_MAX / 4 ≤ U64MAX)]; rfl
  have hlt : min (id / 4 + rhs) (2^60 - 1) * 4 < 2^64 :=
    Nat.lt_of_le_of_lt (Nat.mul_le_mul_right 4 (Nat.min_le_right _ _)) (by decide)
  rw [add, new, hidx, Nat.mod_eq_of_lt hlt, Nat.add_assoc, low_bits, Nat.mul_comm]

end H3.StreamId
