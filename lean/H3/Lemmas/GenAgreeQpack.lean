import H3.Model.Qpack
import H3.Lemmas.PrefixInt
import H3.Model.Dyn
import H3.Gen.QpackArms
/-! Agreement of the QPACK models (`H3.Qpack`: the stateless paths with their byte codecs, C11;
    `H3.Dyn`: the stateful paths at the instruction level, C20) with what the translator reads out of
    `h3/src/qpack/{block,stream,decoder,encoder}.rs` on every run (`H3.Gen.QpackArms`):

    * which first byte selects which field line representation / encoder instruction / decoder
      instruction (the `if first & MASK == VALUE` chains, evaluated by the translator for all 256 bytes),
    * the prefix sizes and flag patterns of every representation's `decode` and `encode`,
    * what `decode_stateless`, `parse_header_field`, `parse_instruction` + `on_encoder_recv`,
      `Action::parse` + `on_decoder_recv` do with each representation, the order of the tests of
      `encode_stateless`, what `encode_field` writes for each insertion / lookup result.

    The byte codecs of `stream.rs` have no model (C20 works at the instruction level); for them the
    generated tables are tied to the layouts of RFC 9204 §4.3 / §4.4 written down here, and to each
    other (what `encode` writes is routed back to the same instruction and accepted by its `decode`). -/
namespace H3.GenAgree.Qpack
open H3.Qpack

macro "close_matches" : tactic => `(tactic| ((repeat' split) <;> simp_all))

/-! ### first-byte dispatch -/

def lineOf : HeaderBlockField → Gen.QpackArms.FieldLine
  | .indexed => .indexed
  | .indexedWithPostBase => .indexedWithPostBase
  | .literalWithNameRef => .literalWithNameRef
  | .literalWithPostBaseNameRef => .literalWithPostBaseNameRef
  | .literal => .literal
  | .unknown => .unknown

/-- `HeaderBlockField::decode(first)`: the model decides as the code does, for every byte -/
theorem headerBlockField_agrees :
    ∀ first, first < 256 → lineOf (HeaderBlockField.decode first) = Gen.QpackArms.headerBlockField first := by
  decide +kernel

/-- RFC 9204 §4.3: `1Txxxxxx` Insert With Name Reference, `01Hxxxxx` Insert With Literal Name,
    `001xxxxx` Set Dynamic Table Capacity, `000xxxxx` Duplicate -/
def rfcEncoderInstruction (first : Nat) : Gen.QpackArms.EncInstr :=
  if first / 128 = 1 then .insertWithNameRef
  else if first / 64 = 1 then .insertWithoutNameRef
  else if first / 32 = 1 then .dynamicTableSizeUpdate
  else .duplicate

/-- RFC 9204 §4.4: `1xxxxxxx` Section Acknowledgment, `01xxxxxx` Stream Cancellation, `00xxxxxx`
    Insert Count Increment -/
def rfcDecoderInstruction (first : Nat) : Gen.QpackArms.DecInstr :=
  if first / 128 = 1 then .headerAck
  else if first / 64 = 1 then .streamCancel
  else .insertCountIncrement

theorem encoderInstruction_rfc :
    ∀ first, first < 256 → Gen.QpackArms.encoderInstruction first = rfcEncoderInstruction first := by
  decide +kernel

theorem decoderInstruction_rfc :
    ∀ first, first < 256 → Gen.QpackArms.decoderInstruction first = rfcDecoderInstruction first := by
  decide +kernel

/-! ### prefix sizes and flags of the field line representations (`block.rs`) -/

def intSize (l : List Gen.QpackArms.Read) (k : Nat) : Nat :=
  match l[k]? with
  | some (.int n) => n
  | _ => 0

def strSize (l : List Gen.QpackArms.Read) (k : Nat) : Nat :=
  match l[k]? with
  | some (.str n) => n
  | _ => 0

/-- the flags a prefixed integer of size `n` can carry when its first byte is a byte -/
theorem flags_of_byte (n first f v : Nat) (r rest : List Nat) (hn1 : 1 ≤ n) (hn8 : n ≤ 8) (hb : first < 256)
    (h : PrefixInt.decode n (first :: r) = .ok f v rest) : f < 2 ^ (8 - n) := by
  obtain rfl : f = first / 2 ^ n := by
    unfold PrefixInt.decode at h
    rw [PrefixInt.decode?_cons n first r hn1 hn8 hb, Option.getD_some] at h
    split at h
    · injection h with h1; exact h1.symm
    · exact (PrefixInt.decLoop_ok _ _ _ _ _ _ _ h).1
  exact PrefixInt.flags_lt hn8 hb

/-- `HeaderPrefix::decode` -/
theorem headerPrefix_reads (bs : Bytes) :
    HeaderPrefix.decode bs =
      match PrefixInt.decode (intSize Gen.QpackArms.headerPrefixReads 0) bs with
      | .endOf => .error (.integer .unexpectedEnd)
      | .overflow => .error (.integer .overflow)
      | .ok _ ric r1 =>
        match PrefixInt.decode (intSize Gen.QpackArms.headerPrefixReads 1) r1 with
        | .endOf => .error (.integer .unexpectedEnd)
        | .overflow => .error (.integer .overflow)
        | .ok sign db r2 =>
          if ric > USIZE_MAX then .error (.integer .overflow)
          else if db > USIZE_MAX then .error (.integer .overflow)
          else .ok (⟨ric, sign == 1, db⟩, r2) := rfl

def prefixBytes (p : HeaderPrefix) : List Gen.QpackArms.Write → Option Bytes
  | [.int a b, .intSign c] =>
    some (PrefixInt.encode a b p.encodedInsertCount ++ PrefixInt.encode c (if p.signNegative then 1 else 0) p.deltaBase)
  | _ => none

theorem headerPrefix_writes (p : HeaderPrefix) :
    some (HeaderPrefix.encode p) = prefixBytes p Gen.QpackArms.headerPrefixWrites := rfl

/-- the model's flag tests, as written in `H3.Qpack` -/
def indexedCls (f : Nat) : Option Gen.QpackArms.Ref :=
  if f = 3 then some .static else if f = 2 then some .dynamic else none

def lnrCls (f : Nat) : Option Gen.QpackArms.Ref :=
  if f % 2 = 1 ∧ f / 4 % 2 = 1 then some .static
  else if f % 2 = 0 ∧ f / 4 % 2 = 1 then some .dynamic else none

theorem indexed_factor (bs : Bytes) :
    Indexed.decode bs =
      match PrefixInt.decode (intSize Gen.QpackArms.indexedReads 0) bs with
      | .endOf => .error (.integer .unexpectedEnd)
      | .overflow => .error (.integer .overflow)
      | .ok f i rest =>
        match indexedCls f with
        | some .static => if i > USIZE_MAX then .error (.integer .overflow) else .ok (.static i, rest)
        | some .dynamic => if i > USIZE_MAX then .error (.integer .overflow) else .ok (.dynamic i, rest)
        | none => .error (.invalidPrefix f) := by
  have hs : intSize Gen.QpackArms.indexedReads 0 = 6 := rfl
  rw [hs]
  unfold Indexed.decode indexedCls
  cases PrefixInt.decode 6 bs with
  | ok f i rest => by_cases h1 : f = 3 <;> by_cases h2 : f = 2 <;> simp [h1, h2]
  | _ => rfl

theorem indexed_flags : ∀ f, f < 2 ^ (8 - intSize Gen.QpackArms.indexedReads 0) →
    indexedCls f = Gen.QpackArms.indexedFlags f := by decide

theorem indexedWithPostBase_factor (bs : Bytes) :
    IndexedWithPostBase.decode bs =
      match PrefixInt.decode (intSize Gen.QpackArms.indexedWithPostBaseReads 0) bs with
      | .endOf => .error (.integer .unexpectedEnd)
      | .overflow => .error (.integer .overflow)
      | .ok f i rest =>
        if decide (f = 1) then (if i > USIZE_MAX then .error (.integer .overflow) else .ok (i, rest))
        else .error (.invalidPrefix f) := by
  have hs : intSize Gen.QpackArms.indexedWithPostBaseReads 0 = 4 := rfl
  rw [hs]
  unfold IndexedWithPostBase.decode
  cases PrefixInt.decode 4 bs with
  | ok f i rest => by_cases h1 : f = 1 <;> simp [h1]
  | _ => rfl

theorem indexedWithPostBase_flags : ∀ f, f < 2 ^ (8 - intSize Gen.QpackArms.indexedWithPostBaseReads 0) →
    decide (f = 1) = Gen.QpackArms.indexedWithPostBaseFlags f := by decide

theorem literalWithNameRef_factor (bs : Bytes) :
    LiteralWithNameRef.decode bs =
      match PrefixInt.decode (intSize Gen.QpackArms.literalWithNameRefReads 0) bs with
      | .endOf => .error (.integer .unexpectedEnd)
      | .overflow => .error (.integer .overflow)
      | .ok f i rest =>
        match lnrCls f with
        | some .static =>
          if i > USIZE_MAX then .error (.integer .overflow)
          else match strDecode (strSize Gen.QpackArms.literalWithNameRefReads 1) rest with
            | .error e => .error e
            | .ok (v, rest', lax) => .ok (.static i v, rest', lax)
        | some .dynamic =>
          if i > USIZE_MAX then .error (.integer .overflow)
          else match strDecode (strSize Gen.QpackArms.literalWithNameRefReads 1) rest with
            | .error e => .error e
            | .ok (v, rest', lax) => .ok (.dynamic i v, rest', lax)
        | none => .error (.invalidPrefix f) := by
  have hs : intSize Gen.QpackArms.literalWithNameRefReads 0 = 4 := rfl
  have ht : strSize Gen.QpackArms.literalWithNameRefReads 1 = 8 := rfl
  rw [hs, ht]
  unfold LiteralWithNameRef.decode lnrCls
  cases PrefixInt.decode 4 bs with
  | ok f i rest =>
    by_cases h1 : f % 2 = 1 ∧ f / 4 % 2 = 1 <;> by_cases h2 : f % 2 = 0 ∧ f / 4 % 2 = 1 <;> simp [h1, h2] <;> close_matches
  | _ => rfl

theorem literalWithNameRef_flags : ∀ f, f < 2 ^ (8 - intSize Gen.QpackArms.literalWithNameRefReads 0) →
    lnrCls f = Gen.QpackArms.literalWithNameRefFlags f := by decide

theorem literalWithPostBaseNameRef_factor (bs : Bytes) :
    LiteralWithPostBaseNameRef.decode bs =
      match PrefixInt.decode (intSize Gen.QpackArms.literalWithPostBaseNameRefReads 0) bs with
      | .endOf => .error (.integer .unexpectedEnd)
      | .overflow => .error (.integer .overflow)
      | .ok f i rest =>
        if decide (f / 16 % 16 = 0) then
          if i > USIZE_MAX then .error (.integer .overflow)
          else match strDecode (strSize Gen.QpackArms.literalWithPostBaseNameRefReads 1) rest with
            | .error e => .error e
            | .ok (v, rest', lax) => .ok ((i, v), rest', lax)
        else .error (.invalidPrefix f) := by
  have hs : intSize Gen.QpackArms.literalWithPostBaseNameRefReads 0 = 3 := rfl
  have ht : strSize Gen.QpackArms.literalWithPostBaseNameRefReads 1 = 8 := rfl
  rw [hs, ht]
  unfold LiteralWithPostBaseNameRef.decode
  cases PrefixInt.decode 3 bs with
  | ok f i rest => by_cases h1 : f / 16 % 16 = 0 <;> simp [h1] <;> close_matches
  | _ => rfl

theorem literalWithPostBaseNameRef_flags :
    ∀ f, f < 2 ^ (8 - intSize Gen.QpackArms.literalWithPostBaseNameRefReads 0) →
      decide (f / 16 % 16 = 0) = Gen.QpackArms.literalWithPostBaseNameRefFlags f := by decide

theorem literal_factor (first : Nat) (r : Bytes) :
    Literal.decode (first :: r) =
      if decide (first / 32 % 8 = 1) then
        match strDecode (strSize Gen.QpackArms.literalReads 0) (first :: r) with
        | .error e => .error e
        | .ok (name, r1, lax1) =>
          match strDecode (strSize Gen.QpackArms.literalReads 1) r1 with
          | .error e => .error e
          | .ok (value, r2, lax2) => .ok ((name, value), r2, lax1 || lax2)
      else .error (.invalidPrefix first) := by
  have hs : strSize Gen.QpackArms.literalReads 0 = 4 := rfl
  have ht : strSize Gen.QpackArms.literalReads 1 = 8 := rfl
  rw [hs, ht]
  unfold Literal.decode
  by_cases h1 : first / 32 % 8 = 1 <;> simp [h1] <;> close_matches

theorem literal_first : ∀ first, first < 256 →
    decide (first / 32 % 8 = 1) = Gen.QpackArms.literalFirstOk first := by decide +kernel

/-! ### what the `encode` functions of `block.rs` write -/

/-- the bytes of a list of codec calls for the index `idx` and the strings `strs`; outer `none`: the
    list has no reading, inner `none`: a panic inside the string encoder -/
def emit (idx : Nat) : List Gen.QpackArms.Write → List Bytes → Option (Option Bytes)
  | [], [] => some (some [])
  | .int s f :: r, strs => (emit idx r strs).map (·.map (PrefixInt.encode s f idx ++ ·))
  | .str s f :: r, v :: strs =>
    (emit idx r strs).map fun rest =>
      match PrefixString.encode? s f v, rest with
      | some a, some b => some (a ++ b)
      | _, _ => none
  | _, _ => none

theorem indexed_writes (i : Nat) :
    some (some (Indexed.encode (.static i))) = emit i Gen.QpackArms.indexedWritesStatic [] ∧
    some (some (Indexed.encode (.dynamic i))) = emit i Gen.QpackArms.indexedWritesDynamic [] := by
  simp [emit, Gen.QpackArms.indexedWritesStatic, Gen.QpackArms.indexedWritesDynamic, Indexed.encode]

theorem indexedWithPostBase_writes (i : Nat) :
    some (some (IndexedWithPostBase.encode i)) = emit i Gen.QpackArms.indexedWithPostBaseWrites [] := by
  simp [emit, Gen.QpackArms.indexedWithPostBaseWrites, IndexedWithPostBase.encode]

theorem literalWithNameRef_writes (i : Nat) (v : Bytes) :
    some (LiteralWithNameRef.encode? (.static i v)) = emit i Gen.QpackArms.literalWithNameRefWritesStatic [v] ∧
    some (LiteralWithNameRef.encode? (.dynamic i v)) = emit i Gen.QpackArms.literalWithNameRefWritesDynamic [v] := by
  cases h : PrefixString.encode? 8 0 v <;>
    simp [emit, Gen.QpackArms.literalWithNameRefWritesStatic, Gen.QpackArms.literalWithNameRefWritesDynamic,
      LiteralWithNameRef.encode?, h]

theorem literalWithPostBaseNameRef_writes (i : Nat) (v : Bytes) :
    some (LiteralWithPostBaseNameRef.encode? i v) = emit i Gen.QpackArms.literalWithPostBaseNameRefWrites [v] := by
  cases h : PrefixString.encode? 8 0 v <;>
    simp [emit, Gen.QpackArms.literalWithPostBaseNameRefWrites, LiteralWithPostBaseNameRef.encode?, h]

theorem literal_writes (name value : Bytes) :
    some (Literal.encode? name value) = emit 0 Gen.QpackArms.literalWrites [name, value] := by
  cases h1 : PrefixString.encode? 4 2 name <;> cases h2 : PrefixString.encode? 8 0 value <;>
    simp [emit, Gen.QpackArms.literalWrites, Literal.encode?, h1, h2]

/-! ### `encode` against `decode`, per representation and instruction: what is written is routed back
    to the same representation by the first-byte dispatch, its flags are accepted, the sizes agree -/

/-- every first byte a codec call can produce (the Huffman bit of `prefix_string::encode` is always
    set: `flags << 1 | 1`) -/
def firstBytes : Gen.QpackArms.Write → List Nat
  | .int s f => (List.range (2 ^ s)).map (f * 2 ^ s + ·)
  | .intSign s => (List.range (2 ^ (s + 1))).map id
  | .str s f => (List.range (2 ^ (s - 1))).map ((f * 2 + 1) * 2 ^ (s - 1) + ·)

def routed {α : Type} [DecidableEq α] (d : Nat → α) (x : α) : List Gen.QpackArms.Write → Bool
  | w :: _ => (firstBytes w).all fun b => decide (b < 256) && d b == x
  | [] => false

/-- the reads of `decode` and the writes of `encode` are the same codecs with the same sizes -/
def sameSizes : List Gen.QpackArms.Read → List Gen.QpackArms.Write → Bool
  | [], [] => true
  | .int a :: r, .int b _ :: w => a == b && sameSizes r w
  | .int a :: r, .intSign b :: w => a == b && sameSizes r w
  | .str a :: r, .str b _ :: w => a == b && sameSizes r w
  | _, _ => false

def intFlags : List Gen.QpackArms.Write → Nat
  | .int _ f :: _ => f
  | _ => 256

theorem block_round_trip :
    routed Gen.QpackArms.headerBlockField .indexed Gen.QpackArms.indexedWritesStatic = true ∧
    routed Gen.QpackArms.headerBlockField .indexed Gen.QpackArms.indexedWritesDynamic = true ∧
    routed Gen.QpackArms.headerBlockField .indexedWithPostBase Gen.QpackArms.indexedWithPostBaseWrites = true ∧
    routed Gen.QpackArms.headerBlockField .literalWithNameRef Gen.QpackArms.literalWithNameRefWritesStatic = true ∧
    routed Gen.QpackArms.headerBlockField .literalWithNameRef Gen.QpackArms.literalWithNameRefWritesDynamic = true ∧
    routed Gen.QpackArms.headerBlockField .literalWithPostBaseNameRef Gen.QpackArms.literalWithPostBaseNameRefWrites = true ∧
    routed Gen.QpackArms.headerBlockField .literal Gen.QpackArms.literalWrites = true ∧
    Gen.QpackArms.indexedFlags (intFlags Gen.QpackArms.indexedWritesStatic) = some .static ∧
    Gen.QpackArms.indexedFlags (intFlags Gen.QpackArms.indexedWritesDynamic) = some .dynamic ∧
    Gen.QpackArms.indexedWithPostBaseFlags (intFlags Gen.QpackArms.indexedWithPostBaseWrites) = true ∧
    Gen.QpackArms.literalWithNameRefFlags (intFlags Gen.QpackArms.literalWithNameRefWritesStatic) = some .static ∧
    Gen.QpackArms.literalWithNameRefFlags (intFlags Gen.QpackArms.literalWithNameRefWritesDynamic) = some .dynamic ∧
    Gen.QpackArms.literalWithPostBaseNameRefFlags (intFlags Gen.QpackArms.literalWithPostBaseNameRefWrites) = true ∧
    ((firstBytes (Gen.QpackArms.literalWrites.headD (.int 0 0))).all Gen.QpackArms.literalFirstOk) = true ∧
    sameSizes Gen.QpackArms.headerPrefixReads Gen.QpackArms.headerPrefixWrites = true ∧
    sameSizes Gen.QpackArms.indexedReads Gen.QpackArms.indexedWritesStatic = true ∧
    sameSizes Gen.QpackArms.indexedReads Gen.QpackArms.indexedWritesDynamic = true ∧
    sameSizes Gen.QpackArms.indexedWithPostBaseReads Gen.QpackArms.indexedWithPostBaseWrites = true ∧
    sameSizes Gen.QpackArms.literalWithNameRefReads Gen.QpackArms.literalWithNameRefWritesStatic = true ∧
    sameSizes Gen.QpackArms.literalWithNameRefReads Gen.QpackArms.literalWithNameRefWritesDynamic = true ∧
    sameSizes Gen.QpackArms.literalWithPostBaseNameRefReads Gen.QpackArms.literalWithPostBaseNameRefWrites = true ∧
    sameSizes Gen.QpackArms.literalReads Gen.QpackArms.literalWrites = true := by
  decide +kernel

theorem stream_round_trip :
    routed Gen.QpackArms.encoderInstruction .insertWithNameRef Gen.QpackArms.insertWithNameRefWritesStatic = true ∧
    routed Gen.QpackArms.encoderInstruction .insertWithNameRef Gen.QpackArms.insertWithNameRefWritesDynamic = true ∧
    routed Gen.QpackArms.encoderInstruction .insertWithoutNameRef Gen.QpackArms.insertWithoutNameRefWrites = true ∧
    routed Gen.QpackArms.encoderInstruction .duplicate Gen.QpackArms.duplicateWrites = true ∧
    routed Gen.QpackArms.encoderInstruction .dynamicTableSizeUpdate Gen.QpackArms.dynamicTableSizeUpdateWrites = true ∧
    routed Gen.QpackArms.decoderInstruction .insertCountIncrement Gen.QpackArms.insertCountIncrementWrites = true ∧
    routed Gen.QpackArms.decoderInstruction .headerAck Gen.QpackArms.headerAckWrites = true ∧
    routed Gen.QpackArms.decoderInstruction .streamCancel Gen.QpackArms.streamCancelWrites = true ∧
    Gen.QpackArms.insertWithNameRefFlags (intFlags Gen.QpackArms.insertWithNameRefWritesStatic) = some .static ∧
    Gen.QpackArms.insertWithNameRefFlags (intFlags Gen.QpackArms.insertWithNameRefWritesDynamic) = some .dynamic ∧
    Gen.QpackArms.duplicateFlags (intFlags Gen.QpackArms.duplicateWrites) = true ∧
    Gen.QpackArms.dynamicTableSizeUpdateFlags (intFlags Gen.QpackArms.dynamicTableSizeUpdateWrites) = true ∧
    Gen.QpackArms.insertCountIncrementFlags (intFlags Gen.QpackArms.insertCountIncrementWrites) = true ∧
    Gen.QpackArms.headerAckFlags (intFlags Gen.QpackArms.headerAckWrites) = true ∧
    Gen.QpackArms.streamCancelFlags (intFlags Gen.QpackArms.streamCancelWrites) = true ∧
    sameSizes Gen.QpackArms.insertWithNameRefReads Gen.QpackArms.insertWithNameRefWritesStatic = true ∧
    sameSizes Gen.QpackArms.insertWithNameRefReads Gen.QpackArms.insertWithNameRefWritesDynamic = true ∧
    sameSizes Gen.QpackArms.insertWithoutNameRefReads Gen.QpackArms.insertWithoutNameRefWrites = true ∧
    sameSizes Gen.QpackArms.duplicateReads Gen.QpackArms.duplicateWrites = true ∧
    sameSizes Gen.QpackArms.dynamicTableSizeUpdateReads Gen.QpackArms.dynamicTableSizeUpdateWrites = true ∧
    sameSizes Gen.QpackArms.insertCountIncrementReads Gen.QpackArms.insertCountIncrementWrites = true ∧
    sameSizes Gen.QpackArms.headerAckReads Gen.QpackArms.headerAckWrites = true ∧
    sameSizes Gen.QpackArms.streamCancelReads Gen.QpackArms.streamCancelWrites = true := by
  decide +kernel

/-- RFC 9204 §4.3 / §4.4: the prefix lengths of the instructions (`N+` in the figures; a string
    literal of `prefix_string` size `s` has an `(s-1)`-bit length prefix under its `H` bit) -/
theorem stream_sizes_rfc :
    Gen.QpackArms.insertWithNameRefReads = [.int 6, .str 8] ∧          -- 1 T NameIndex(6+) / H ValueLength(7+)
    Gen.QpackArms.insertWithoutNameRefReads = [.str 6, .str 8] ∧       -- 0 1 H NameLength(5+) / H ValueLength(7+)
    Gen.QpackArms.duplicateReads = [.int 5] ∧                           -- 0 0 0 Index(5+)
    Gen.QpackArms.dynamicTableSizeUpdateReads = [.int 5] ∧              -- 0 0 1 Capacity(5+)
    Gen.QpackArms.headerAckReads = [.int 7] ∧                           -- 1 StreamID(7+)
    Gen.QpackArms.streamCancelReads = [.int 6] ∧                        -- 0 1 StreamID(6+)
    Gen.QpackArms.insertCountIncrementReads = [.int 6] :=               -- 0 0 Increment(6+)
  ⟨rfl, rfl, rfl, rfl, rfl, rfl, rfl⟩

/-! ### `decode_stateless` (`H3.Qpack.decodeField`, `decodeLoop`, `decodeStatelessX`) -/

def cmp : Gen.QpackArms.Cmp → Nat → Nat → Bool
  | .lt, a, b => decide (a < b)
  | .le, a, b => decide (a ≤ b)
  | .gt, a, b => decide (a > b)
  | .ge, a, b => decide (a ≥ b)
  | .eq, a, b => decide (a = b)
  | .ne, a, b => decide (a ≠ b)

/-- the stateless reading of what is done with a decoded representation; the look-ups in the
    dynamic table have none -/
def resolveStateless (first idx : Nat) (name value rest : Bytes) (lax : Bool) :
    Gen.QpackArms.Resolve → Option (Except Err (Field × Bytes × Bool))
  | .staticClone =>
    some (match StaticTable.get idx with
      | none => .error (.invalidStaticIndex idx)
      | some f => .ok (f, rest, false))
  | .staticWithValue =>
    some (match StaticTable.get idx with
      | none => .error (.invalidStaticIndex idx)
      | some f => .ok (f.withValue value, rest, lax))
  | .literal => some (.ok (⟨name, value⟩, rest, lax))
  | .missingRefs n => some (.error (.missingRefs n))
  | .unknownPrefix => some (.error (.unknownPrefix first))
  | _ => none

/-- a representation refused as a whole (`return Err(MissingRefs(n))` in place of its decoder) -/
def refusedWhole : Gen.QpackArms.Resolve → Option (Except Err (Field × Bytes × Bool))
  | .missingRefs n => some (.error (.missingRefs n))
  | _ => none

/-- one iteration of the loop of `decode_stateless` written over the generated table -/
def genDecodeField (first : Nat) (bs : Bytes) : Option (Except Err (Field × Bytes × Bool)) :=
  match lineOf (HeaderBlockField.decode first) with
  | .indexed =>
    match Indexed.decode bs with
    | .error e => some (.error (.ofParse e))
    | .ok (.static i, rest) => resolveStateless first i [] [] rest false (Gen.QpackArms.statelessResolve .indexedStatic)
    | .ok (.dynamic i, rest) => resolveStateless first i [] [] rest false (Gen.QpackArms.statelessResolve .indexedDynamic)
  | .indexedWithPostBase => refusedWhole (Gen.QpackArms.statelessResolve .indexedWithPostBase)
  | .literalWithNameRef =>
    match LiteralWithNameRef.decode bs with
    | .error e => some (.error (.ofParse e))
    | .ok (.static i v, rest, lax) =>
      resolveStateless first i [] v rest lax (Gen.QpackArms.statelessResolve .literalWithNameRefStatic)
    | .ok (.dynamic i v, rest, lax) =>
      resolveStateless first i [] v rest lax (Gen.QpackArms.statelessResolve .literalWithNameRefDynamic)
  | .literalWithPostBaseNameRef => refusedWhole (Gen.QpackArms.statelessResolve .literalWithPostBaseNameRef)
  | .literal =>
    match Literal.decode bs with
    | .error e => some (.error (.ofParse e))
    | .ok ((name, value), rest, lax) =>
      resolveStateless first 0 name value rest lax (Gen.QpackArms.statelessResolve .literal)
  | .unknown => resolveStateless first 0 [] [] [] false (Gen.QpackArms.statelessResolve .unknown)

theorem decodeField_agrees (first : Nat) (bs : Bytes) :
    some (decodeField first bs) = genDecodeField first bs := by
  unfold decodeField genDecodeField
  cases HeaderBlockField.decode first <;>
    simp only [lineOf, Gen.QpackArms.statelessResolve, resolveStateless, refusedWhole] <;> close_matches

/-- the size test sits between `mem_size += field.mem_size()` and `fields.push(field)` and uses the
    generated operator (the early cancel of C10) -/
theorem decodeLoop_limit (max fuel first mem : Nat) (r : Bytes) :
    decodeLoop max (fuel + 1) (first :: r) mem =
      match decodeField first (first :: r) with
      | .error e => (.err e, false)
      | .ok (field, rest, lax) =>
        if cmp Gen.QpackArms.statelessTooLongCmp (mem + field.memSize) max then
          (.err (.headerTooLong (mem + field.memSize)), lax)
        else
          match decodeLoop max fuel rest (mem + field.memSize) with
          | (.ok fs total, lax') => (.ok (field :: fs) total, lax || lax')
          | (.err e, lax') => (.err e, lax || lax') := by
  simp only [decodeLoop, cmp, Gen.QpackArms.statelessTooLongCmp, decide_eq_true_eq]
  cases decodeField first (first :: r) with
  | error e => rfl
  | ok x =>
    obtain ⟨field, rest, lax⟩ := x
    by_cases h : mem + field.memSize > max
    · simp [h]
    · simp only [h, if_false]
      close_matches

/-- the field section prefix of the stateless paths: `HeaderPrefix::new(0, 0, 0, 0)` is written,
    `.get(0, 0)` is asked (`H3.Qpack.HeaderPrefix.{new0, get}` are these instances) -/
theorem stateless_prefix :
    Gen.QpackArms.statelessPrefixNew = (0, 0, 0, 0) ∧ Gen.QpackArms.statelessPrefixGet = (0, 0) := ⟨rfl, rfl⟩

/-! ### `encode_stateless` (`H3.Qpack.encodeField?`) -/

/-- a test of the encoder: `none` no reading, `some none` does not hold, `some (some i)` holds with index `i` -/
def probe (f : Field) : Gen.QpackArms.Probe → Option (Option Nat)
  | .staticFind => some (StaticTable.find f)
  | .staticFindName => some (StaticTable.findName f.name)
  | .otherwise => some (some 0)
  | .dynamicFindRelative => none

def writeRep (f : Field) (idx : Nat) : Gen.QpackArms.FieldRep → Option (Option Bytes)
  | .indexedStatic => some (some (Indexed.encode (.static idx)))
  | .literalWithNameRefStatic => some (LiteralWithNameRef.encode? (.static idx f.value))
  | .literal => some (Literal.encode? f.name f.value)
  | _ => none

def runEncode (f : Field) : List (Gen.QpackArms.Probe × Gen.QpackArms.FieldRep) → Option (Option Bytes)
  | [] => none
  | (p, r) :: rest =>
    match probe f p with
    | none => none
    | some (some idx) => writeRep f idx r
    | some none => runEncode f rest

/-- static full match → static name match → literal, in this order -/
theorem encodeField_agrees (f : Field) : some (encodeField? f) = runEncode f Gen.QpackArms.statelessEncode := by
  simp only [Gen.QpackArms.statelessEncode, runEncode, probe, writeRep, encodeField?]
  cases StaticTable.find f <;> cases StaticTable.findName f.name <;> rfl

/-! ### the stateful decoder (`H3.Dyn.decodeRep`, `decodeHeader`, `encoderInstr`) -/

def repKind : Dyn.Rep → Gen.QpackArms.FieldRep
  | .indexedStatic _ => .indexedStatic
  | .indexedDyn _ => .indexedDynamic
  | .indexedPost _ => .indexedWithPostBase
  | .litStatic _ _ => .literalWithNameRefStatic
  | .litDyn _ _ => .literalWithNameRefDynamic
  | .litPost _ _ => .literalWithPostBaseNameRef
  | .lit _ _ => .literal

def repIndex : Dyn.Rep → Nat
  | .indexedStatic i | .indexedDyn i | .indexedPost i | .litStatic i _ | .litDyn i _ | .litPost i _ => i
  | .lit _ _ => 0

def repValue : Dyn.Rep → Dyn.Bytes
  | .litStatic _ v | .litDyn _ v | .litPost _ v | .lit _ v => v
  | _ => []

def repName : Dyn.Rep → Dyn.Bytes
  | .lit n _ => n
  | _ => []

def resolveDyn (t : Dyn.Table) (base : Nat) (r : Dyn.Rep) : Gen.QpackArms.Resolve → Option (Dyn.Res Dyn.Field)
  | .staticClone => some (Dyn.staticGetR (repIndex r))
  | .staticWithValue => some ((Dyn.staticGetR (repIndex r)).bind fun f => .ok (f.withValue (repValue r)))
  | .relativeClone => some (t.getRelativeBase base (repIndex r))
  | .relativeWithValue => some ((t.getRelativeBase base (repIndex r)).bind fun f => .ok (f.withValue (repValue r)))
  | .postBaseClone => some (t.getPostBase base (repIndex r))
  | .postBaseWithValue => some ((t.getPostBase base (repIndex r)).bind fun f => .ok (f.withValue (repValue r)))
  | .literal => some (.ok ⟨repName r, repValue r⟩)
  | _ => none

/-- `parse_header_field`: static / relative / post-base look-up, `clone` / `with_value`, per representation -/
theorem decodeRep_agrees (t : Dyn.Table) (base : Nat) (r : Dyn.Rep) :
    some (Dyn.decodeRep t base r) = resolveDyn t base r (Gen.QpackArms.statefulResolve (repKind r)) := by
  cases r <;> rfl

/-- every representation of the model is a variant the code knows, and the other way round
    (`unknown` is not a representation) -/
theorem repKind_covers : ∀ k : Gen.QpackArms.FieldRep, k = .unknown ∨ ∃ r, repKind r = k := by
  intro k
  cases k
  · exact .inr ⟨.indexedStatic 0, rfl⟩
  · exact .inr ⟨.indexedDyn 0, rfl⟩
  · exact .inr ⟨.indexedPost 0, rfl⟩
  · exact .inr ⟨.litStatic 0 [], rfl⟩
  · exact .inr ⟨.litDyn 0 [], rfl⟩
  · exact .inr ⟨.litPost 0 [], rfl⟩
  · exact .inr ⟨.lit [] [], rfl⟩
  · exact .inl rfl

/-- `decode_header`: `MissingRefs` iff `required_ref > total_inserted`; `dyn_ref: required_ref > 0` -/
theorem decodeHeader_tests (t : Dyn.Table) (b : Dyn.Block) :
    Dyn.decodeHeader t b =
      (Dyn.prefixGet b.pfx t.totalInserted t.maxSize).bind fun (required, base) =>
        if cmp Gen.QpackArms.missingRefsCmp required t.totalInserted then .err (.missingRefs required)
        else (Dyn.decodeReps t base b.reps).bind fun fs =>
          .ok (fs, cmp Gen.QpackArms.dynRefCmp.1 required Gen.QpackArms.dynRefCmp.2) := by
  simp only [Dyn.decodeHeader, cmp, Gen.QpackArms.missingRefsCmp, Gen.QpackArms.dynRefCmp, decide_eq_true_eq]

def instrKind : Dyn.EncInstr → Gen.QpackArms.InstrRep
  | .sizeUpdate _ => .dynamicTableSizeUpdate
  | .insertStatic _ _ => .insertWithNameRefStatic
  | .insertDyn _ _ => .insertWithNameRefDynamic
  | .insertLit _ _ => .insertWithoutNameRef
  | .dup _ => .duplicate

/-- the first byte of an instruction of the model (Static / Dynamic share `InsertWithNameRef`) -/
def instrLine : Gen.QpackArms.InstrRep → Gen.QpackArms.EncInstr
  | .dynamicTableSizeUpdate => .dynamicTableSizeUpdate
  | .insertWithNameRefStatic | .insertWithNameRefDynamic => .insertWithNameRef
  | .insertWithoutNameRef => .insertWithoutNameRef
  | .duplicate => .duplicate
  | .unknown => .unknown

def iact (t : Dyn.Table) : Dyn.EncInstr → Gen.QpackArms.IAct → Option (Dyn.Res Dyn.Table)
  | .sizeUpdate n, .setMaxSize => some (t.setMaxSize n)
  | .insertLit n v, .putNew => some (t.put ⟨n, v⟩)
  | .dup rel, .putRelativeClone => some ((t.getRelative rel).bind fun f => t.put f)
  | .insertStatic i v, .putStaticWithValue =>
    some (match Dyn.staticGet i with
      | some f => t.put (f.withValue v)
      | none => .err .invalidStaticIndex)
  | .insertDyn rel v, .putRelativeWithValue => some ((t.getRelative rel).bind fun f => t.put (f.withValue v))
  | _, _ => none

/-- `parse_instruction` + the `match` of `on_encoder_recv` -/
theorem encoderInstr_agrees (t : Dyn.Table) (i : Dyn.EncInstr) :
    some (Dyn.encoderInstr t i) = iact t i (Gen.QpackArms.encoderInstr (instrKind i)) := by
  cases i <;> rfl

/-! ### the stateful encoder (`H3.Dyn.decoderInstr`, `emitInsertion`, `emitLookup`, `encodeField`) -/

def dact (t : Dyn.Table) : Dyn.DecInstr → Gen.QpackArms.DAct → Option (Dyn.Res Dyn.Table)
  | .ack sid, .untrack => some (t.untrackBlock sid)
  | .cancel sid, .untrackTwiceLenient =>
    some (match t.untrackBlock sid with
      | .ok t1 => (match t1.untrackBlock sid with
        | .ok t2 => .ok t2
        | .err _ => .ok t1
        | .panic s => .panic s)
      | .err _ => .ok t
      | .panic s => .panic s)
  | .incr n, .updateLargestReceived => some (t.updateLargestReceived n)
  | _, _ => none

def decKind : Dyn.DecInstr → Gen.QpackArms.DecInstr
  | .ack _ => .headerAck
  | .cancel _ => .streamCancel
  | .incr _ => .insertCountIncrement

/-- `Action::parse` + the `match` of `on_decoder_recv` -/
theorem decoderInstr_agrees (t : Dyn.Table) (i : Dyn.DecInstr) :
    some (Dyn.decoderInstr t i) = dact t i (Gen.QpackArms.decoderInstr (decKind i)) := by
  cases i <;> rfl

/-- what an `Emit` of the generated tables writes, for the index / relative index `idx`, the
    post-base index `pb` and the absolute index `abs` bound by the pattern -/
def emitBy (o : Dyn.EncOut) (f : Dyn.Field) (idx pb abs : Nat) (e : Gen.QpackArms.Emit) : Option Dyn.EncOut := do
  let rep ← match e.rep with
    | .indexedStatic => some (Dyn.Rep.indexedStatic idx)
    | .indexedDynamic => some (.indexedDyn idx)
    | .indexedWithPostBase => some (.indexedPost pb)
    | .literalWithNameRefStatic => some (.litStatic idx f.value)
    | .literalWithNameRefDynamic => some (.litDyn idx f.value)
    | .literalWithPostBaseNameRef => some (.litPost idx f.value)
    | .literal => some (.lit f.name f.value)
    | .unknown => none
  let o1 ← match e.instr with
    | none => some { o with reps := o.reps ++ [rep] }
    | some .duplicate => some { o with instrs := o.instrs ++ [.dup idx], reps := o.reps ++ [rep] }
    | some .insertWithoutNameRef => some { o with instrs := o.instrs ++ [.insertLit f.name f.value], reps := o.reps ++ [rep] }
    | some .insertWithNameRefStatic => some { o with instrs := o.instrs ++ [.insertStatic idx f.value], reps := o.reps ++ [rep] }
    | some .insertWithNameRefDynamic => some { o with instrs := o.instrs ++ [.insertDyn idx f.value], reps := o.reps ++ [rep] }
    | some _ => none
  pure (if e.refs then o1.ref abs else o1)

theorem emitLookup_agrees (o : Dyn.EncOut) (f : Dyn.Field) (l : Dyn.Lookup) :
    some (Dyn.emitLookup o f l) =
      match l with
      | .static i => emitBy o f i 0 0 (Gen.QpackArms.lookupEmit .static)
      | .relative i a => emitBy o f i 0 a (Gen.QpackArms.lookupEmit .relative)
      | .postBase i a => emitBy o f i 0 a (Gen.QpackArms.lookupEmit .postBase)
      | .notFound => emitBy o f 0 0 0 (Gen.QpackArms.lookupEmit .notFound) := by
  cases l <;> rfl

theorem emitInsertion_agrees (o : Dyn.EncOut) (f : Dyn.Field) (r : Dyn.Insertion) :
    some (Dyn.emitInsertion o f r) =
      match r with
      | .inserted pb a => (Gen.QpackArms.insertionEmit .inserted).bind (emitBy o f 0 pb a)
      | .duplicated rel pb a => (Gen.QpackArms.insertionEmit .duplicated).bind (emitBy o f rel pb a)
      | .insertedWithNameRef pb rel a => (Gen.QpackArms.insertionEmit .insertedWithNameRef).bind (emitBy o f rel pb a)
      | .insertedWithStaticNameRef pb i a => (Gen.QpackArms.insertionEmit .insertedWithStaticNameRef).bind (emitBy o f i pb a)
      | .notInserted l =>
        match Gen.QpackArms.insertionEmit .notInserted with
        | none => some (Dyn.emitLookup o f l)
        | some _ => none := by
  cases r <;> rfl

/-- `encode_field` before `table.insert(field)?`: a full match in the static table (no reference),
    then a full match in the dynamic table below the Base (a reference) -/
theorem encodeField_early (e : Dyn.TEnc) (o : Dyn.EncOut) (f : Dyn.Field) :
    Gen.QpackArms.encodeFieldEarly = [(.staticFind, .indexedStatic, false), (.dynamicFindRelative, .indexedDynamic, true)] ∧
    (∀ i, Dyn.staticFind f = some i →
      some (Dyn.encodeField e o f) = (emitBy o f i 0 0 ⟨none, .indexedStatic, false⟩).map fun o' => .ok (e, o')) ∧
    (∀ i a, Dyn.staticFind f = none → (e.find f).2 = .relative i a →
      some (Dyn.encodeField e o f) = (emitBy o f i 0 a ⟨none, .indexedDynamic, true⟩).map fun o' => .ok ((e.find f).1, o')) := by
  refine ⟨rfl, ?_, ?_⟩
  · intro i h
    simp [Dyn.encodeField, h, emitBy]
  · intro i a h1 h2
    simp [Dyn.encodeField, h1, h2, emitBy]

end H3.GenAgree.Qpack
