import H3.Model.WriteBuf
import H3.Lemmas.WriteBuf
/-! `WriteBuf<B>` over a payload that is not contiguous (`WBC`, `segs*`): every transport step of
    the segmented buffer IS a step of the flat buffer (the same bytes, another acceptance size), so
    everything proved about `WB` for every script carries over. -/
namespace H3.WriteBuf
open H3.Varint H3.Gen.WriteBuf

theorem segsRemaining_eq (cs : List Bytes) : segsRemaining cs = cs.flatten.length := by
  simp [segsRemaining, List.length_flatten]

/-- the translator's reading of the source: the DATA length field and `WriteBuf::remaining` take
    `remaining()` of the payload, not the length of its first chunk (these two fail to build when
    `tools/extract.py` reads `b.chunk().len()` there) -/
theorem dataLen_source (cs : List Bytes) : segsLenBy DATA_LEN_SOURCE cs = segsRemaining cs := rfl
theorem remaining_source (cs : List Bytes) :
    segsLenBy WRITEBUF_REMAINING_SOURCE cs = segsRemaining cs := rfl

/-- the `Buf` contract of `chunk()`; empty segments are skipped -/
theorem segsChunk_spec (cs : List Bytes) :
    (∃ t, cs.flatten = segsChunk cs ++ t) ∧ (cs.flatten ≠ [] → segsChunk cs ≠ []) := by
  induction cs with
  | nil => exact ⟨⟨[], rfl⟩, fun h => absurd rfl h⟩
  | cons c r ih =>
    unfold segsChunk
    by_cases h : 0 < c.length
    · rw [if_pos h]; exact ⟨⟨r.flatten, rfl⟩, fun _ => List.length_pos_iff.mp h⟩
    · rw [if_neg h, List.eq_nil_of_length_eq_zero (by omega : c.length = 0)]
      exact ih

theorem segsAdvance_spec (cs : List Bytes) (cnt : Nat) (h : cnt ≤ cs.flatten.length) :
    ∃ cs', segsAdvance cs cnt = some cs' ∧ cs'.flatten = cs.flatten.drop cnt := by
  induction cs generalizing cnt with
  | nil =>
    have : cnt = 0 := by simpa using h
    subst this
    exact ⟨[], rfl, rfl⟩
  | cons c r ih =>
    unfold segsAdvance
    by_cases hc : cnt ≤ c.length
    · rw [if_pos hc]
      refine ⟨_, rfl, ?_⟩
      simp only [List.flatten_cons]
      rw [List.drop_append_of_le_length hc]
    · rw [if_neg hc]
      have hle : cnt - c.length ≤ r.flatten.length := by
        simp only [List.flatten_cons, List.length_append] at h; omega
      obtain ⟨cs', h1, h2⟩ := ih (cnt - c.length) hle
      refine ⟨cs', h1, ?_⟩
      rw [h2]
      simp only [List.flatten_cons]
      have hcl : c.length ≤ cnt := by omega
      rw [List.drop_append, List.drop_eq_nil_of_le hcl]
      simp

/-- beyond the end the last segment's `advance` panics -/
theorem segsAdvance_none (cs : List Bytes) (cnt : Nat) (h : cs.flatten.length < cnt) :
    segsAdvance cs cnt = none := by
  induction cs generalizing cnt with
  | nil =>
    cases cnt with
    | zero => simp at h
    | succ n => rfl
  | cons c r ih =>
    simp only [List.flatten_cons, List.length_append] at h
    unfold segsAdvance
    rw [if_neg (by omega)]
    exact ih _ (by omega)

theorem flat_pay (w : WBC) : w.flat.pay = w.pay.flatten := by
  unfold WB.pay WBC.flat WBC.pay
  cases w.payload <;> rfl

theorem flat_remaining (w : WBC) : w.flat.remaining = w.remaining := by
  unfold WB.remaining WBC.remaining
  rw [flat_pay, remaining_source, segsRemaining_eq]
  rfl

/-- in the header the two chunks are the same bytes, behind it they are the payloads' -/
theorem chunkC_spec (w : WBC) (hwf : w.flat.WF) :
    (∃ t, w.flat.chunk = w.chunk ++ t) ∧ (w.flat.view ≠ [] → w.chunk ≠ []) := by
  have hf := chunk_ne_nil w.flat hwf
  unfold WB.chunk at hf ⊢
  unfold WBC.chunk
  by_cases hh : w.len - w.pos > 0
  · have h' : w.flat.len - w.flat.pos > 0 := hh
    rw [if_pos h'] at hf ⊢
    rw [if_pos hh]
    exact ⟨⟨[], (List.append_nil _).symm⟩, hf⟩
  · have h' : ¬ w.flat.len - w.flat.pos > 0 := hh
    rw [if_neg h', flat_pay] at hf ⊢
    rw [if_neg hh]
    exact ⟨(segsChunk_spec _).1, fun h => (segsChunk_spec _).2 (hf h)⟩

theorem advance_flat (w : WBC) (cnt : Nat) (hc : cnt ≤ w.remaining) :
    ∃ w', w.advance cnt = some w' ∧ w.flat.advance cnt = some w'.flat := by
  unfold WBC.remaining at hc
  rw [remaining_source] at hc
  unfold WBC.advance WB.advance
  cases hp : w.payload with
  | none =>
    refine ⟨_, rfl, ?_⟩
    simp [WBC.flat, hp]
  | some p =>
    simp only [WBC.pay, hp, Option.getD_some] at hc
    rw [segsRemaining_eq] at hc
    have hle : cnt - (if w.len - w.pos > 0 then min cnt (w.len - w.pos) else 0) ≤ p.flatten.length := by
      split <;> omega
    obtain ⟨p', h1, h2⟩ := segsAdvance_spec p _ hle
    simp only [h1, Option.map_some]
    refine ⟨_, rfl, ?_⟩
    simp only [WBC.flat, hp, Option.map_some]
    rw [if_pos hle, h2]

/-- One transport step of the segmented buffer is a step of the flat buffer that accepts exactly
    the bytes taken; it takes at least one byte whenever the transport accepts any and something is
    left. -/
theorem stepC_sim (w : WBC) (hwf : w.flat.WF) (k : Nat) :
    ∃ o w', w.step k = some (o, w') ∧ w.flat.step o.length = some (o, w'.flat) ∧
      w'.flat.WF ∧ o ++ w'.flat.view = w.flat.view ∧ o.length = min k w.chunk.length ∧
      (0 < k → w.flat.view ≠ [] → o ≠ []) := by
  obtain ⟨⟨t, ht⟩, hcne⟩ := chunkC_spec w hwf
  obtain ⟨t2, ht2⟩ := chunk_prefix w.flat hwf
  have hlen : w.chunk.length ≤ w.flat.view.length := by
    rw [ht2, ht]; simp
  have hle : min k w.chunk.length ≤ w.remaining := by
    rw [← flat_remaining, remaining_eq_view w.flat hwf]; omega
  obtain ⟨w', ha, hfa⟩ := advance_flat w _ hle
  have hol : (w.chunk.take (min k w.chunk.length)).length = min k w.chunk.length := by
    simp
  have hfs : w.flat.step (w.chunk.take (min k w.chunk.length)).length
      = some (w.chunk.take (min k w.chunk.length), w'.flat) := by
    unfold WB.step
    rw [hol]
    have hm : min (min k w.chunk.length) w.flat.chunk.length = min k w.chunk.length := by
      rw [ht]; simp
    simp only [hm, hfa, Option.map_some]
    rw [ht, List.take_append_of_le_length (by omega)]
  obtain ⟨o2, w2, hs2, hwf2, hv2, _, _⟩ := step_spec w.flat hwf (w.chunk.take (min k w.chunk.length)).length
  rw [hfs] at hs2
  cases hs2
  refine ⟨_, w', ?_, hfs, hwf2, hv2, hol, ?_⟩
  · unfold WBC.step; simp only [ha, Option.map_some]
  · intro hk hne hnil
    have hpos : 0 < w.chunk.length := List.length_pos_iff.mpr (hcne hne)
    have : (w.chunk.take (min k w.chunk.length)).length = 0 := by rw [hnil]; rfl
    rw [hol] at this
    omega

theorem drainC_full (w : WBC) (hwf : w.flat.WF) (ks : List Nat) :
    ∃ o w' ks', w.drain ks = some (o, w') ∧ ks'.length = ks.length ∧
      w.flat.drain ks' = some (o, w'.flat) ∧ w'.flat.WF ∧ o ++ w'.flat.view = w.flat.view ∧
      (w.flat.view.length ≤ (ks.filter (0 < ·)).length → w'.flat.view = []) := by
  induction ks generalizing w with
  | nil =>
    exact ⟨[], w, [], rfl, rfl, rfl, hwf, rfl,
      fun h => List.eq_nil_of_length_eq_zero (by simpa using h)⟩
  | cons k ks ih =>
    obtain ⟨o, w1, hs, hfs, hwf1, hv1, _, hprog⟩ := stepC_sim w hwf k
    obtain ⟨o', w2, ks', hd, hl, hfd, hwf2, hv2, hc2⟩ := ih w1 hwf1
    refine ⟨o ++ o', w2, o.length :: ks', ?_, by simp [hl], ?_, hwf2, ?_, fun h => hc2 ?_⟩
    · simp only [WBC.drain, hs, hd]
    · simp only [WB.drain, hfs, hfd]
    · rw [List.append_assoc, hv2, hv1]
    · refine filter_pos_step (by rw [← hv1, List.length_append]) (fun hk hn => ?_) h
      exact List.length_pos_iff.mpr (hprog hk (fun hnil => hn (by rw [hnil]; rfl)))

/-- the `poll_ready` loop: a run of the segmented buffer under script `ks` is a run of the flat
    buffer under a script `ks'` of the same length (the sizes actually taken) -/
theorem drainC_sim (w : WBC) (hwf : w.flat.WF) (ks : List Nat) :
    ∃ o w' ks', w.drain ks = some (o, w') ∧ ks'.length = ks.length ∧
      w.flat.drain ks' = some (o, w'.flat) ∧ w'.flat.WF ∧ o ++ w'.flat.view = w.flat.view := by
  obtain ⟨o, w', ks', h1, h2, h3, h4, h5, _⟩ := drainC_full w hwf ks
  exact ⟨o, w', ks', h1, h2, h3, h4, h5⟩

/-- a script with as many accepting polls as there are bytes empties the segmented buffer too -/
theorem drainC_complete (w : WBC) (hwf : w.flat.WF) (ks : List Nat)
    (h : w.flat.view.length ≤ (ks.filter (0 < ·)).length) :
    ∃ o w', w.drain ks = some (o, w') ∧ w'.flat.view = [] ∧ o = w.flat.view := by
  obtain ⟨o, w', _, hd, _, _, _, hv, hc⟩ := drainC_full w hwf ks
  exact ⟨o, w', hd, hc h, by rw [← hv, hc h, List.append_nil]⟩

theorem writeC_ready (w : WBC) (hwf : w.flat.WF) (ks : List Nat)
    (h : w.flat.view.length ≤ (ks.filter (0 < ·)).length) : writeC (some w) ks = .ready w.flat.view := by
  obtain ⟨o, w', _, hd, _, _, hwf', hv, hc⟩ := drainC_full w hwf ks
  have hr : w'.remaining = 0 := by rw [← flat_remaining, remaining_eq_zero _ hwf']; exact hc h
  simp only [writeC, hd, hr, if_true]
  rw [← hv, hc h, List.append_nil]

theorem putOpt_payload (w : WB) (ob : Option Bytes) (p : Option Bytes) :
    ({ w with payload := p } : WB).putOpt ob = (w.putOpt ob).map (fun w' => { w' with payload := p }) := by
  cases ob with
  | none => rfl
  | some bs =>
    show ({ w with payload := p } : WB).put bs = (w.put bs).map _
    unfold WB.put
    by_cases h : w.len + bs.length ≤ WRITE_BUF_ENCODE_SIZE
    · rw [if_pos h, if_pos h]; rfl
    · rw [if_neg h, if_neg h]; rfl

theorem dataHeaderC_eq (segs : List Bytes) : dataHeaderC segs = encodeFrame (.data segs.flatten) := by
  unfold dataHeaderC encodeFrame
  rw [dataLen_source, segsRemaining_eq]

/-- the conversion sees only the flattened payload -/
theorem fromDataC_flat (segs : List Bytes) :
    (fromDataC segs).map WBC.flat = fromFrame (.data segs.flatten) := by
  unfold fromDataC fromFrame
  rw [dataHeaderC_eq, Option.map_map]
  exact (putOpt_payload (WB.new none) _ (some segs.flatten)).symm

theorem fromPairDataC_flat (ty : Nat) (segs : List Bytes) :
    (fromPairDataC ty segs).map WBC.flat = fromPair ty (.data segs.flatten) := by
  unfold fromPairDataC fromPair
  rw [dataHeaderC_eq, Option.map_map, Option.map_bind]
  show _ = (({ WB.new none with payload := some segs.flatten } : WB).putOpt (writeVar ty)).bind _
  rw [putOpt_payload (WB.new none) (writeVar ty) (some segs.flatten), Option.bind_map]
  exact congrArg _ (funext fun w => (putOpt_payload w _ (some segs.flatten)).symm)

end H3.WriteBuf
