import H3.Model.Iso
import H3.Lemmas.ReqRecv
/-! Lemmas for C07 about the product machine `H3.Iso`: a step touches one stream and the cell, and a history
    none of whose steps writes the cell decomposes into the runs of its streams; the cell changes only in a
    call that answers a connection-level error (`CellOk`, for any frame layer); the documented pattern inside
    the product is `ReqRecv.documented`; the stream-scoped fault transitions as equations of the steps;
    projections of histories (prefixes, transpositions); reading a delivered message off a trace. -/
namespace H3.Iso
open H3.Gen.Consts
open H3.ReqRecv (Role Res St FSt fsSrc fsFuel first)

@[simp] theorem get_set (c : Conn) (i j : Nat) (r : Req) :
    (c.set i r).get j = if i = j then r else c.get j := by
  simp [Conn.get, Conn.set, lookup]

@[simp] theorem set_cell (c : Conn) (i : Nat) (r : Req) : (c.set i r).cell = c.cell := rfl
@[simp] theorem set_closed (c : Conn) (i : Nat) (r : Req) : (c.set i r).closed = c.closed := rfl

theorem step_other (cfg : Cfg) (c : Conn) (i j : Nat) (ev : StreamEv) (h : j ≠ i) :
    (step cfg c (i, ev)).1.get j = c.get j := by
  simp only [step, get_set]
  rw [if_neg (fun e => h e.symm)]
  rfl

theorem step_self (cfg : Cfg) (c : Conn) (i : Nat) (ev : StreamEv) :
    (step cfg c (i, ev)).1.get i = (Req.step cfg c.cell (c.get i) ev).1 := by
  simp [step]

theorem step_cell (cfg : Cfg) (c : Conn) (i : Nat) (ev : StreamEv) :
    (step cfg c (i, ev)).1.cell = (Req.step cfg c.cell (c.get i) ev).2.1 := rfl

theorem step_obs (cfg : Cfg) (c : Conn) (i : Nat) (ev : StreamEv) :
    (step cfg c (i, ev)).2 = (Req.step cfg c.cell (c.get i) ev).2.2 := rfl

/-- no step ever calls `close`: only the driver does -/
theorem step_closed (cfg : Cfg) (c : Conn) (x : Nat × StreamEv) : (step cfg c x).1.closed = c.closed := rfl

theorem drive_of_empty (c : Conn) (h : c.cell = none) : drive c = c := by
  simp [drive, h]

/-- every stream's own run, started with the cell empty, never writes the cell -/
def QuietHist (cfg : Cfg) (c : Conn) (h : List HEv) : Prop := ∀ i, Req.quiet cfg (c.get i) (proj i h)

theorem proj_on_same (j : Nat) (ev : StreamEv) (rest : List HEv) :
    proj j (.on j ev :: rest) = ev :: proj j rest := by simp [proj]

theorem proj_on_other {i j : Nat} (h : i ≠ j) (ev : StreamEv) (rest : List HEv) :
    proj j (.on i ev :: rest) = proj j rest := by simp [proj, h]

theorem run_cons (cfg : Cfg) (c : Conn) (e : HEv) (rest : List HEv) :
    run cfg c (e :: rest) =
      ((run cfg (hstep cfg c e).1 rest).1, (hstep cfg c e).2 ++ (run cfg (hstep cfg c e).1 rest).2) := rfl

theorem Req.run_cons (cfg : Cfg) (cell : Option Nat) (r : Req) (ev : StreamEv) (rest : List StreamEv) :
    Req.run cfg cell r (ev :: rest) =
      ((Req.run cfg (Req.step cfg cell r ev).2.1 (Req.step cfg cell r ev).1 rest).1,
       (Req.run cfg (Req.step cfg cell r ev).2.1 (Req.step cfg cell r ev).1 rest).2.1,
       (Req.step cfg cell r ev).2.2 ::
         (Req.run cfg (Req.step cfg cell r ev).2.1 (Req.step cfg cell r ev).1 rest).2.2) := rfl

/-- The decomposition: in a history none of whose streams writes the cell, the cell stays empty,
    `close` is never called, and what the run looks like from ANY stream `j` — final state and
    observations — is the run of `j`'s own events alone. Induction over the history. -/
theorem run_decomposes (cfg : Cfg) : ∀ (h : List HEv) (c : Conn), c.cell = none → c.closed = [] →
    QuietHist cfg c h →
    (run cfg c h).1.cell = none ∧ (run cfg c h).1.closed = [] ∧
    ∀ j, view j (run cfg c h) =
          ((Req.run cfg none (c.get j) (proj j h)).1, (Req.run cfg none (c.get j) (proj j h)).2.2) ∧
         (Req.run cfg none (c.get j) (proj j h)).2.1 = none := by
  intro h
  induction h with
  | nil => intro c hc hcl _; exact ⟨hc, hcl, fun j => ⟨rfl, rfl⟩⟩
  | cons e rest ih =>
    intro c hc hcl hq
    cases e with
    | drive =>
      have hd : hstep cfg c .drive = (c, []) := by simp [hstep, drive_of_empty c hc]
      rw [run_cons, hd]
      have := ih c hc hcl (fun i => by simpa [proj] using hq i)
      simpa [proj, view] using this
    | on sid ev =>
      have hs := hq sid
      rw [proj_on_same] at hs
      obtain ⟨hcell, hrest⟩ := hs
      have hc' : (step cfg c (sid, ev)).1.cell = none := by rw [step_cell, hc]; exact hcell
      have hq' : QuietHist cfg (step cfg c (sid, ev)).1 rest := by
        intro i
        by_cases hi : i = sid
        · subst hi
          rw [step_self, hc]
          exact hrest
        · rw [step_other cfg c sid i ev hi]
          have := hq i
          rwa [proj_on_other (fun e => hi e.symm)] at this
      obtain ⟨h1, h2, h3⟩ := ih _ hc' hcl hq'
      rw [run_cons]
      refine ⟨h1, h2, fun j => ?_⟩
      obtain ⟨hv, hn⟩ := h3 j
      simp only [view, hstep] at hv ⊢
      by_cases hj : sid = j
      · subst hj
        rw [proj_on_same, Req.run_cons]
        rw [step_self, hc] at hv hn
        rw [hcell]
        simp only [List.cons_append, List.nil_append, obsOf, if_true, step_obs, hc]
        rw [Prod.mk.injEq] at hv ⊢
        exact ⟨⟨hv.1, by rw [hv.2]⟩, hn⟩
      · rw [proj_on_other hj]
        rw [step_other cfg c sid j ev (fun e => hj e.symm)] at hv hn
        simp only [List.cons_append, List.nil_append, obsOf, if_neg hj]
        exact ⟨hv, hn⟩

theorem quietHist_congr (cfg : Cfg) (c : Conn) (h₁ h₂ : List HEv) (h : ∀ j, proj j h₁ = proj j h₂)
    (hq : QuietHist cfg c h₁) : QuietHist cfg c h₂ := fun i => by rw [← h i]; exact hq i

/-- the history with the streams of `F` removed -/
def without (F : Nat → Bool) : List HEv → List HEv
  | [] => []
  | .on sid ev :: rest => if F sid then without F rest else .on sid ev :: without F rest
  | .drive :: rest => .drive :: without F rest

theorem proj_without (F : Nat → Bool) (j : Nat) : ∀ h : List HEv,
    proj j (without F h) = if F j then [] else proj j h := by
  intro h
  induction h with
  | nil => simp [without, proj]
  | cons e rest ih =>
    cases e with
    | drive => simpa [without, proj] using ih
    | on sid ev =>
      by_cases hF : F sid = true
      · simp only [without, hF, if_true, ih, proj]
        by_cases hj : sid = j
        · subst hj; simp [hF]
        · simp [hj]
      · have hF' : F sid = false := by simpa using hF
        simp only [without, hF', Bool.false_eq_true, if_false]
        by_cases hj : sid = j
        · subst hj; rw [proj_on_same, proj_on_same, ih]; simp [hF']
        · rw [proj_on_other hj, proj_on_other hj, ih]

/-- the history consisting of the events of stream `j` only -/
def only (j : Nat) (h : List HEv) : List HEv := (proj j h).map (.on j)

theorem proj_only (j k : Nat) (h : List HEv) : proj k (only j h) = if j = k then proj j h else [] := by
  unfold only
  induction proj j h with
  | nil => simp [proj]
  | cons e rest ih =>
    by_cases hk : j = k
    · simp [proj, hk] at ih ⊢; exact ih
    · simp [proj, hk] at ih ⊢; exact ih

/-! ### the cell discipline of the request layer, for any frame layer

Only `connErr` (`handle_connection_error_on_stream`) writes the cell, and the call that runs it
answers `StreamError::ConnectionError`.  So a call that answers anything else — a value, `Pending`,
a stream-level error — leaves the cell as it found it. -/

section Cell
open H3.ReqRecv
variable {σ : Type}

def resConn : Res → Bool
  | .errConn _ => true
  | _ => false

def CellOk (c0 : Option Nat) (x : Res × St σ) : Prop := resConn x.1 = false → x.2.env.cell = c0

theorem connErr_isConn (st : St σ) (c : Nat) : resConn (connErr st c).1 = true := by
  unfold connErr; split <;> rfl

theorem connErr_ok (st : St σ) (c : Nat) (c0 : Option Nat) : CellOk c0 (connErr st c) := by
  intro h; rw [connErr_isConn] at h; cases h

theorem fsErr_ok (st : St σ) (o : FOut) : CellOk st.env.cell (fsErr st o) := by
  cases o <;> first | (intro _; rfl) | exact connErr_ok _ _ _

theorem headOut_cell (role : Role) (H : ReqRecv.Hdr) (st' : St σ) (o : FOut) :
    CellOk st'.env.cell (headOut role H st' o) := by
  -- the two roles differ in the stream-level errors they make of a bad or missing head; neither touches the cell there
  cases role <;> simp only [headOut, pollHead, pollResolve, pollRecvResponse, oneSrc] <;> cases o with
  | frame fr =>
    cases fr with
    | headers enc =>
      simp only
      cases H.head enc <;> first | (intro _; rfl) | exact connErr_ok _ _ _
    | _ => exact connErr_ok _ _ _
  | none => intro _; rfl
  | pending => intro _; rfl
  | _ => exact fsErr_ok st' _

theorem pollHead_ok (role : Role) (S : Src σ) (H : ReqRecv.Hdr) (st : St σ) :
    CellOk st.env.cell (pollHead role S H st) := by
  rw [pollHead_eq]
  exact headOut_cell role H _ _

theorem dataOut_ok (st : St σ) (o : FOut) : CellOk st.env.cell (dataOut st o) := by
  cases o <;> first | (intro _; rfl) | exact connErr_ok _ _ _

theorem pollRecvData_ok (S : Src σ) : ∀ (fuel : Nat) (st : St σ),
    CellOk st.env.cell (pollRecvData S fuel st) := by
  intro fuel
  induction fuel with
  | zero => intro st _; rfl
  | succ f ih =>
    intro st
    by_cases hd : S.hasData st.src = true
    · rw [pollRecvData_has _ _ _ hd]
      exact dataOut_ok _ _
    · rw [pollRecvData_no _ _ _ hd]
      cases (S.pollNext st.src).1 with
      | frame fr =>
        cases fr with
        | headers enc => intro _; rfl
        | data n => exact ih _
        | _ => exact connErr_ok _ _ _
      | none => intro _; rfl
      | pending => intro _; rfl
      | data d => intro _; rfl
      | _ => exact fsErr_ok { st with src := (S.pollNext st.src).2 } _

theorem decodeTrailers_ok (H : ReqRecv.Hdr) (st : St σ) (enc : Bytes) :
    CellOk st.env.cell (decodeTrailers H st enc) := by
  unfold decodeTrailers
  cases H.trailer enc <;> first | (intro _; rfl) | exact connErr_ok _ _ _

theorem checkOut_ok (H : ReqRecv.Hdr) (st' : St σ) (enc : Bytes) (o : FOut) :
    CellOk st'.env.cell (checkOut H st' enc o) := by
  cases o with
  | frame fr => exact connErr_ok _ _ _
  | none => exact decodeTrailers_ok H st' enc
  | pending => intro _; rfl
  | data d => intro _; rfl
  | _ => exact fsErr_ok st' _

theorem trailersTail_ok (S : Src σ) (H : ReqRecv.Hdr) (st : St σ) (enc : Bytes) :
    CellOk st.env.cell (trailersTail S H st enc) := by
  unfold trailersTail
  split
  · exact decodeTrailers_ok H st enc
  · rw [trailersCheck_eq]
    exact checkOut_ok H _ enc _

theorem pollRecvTrailers_ok (S : Src σ) (H : ReqRecv.Hdr) (st : St σ) :
    CellOk st.env.cell (pollRecvTrailers S H st) := by
  unfold pollRecvTrailers
  split
  · exact trailersTail_ok S H { st with trailers := none } _
  · unfold trailersFirst
    generalize S.pollNext st.src = p
    obtain ⟨o, s'⟩ := p
    cases o with
    | frame fr =>
      cases fr with
      | headers enc => exact trailersTail_ok S H { st with src := s' } enc
      | _ => exact connErr_ok _ _ _
    | none => intro _; rfl
    | pending => intro _; rfl
    | data d => intro _; rfl
    | _ => exact fsErr_ok { st with src := s' } _

theorem drain_ok (S : Src σ) : ∀ (fuel : Nat) (st : St σ),
    (∀ r ∈ (drain S fuel st).1, resConn r = false) → (drain S fuel st).2.env.cell = st.env.cell := by
  intro fuel
  induction fuel with
  | zero => intro st _; rfl
  | succ f ih =>
    intro st
    rw [drain]
    have h1 := pollRecvData_ok S (f + 1) st
    generalize pollRecvData S (f + 1) st = p at h1
    obtain ⟨r, st'⟩ := p
    cases r with
    | data d =>
      intro h
      have h2 := ih st' (fun r hr => h r (by simp [hr]))
      rw [h2]
      exact h1 rfl
    | _ =>
      intro h
      exact h1 (h _ (by simp))

theorem documented_head (role : Role) (S : Src σ) (H : ReqRecv.Hdr) (fuel : Nat) (st : St σ) :
    (documented role S H fuel st).head = (pollHead role S H st).1 := by
  unfold documented
  generalize pollHead role S H st = p
  obtain ⟨h, st1⟩ := p
  cases h <;> rfl

end Cell

def Ans.isConn : Ans → Bool
  | .res r => resConn r
  | .tooBig => false

def optConn : Option Ans → Bool
  | some a => a.isConn
  | none => false

/-- the application was told `StreamError::ConnectionError` in this step -/
def Obs.isConn : Obs → Bool
  | .ans a => a.isConn
  | .body rs t => rs.any resConn || optConn t
  | _ => false

/-- over the limit a client also sends STOP_SENDING, so there only the cell is compared with what `pollRecvTrailers`
    left -/
theorem trailersPoll_cases {cfg : Cfg} {st st' : St FSt} {res : Res}
    (hp : H3.ReqRecv.pollRecvTrailers fsSrc cfg.hdr.base st = (res, st')) :
    trailersPoll cfg st = (.res res, st') ∨
    ((trailersPoll cfg st).1 = .tooBig ∧ (trailersPoll cfg st).2.env.cell = st'.env.cell ∧
      ∃ enc, res = .trailers enc ∧ cfg.hdr.trailer enc = .tooBig) := by
  unfold trailersPoll
  rw [hp]
  cases res with
  | trailers enc =>
    simp only
    split
    · next h _ => exact Or.inr ⟨rfl, rfl, enc, rfl, h⟩
    · next h _ => exact Or.inr ⟨rfl, rfl, enc, rfl, h⟩
    · exact Or.inl rfl
  | _ => exact Or.inl rfl

theorem trailersPoll_ok (cfg : Cfg) (st : St FSt) :
    (trailersPoll cfg st).1.isConn = false → (trailersPoll cfg st).2.env.cell = st.env.cell := by
  have h := pollRecvTrailers_ok fsSrc cfg.hdr.base st
  rcases hp : H3.ReqRecv.pollRecvTrailers fsSrc cfg.hdr.base st with ⟨res, st'⟩
  rw [hp] at h
  rcases trailersPoll_cases hp with he | ⟨_, hc, enc, rfl, _⟩
  · rw [he]; exact h
  · intro _
    rw [hc]
    exact h rfl

theorem stepHead_ok (cfg : Cfg) (cell : Option Nat) (r : Req) :
    (stepHead cfg cell r).2.2.isConn = false → (stepHead cfg cell r).2.1 = cell := by
  unfold stepHead
  have h := pollHead_ok cfg.role fsSrc cfg.hdr.base (load cell r.rx)
  generalize H3.ReqRecv.pollHead cfg.role fsSrc cfg.hdr.base (load cell r.rx) = p at h
  obtain ⟨res, st'⟩ := p
  cases res with
  | head enc =>
    simp only
    split <;> intro _ <;> exact h rfl
  | _ => intro hh; exact h hh

theorem stepData_ok (cell : Option Nat) (r : Req) :
    (stepData cell r).2.2.isConn = false → (stepData cell r).2.1 = cell :=
  pollRecvData_ok fsSrc (fsFuel r.rx.src) (load cell r.rx)

theorem stepTrailers_ok (cfg : Cfg) (cell : Option Nat) (r : Req) :
    (stepTrailers cfg cell r).2.2.isConn = false → (stepTrailers cfg cell r).2.1 = cell :=
  trailersPoll_ok cfg (load cell r.rx)

theorem stepBody_ok (cfg : Cfg) (fuel : Nat) (cell : Option Nat) (r : Req) :
    (stepBody cfg fuel cell r).2.2.isConn = false → (stepBody cfg fuel cell r).2.1 = cell := by
  unfold stepBody
  by_cases ha : r.atTrailers = true
  · rw [if_pos ha]
    intro h
    exact trailersPoll_ok cfg (load cell r.rx) (by simpa [Obs.isConn, optConn] using h)
  · rw [if_neg ha]
    have hd := drain_ok fsSrc fuel (load cell r.rx)
    generalize H3.ReqRecv.drain fsSrc fuel (load cell r.rx) = p at hd
    obtain ⟨rs, st2⟩ := p
    simp only at hd ⊢
    by_cases he : rs.getLast? = some .end_
    · rw [if_pos he]
      intro h
      simp only [Obs.isConn, optConn, Bool.or_eq_false_iff, List.any_eq_false] at h
      have h2 := trailersPoll_ok cfg st2 h.2
      rw [h2]
      exact hd (fun x hx => by simpa using h.1 x hx)
    · rw [if_neg he]
      intro h
      simp only [Obs.isConn, optConn, Bool.or_false, List.any_eq_false] at h
      exact hd (fun x hx => by simpa using h x hx)

/-- the guard of a call: the handle exists -/
def live (cfg : Cfg) (r : Req) (c : Call) : Prop := (r.gone || !accepts cfg.role r c) = false

instance (cfg : Cfg) (r : Req) (c : Call) : Decidable (live cfg r c) := by unfold live; exact inferInstance

theorem live_head {cfg : Cfg} {r : Req} (hg : r.gone = false) (hr : r.resolved = false) : live cfg r .head := by
  unfold live accepts; rw [hg, hr]; cases cfg.role <;> rfl

theorem accepts_of_ne_head {role : Role} {r : Req} {c : Call} (hc : c ≠ .head) :
    accepts role r c = (role == .client || r.resolved) := by
  unfold accepts
  generalize r.resolved = b
  cases role <;> cases b <;> cases c <;> first | rfl | exact absurd rfl hc

theorem live_of_resolved {cfg : Cfg} {r : Req} {c : Call} (hg : r.gone = false) (hr : r.resolved = true)
    (hc : c ≠ .head) : live cfg r c := by
  unfold live; rw [hg, accepts_of_ne_head hc, hr]
  cases cfg.role <;> rfl

theorem live_of_live {cfg : Cfg} {r : Req} {c c' : Call} (hl : live cfg r c) (hc : c ≠ .head) (hc' : c' ≠ .head) :
    live cfg r c' := by
  unfold live at hl ⊢
  rw [accepts_of_ne_head hc] at hl
  rwa [accepts_of_ne_head hc']

theorem Req.step_refused (cfg : Cfg) (cell : Option Nat) (r : Req) (c : Call)
    (h : (r.gone || !accepts cfg.role r c) = true) :
    Req.step cfg cell r (.call c) = (r, cell, .noHandle) := by
  simp only [Req.step]; rw [if_pos h]

theorem Req.step_live (cfg : Cfg) (cell : Option Nat) (r : Req) (c : Call) (h : live cfg r c) :
    Req.step cfg cell r (.call c) =
      match c with
      | .head => stepHead cfg cell r
      | .data => stepData cell r
      | .trailers => stepTrailers cfg cell r
      | .body fuel => stepBody cfg fuel cell r
      | .sendHead fs => ((stepSend cfg r (.headers fs)).1, cell, (stepSend cfg r (.headers fs)).2)
      | .sendData b => ((stepSend cfg r (.data b)).1, cell, (stepSend cfg r (.data b)).2)
      | .sendTrailers fs => ((stepSend cfg r (.headers fs)).1, cell, (stepSend cfg r (.headers fs)).2)
      | .finish =>
        ({ r with snd := (r.snd.finish cfg.finSeesStop).1 }, cell, (r.snd.finish cfg.finSeesStop).2) := by
  have h' : ¬ (r.gone || !accepts cfg.role r c) = true := by rw [h]; simp
  simp only [Req.step]; rw [if_neg h']
  cases c <;> rfl

/-- A step of a request changes the shared cell only when it tells its application
    `StreamError::ConnectionError`: every other step — peer events, values, `Pending`, every
    stream-level error, every send call — leaves the cell exactly as it found it. -/
theorem Req.step_cell_ok (cfg : Cfg) (cell : Option Nat) (r : Req) (ev : StreamEv) :
    (Req.step cfg cell r ev).2.2.isConn = false → (Req.step cfg cell r ev).2.1 = cell := by
  cases ev with
  | peer p => intro _; rfl
  | call c =>
    by_cases hg : (r.gone || !accepts cfg.role r c) = true
    · rw [Req.step_refused cfg cell r c hg]; intro _; rfl
    · have hl : live cfg r c := by simpa [live] using hg
      rw [Req.step_live cfg cell r c hl]
      cases c with
      | head => exact stepHead_ok cfg cell r
      | data => exact stepData_ok cell r
      | trailers => exact stepTrailers_ok cfg cell r
      | body fuel => exact stepBody_ok cfg fuel cell r
      | _ => intro _; rfl

theorem quiet_of_no_connErr (cfg : Cfg) : ∀ (evs : List StreamEv) (r : Req),
    (∀ o ∈ (Req.run cfg none r evs).2.2, o.isConn = false) → Req.quiet cfg r evs := by
  intro evs
  induction evs with
  | nil => intro _ _; trivial
  | cons ev rest ih =>
    intro r h
    rw [Req.run_cons] at h
    have h0 : (Req.step cfg none r ev).2.1 = none :=
      Req.step_cell_ok cfg none r ev (h _ (by simp))
    refine ⟨h0, ih _ (fun o ho => h o ?_)⟩
    rw [h0] at *
    simp [ho]

/-- what a peer event adds to the transport script of the receive half -/
def fsOf : Peer → List H3.FS.Ev
  | .chunk b => [.chunk b]
  | .fin => [.fin]
  | .reset c => [.reset c]
  | .stop _ => []
  | .grant _ => []

def fsScript (ps : List Peer) : List H3.FS.Ev := ps.flatMap fsOf

theorem deliver_rx (r : Req) (p : Peer) :
    (r.deliver p).rx = { r.rx with src := (r.rx.src.1, r.rx.src.2 ++ fsOf p) } := by
  cases p <;> simp [Req.deliver, fsOf]

theorem deliver_gone (r : Req) (p : Peer) : (r.deliver p).gone = r.gone := by cases p <;> rfl
theorem deliver_resolved (r : Req) (p : Peer) : (r.deliver p).resolved = r.resolved := by cases p <;> rfl
theorem deliver_atTrailers (r : Req) (p : Peer) : (r.deliver p).atTrailers = r.atTrailers := by cases p <;> rfl

theorem Req.run_peers (cfg : Cfg) (cell : Option Nat) : ∀ (ps : List Peer) (r : Req),
    Req.run cfg cell r (ps.map .peer) = (ps.foldl Req.deliver r, cell, List.replicate ps.length .quiet) := by
  intro ps
  induction ps with
  | nil => intro r; rfl
  | cons p rest ih =>
    intro r
    rw [List.map_cons, Req.run_cons]
    simp only [Req.step]
    rw [ih]
    rfl

theorem Req.run_append (cfg : Cfg) : ∀ (a b : List StreamEv) (cell : Option Nat) (r : Req),
    Req.run cfg cell r (a ++ b) =
      ((Req.run cfg (Req.run cfg cell r a).2.1 (Req.run cfg cell r a).1 b).1,
       (Req.run cfg (Req.run cfg cell r a).2.1 (Req.run cfg cell r a).1 b).2.1,
       (Req.run cfg cell r a).2.2 ++ (Req.run cfg (Req.run cfg cell r a).2.1 (Req.run cfg cell r a).1 b).2.2) := by
  intro a
  induction a with
  | nil => intro b cell r; rfl
  | cons e rest ih =>
    intro b cell r
    rw [List.cons_append, Req.run_cons, Req.run_cons, ih]
    rfl

theorem deliver_all (ps : List Peer) : ∀ r : Req,
    (ps.foldl Req.deliver r).rx = { r.rx with src := (r.rx.src.1, r.rx.src.2 ++ fsScript ps) } ∧
    (ps.foldl Req.deliver r).resolved = r.resolved ∧ (ps.foldl Req.deliver r).gone = r.gone ∧
    (ps.foldl Req.deliver r).atTrailers = r.atTrailers := by
  induction ps with
  | nil => intro r; simp [fsScript]
  | cons p rest ih =>
    intro r
    obtain ⟨h1, h2, h3, h4⟩ := ih (r.deliver p)
    rw [List.foldl_cons, h1, h2, h3, h4, deliver_rx, deliver_resolved, deliver_gone, deliver_atTrailers]
    simp [fsScript, List.append_assoc]

theorem load_eq (cell : Option Nat) (st : St FSt) (h : st.env.cell = cell) : load cell st = st := by
  subst h; rfl

theorem load_unload (st : St FSt) : load st.env.cell (unload st) = st := rfl

theorem trailersPoll_of (cfg : Cfg) (st st' : St FSt) (res : Res)
    (hp : H3.ReqRecv.pollRecvTrailers fsSrc cfg.hdr.base st = (res, st'))
    (hok : ∀ enc, res = .trailers enc → cfg.hdr.trailer enc ≠ .tooBig) :
    trailersPoll cfg st = (.res res, st') := by
  rcases trailersPoll_cases hp with he | ⟨_, _, enc, hr, ht⟩
  · exact he
  · exact absurd ht (hok enc hr)

theorem stepBody_bodyRun (cfg : Cfg) (fuel : Nat) (cell : Option Nat) (r : Req) (st1 : St FSt)
    (hat : r.atTrailers = false) (hrx : load cell r.rx = st1)
    (ht : ∀ t, (H3.ReqRecv.bodyRun fsSrc cfg.hdr.base fuel st1).2.1 = some (.trailers t) →
      cfg.hdr.trailer t ≠ .tooBig) :
    (stepBody cfg fuel cell r).2.2 =
        .body (H3.ReqRecv.bodyRun fsSrc cfg.hdr.base fuel st1).1
              ((H3.ReqRecv.bodyRun fsSrc cfg.hdr.base fuel st1).2.1.map .res) ∧
    (stepBody cfg fuel cell r).2.1 = (H3.ReqRecv.bodyRun fsSrc cfg.hdr.base fuel st1).2.2.cell ∧
    (stepBody cfg fuel cell r).1.rx.env =
        { (H3.ReqRecv.bodyRun fsSrc cfg.hdr.base fuel st1).2.2 with cell := none } := by
  unfold stepBody H3.ReqRecv.bodyRun at *
  rw [if_neg (by simp [hat]), hrx]
  generalize H3.ReqRecv.drain fsSrc fuel st1 = p at ht ⊢
  obtain ⟨rs, st2⟩ := p
  by_cases he : rs.getLast? = some .end_
  · simp only [if_pos he] at ht ⊢
    rw [trailersPoll_of cfg st2 _ _ rfl (fun enc h => ht enc (congrArg some h))]
    exact ⟨rfl, rfl, rfl⟩
  · simp only [if_neg he] at ht ⊢
    refine ⟨?_, ?_, ?_⟩ <;> first | rfl | trivial

/-- A request that first receives `ps` from its peer and then runs the documented receive pattern
    (head, then one `body` poll) sees exactly the trace `ReqRecv.documented` computes for the
    transport script `ps` — when the head is delivered and no section is over the limit. -/
theorem run_documented (cfg : Cfg) (ps : List Peer) (fuel : Nat) (enc : Bytes)
    (hh : (H3.ReqRecv.documented cfg.role fsSrc cfg.hdr.base fuel { src := ({}, fsScript ps) }).head = .head enc)
    (hb : cfg.hdr.head enc ≠ .tooBig)
    (ht : ∀ t, (H3.ReqRecv.documented cfg.role fsSrc cfg.hdr.base fuel { src := ({}, fsScript ps) }).trailers
            = some (.trailers t) → cfg.hdr.trailer t ≠ .tooBig) :
    let T := H3.ReqRecv.documented cfg.role fsSrc cfg.hdr.base fuel { src := ({}, fsScript ps) }
    let x := Req.run cfg none {} (ps.map .peer ++ [.call .head, .call (.body fuel)])
    x.2.2 = List.replicate ps.length .quiet ++ [.ans (.res (.head enc)), .body T.body (T.trailers.map .res)] ∧
    x.2.1 = T.env.cell ∧ x.1.rx.env = { T.env with cell := none } := by
  intro T x
  obtain ⟨d1, d2, d3, d4⟩ := deliver_all ps {}
  generalize hr0 : ps.foldl Req.deliver {} = r0 at d1 d2 d3 d4
  have hload : load none r0.rx = { src := ({}, fsScript ps) } := by rw [d1]; simp [load]
  have hx : x = ((Req.run cfg none r0 [.call .head, .call (.body fuel)]).1,
           (Req.run cfg none r0 [.call .head, .call (.body fuel)]).2.1,
           List.replicate ps.length .quiet ++ (Req.run cfg none r0 [.call .head, .call (.body fuel)]).2.2) := by
    show Req.run cfg none {} (ps.map .peer ++ [.call .head, .call (.body fuel)]) = _
    rw [Req.run_append, Req.run_peers, hr0]
  -- the head poll of `documented` is the one of the head step
  obtain ⟨st1, hp⟩ : ∃ st1, H3.ReqRecv.pollHead cfg.role fsSrc cfg.hdr.base { src := ({}, fsScript ps) } =
      (.head enc, st1) := ⟨_, Prod.ext ((documented_head _ _ _ fuel _).symm.trans hh) rfl⟩
  have hT : T = ⟨.head enc, (H3.ReqRecv.bodyRun fsSrc cfg.hdr.base fuel st1).1,
      (H3.ReqRecv.bodyRun fsSrc cfg.hdr.base fuel st1).2.1, (H3.ReqRecv.bodyRun fsSrc cfg.hdr.base fuel st1).2.2⟩ := by
    show H3.ReqRecv.documented _ _ _ _ _ = _
    rw [H3.ReqRecv.documented, hp]
  have hs1 : Req.step cfg none r0 (.call .head) = stepHead cfg none r0 :=
    Req.step_live cfg none r0 .head (live_head d3 d2)
  have hsh : stepHead cfg none r0 =
      ({ r0 with rx := unload st1, resolved := true }, st1.env.cell, .ans (.res (.head enc))) := by
    unfold stepHead
    rw [hload, hp]
    simp only
    split
    · next h _ => exact absurd h hb
    · next h _ => exact absurd h hb
    · rfl
  have hlive2 : live cfg { r0 with rx := unload st1, resolved := true } (.body fuel) := live_of_resolved d3 rfl nofun
  obtain ⟨b1, b2, b3⟩ := stepBody_bodyRun cfg fuel st1.env.cell { r0 with rx := unload st1, resolved := true } st1
    d4 (load_unload st1) (fun t h => ht t (by show T.trailers = _; rw [hT]; exact h))
  rw [hx]
  simp only [hs1, hsh, Req.step_live cfg _ _ _ hlive2, Req.run]
  rw [hT]
  exact ⟨by rw [b1], b2, b3⟩

theorem fs_next_reset (s : H3.FS.St) (c : Nat) (rest : List H3.FS.Ev) (he : s.eos = false) (hr : s.remaining = 0) :
    fsSrc.pollNext (s, .reset c :: rest) = (.errQuic c, (s, .reset c :: rest)) := by
  simp only [fsSrc, H3.C06.pollNext_reset H3.FS.frameDec s c rest hr he]

theorem fs_data_reset (s : H3.FS.St) (c : Nat) (rest : List H3.FS.Ev) (he : s.eos = false) (hr : s.remaining ≠ 0) :
    fsSrc.pollData (s, .reset c :: rest) = (.errQuic c, (s, .reset c :: rest)) := by
  simp only [fsSrc, H3.C06.pollData_reset s c rest hr he]

theorem base_of_ok {c : HClass} (h : c = .ok) : c.base = .ok := by rw [h]; rfl
theorem base_of_malformed {c : HClass} (h : c = .malformed) : c.base = .malformed := by rw [h]; rfl
theorem base_of_tooBig {c : HClass} (h : c = .tooBig) : c.base = .ok := by rw [h]; rfl
theorem base_ne_qpack {c : HClass} (h : c ≠ .qpack) : c.base ≠ .qpack := by
  cases c <;> first | exact absurd rfl h | (intro hb; cases hb)

theorem pollHead_next (cfg : Cfg) (cell : Option Nat) (r : Req) (o : H3.ReqRecv.FOut) (s' : FSt)
    (h : fsSrc.pollNext r.rx.src = (o, s')) :
    H3.ReqRecv.pollHead cfg.role fsSrc cfg.hdr.base (load cell r.rx) =
      H3.ReqRecv.headOut cfg.role cfg.hdr.base { load cell r.rx with src := s' } o := by
  rw [H3.ReqRecv.pollHead_eq, show (load cell r.rx).src = r.rx.src from rfl, h]

theorem stepHead_reset (cfg : Cfg) (cell : Option Nat) (r : Req) (c : Nat) (s' : FSt)
    (h : fsSrc.pollNext r.rx.src = (.errQuic c, s')) :
    (stepHead cfg cell r).2.2 = .ans (.res (.errReset c)) := by
  rw [stepHead, pollHead_next cfg cell r _ s' h]
  cases cfg.role <;> rfl

theorem stepHead_malformed (cfg : Cfg) (cell : Option Nat) (r : Req) (enc : Bytes) (s' : FSt)
    (h : fsSrc.pollNext r.rx.src = (.frame (.headers enc), s')) (hm : cfg.hdr.head enc = .malformed) :
    stepHead cfg cell r =
      ({ r with
          rx := { r.rx with
            src := s'
            env := { cell := none
                     rst := if cfg.role = .server then first r.rx.env.rst CODE_H3_MESSAGE_ERROR else r.rx.env.rst
                     stop := first r.rx.env.stop CODE_H3_MESSAGE_ERROR } }
          gone := cfg.role == .server }, cell,
       .ans (.res (.errStream CODE_H3_MESSAGE_ERROR))) := by
  have hb : cfg.hdr.base.head enc = .malformed := base_of_malformed hm
  rw [stepHead, pollHead_next cfg cell r _ s' h]
  cases cfg.role <;> simp only [H3.ReqRecv.headOut, H3.ReqRecv.pollHead, H3.ReqRecv.pollResolve, H3.ReqRecv.pollRecvResponse,
    H3.ReqRecv.oneSrc, hb] <;> rfl

theorem stepHead_finFirst (cfg : Cfg) (cell : Option Nat) (r : Req) (s' : FSt) (hs : cfg.role = .server)
    (h : fsSrc.pollNext r.rx.src = (.none, s')) :
    stepHead cfg cell r =
      ({ r with
          rx := { r.rx with
            src := s'
            env := { cell := none, rst := first r.rx.env.rst CODE_H3_REQUEST_INCOMPLETE, stop := r.rx.env.stop } }
          gone := true }, cell,
       .ans (.res (.errStream CODE_H3_REQUEST_INCOMPLETE))) := by
  rw [stepHead, pollHead_next cfg cell r _ s' h, hs]
  rfl

theorem stepHead_finFirst_client (cfg : Cfg) (cell : Option Nat) (r : Req) (s' : FSt) (hs : cfg.role = .client)
    (h : fsSrc.pollNext r.rx.src = (.none, s')) :
    stepHead cfg cell r =
      ({ r with rx := unload { r.rx with src := s' }, gone := false }, cell,
       .ans (.res (.errStream CODE_H3_MESSAGE_ERROR))) := by
  rw [stepHead, pollHead_next cfg cell r _ s' h, hs]
  rfl

theorem stepHead_tooBig_client (cfg : Cfg) (cell : Option Nat) (r : Req) (enc : Bytes) (s' : FSt)
    (hs : cfg.role = .client)
    (h : fsSrc.pollNext r.rx.src = (.frame (.headers enc), s')) (hm : cfg.hdr.head enc = .tooBig) :
    stepHead cfg cell r =
      ({ r with
          rx := { r.rx with
            src := s'
            env := { cell := none, rst := r.rx.env.rst,
                     stop := first r.rx.env.stop CODE_H3_REQUEST_CANCELLED } } }, cell, .ans .tooBig) := by
  have hb : cfg.hdr.base.head enc = .ok := base_of_tooBig hm
  rw [stepHead, pollHead_next cfg cell r _ s' h, H3.ReqRecv.headOut_ok _ _ _ enc hb]
  simp only [hm, hs]
  rfl

theorem stepHead_tooBig_server (cfg : Cfg) (cell : Option Nat) (r : Req) (enc : Bytes) (s' : FSt)
    (hs : cfg.role = .server)
    (h : fsSrc.pollNext r.rx.src = (.frame (.headers enc), s')) (hm : cfg.hdr.head enc = .tooBig) :
    stepHead cfg cell r =
      ((tooBigServer cfg { r with rx := unload { r.rx with src := s' } }).1, cell,
       (tooBigServer cfg { r with rx := unload { r.rx with src := s' } }).2) := by
  have hb : cfg.hdr.base.head enc = .ok := base_of_tooBig hm
  rw [stepHead, pollHead_next cfg cell r _ s' h, H3.ReqRecv.headOut_ok _ _ _ enc hb]
  simp only [hm, hs]
  rfl

theorem fsFuel_succ (c : FSt) : fsFuel c = (c.1.flat.length + H3.ReqRecv.scriptBytes c.2 + c.2.length + 3) + 1 := rfl

theorem stepData_reset (cell : Option Nat) (r : Req) (s : H3.FS.St) (c : Nat) (rest : List H3.FS.Ev)
    (hsrc : r.rx.src = (s, .reset c :: rest)) (he : s.eos = false) :
    stepData cell r = ({ r with rx := unload r.rx }, cell, .ans (.res (.errReset c))) := by
  unfold stepData
  rw [fsFuel_succ, H3.ReqRecv.pollRecvData_reset _ (load cell r.rx) s c rest hsrc he]
  rfl

theorem write_stopped (wc : Option Nat) (s : Send) (f : H3.WriteBuf.SFrame) (c : Nat) (hs : s.stopped = some c)
    (hf : s.fin = false) :
    s.write wc f = ({ s with writing := none }, .ans (.res (.errReset c))) := by
  simp [Send.write, hs, hf]

theorem write_ok (s : Send) (f : H3.WriteBuf.SFrame) (w : H3.WriteBuf.WB) (hs : s.stopped = none) (hf : s.fin = false)
    (hw0 : s.writing = none) (hw : H3.WriteBuf.fromFrame f = some w) :
    s.write none f = ({ s with tx := s.tx ++ w.view }, .ok) := by
  obtain ⟨tx, st, fin, g, wr⟩ := s
  subst hs hf hw0
  simp [Send.write, hw, Send.flush, Send.avail]

theorem fs_isEos_false (s : H3.FS.St) (sc : List H3.FS.Ev) (he : s.eos = false) : fsSrc.isEos (s, sc) = false := by
  simp [fsSrc, he]

theorem stepBody_atTrailers (cfg : Cfg) (fuel : Nat) (cell : Option Nat) (r : Req) (h : r.atTrailers = true) :
    (stepBody cfg fuel cell r).2.2 = .body [] (some (trailersPoll cfg (load cell r.rx)).1) := by
  unfold stepBody
  rw [if_pos h]

theorem stepTrailers_obs (cfg : Cfg) (cell : Option Nat) (r : Req) :
    (stepTrailers cfg cell r).2.2 = .ans (trailersPoll cfg (load cell r.rx)).1 := rfl

/-- `recv_trailers` meets the peer's RESET: reading the trailers' frame, or looking behind the block it holds -/
theorem trailersPoll_reset (cfg : Cfg) (st : St FSt) (c : Nat) (s' : FSt) (he : fsSrc.isEos st.src = false)
    (h : fsSrc.pollNext st.src = (.errQuic c, s')) : (trailersPoll cfg st).1 = .res (.errReset c) := by
  unfold trailersPoll
  cases ht : st.trailers <;>
    simp [H3.ReqRecv.pollRecvTrailers, ht, H3.ReqRecv.trailersFirst, H3.ReqRecv.trailersTail, he,
      H3.ReqRecv.trailersCheck, h, H3.ReqRecv.fsErr]

/-- `recv_trailers` holding the block `enc`, the stream at its end: known (`is_eos`), or found by the look behind the
    block -/
theorem trailersPoll_block (cfg : Cfg) (st : St FSt) (enc : Bytes) (ht : st.trailers = some enc)
    (hend : fsSrc.isEos st.src = true ∨ ∃ s', fsSrc.pollNext st.src = (.none, s')) :
    (cfg.hdr.trailer enc = .malformed → (trailersPoll cfg st).1 = .res (.errStream CODE_H3_MESSAGE_ERROR)) ∧
    (cfg.hdr.trailer enc = .tooBig → (trailersPoll cfg st).1 = .tooBig) := by
  have hdec : ∀ st', H3.ReqRecv.pollRecvTrailers fsSrc cfg.hdr.base st = H3.ReqRecv.decodeTrailers cfg.hdr.base st' enc →
      (cfg.hdr.trailer enc = .malformed → (trailersPoll cfg st).1 = .res (.errStream CODE_H3_MESSAGE_ERROR)) ∧
      (cfg.hdr.trailer enc = .tooBig → (trailersPoll cfg st).1 = .tooBig) := by
    intro st' hp
    unfold trailersPoll
    rw [hp]
    refine ⟨fun hm => ?_, fun hm => ?_⟩
    · simp [H3.ReqRecv.decodeTrailers, Hdr.base, hm, HClass.base]
    · cases cfg.role <;> simp [H3.ReqRecv.decodeTrailers, Hdr.base, hm, HClass.base]
  by_cases he : fsSrc.isEos st.src = true
  · exact hdec _ (by simp [H3.ReqRecv.pollRecvTrailers, ht, H3.ReqRecv.trailersTail, he]; rfl)
  · obtain ⟨s', hn⟩ := hend.resolve_left he
    exact hdec _ (by simp [H3.ReqRecv.pollRecvTrailers, ht, H3.ReqRecv.trailersTail, he, H3.ReqRecv.trailersCheck, hn]; rfl)

theorem stepBody_reset (cfg : Cfg) (fuel : Nat) (cell : Option Nat) (r : Req) (s : H3.FS.St) (c : Nat)
    (rest : List H3.FS.Ev) (hat : r.atTrailers = false) (hsrc : r.rx.src = (s, .reset c :: rest))
    (he : s.eos = false) :
    (stepBody cfg (fuel + 1) cell r).2.2 = .body [.errReset c] none := by
  unfold stepBody
  rw [if_neg (by simp [hat]), H3.ReqRecv.drain, H3.ReqRecv.pollRecvData_reset fuel (load cell r.rx) s c rest hsrc he]
  rfl

/-- the stream ids that occur in a history -/
def sidsOf : List HEv → List Nat
  | [] => []
  | .on sid _ :: rest => sid :: sidsOf rest
  | .drive :: rest => sidsOf rest

theorem proj_nil_of_not_mem (j : Nat) : ∀ h : List HEv, j ∉ sidsOf h → proj j h = [] := by
  intro h
  induction h with
  | nil => intro _; rfl
  | cons e rest ih =>
    cases e with
    | drive => intro hj; simpa [proj] using ih (by simpa [sidsOf] using hj)
    | on sid ev =>
      intro hj
      simp only [sidsOf, List.mem_cons, not_or] at hj
      rw [proj_on_other (fun e => hj.1 e.symm)]
      exact ih hj.2

/-- only the streams that occur in a history have to be shown quiet -/
theorem QuietHist.of_sids (cfg : Cfg) (c : Conn) (h : List HEv)
    (hq : ∀ i ∈ sidsOf h, Req.quiet cfg (c.get i) (proj i h)) : QuietHist cfg c h := by
  intro i
  by_cases hi : i ∈ sidsOf h
  · exact hq i hi
  · rw [proj_nil_of_not_mem i h hi]; trivial

theorem proj_append (j : Nat) : ∀ a b : List HEv, proj j (a ++ b) = proj j a ++ proj j b := by
  intro a
  induction a with
  | nil => intro b; rfl
  | cons e rest ih =>
    intro b
    cases e with
    | drive => simpa [proj] using ih b
    | on sid ev =>
      by_cases h : sid = j
      · subst h; rw [List.cons_append, proj_on_same, proj_on_same, ih]; rfl
      · rw [List.cons_append, proj_on_other h, proj_on_other h, ih]

/-- do the two events belong to different tasks? (events of one stream keep their order) -/
def independent : HEv → HEv → Bool
  | .on i _, .on j _ => i != j
  | _, _ => true

theorem proj_swap (j : Nat) (x y : HEv) (hxy : independent x y = true) (a b : List HEv) :
    proj j (a ++ x :: y :: b) = proj j (a ++ y :: x :: b) := by
  rw [proj_append, proj_append]
  congr 1
  cases x with
  | drive => cases y <;> simp [proj]
  | on i ev =>
    cases y with
    | drive => simp [proj]
    | on k ev' =>
      have hik : i ≠ k := by simpa [independent] using hxy
      by_cases h1 : i = j
      · subst h1
        rw [proj_on_same, proj_on_other (fun e => hik e.symm), proj_on_other (fun e => hik e.symm), proj_on_same]
      · rw [proj_on_other h1]
        by_cases h2 : k = j
        · subst h2; rw [proj_on_same, proj_on_same, proj_on_other h1]
        · rw [proj_on_other h2, proj_on_other h2, proj_on_other h1]

section Obs
open H3.ReqRecv H3.Spec.ReqSeq

theorem resObs_length (r : Res) : (resObs r).length ≤ 1 := by cases r <;> simp [resObs]

/-- trailers or none, as the specification's observation and as the answer of `recv_trailers` -/
def trObs : Option ReqRecv.Bytes → H3.Spec.ReqSeq.Obs
  | none => .noTrailers
  | some t => .trailers t

def trRes : Option ReqRecv.Bytes → Res
  | none => .noTrailers
  | some t => .trailers t

theorem trRes_trailers {tr : Option ReqRecv.Bytes} {t : ReqRecv.Bytes} (h : trRes tr = .trailers t) : tr = some t := by
  cases tr with
  | none => cases h
  | some x => cases h; rfl

theorem tailObs_delivered (rs : List Res) (t : Option Res) (tr : Option ReqRecv.Bytes)
    (h : tailObs rs t = [.bodyEnd, trObs tr]) : rs.getLast? = some .end_ ∧ t = some (trRes tr) := by
  unfold tailObs at h
  split at h
  · refine ⟨‹_›, ?_⟩
    cases t with
    | none => cases h
    | some r => cases r <;> cases tr <;> cases h <;> rfl
  · next r _ _ =>
    have := resObs_length r
    rw [h] at this
    cases Nat.not_succ_le_self 1 this
  · cases h

theorem observe_delivered (T : Trace) (h : ReqRecv.Bytes) (body : ReqRecv.Bytes) (tr : Option ReqRecv.Bytes)
    (ho : observe T = { calls := [.head h, .body body, .bodyEnd, trObs tr]
                        connError := none, streamReset := none }) :
    T.head = .head h ∧ bodyBytes T.body = body ∧ T.body.getLast? = some .end_ ∧
    T.trailers = some (trRes tr) ∧ T.env.cell = none ∧ T.env.rst = none := by
  obtain ⟨hd, bd, tl, env⟩ := T
  simp only [observe, Outcome.mk.injEq] at ho
  obtain ⟨hc, hcell, hrst⟩ := ho
  cases hd with
  | head b =>
    simp only [List.cons_append, List.nil_append, List.cons.injEq, Obs.head.injEq,
      H3.Spec.ReqSeq.Obs.body.injEq] at hc
    obtain ⟨rfl, rfl, h3⟩ := hc
    obtain ⟨h4, h5⟩ := tailObs_delivered bd tl tr h3
    exact ⟨rfl, rfl, h4, h5, hcell, hrst⟩
  | _ => cases tr <;> cases hc

end Obs

end H3.Iso
