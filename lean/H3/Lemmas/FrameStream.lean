import H3.Spec.FrameRef
/-! Generic lemmas about the `FrameStream` machine and the reference automaton: `BufList` on the flattened buffer,
    `run` over one decodable frame (`run_cut`, from L1/L2), the decode loop in terms of the automaton (`decLoop_spec`,
    L3 for the `expected` memo), and what a single `poll_next` / `poll_data` call does whatever the state: `try_recv`,
    with which both begin, as a relation (`TryRecv`) and the calls as relations over it (`NextRun`, `DataRun`).  At the
    end, in `H3.C06`: both calls on a script that begins with a RESET (`pollNext_reset`, `pollData_reset`). -/
namespace H3.FS
variable {F E : Type}

deriving instance DecidableEq for Out

theorem advance_flatten (n : Nat) (bs : List Bytes) : (advance n bs).flatten = bs.flatten.drop n := by
  induction bs generalizing n with
  | nil => cases n <;> simp [advance]
  | cons c cs ih =>
    cases n with
    | zero => simp [advance]
    | succ n =>
      unfold advance
      split
      · rename_i hle
        rw [ih]
        simp [List.drop_append, List.drop_eq_nil_of_le hle]
      · rename_i hgt
        simp [List.drop_append]
        have : n + 1 - c.length = 0 := by omega
        simp [this]

theorem advance_ne (n : Nat) (bs : List Bytes) (h : ∀ c ∈ bs, c ≠ []) :
    ∀ c ∈ advance n bs, c ≠ [] := by
  induction bs generalizing n with
  | nil => cases n <;> simp [advance]
  | cons c cs ih =>
    cases n with
    | zero => simpa [advance] using h
    | succ n =>
      unfold advance
      split
      · exact ih _ (fun c hc => h c (List.mem_cons_of_mem _ hc))
      · rename_i hgt
        intro x hx
        simp only [List.mem_cons] at hx
        rcases hx with rfl | hx
        · intro h0
          have := congrArg List.length h0
          simp at this
          omega
        · exact h x (List.mem_cons_of_mem _ hx)

theorem run_append (D : Dec F E) (p : PSt) (x y : Bytes) :
    run D p (x ++ y) = ((run D (run D p x).1 y).1, (run D p x).2 ++ (run D (run D p x).1 y).2) := by
  induction x generalizing p with
  | nil => simp [run]
  | cons b bs ih =>
    simp only [List.cons_append, run]
    rw [ih]
    simp [List.append_assoc]

theorem run_dead (D : Dec F E) (x : Bytes) : run D .dead x = (.dead, []) := by
  induction x with
  | nil => rfl
  | cons b bs ih => simp [run, feed, ih]

/-- result of feeding a complete frame, as a function of its decode result -/
def DecRes.fed (D : Dec F E) : DecRes F E → PSt × List (Tok F E)
  | .frame f _ => (PSt.ofRem (D.kind f).rem, [.frame f])
  | .unknown _ => (.hdr [], [])
  | .incomplete _ => (.hdr [], [])
  | .error e => (.dead, [.errProto e])

theorem least_of_exists (P : Nat → Prop) (N : Nat) (h : P N) :
    ∃ n, n ≤ N ∧ P n ∧ ∀ k, k < n → ¬ P k := by
  induction N using Nat.strongRecOn with
  | _ N ih =>
    by_cases hk : ∃ k, k < N ∧ P k
    · obtain ⟨k, hkN, hPk⟩ := hk
      obtain ⟨n, hn, hPn, hmin⟩ := ih k hkN hPk
      exact ⟨n, by omega, hPn, hmin⟩
    · exact ⟨N, Nat.le_refl _, h, fun k hk' hP => hk ⟨k, hk', hP⟩⟩

/-- every definite answer has a *cut*: the shortest prefix on which the decoder is definite; it gives the same answer
    there (L1) -/
theorem exists_cut (D : Dec F E) (L : Laws D) (b : Bytes) (h : (D.dec b).isIncomplete = false) :
    ∃ n, 1 ≤ n ∧ n ≤ b.length ∧ (∀ k, k < n → (D.dec (b.take k)).isIncomplete = true) ∧
      D.dec (b.take n) = D.dec b := by
  obtain ⟨n, hn, hP, hmin⟩ :=
    least_of_exists (fun k => (D.dec (b.take k)).isIncomplete = false) b.length (by simpa using h)
  have heq : D.dec (b.take n) = D.dec b := by
    have := L.stable (b.take n) (b.drop n) hP
    rw [List.take_append_drop] at this
    exact this.symm
  have h1 : 1 ≤ n := by
    cases n with
    | zero => simp [L.nil] at hP
    | succ n => omega
  exact ⟨n, h1, hn, fun k hk => by simpa using hmin k hk, heq⟩

theorem feed_hdr_incomplete (D : Dec F E) (acc : Bytes) (b : Nat)
    (h : (D.dec (acc ++ [b])).isIncomplete = true) : feed D (.hdr acc) b = (.hdr (acc ++ [b]), []) := by
  simp only [feed]
  cases hd : D.dec (acc ++ [b]) <;> first | rfl | (rw [hd] at h; cases h)

theorem run_hdr_acc (D : Dec F E) (acc y : Bytes)
    (h : ∀ k, 1 ≤ k → k ≤ y.length → (D.dec (acc ++ y.take k)).isIncomplete = true) :
    run D (.hdr acc) y = (.hdr (acc ++ y), []) := by
  induction y generalizing acc with
  | nil => simp [run]
  | cons b y ih =>
    have h1 := h 1 (Nat.le_refl 1) (by simp)
    rw [run, feed_hdr_incomplete D acc b (by simpa using h1)]
    simp only
    rw [ih (acc ++ [b]) (fun k hk1 hk2 => by
      have := h (k + 1) (by omega) (by simpa using hk2)
      simpa [List.take_succ_cons, List.append_assoc] using this)]
    simp

theorem run_hdr_incomplete (D : Dec F E) (x : Bytes)
    (hinc : ∀ i, i ≤ x.length → 1 ≤ i → (D.dec (x.take i)).isIncomplete = true) :
    run D (.hdr []) x = (.hdr x, []) := by
  simpa using run_hdr_acc D [] x (fun k h1 h2 => by simpa using hinc k h2 h1)

theorem prefix_incomplete (D : Dec F E) (L : Laws D) (x : Bytes)
    (hx : (D.dec x).isIncomplete = true) (k : Nat) :
    (D.dec (x.take k)).isIncomplete = true := by
  cases h : (D.dec (x.take k)).isIncomplete with
  | true => rfl
  | false =>
    have := L.stable (x.take k) (x.drop k) h
    rw [List.take_append_drop] at this
    rw [this] at hx
    simp [hx] at h

theorem run_incomplete (D : Dec F E) (L : Laws D) (x : Bytes)
    (hx : x = [] ∨ (D.dec x).isIncomplete = true) :
    run D (.hdr []) x = (.hdr x, []) := by
  rcases hx with rfl | hx
  · simp [run]
  · exact run_hdr_incomplete D x (fun i _ _ => prefix_incomplete D L x hx i)

theorem run_cut (D : Dec F E) (b : Bytes) (n : Nat) (h1 : 1 ≤ n) (hn : n ≤ b.length)
    (hinc : ∀ k, k < n → (D.dec (b.take k)).isIncomplete = true)
    (heq : D.dec (b.take n) = D.dec b) (h : (D.dec b).isIncomplete = false) :
    run D (.hdr []) (b.take n) = (D.dec b).fed D := by
  obtain ⟨m, rfl⟩ : ∃ m, n = m + 1 := ⟨n - 1, by omega⟩
  have hsplit : b.take (m+1) = (b.take m) ++ [b[m]'(by omega)] := by
    rw [List.take_succ_eq_append_getElem (by omega)]
  rw [hsplit, run_append]
  have him : ∀ i, i ≤ (b.take m).length → i ≤ m := fun i hi =>
    Nat.le_trans hi (List.length_take_le m b)
  rw [run_hdr_incomplete D (b.take m) (fun i hi _ => by
    rw [List.take_take, Nat.min_eq_left (him i hi)]
    exact hinc i (Nat.lt_succ_of_le (him i hi)))]
  simp only [run, List.nil_append, List.append_nil]
  rw [hsplit] at heq
  simp only [feed, heq]
  revert h
  cases D.dec b <;> simp [DecRes.isIncomplete, DecRes.fed]

theorem DecRes.definite_of_pos {r : DecRes F E} {n : Nat} (h : r.pos? = some n) :
    r.isIncomplete = false := by
  cases r <;> first | rfl | cases h

theorem run_frame (D : Dec F E) (L : Laws D) (b : Bytes) (n : Nat)
    (hp : (D.dec b).pos? = some n) :
    run D (.hdr []) (b.take n) = (D.dec b).fed D := by
  have ⟨h1, h2⟩ := L.pos_le b n hp
  have ⟨h3, h4⟩ := L.minimal b n hp
  exact run_cut D b n h1 h2 h3 h4 (DecRes.definite_of_pos hp)

theorem run_error (D : Dec F E) (L : Laws D) (b : Bytes) (e : E) (hd : D.dec b = .error e) :
    ∃ n, 1 ≤ n ∧ n ≤ b.length ∧ run D (.hdr []) (b.take n) = (.dead, [.errProto e]) := by
  have hdef : (D.dec b).isIncomplete = false := by rw [hd]; rfl
  obtain ⟨n, h1, h2, h3, h4⟩ := exists_cut D L b hdef
  refine ⟨n, h1, h2, ?_⟩
  rw [run_cut D b n h1 h2 h3 h4 hdef, hd]
  rfl

@[simp] theorem PSt.ofRem_zero : PSt.ofRem 0 = .hdr [] := rfl

theorem PSt.ofRem_pos {n : Nat} (h : n ≠ 0) : PSt.ofRem n = .data n := by
  simp [PSt.ofRem, h]

theorem PSt.ofRem_inj {a b : Nat} (h : PSt.ofRem a = PSt.ofRem b) : a = b := by
  unfold PSt.ofRem at h
  split at h <;> split at h
  · omega
  · cases h
  · cases h
  · simpa using h

theorem PSt.ofRem_eq_hdr {r : Nat} {c : Bytes} (h : PSt.ofRem r = .hdr c) : r = 0 ∧ c = [] := by
  unfold PSt.ofRem at h
  split at h
  · rename_i h0
    exact ⟨h0, by injection h with h; exact h.symm⟩
  · cases h

theorem run_data (D : Dec F E) (d : Bytes) : ∀ (rem : Nat), rem ≠ 0 → d.length ≤ rem →
    run D (.data rem) d = (PSt.ofRem (rem - d.length), d.map .byte) := by
  induction d with
  | nil => intro rem h _; simp [run, PSt.ofRem_pos h]
  | cons b d ih =>
    intro rem h hle
    simp only [List.length_cons] at hle
    simp only [run, feed]
    by_cases h1 : rem - 1 = 0
    · have : d = [] := by
        cases d with
        | nil => rfl
        | cons _ _ => simp at hle; omega
      subst this
      simp [run, h1]
    · rw [PSt.ofRem_pos h1, ih (rem - 1) h1 (by omega)]
      simp [Nat.sub_sub, Nat.add_comm]

theorem run_data_full (D : Dec F E) (rem : Nat) (x : Bytes) (h0 : rem ≠ 0) (hle : rem ≤ x.length) :
    run D (.data rem) x = ((run D (.hdr []) (x.drop rem)).1,
      (x.take rem).map .byte ++ (run D (.hdr []) (x.drop rem)).2) := by
  conv => lhs; rw [← List.take_append_drop rem x]
  rw [run_append, run_data D (x.take rem) rem h0 (by simp only [List.length_take]; omega)]
  have : rem - (x.take rem).length = 0 := by simp only [List.length_take]; omega
  simp only [this, PSt.ofRem_zero]

theorem run_data_short (D : Dec F E) (rem : Nat) (x : Bytes) (h : x.length < rem) :
    run D (.data rem) x = (.data (rem - x.length), x.map .byte) := by
  rw [run_data D x rem (by omega) (by omega), PSt.ofRem_pos (by omega)]

theorem run_of_pos (D : Dec F E) (L : Laws D) (w : Bytes) (n : Nat)
    (hp : (D.dec w).pos? = some n) :
    run D (.hdr []) w = ((run D ((D.dec w).fed D).1 (w.drop n)).1,
      ((D.dec w).fed D).2 ++ (run D ((D.dec w).fed D).1 (w.drop n)).2) := by
  conv => lhs; rw [← List.take_append_drop n w]
  rw [run_append, run_frame D L w n hp]

/-- the decoder finds a frame in `w`: the automaton emits it and goes on behind it (`run_of_pos`, with the answer put in) -/
theorem run_dec_frame {D : Dec F E} (L : Laws D) {w : Bytes} {f : F} {n : Nat}
    (hd : D.dec w = .frame f n) :
    run D (.hdr []) w = ((run D (PSt.ofRem (D.kind f).rem) (w.drop n)).1,
      .frame f :: (run D (PSt.ofRem (D.kind f).rem) (w.drop n)).2) := by
  rw [run_of_pos D L w n (by rw [hd]; rfl), hd]
  rfl

theorem run_dec_unknown {D : Dec F E} (L : Laws D) {w : Bytes} {n : Nat}
    (hd : D.dec w = .unknown n) : run D (.hdr []) w = run D (.hdr []) (w.drop n) := by
  rw [run_of_pos D L w n (by rw [hd]; rfl), hd]
  rfl

theorem run_of_error (D : Dec F E) (L : Laws D) (w : Bytes) (e : E) (hd : D.dec w = .error e) :
    run D (.hdr []) w = (.dead, [.errProto e]) := by
  obtain ⟨n, _, _, hr⟩ := run_error D L w e hd
  conv => lhs; rw [← List.take_append_drop n w]
  rw [run_append, hr, run_dead]
  rfl

theorem usize_pos : 0 < USIZE_MAX := by decide

theorem expSound_none (D : Dec F E) (flat : Bytes) : ExpSound D flat none := by
  intro m hm; cases hm

theorem expSound_append (D : Dec F E) (flat b : Bytes) (exp : Option Nat)
    (h : ExpSound D flat exp) : ExpSound D (flat ++ b) exp := by
  intro m hm
  obtain ⟨f0, c, rfl, hd⟩ := h m hm
  exact ⟨f0, c ++ b, by simp, hd⟩

theorem expSound_skip (D : Dec F E) (L : Laws D) (flat : Bytes) (m : Nat)
    (hs : ExpSound D flat (some m)) (hlt : flat.length < m) :
    (D.dec flat).isIncomplete = true := by
  obtain ⟨f0, c, rfl, hd⟩ := hs m rfl
  cases h : (D.dec (f0 ++ c)).isIncomplete with
  | true => rfl
  | false =>
    have := L.lower f0 c m hd h
    omega

/-- what a result of the decode loop means in terms of the reference automaton;
    `acc` = bytes already dropped when the loop was entered with `flat` -/
def DLSpec (D : Dec F E) (flat : Bytes) (acc : Nat) : DL F E → Prop
  | .none d exp' => ∃ d', d = acc + d' ∧ d' ≤ flat.length ∧
      run D (.hdr []) (flat.take d') = (.hdr [], []) ∧
      (flat.drop d' = [] ∨ (D.dec (flat.drop d')).isIncomplete = true) ∧
      ExpSound D (flat.drop d') exp'
  | .frame d f => ∃ d', d = acc + d' ∧ 1 ≤ d' ∧ d' ≤ flat.length ∧
      run D (.hdr []) (flat.take d') = (PSt.ofRem (D.kind f).rem, [.frame f])
  | .error d _ e => ∃ d' n, d = acc + d' ∧ 1 ≤ n ∧ d' + n ≤ flat.length ∧
      run D (.hdr []) (flat.take d') = (.hdr [], []) ∧
      run D (.hdr []) ((flat.drop d').take n) = (.dead, [.errProto e])

/-- the loop stops where it stands: nothing is dropped -/
theorem DLSpec.stop {D : Dec F E} {flat : Bytes} {acc : Nat} {exp : Option Nat}
    (hst : flat = [] ∨ (D.dec flat).isIncomplete = true) (hs : ExpSound D flat exp) :
    DLSpec D flat acc (.none acc exp) :=
  ⟨0, rfl, Nat.zero_le _, rfl, hst, hs⟩

/-- a skipped frame `a` leaves the automaton at a boundary, so what the loop finds in the rest `b` holds of the
    whole buffer, `a.length` bytes further on -/
theorem DLSpec.skip {D : Dec F E} {a b : Bytes} {acc : Nat} {r : DL F E}
    (hr : run D (.hdr []) a = (.hdr [], [])) (h : DLSpec D b (acc + a.length) r) : DLSpec D (a ++ b) acc r := by
  have happ : ∀ d', run D (.hdr []) ((a ++ b).take (a.length + d')) = run D (.hdr []) (b.take d') := by
    intro d'
    rw [List.take_length_add_append, run_append, hr]
    simp
  cases r with
  | none d exp' =>
    obtain ⟨d', rfl, hd', hrun, hrest⟩ := h
    exact ⟨a.length + d', by omega, by simp; omega, by rw [happ, hrun], by simpa using hrest⟩
  | frame d f =>
    obtain ⟨d', rfl, hd1, hd', hrun⟩ := h
    exact ⟨a.length + d', by omega, by omega, by simp; omega, by rw [happ, hrun]⟩
  | error d _ e =>
    obtain ⟨d', k, rfl, hk1, hd', hrun0, hrun⟩ := h
    exact ⟨a.length + d', k, by omega, hk1, by simp; omega, by rw [happ, hrun0], by simpa using hrun⟩

theorem decLoop_spec (D : Dec F E) (L : Laws D) (fuel : Nat) (flat : Bytes) (exp : Option Nat)
    (acc : Nat) (hf : flat.length < fuel) (hs : ExpSound D flat exp) :
    DLSpec D flat acc (decLoop D fuel flat exp acc) := by
  induction fuel generalizing flat exp acc with
  | zero => omega
  | succ fuel ih =>
    unfold decLoop
    by_cases hnil : flat = []
    · rw [if_pos hnil]
      exact .stop (.inl hnil) hs
    · rw [if_neg hnil]
      by_cases hexp : expBlocks exp flat.length = true
      · rw [if_pos hexp]
        cases exp with
        | none => simp [expBlocks] at hexp
        | some m => exact .stop (.inr (expSound_skip D L flat m hs (by simpa [expBlocks] using hexp))) hs
      · rw [if_neg hexp]
        cases hdec : D.dec flat with
        | incomplete m =>
          exact .stop (.inr (by rw [hdec]; rfl)) (fun m' hm' => by cases hm'; exact ⟨flat, [], by simp, hdec⟩)
        | frame f n =>
          have hpos : (D.dec flat).pos? = some n := by rw [hdec]; rfl
          have hp := L.pos_le flat n hpos
          have hr := run_frame D L flat n hpos
          rw [hdec] at hr
          exact ⟨n, rfl, hp.1, hp.2, hr⟩
        | error e =>
          obtain ⟨n, h1, h2, hr⟩ := run_error D L flat e hdec
          exact ⟨0, n, rfl, h1, by simpa using h2, rfl, hr⟩
        | unknown n =>
          have hpos : (D.dec flat).pos? = some n := by rw [hdec]; rfl
          have hp := L.pos_le flat n hpos
          have hr := run_frame D L flat n hpos
          rw [hdec] at hr
          have := DLSpec.skip (acc := acc) hr (ih (flat.drop n) none _ (by simp; omega) (expSound_none D _))
          rwa [List.take_append_drop, List.length_take_of_le hp.2] at this

theorem evBytes_append (a b : List Ev) : evBytes (a ++ b) = evBytes a ++ evBytes b := by
  induction a with
  | nil => rfl
  | cons e r ih => cases e <;> simp [evBytes, ih]

theorem advance_len_le (n : Nat) (bs : List Bytes) :
    (advance n bs).flatten.length ≤ bs.flatten.length := by
  rw [advance_flatten, List.length_drop]
  exact Nat.sub_le _ _

theorem St.applyKind_eq (s : St) (k : Kind) : s.applyKind k = { s with remaining := k.rem } := by
  cases k <;> rfl

theorem decLoop_frame_origin (D : Dec F E) : ∀ (fuel : Nat) (flat : Bytes) (exp : Option Nat) (dropped d : Nat)
    (f : F), decLoop D fuel flat exp dropped = .frame d f → ∃ k n, D.dec (flat.drop k) = .frame f n := by
  intro fuel
  induction fuel with
  | zero => intro flat exp dropped d f h; simp [decLoop] at h
  | succ fuel ih =>
    intro flat exp dropped d f h
    unfold decLoop at h
    by_cases hnil : flat = []
    · rw [if_pos hnil] at h; cases h
    · rw [if_neg hnil] at h
      by_cases hexp : expBlocks exp flat.length = true
      · rw [if_pos hexp] at h; cases h
      · rw [if_neg hexp] at h
        cases hdec : D.dec flat with
        | incomplete m => rw [hdec] at h; cases h
        | error e => rw [hdec] at h; cases h
        | frame f' n =>
          rw [hdec] at h
          simp only [DL.frame.injEq] at h
          exact ⟨0, n, by rw [List.drop_zero, hdec, h.2]⟩
        | unknown n =>
          rw [hdec] at h
          obtain ⟨k, m, hk⟩ := ih _ _ _ _ _ h
          exact ⟨n + k, m, by rw [← List.drop_drop]; exact hk⟩

/-- what the decode step leaves, per answer: `remaining_data` is written only after a frame (which some suffix of the
    buffer decodes to); `Pending` only when `try_recv` said `pending`, `None` / `UnexpectedEnd` only at the end -/
def AfterOut (D : Dec F E) (s : St) (e : End) (s' : St) : Out F E → Prop
  | .frame f => s'.remaining = (D.kind f).rem ∧ ∃ k n, D.dec (s.flat.drop k) = .frame f n
  | .errProto _ => s'.remaining = s.remaining
  | .pending => s'.remaining = s.remaining ∧ e = .pending
  | .none => s'.remaining = s.remaining ∧ e = .eos
  | .errEnd => s'.remaining = s.remaining ∧ e = .eos
  | _ => False

theorem afterRecv_safe (D : Dec F E) (s : St) (e : End) (o : Out F E) (s' : St)
    (h : afterRecv D s e = some (o, s')) :
    s'.eos = s.eos ∧ AfterOut D s e s' o ∧ ∃ d, s'.buf = advance d s.buf := by
  -- by the cases of `afterRecv`: only `applyKind` (after a frame) writes `remaining_data`, nothing writes `eos`
  unfold afterRecv at h
  cases hdl : decLoop D (s.flat.length + 1) s.flat s.expected 0 with
  | frame d f =>
    rw [hdl] at h
    cases h
    rw [St.applyKind_eq]
    exact ⟨rfl, ⟨rfl, decLoop_frame_origin D _ _ _ _ _ _ hdl⟩, d, rfl⟩
  | error d exp e' =>
    rw [hdl] at h
    cases h
    exact ⟨rfl, rfl, d, rfl⟩
  | none d exp =>
    rw [hdl] at h
    cases e with
    | more => cases h
    | pending => cases h; exact ⟨rfl, ⟨rfl, rfl⟩, d, rfl⟩
    | eos =>
      -- `Ok(None)` with an empty buffer, `UnexpectedEnd` otherwise
      simp only at h
      split at h <;> cases h <;> exact ⟨rfl, ⟨rfl, rfl⟩, d, rfl⟩

theorem afterRecv_len (D : Dec F E) (s : St) (e : End) (o : Out F E) (s' : St)
    (h : afterRecv D s e = some (o, s')) : s'.flat.length ≤ s.flat.length := by
  obtain ⟨_, _, d, hd⟩ := afterRecv_safe D s e o s' h
  simp only [St.flat, hd]
  exact advance_len_le d s.buf

theorem afterRecv_none_more (D : Dec F E) (s : St) (e : End) (h : afterRecv D s e = none) :
    e = .more ∧ ∃ d exp, decLoop D (s.flat.length + 1) s.flat s.expected 0 = .none d exp := by
  unfold afterRecv at h
  cases hdl : decLoop D (s.flat.length + 1) s.flat s.expected 0 with
  | frame d f => rw [hdl] at h; cases h
  | error d exp e' => rw [hdl] at h; cases h
  | none d exp =>
    rw [hdl] at h
    cases e with
    | more => exact ⟨rfl, d, exp, rfl⟩
    | pending => cases h
    | eos => simp only at h; split at h <;> cases h

/-- `try_recv` (`h3/src/frame.rs`), with which `poll_next` and `poll_data` both begin, unless the next event is a
    reset: `TryRecv s sc tk e s1 r` takes the events `tk` off the script `sc`, answers `e` and leaves `s1` and `r`.
    The stream has ended (`eos`); the script is used up, or its next event is `pend`, `fin`, a chunk -/
inductive TryRecv : St → List Ev → List Ev → End → St → List Ev → Prop
  | eos {s sc} : s.eos = true → TryRecv s sc [] .eos s sc
  | nil {s} : s.eos = false → TryRecv s [] [] .pending s []
  | pend {s r} : s.eos = false → TryRecv s (.pend :: r) [.pend] .pending s r
  | fin {s r} : s.eos = false → TryRecv s (.fin :: r) [.fin] .eos { s with eos := true } r
  | chunk {s b r} : s.eos = false → TryRecv s (.chunk b :: r) [.chunk b] .more (s.push b) r

theorem TryRecv.shape {s s1 : St} {sc tk r : List Ev} {e : End} (h : TryRecv s sc tk e s1 r) :
    sc = tk ++ r ∧ s1.flat.length = s.flat.length + (evBytes tk).length ∧ s1.remaining = s.remaining ∧
      (e = .pending → s.eos = false ∧ s1.eos = false ∧ (r = [] ∨ Ev.pend ∈ tk) ∧ (sc ≠ [] → tk ≠ [])) ∧
      (e = .more → s.eos = false ∧ tk ≠ []) := by
  cases h with
  | eos => exact ⟨rfl, rfl, rfl, nofun, nofun⟩
  | nil he => exact ⟨rfl, rfl, rfl, fun _ => ⟨he, he, .inl rfl, fun hn => absurd rfl hn⟩, nofun⟩
  | pend he => exact ⟨rfl, rfl, rfl, fun _ => ⟨he, he, .inr (by simp), fun _ => by simp⟩, nofun⟩
  | fin => exact ⟨rfl, rfl, rfl, nofun, nofun⟩
  | chunk he => exact ⟨rfl, by simp [St.push, St.flat, evBytes], rfl, nofun, fun _ => ⟨he, by simp⟩⟩

/-- `pollNextLoop` as a relation, without the branches it never takes: a reset is next; `try_recv`, after which
    the decode step has an answer (`answer`) or, after a chunk, the loop goes on (`more`) -/
inductive NextRun (D : Dec F E) : St → List Ev → Out F E × St × List Ev → Prop
  | reset {s c r} : s.eos = false → NextRun D s (.reset c :: r) (.errQuic c, s, .reset c :: r)
  | answer {s sc tk e s1 r o s'} : TryRecv s sc tk e s1 r → afterRecv D s1 e = some (o, s') →
      NextRun D s sc (o, s', r)
  | more {s sc tk s1 r d exp res} : TryRecv s sc tk .more s1 r →
      decLoop D (s1.flat.length + 1) s1.flat s1.expected 0 = .none d exp →
      NextRun D { s1 with buf := advance d s1.buf, expected := exp } r res → NextRun D s sc res

theorem pollNextLoop_of_eos (D : Dec F E) (s : St) (sc : List Ev) (he : s.eos = true) :
    ∃ o s', afterRecv D s .eos = some (o, s') ∧ pollNextLoop D s sc = (o, s', sc) := by
  cases hres : afterRecv D s .eos with
  -- the decode step is asked with `more` only after a chunk, so here it has an answer
  | none => exact absurd (afterRecv_none_more D _ _ hres).1 (fun h => nomatch h)
  | some p =>
    obtain ⟨o, s'⟩ := p
    refine ⟨o, s', rfl, ?_⟩
    cases sc with
    | nil => rw [pollNextLoop, if_pos he, hres]
    | cons ev r => cases ev <;> rw [pollNextLoop, if_pos he, hres]

/-- `try_recv` did not answer `more`, so the decode step has an answer: the `none` arm of the model is not taken -/
theorem NextRun.of_recv {D : Dec F E} {s s1 : St} {sc tk r : List Ev} {e : End} {dflt : Out F E × St × List Ev}
    (ht : TryRecv s sc tk e s1 r) (he : e ≠ .more) :
    NextRun D s sc (match afterRecv D s1 e with | some (o, s') => (o, s', r) | none => dflt) := by
  cases hres : afterRecv D s1 e with
  | none => exact absurd (afterRecv_none_more D _ _ hres).1 he
  | some p => exact .answer ht hres

theorem pollNextLoop_run (D : Dec F E) (script : List Ev) :
    ∀ s : St, NextRun D s script (pollNextLoop D s script) := by
  have hEos : ∀ (s : St) (sc : List Ev), s.eos = true → NextRun D s sc (pollNextLoop D s sc) := by
    intro s sc he
    obtain ⟨o, s', h1, h2⟩ := pollNextLoop_of_eos D s sc he
    rw [h2]
    exact .answer (.eos he) h1
  induction script with
  | nil =>
    intro s
    cases he : s.eos with
    | true => exact hEos s [] he
    | false => rw [pollNextLoop, if_neg (by simp [he])]; exact .of_recv (.nil he) nofun
  | cons ev r ih =>
    intro s
    cases he : s.eos with
    | true => exact hEos s _ he
    | false =>
      have hne : ¬ s.eos = true := by simp [he]
      cases ev with
      | pend => rw [pollNextLoop, if_neg hne]; exact .of_recv (.pend he) nofun
      | fin => rw [pollNextLoop, if_neg hne]; exact .of_recv (.fin he) nofun
      | reset c => rw [pollNextLoop, if_neg hne]; exact .reset he
      | chunk b =>
        rw [pollNextLoop, if_neg hne]
        simp only
        cases hres : afterRecv D (s.push b) .more with
        | some p => exact .answer (.chunk he) hres
        | none =>
          obtain ⟨_, d, exp, hdl⟩ := afterRecv_none_more D _ _ hres
          simp only [hdl]
          exact .more (.chunk he) hdl (ih _)

theorem pollNextLoop_shape (D : Dec F E) {s : St} {script : List Ev} {o : Out F E} {s' : St}
    {script' : List Ev} (h : pollNextLoop D s script = (o, s', script')) :
    ∃ taken, script = taken ++ script' ∧
      s'.flat.length ≤ s.flat.length + (evBytes taken).length ∧
      (∀ f, o = .frame f → s'.remaining = (D.kind f).rem) ∧
      (o = .pending → s.eos = false ∧ s'.eos = false ∧ s'.remaining = s.remaining ∧
        (script' = [] ∨ Ev.pend ∈ taken) ∧ (script ≠ [] → taken ≠ [])) := by
  have hr := pollNextLoop_run D script s
  rw [h] at hr
  clear h
  generalize hres : (o, s', script') = res at hr
  induction hr with
  | reset => cases hres; exact ⟨[], rfl, by simp [evBytes], nofun, nofun⟩
  | @answer s sc tk e s1 r o1 s2 ht ha =>
    cases hres
    obtain ⟨hs, hlen, hrem, hpend, _⟩ := ht.shape
    obtain ⟨heos, hout, _⟩ := afterRecv_safe D _ _ _ _ ha
    have := afterRecv_len D _ _ _ _ ha
    refine ⟨tk, hs, by omega, fun f hf => by subst hf; exact hout.1, fun h => ?_⟩
    subst h
    obtain ⟨he, he1, hwhy⟩ := hpend hout.2
    exact ⟨he, heos.trans he1, hout.1.trans hrem, hwhy⟩
  | @more s sc tk s1 r d exp res ht hdl _ ih =>
    obtain ⟨taken, rfl, hlen, hf, hp⟩ := ih hres
    obtain ⟨rfl, hlen1, hrem, _, hmore⟩ := ht.shape
    have h2 := advance_len_le d s1.buf
    refine ⟨tk ++ taken, by simp, ?_, hf, fun h => ?_⟩
    · simp only [evBytes_append, List.length_append]
      simp only [St.flat] at hlen hlen1 h2 ⊢
      omega
    · obtain ⟨_, h2, h3, h4, _⟩ := hp h
      exact ⟨(hmore rfl).1, h2, h3.trans hrem, h4.imp id (List.mem_append_right _), fun _ => by simp [(hmore rfl).2]⟩

theorem takeChunk_none (max : Nat) (buf buf' : List Bytes) (h : takeChunk max buf = (none, buf')) :
    buf = [] := by
  cases buf with
  | nil => rfl
  | cons c cs => simp [takeChunk] at h

/-- `recvForData` as a relation: a reset is next, or `try_recv` -/
inductive RecvRun : St → List Ev → Except Nat (Bool × St × List Ev) → Prop
  | reset {s c r} : s.eos = false → RecvRun s (.reset c :: r) (.error c)
  | ok {s sc tk e s1 r} : TryRecv s sc tk e s1 r → RecvRun s sc (.ok (s1.eos, s1, r))

theorem recvForData_run (s : St) (script : List Ev) : RecvRun s script (recvForData s script) := by
  unfold recvForData
  by_cases heos : s.eos = true
  · rw [if_pos heos]; exact heos ▸ RecvRun.ok (.eos heos)
  · rw [if_neg heos]
    have heosf : s.eos = false := by simpa using heos
    cases script with
    | nil => exact heosf ▸ RecvRun.ok (.nil heosf)
    | cons ev r =>
      cases ev with
      | chunk b => exact (show (s.push b).eos = false from heosf) ▸ RecvRun.ok (.chunk heosf)
      | pend => exact heosf ▸ RecvRun.ok (.pend heosf)
      | fin => exact .ok (.fin heosf)
      | reset c => exact .reset heosf

/-- what `poll_data` makes of the buffer once `try_recv` has answered `e` (end of the stream or not) and left
    `s1`: nothing buffered at the end (`ended`, in raw mode `rawEnd`) or before it (`wait`), a last piece that is
    too short (`cut`), a piece (`piece`) -/
inductive TakeRun (e : Bool) (s1 : St) : Out F E × St → Prop
  | ended : e = true → s1.buf = [] → s1.remaining ≠ USIZE_MAX → TakeRun e s1 (.errEnd, s1)
  | rawEnd : e = true → s1.buf = [] → s1.remaining = USIZE_MAX → TakeRun e s1 (.none, s1)
  | wait : e = false → s1.buf = [] → TakeRun e s1 (.pending, s1)
  | cut {d} : e = true → takeChunk s1.remaining s1.buf = (some d, []) → d.length < s1.remaining →
      TakeRun e s1 (.errEnd, { s1 with buf := [] })
  | piece {d buf'} : takeChunk s1.remaining s1.buf = (some d, buf') →
      ¬ (e = true ∧ d.length < s1.remaining ∧ buf' = []) →
      TakeRun e s1 (.data d, { s1 with buf := buf', remaining := s1.remaining - d.length })

/-- `pollData` as a relation: nothing owed, a reset next, or `try_recv` and then `TakeRun` -/
inductive DataRun : St → List Ev → Out F E × St × List Ev → Prop
  | idle {s sc} : s.remaining = 0 → DataRun s sc (.none, s, sc)
  | reset {s c r} : s.remaining ≠ 0 → s.eos = false → DataRun s (.reset c :: r) (.errQuic c, s, .reset c :: r)
  | recv {s sc tk e s1 r o s'} : s.remaining ≠ 0 → TryRecv s sc tk e s1 r → TakeRun s1.eos s1 (o, s') →
      DataRun s sc (o, s', r)

theorem pollData_run (s : St) (sc : List Ev) : DataRun (F := F) (E := E) s sc (pollData s sc) := by
  unfold pollData
  by_cases h0 : s.remaining = 0
  · rw [if_pos h0]; exact .idle h0
  rw [if_neg h0]
  have hr := recvForData_run s sc
  generalize recvForData s sc = res at hr
  cases hr with
  | reset he => exact .reset h0 he
  | @ok _ _ _ s1 r htr =>
    simp only
    cases hT : takeChunk s1.remaining s1.buf with
    | mk od buf' =>
    cases od with
    | none =>
      have hb := takeChunk_none _ _ _ hT
      cases he : s1.eos with
      | false => exact .recv h0 htr (.wait he hb)
      | true =>
        by_cases hm : s1.remaining ≠ USIZE_MAX
        · rw [if_pos hm]; exact .recv h0 htr (.ended he hb hm)
        · rw [if_neg hm]; exact .recv h0 htr (.rawEnd he hb (by simpa using hm))
    | some d =>
      simp only
      by_cases hc : (s1.eos && decide (d.length < s1.remaining) && buf'.isEmpty) = true
      · rw [if_pos hc]
        simp only [Bool.and_eq_true, decide_eq_true_eq, List.isEmpty_iff] at hc
        obtain ⟨⟨he, hlt⟩, rfl⟩ := hc
        exact .recv h0 htr (.cut he hT hlt)
      · rw [if_neg hc]
        exact .recv h0 htr (.piece hT (by simpa [and_assoc] using hc))

theorem pollData_pending_inv {s s' : St} {script script' : List Ev}
    (h : pollData (F := F) (E := E) s script = (.pending, s', script')) :
    s.remaining ≠ 0 ∧ s.eos = false ∧ s' = s ∧
      ∃ tk, script = tk ++ script' ∧ (script' = [] ∨ Ev.pend ∈ tk) ∧ (script ≠ [] → tk ≠ []) := by
  have hrun := pollData_run (F := F) (E := E) s script
  rw [h] at hrun
  cases hrun with
  | recv h0 htr ht =>
    cases ht with
    | wait he hb =>
      cases htr with
      | eos he' => rw [he'] at he; cases he
      | nil he' => exact ⟨h0, he', rfl, [], rfl, .inl rfl, fun hn => absurd rfl hn⟩
      | pend he' => exact ⟨h0, he', rfl, [.pend], rfl, .inr (by simp), fun _ => by simp⟩
      | fin => cases he
      | chunk => simp [St.push] at hb

end H3.FS

namespace H3.C06
open H3.FS
variable {F E : Type}

theorem pollNext_reset (D : Dec F E) (s : St) (c : Nat) (r : List Ev) (h0 : s.remaining = 0)
    (heos : s.eos = false) : pollNext D s (.reset c :: r) = (.errQuic c, s, .reset c :: r) := by
  unfold pollNext
  rw [if_neg (by simpa using h0), pollNextLoop, if_neg (by simp [heos])]

theorem pollData_reset (s : St) (c : Nat) (r : List Ev) (h0 : s.remaining ≠ 0) (heos : s.eos = false) :
    pollData (F := F) (E := E) s (.reset c :: r) = (.errQuic c, s, .reset c :: r) := by
  unfold pollData
  rw [if_neg h0]
  simp [recvForData, heos]

end H3.C06
