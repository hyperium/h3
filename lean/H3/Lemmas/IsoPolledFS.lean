import H3.Lemmas.IsoLift
import H3.Lemmas.FrameStreamPoll
/-! C07, the frame layer of a stream whose polls are interleaved with its deliveries (the script only grows
    at its end, `Req.deliver`).  `src_next` / `src_data` carry the proofs: from the C02 invariant relative to
    what has been delivered (`RHInv`; RESET admitted, `DelivR`) the frame layer never answers a frame-level
    error.  `healthy_next` / `healthy_data` here and `robust_next` / `robust_data` in `IsoFault` restate them for
    `FS.pollNext` / `FS.pollData`. -/
namespace H3.Iso
open H3.ReqRecv H3.Frame

/-- the wire bytes `w` of the stream are a sequence of complete frames on which the reference
    automaton emits `T`, none of them a WebTransport header -/
structure Wire (w : FS.Bytes) (T : List RefTok) : Prop where
  run : FS.run FS.frameDec (.hdr []) w = (.hdr [], T)
  noraw : NoRaw w

/-- what has been delivered so far of a stream with wire bytes `w` -/
def Deliv (w : FS.Bytes) (D : List FS.Ev) : Prop :=
  ∃ cs : List FS.Bytes, (∀ b ∈ cs, b ≠ []) ∧
    ((D = cs.map FS.Ev.chunk ∧ cs.flatten <+: w) ∨ (D = cs.map FS.Ev.chunk ++ [FS.Ev.fin] ∧ cs.flatten = w))

theorem reset_not_mem_chunks (cs : List FS.Bytes) (c : Nat) : FS.Ev.reset c ∉ cs.map FS.Ev.chunk :=
  (chunks_not_mem cs).2.2 c

theorem deliv_no_reset {w : FS.Bytes} {D : List FS.Ev} (h : Deliv w D) (c : Nat) : FS.Ev.reset c ∉ D := by
  obtain ⟨cs, _, ⟨rfl, _⟩ | ⟨rfl, _⟩⟩ := h
  · exact reset_not_mem_chunks cs c
  · intro hm
    rcases List.mem_append.mp hm with hm | hm
    · exact reset_not_mem_chunks cs c hm
    · simp at hm

theorem deliv_snoc_chunk {w : FS.Bytes} {cs : List FS.Bytes} {b : FS.Bytes} (hne : ∀ x ∈ cs ++ [b], x ≠ [])
    (hp : (cs ++ [b]).flatten <+: w) : Deliv w (cs.map FS.Ev.chunk ++ [FS.Ev.chunk b]) :=
  ⟨cs ++ [b], hne, Or.inl ⟨by simp, hp⟩⟩

theorem deliv_chunks_prefix {w : FS.Bytes} {cs : List FS.Bytes} (hne : ∀ b ∈ cs, b ≠ []) (hp : cs.flatten <+: w)
    {D : List FS.Ev} (hD : D <+: cs.map FS.Ev.chunk) : Deliv w D := by
  have hD := List.prefix_iff_eq_take.mp hD
  rw [← List.map_take] at hD
  refine ⟨cs.take D.length, fun b hb => hne b (List.mem_of_mem_take hb), Or.inl ⟨hD, ?_⟩⟩
  refine List.IsPrefix.trans ?_ hp
  conv => rhs; rw [← List.take_append_drop D.length cs, List.flatten_append]
  exact List.prefix_append _ _

theorem deliv_prefix {w : FS.Bytes} {a b : List FS.Ev} (h : Deliv w (a ++ b)) : Deliv w a := by
  obtain ⟨cs, hne, ⟨heq, hp⟩ | ⟨heq, hp⟩⟩ := h
  · exact deliv_chunks_prefix hne hp ⟨b, heq⟩
  · rcases List.prefix_concat_iff.mp ⟨b, heq⟩ with rfl | hpre
    · exact ⟨cs, hne, Or.inr ⟨rfl, hp⟩⟩
    · exact deliv_chunks_prefix hne (by rw [hp]; exact List.prefix_refl _) hpre

/-- what has been delivered so far of a stream whose bytes are a prefix of `w`: as `Deliv`, or chunks
    carrying any prefix of `w` followed by RESET with any code -/
def DelivR (w : FS.Bytes) (D : List FS.Ev) : Prop :=
  Deliv w D ∨ ∃ (c : Nat) (cs : List FS.Bytes), (∀ b ∈ cs, b ≠ []) ∧ D = cs.map FS.Ev.chunk ++ [FS.Ev.reset c] ∧
    cs.flatten <+: w

theorem delivR_facts {w : FS.Bytes} {D : List FS.Ev} (h : DelivR w D) : FS.ScriptOK D ∧ FS.Ev.pend ∉ D := by
  rcases h with ⟨cs, hne, ⟨rfl, _⟩ | ⟨rfl, _⟩⟩ | ⟨c, cs, hne, rfl, _⟩
  · simpa using chunks_then_facts hne (t := []) nofun
  · exact chunks_then_facts hne (by simp)
  · exact chunks_then_facts hne (by simp)

theorem wire_of_no_fin {w : FS.Bytes} {D : List FS.Ev} (hf : FS.Ev.fin ∉ D) (hp : FS.evBytes D <+: w) :
    FS.evBytes (FS.upToFin D) <+: w ∧ (FS.hasFin D = true → FS.evBytes (FS.upToFin D) = w) := by
  rw [FS.upToFin_of_not_mem hf]
  exact ⟨hp, fun hc => absurd hc (by simp [FS.hasFin, hf])⟩

/-- what has been delivered, read as a script given up front (the form `FS.wire_taken` speaks of); the RESET form passes
    because a RESET carries no bytes -/
theorem delivR_wire {w : FS.Bytes} {D : List FS.Ev} (h : DelivR w D) :
    FS.evBytes (FS.upToFin D) <+: w ∧ (FS.hasFin D = true → FS.evBytes (FS.upToFin D) = w) := by
  rcases h with ⟨cs, _, ⟨rfl, hp⟩ | ⟨rfl, hp⟩⟩ | ⟨c, cs, _, rfl, hp⟩
  · exact wire_of_no_fin (chunks_not_mem cs).1 (by rw [evBytes_chunks]; exact hp)
  · rw [FS.upToFin_fin _ [] (chunks_not_mem cs).1, evBytes_chunks, hp]
    exact ⟨List.prefix_refl _, fun _ => rfl⟩
  · refine wire_of_no_fin (fun hm => ?_) (by simpa [FS.evBytes_append, evBytes_chunks, FS.evBytes] using hp)
    rcases List.mem_append.mp hm with hm | hm
    · exact (chunks_not_mem cs).1 hm
    · simp at hm

theorem delivR_taken {w : FS.Bytes} {D taken rest : List FS.Ev} {eos : Bool} (h : DelivR w D)
    (hs : D = taken ++ rest) (htk : FS.TakenOK false eos taken) :
    FS.evBytes taken <+: w ∧ (eos = true → FS.evBytes taken = w) := by
  -- `hw : evBytes (upToFin D) = wOf (evBytes taken) eos rest` (`evBytes taken` once `eos`), `hf : hasFin D = finOf eos rest`
  obtain ⟨hw, hf⟩ := FS.wire_taken hs htk
  obtain ⟨hpre, hfull⟩ := delivR_wire h
  rw [hw] at hpre hfull
  refine ⟨(List.prefix_append _ _).trans hpre, ?_⟩
  rintro rfl
  simpa [FS.wOf] using hfull (by rw [hf]; rfl)

theorem fin_not_taken {D : List FS.Ev} {eos : Bool}
    (htk : FS.TakenOK false eos D) : eos = false → FS.Ev.fin ∉ D := by
  rintro rfl
  simpa [FS.TakenOK] using htk.2

/-- C02's `CInv` relative to what has been delivered; `out` = the tokens handed out so far -/
def RHInv (w : FS.Bytes) (D : List FS.Ev) (out : List RefTok) (c : FSt) : Prop :=
  DelivR w D ∧ FS.CInv FS.frameDec D out c.1 c.2

def HInv (w : FS.Bytes) (D : List FS.Ev) (out : List RefTok) (c : FSt) : Prop :=
  Deliv w D ∧ FS.CInv FS.frameDec D out c.1 c.2

theorem HInv.toR {w : FS.Bytes} {D : List FS.Ev} {out : List RefTok} {c : FSt} (h : HInv w D out c) :
    RHInv w D out c := ⟨Or.inl h.1, h.2⟩

theorem hinv_init (w : FS.Bytes) : HInv w [] [] ({}, []) :=
  ⟨⟨[], by simp, Or.inl ⟨rfl, by simp⟩⟩, FS.reach_inv FS.frameDec FS.frameDec_laws [] nofun .init⟩

theorem rhinv_arrive {w : FS.Bytes} {D : List FS.Ev} {out : List RefTok} {c : FSt} (evs : List FS.Ev)
    (h : RHInv w D out c) (hD : DelivR w (D ++ evs)) : RHInv w (D ++ evs) out (c.1, c.2 ++ evs) := by
  obtain ⟨_, taken, hs, htk, hI⟩ := h
  exact ⟨hD, taken, by rw [hs, List.append_assoc], htk, hI⟩

theorem hinv_arrive {w : FS.Bytes} {D : List FS.Ev} {out : List RefTok} {c : FSt} (evs : List FS.Ev)
    (h : HInv w D out c) (hD : Deliv w (D ++ evs)) : HInv w (D ++ evs) out (c.1, c.2 ++ evs) :=
  ⟨hD, (rhinv_arrive evs h.toR (Or.inl hD)).2⟩

theorem rhinv_prefix {w : FS.Bytes} {T : List RefTok} (hw : Wire w T) {D : List FS.Ev} {out : List RefTok}
    {c : FSt} (h : RHInv w D out c) : out <+: T := by
  obtain ⟨hD, taken, hs, htk, hI⟩ := h
  obtain ⟨⟨x, hx⟩, _⟩ := delivR_taken hD hs htk
  obtain ⟨more, hm⟩ := FS.inv_toks_prefix FS.frameDec hI x
  rw [hx, hw.run] at hm
  exact ⟨more, hm.symm⟩

/-- the script bookkeeping that `src_next` and `src_data` share -/
theorem rhinv_call {w : FS.Bytes} {D taken tk sc' : List FS.Ev} {s s' : FS.St}
    (hD : DelivR w D) (hsplit : D = taken ++ (tk ++ sc')) (htk : FS.TakenOK false s.eos taken)
    (htk' : FS.TakenOK s.eos s'.eos tk) :
    FS.evBytes taken ++ FS.evBytes tk <+: w ∧ (s'.eos = true → FS.evBytes taken ++ FS.evBytes tk = w) ∧
    (∀ out', FS.Inv FS.frameDec (FS.evBytes taken ++ FS.evBytes tk) out' s' → RHInv w D out' (s', sc')) ∧
    (sc' = [] → s'.eos = false → FS.Ev.fin ∉ D) := by
  have htkF := FS.takenOK_trans htk htk'
  have hD' : D = (taken ++ tk) ++ sc' := by rw [hsplit, List.append_assoc]
  obtain ⟨hpre, hfull⟩ := delivR_taken hD hD' htkF
  rw [FS.evBytes_append] at hpre hfull
  refine ⟨hpre, hfull, fun out' hI' => ⟨hD, taken ++ tk, hD', htkF, by rw [FS.evBytes_append]; exact hI'⟩, ?_⟩
  rintro rfl
  rw [List.append_nil] at hD'
  exact fin_not_taken (hD' ▸ htkF)

/-- never `UnexpectedEnd`, never a frame error: the bytes are a prefix of valid ones and FIN comes only at
    their end; `Pending` only when everything delivered has been taken, and FIN is not among it -/
theorem src_next {w : FS.Bytes} {T : List RefTok} (hw : Wire w T) {D : List FS.Ev} {out : List RefTok} {c : FSt}
    (hI : RHInv w D out c) (h0 : c.1.remaining = 0) :
    ∃ o c', fsSrc.pollNext c = (o, c') ∧
      ((∃ f, o = .frame f ∧ RHInv w D (out ++ [.frame f]) c' ∧ c'.1.remaining = (FS.frameDec.kind f).rem) ∨
       (o = .pending ∧ RHInv w D out c' ∧ c'.1.remaining = 0 ∧ FS.Ev.fin ∉ D) ∨
       (o = .none ∧ RHInv w D out c' ∧ c'.1.remaining = 0 ∧ out = T ∧ c'.1.eos = true ∧ c'.1.flat = []) ∨
       (∃ e, o = .errQuic e ∧ FS.Ev.reset e ∈ D)) := by
  obtain ⟨s, sc⟩ := c
  obtain ⟨hD, taken, hsplit, htk, hInv⟩ := hI
  obtain ⟨hscD, hpend⟩ := delivR_facts hD
  have hsc : FS.ScriptOK sc := by rw [hsplit] at hscD; exact FS.scriptOK_suffix hscD
  rcases hres : FS.pollNext FS.frameDec s sc with ⟨o, s', sc'⟩
  obtain ⟨tk, rfl, htk', hst⟩ := FS.pollNext_step FS.frameDec FS.frameDec_laws hInv hsc h0 hres
  obtain ⟨hpre, hfull, keep, hall⟩ := rhinv_call hD hsplit htk htk'
  refine ⟨o, (s', sc'), fs_pollNext s _ o s' sc' hres, ?_⟩
  cases hst with
  | frame f hI' hrem _ => exact .inl ⟨f, rfl, keep _ hI', hrem⟩
  | wait hI' hrem _ heos' hwhy _ _ =>
    -- no `pend` is ever delivered: the call waits because it has taken everything
    have hnofin := hall (hwhy.resolve_right fun h => hpend (by rw [hsplit]; simp [h]))
    exact .inr (.inl ⟨rfl, keep _ hI', hrem.trans h0, hnofin heos'⟩)
  | none hI' hrem hfl heos' hR =>
    exact .inr (.inr (.inl ⟨rfl, keep _ hI', hrem, (hR.on_wire hw.run hpre hfull).2.2 rfl, heos', hfl⟩))
  | errEnd hR => exact absurd rfl (hR.on_wire hw.run hpre hfull).1
  | errProto e hR => exact absurd rfl ((hR.on_wire hw.run hpre hfull).2.1 e)
  | errQuic c _ hr _ =>
    obtain ⟨r, rfl⟩ := hr
    exact .inr (.inr (.inr ⟨c, rfl, by rw [hsplit]; simp⟩))

theorem src_data {w : FS.Bytes} {T : List RefTok} (hw : Wire w T) {D : List FS.Ev} {out : List RefTok} {c : FSt}
    (hI : RHInv w D out c) (h0 : c.1.remaining ≠ 0) :
    ∃ o c', fsSrc.pollData c = (o, c') ∧
      ((∃ d, o = .data d ∧ d ≠ [] ∧ RHInv w D (out ++ d.map .byte) c' ∧
          c'.1.remaining = c.1.remaining - d.length) ∨
       (o = .pending ∧ RHInv w D out c' ∧ c'.1.remaining = c.1.remaining ∧ FS.Ev.fin ∉ D) ∨
       (∃ e, o = .errQuic e ∧ FS.Ev.reset e ∈ D)) := by
  obtain ⟨s, sc⟩ := c
  obtain ⟨hD, taken, hsplit, htk, hInv⟩ := hI
  obtain ⟨hscD, hpend⟩ := delivR_facts hD
  have hsc : FS.ScriptOK sc := by rw [hsplit] at hscD; exact FS.scriptOK_suffix hscD
  rcases hres : FS.pollData (F := Frame) (E := FrameErr) s sc with ⟨o, s', sc'⟩
  obtain ⟨tk, rfl, htk', hst⟩ := FS.pollData_step FS.frameDec hInv hsc h0 hres
  obtain ⟨hpre, hfull, keep, hall⟩ := rhinv_call hD hsplit htk htk'
  refine ⟨o, (s', sc'), fs_pollData s _ o s' sc' hres, ?_⟩
  cases hst with
  | data d hd _ hrem hI' _ => exact .inl ⟨d, rfl, hd, keep _ hI', hrem⟩
  | wait hI' hrem _ heos' hwhy _ _ =>
    have hnofin := hall (hwhy.resolve_right fun h => hpend (by rw [hsplit]; simp [h]))
    exact .inr (.inl ⟨rfl, keep _ hI', hrem, hnofin heos'⟩)
  | errEnd hR => exact absurd rfl (hR.on_wire hw.run hpre hfull).1
  | errQuic c _ hr _ =>
    obtain ⟨r, rfl⟩ := hr
    exact .inr (.inr ⟨c, rfl, by rw [hsplit]; simp⟩)
  | rawEnd _ heos' hR =>
    rw [hfull heos', hw.run] at hR
    cases hR

theorem fs_of_src {α : Type} {x : α × FS.St × List FS.Ev} {o : α} {c' : FSt} (h : (x.1, (x.2.1, x.2.2)) = (o, c')) :
    x = (o, c'.1, c'.2) := by
  cases h; rfl

/-- `poll_next` on a healthy stream: a frame, `Pending` (FIN not delivered yet), or `None` (everything
    handed out) -/
theorem healthy_next {w : FS.Bytes} {T : List RefTok} (hw : Wire w T) {D : List FS.Ev} {out : List RefTok}
    {s : FS.St} {sc : List FS.Ev} (hI : HInv w D out (s, sc)) (h0 : s.remaining = 0) :
    ∃ o s' sc', FS.pollNext FS.frameDec s sc = (o, s', sc') ∧
      ((∃ f, o = .frame f ∧ HInv w D (out ++ [.frame f]) (s', sc') ∧ s'.remaining = (FS.frameDec.kind f).rem) ∨
       (o = .pending ∧ HInv w D out (s', sc') ∧ s'.remaining = 0 ∧ FS.Ev.fin ∉ D) ∨
       (o = .none ∧ HInv w D out (s', sc') ∧ s'.remaining = 0 ∧ out = T ∧ s'.eos = true ∧ s'.flat = [])) := by
  obtain ⟨o, c', hres, hc⟩ := src_next hw hI.toR h0
  refine ⟨o, c'.1, c'.2, fs_of_src hres, ?_⟩
  rcases hc with ⟨f, rfl, hI', hr⟩ | ⟨rfl, hI', hr, hfin⟩ | ⟨rfl, hI', hrest⟩ | ⟨c, rfl, hm⟩
  · exact Or.inl ⟨f, rfl, ⟨hI.1, hI'.2⟩, hr⟩
  · exact Or.inr (Or.inl ⟨rfl, ⟨hI.1, hI'.2⟩, hr, hfin⟩)
  · exact Or.inr (Or.inr ⟨rfl, ⟨hI.1, hI'.2⟩, hrest⟩)
  · exact absurd hm (deliv_no_reset hI.1 c)

/-- `poll_data` on a healthy stream: a non-empty piece of the payload, or `Pending` (FIN not delivered
    yet) -/
theorem healthy_data {w : FS.Bytes} {T : List RefTok} (hw : Wire w T) {D : List FS.Ev} {out : List RefTok}
    {s : FS.St} {sc : List FS.Ev} (hI : HInv w D out (s, sc)) (h0 : s.remaining ≠ 0) :
    ∃ o s' sc', FS.pollData (F := Frame) (E := FrameErr) s sc = (o, s', sc') ∧
      ((∃ d, o = .data d ∧ d ≠ [] ∧ HInv w D (out ++ d.map .byte) (s', sc') ∧
          s'.remaining = s.remaining - d.length) ∨
       (o = .pending ∧ HInv w D out (s', sc') ∧ s'.remaining = s.remaining ∧ FS.Ev.fin ∉ D)) := by
  obtain ⟨o, c', hres, hc⟩ := src_data hw hI.toR h0
  refine ⟨o, c'.1, c'.2, fs_of_src hres, ?_⟩
  rcases hc with ⟨d, rfl, hd, hI', hr⟩ | ⟨rfl, hI', hr, hfin⟩ | ⟨c, rfl, hm⟩
  · exact Or.inl ⟨d, rfl, hd, ⟨hI.1, hI'.2⟩, hr⟩
  · exact Or.inr ⟨rfl, ⟨hI.1, hI'.2⟩, hr, hfin⟩
  · exact absurd hm (deliv_no_reset hI.1 c)

theorem src_next_at_end (c : FSt) (h0 : c.1.remaining = 0) (he : c.1.eos = true) (hf : c.1.flat = []) :
    ∃ c', fsSrc.pollNext c = (.none, c') :=
  ⟨(fsSrc.pollNext c).2, Prod.ext (FS.pollNext_at_end FS.frameDec c.1 c.2 h0 he hf) rfl⟩

end H3.Iso
