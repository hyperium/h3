import H3.Model.ConnClose
import H3.Lemmas.C06Req
/-! Lemmas about the additive connection-error event (`H3.ConnClose`): the naming of
    `StreamErrorIncoming` by numbers loses nothing; a lowered `connErr` at the head of a script is an
    `AtEnd` configuration of the request-stream machine. -/
namespace H3.ConnClose
open H3.ErrCell

theorem decQ_encQ (q : QErr) : decQ (encQ q) = q := by
  cases q <;> simp [encQ, decQ, Nat.mul_add_div]

/-- the naming is lossless (QUIC error codes are varints, `< 2^62`) -/
theorem ofCode_code (e : TErr) (h : ∀ c, e = .terminated c → c < 2 ^ 62) : TErr.ofCode e.code = e := by
  cases e with
  | terminated c => simp [TErr.ofCode, TErr.code, h c rfl]
  | conn q =>
    have h1 : ¬ 2 ^ 62 + 2 * encQ q < 2 ^ 62 := by omega
    have h2 : 2 ^ 62 + 2 * encQ q - 2 ^ 62 = 2 * encQ q := by omega
    simp [TErr.ofCode, TErr.code, h1, h2, decQ_encQ]
  | unknown t =>
    have h1 : ¬ 2 ^ 62 + 2 * t + 1 < 2 ^ 62 := by omega
    have h2 : 2 ^ 62 + 2 * t + 1 - 2 ^ 62 = 2 * t + 1 := by omega
    simp [TErr.ofCode, TErr.code, h1, h2, Nat.mul_add_div]

/-- a connection error never has the number of a RESET_STREAM code -/
theorem conn_code_ge (q : QErr) : 2 ^ 62 ≤ TErr.code (.conn q) := by
  show 2 ^ 62 ≤ 2 ^ 62 + 2 * encQ q
  omega

theorem lower_connErr (q : QErr) (r : List EvC) :
    lower (.connErr q :: r) = .reset (TErr.code (.conn q)) :: lower r := rfl

theorem atEnd_closed (c : H3.ReqRecv.FSt) (q : QErr) (r : List EvC) (h : c.2 = lower (.connErr q :: r)) :
    H3.C06.AtEnd c := Or.inr ⟨_, _, h⟩

end H3.ConnClose
