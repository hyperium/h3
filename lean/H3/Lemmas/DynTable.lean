import H3.Lemmas.DynBasic
import H3.Spec.Dyn
/-! Table-level lemmas: the model's `DynamicTable` refines the oracle's abstract table; with them, facts about
    the oracle's table alone (`STable.apply_cases`, `STable.run_*`) that the encoder files share. -/
namespace H3.Dyn
open H3.Spec.Dyn (STable size evictCount)

@[simp] theorem size_nil : size [] = 0 := rfl
@[simp] theorem size_cons (f : Field) (l : List Field) : size (f :: l) = f.memSize + size l := by
  simp [size]
theorem size_append (a b : List Field) : size (a ++ b) = size a + size b := by
  simp [size]

theorem memSize_ge (f : Field) : 32 ≤ f.memSize := by simp [Field.memSize]

theorem size_ge_length (l : List Field) : 32 * l.length ≤ size l := by
  induction l with
  | nil => simp
  | cons f r ih => have := memSize_ge f; simp; omega

/-- The oracle counts absolute indices from 0 (positions of `st.all`), the code from 1 (`vas.index`: position `i` of the
    deque is index `i + dropped + 1`): hence the `a - 1` wherever an index of the code meets `st.all` (`MapsOK`, `entry1`). -/
structure Abs (t : Table) (st : STable) : Prop where
  fields : t.fields = st.all.drop st.dropped
  ins : t.vas.inserted = st.all.length
  drp : t.vas.dropped = st.dropped
  delta : t.vas.delta = t.fields.length
  curr : t.currSize = size t.fields
  max : t.maxSize = st.cap
  le : st.dropped ≤ st.all.length
  cap : t.currSize ≤ t.maxSize

variable {t : Table} {st st' : STable}

theorem Abs.of_core {t' : Table} (h : Abs t st) (h1 : t'.fields = t.fields)
    (h2 : t'.currSize = t.currSize) (h3 : t'.maxSize = t.maxSize) (h4 : t'.vas = t.vas) : Abs t' st :=
  ⟨by rw [h1]; exact h.fields, by rw [h4]; exact h.ins, by rw [h4]; exact h.drp, by rw [h4, h1]; exact h.delta,
    by rw [h2, h1]; exact h.curr, by rw [h3]; exact h.max, h.le, by rw [h2, h3]; exact h.cap⟩

theorem Abs.length {t st} (h : Abs t st) : t.fields.length = st.all.length - st.dropped := by
  rw [h.fields]; simp

theorem Abs.length_le (h : Abs t st) : st.all.length - st.dropped ≤ st.cap / 32 := by
  have h1 := size_ge_length t.fields
  have h2 := h.curr; have h3 := h.cap; have h4 := h.max; have h5 := h.length
  rw [Nat.le_div_iff_mul_le (by omega)]; omega

theorem Abs.core_eq {t t' st} (h : Abs t st) (h' : Abs t' st) :
    (t.fields, t.currSize, t.maxSize, t.vas) = (t'.fields, t'.currSize, t'.maxSize, t'.vas) := by
  have hf : t.fields = t'.fields := by rw [h.fields, h'.fields]
  simp only [Prod.mk.injEq]
  refine ⟨hf, by rw [h.curr, h'.curr, hf], by rw [h.max, h'.max], ?_⟩
  have h1 := h.ins; have h2 := h'.ins; have h3 := h.drp; have h4 := h'.drp
  have h5 := h.delta; have h6 := h'.delta
  rw [hf] at h5
  -- a `Vas` is its three fields `inserted`, `dropped`, `delta`, which `ins`, `drp`, `delta` fix
  cases hv : t.vas; cases hv' : t'.vas
  simp_all

theorem Table.isTracked_iff (t : Table) (a : Nat) : t.isTracked a = true ↔ 0 < cnt t.trackMap a := by
  simp [Table.isTracked]

theorem evictCount_zero {b : Nat} {l : List Field} (h : size l ≤ b) : evictCount b l = 0 := by
  cases l with
  | nil => rfl
  | cons f r => exact if_pos h

theorem evictCount_le (b : Nat) (l : List Field) : evictCount b l ≤ l.length := by
  induction l with
  | nil => simp [evictCount]
  | cons f r ih => simp only [evictCount]; split <;> simp; omega

theorem evictCount_size (b : Nat) (l : List Field) : size (l.drop (evictCount b l)) ≤ b := by
  induction l with
  | nil => simp [evictCount]
  | cons f r ih =>
    simp only [evictCount]; split
    · simpa
    · simpa using ih

/-- either the loop reaches `lb`, having passed `evictCount lb fs` untracked entries, or it stops at the first tracked
    entry with more than `lb` still held -/
theorem canFreeLoop_spec (t : Table) (lb : Nat) (fs : List Field) (idx ev : Nat)
    (hidx : idx + fs.length ≤ t.vas.delta) :
    (canFreeLoop t lb fs idx (size fs) ev = .ok (size (fs.drop (evictCount lb fs)), ev + evictCount lb fs) ∧
      ∀ i, i < evictCount lb fs → t.isTracked (t.vas.dropped + (idx + i) + 1) = false) ∨
    (∃ hyp ev', canFreeLoop t lb fs idx (size fs) ev = .ok (hyp, ev') ∧ lb < hyp ∧ hyp ≤ size fs ∧
      ∃ i, i < fs.length ∧ t.isTracked (t.vas.dropped + (idx + i) + 1) = true) := by
  induction fs generalizing idx ev with
  | nil => exact Or.inl ⟨rfl, fun _ hi => nomatch hi⟩
  | cons f fs ih =>
    by_cases h1 : size (f :: fs) ≤ lb
    · rw [evictCount_zero h1]
      exact Or.inl ⟨by rw [canFreeLoop, if_pos h1]; rfl, fun _ hi => nomatch hi⟩
    · have hi : t.vas.index idx = some (t.vas.dropped + (idx + 0) + 1) := by
        simp only [Vas.index]; rw [if_neg (by simp at hidx; omega)]; congr 1; omega
      have hloop : canFreeLoop t lb (f :: fs) idx (size (f :: fs)) ev =
          if t.isTracked (t.vas.dropped + (idx + 0) + 1) then .ok (size (f :: fs), ev)
          else canFreeLoop t lb fs (idx + 1) (size fs) (ev + 1) := by
        rw [canFreeLoop, if_neg h1]; simp only [hi]
        rw [if_neg (show ¬ size (f :: fs) < f.memSize by simp), show size (f :: fs) - f.memSize = size fs by simp]
      by_cases h2 : t.isTracked (t.vas.dropped + (idx + 0) + 1) = true
      · exact Or.inr ⟨_, _, by rw [hloop, if_pos h2], Nat.lt_of_not_le h1, Nat.le_refl _, 0, by simp, h2⟩
      · have hev : evictCount lb (f :: fs) = evictCount lb fs + 1 := if_neg h1
        have hshift : ∀ i, idx + 1 + i = idx + (i + 1) := fun i => Nat.succ_add_eq_add_succ idx i
        rw [hloop, if_neg h2, hev]
        rcases ih (idx + 1) (ev + 1) (by simp at hidx ⊢; omega) with ⟨heq, ht⟩ | ⟨hyp, ev', heq, hlb, hle, i, hi', htr⟩
        · refine Or.inl ⟨by rw [heq]; simp only [List.drop_succ_cons]; rw [Nat.add_right_comm, Nat.add_assoc], fun i hi' => ?_⟩
          cases i with
          | zero => exact Bool.eq_false_iff.mpr h2
          | succ i => rw [← hshift]; exact ht i (Nat.lt_of_succ_lt_succ hi')
        · exact Or.inr ⟨hyp, ev', heq, hlb, Nat.le_trans hle (by simp), i + 1, by simp; omega, by rw [← hshift]; exact htr⟩

theorem canFree_spec (h : Abs t st) (req : Nat) (hreq : req ≤ t.maxSize) :
    (t.canFree req = .ok (some (evictCount (t.maxSize - req) t.fields)) ∧
      (∀ i, i < evictCount (t.maxSize - req) t.fields → t.isTracked (t.vas.dropped + i + 1) = false)) ∨
    (t.canFree req = .ok none ∧ ∃ i, i < t.fields.length ∧ t.isTracked (t.vas.dropped + i + 1) = true) := by
  have hc := h.cap
  unfold Table.canFree
  rw [if_neg (Nat.not_lt.mpr hreq), if_neg (Nat.not_lt.mpr hc)]
  by_cases h0 : t.maxSize - t.currSize ≥ req
  · rw [if_pos h0, evictCount_zero (by rw [← h.curr]; omega)]
    exact Or.inl ⟨rfl, fun _ hi => nomatch hi⟩
  · rw [if_neg h0, h.curr]
    have hsz := evictCount_size (t.maxSize - req) t.fields
    rcases canFreeLoop_spec t (t.maxSize - req) t.fields 0 0 (by rw [h.delta]; simp) with
      ⟨heq, ht⟩ | ⟨hyp, ev', heq, hlb, hle, i, hi, htr⟩
    · rw [heq]; simp only
      rw [if_neg (by omega), if_pos (by omega), Nat.zero_add]
      exact Or.inl ⟨rfl, fun i hi => by simpa using ht i hi⟩
    · rw [heq]; simp only
      rw [if_neg (by rw [h.curr] at hc; omega), if_neg (by omega)]
      exact Or.inr ⟨rfl, i, hi, by simpa using htr⟩

structure MapsOK (t : Table) (st : STable) : Prop where
  fm : ∀ f a, aget t.fieldMap f = some a → st.dropped < a ∧ st.all[a - 1]? = some f
  nm : ∀ n a, aget t.nameMap n = some a → st.dropped < a ∧ ∃ f, st.all[a - 1]? = some f ∧ f.name = n

theorem MapsOK.congr {t' : Table} (h : MapsOK t st) (h1 : t'.fieldMap = t.fieldMap)
    (h2 : t'.nameMap = t.nameMap) : MapsOK t' st :=
  ⟨by rw [h1]; exact h.fm, by rw [h2]; exact h.nm⟩

theorem eraseIfEvicted_get {κ : Type} [DecidableEq κ] {m : List (κ × Nat)} {v : Vas} {k x : κ} {a : Nat}
    (h : aget (eraseIfEvicted m v k) x = some a) :
    aget m x = some a ∧ ¬ (x = k ∧ v.evicted a = true) := by
  unfold eraseIfEvicted at h
  cases hk : aget m k with
  | none =>
    rw [hk] at h; simp only at h
    refine ⟨h, fun ⟨e, _⟩ => ?_⟩
    subst e; rw [hk] at h; simp at h
  | some a0 =>
    rw [hk] at h; simp only at h
    by_cases he : v.evicted a0 = true
    · rw [if_pos he, aget_aerase] at h
      split at h
      · simp at h
      · rename_i hne; exact ⟨h, fun ⟨e, _⟩ => hne e.symm⟩
    · rw [if_neg he] at h
      refine ⟨h, fun ⟨e, hev⟩ => ?_⟩
      subst e; rw [hk] at h; simp at h; subst h; exact he hev

/-- the parts of a table that `insert`/`evict`/`put`/`set_max_size` never touch -/
def Table.aux (t : Table) : RefMap × List (Nat × List RefMap) × Nat × Nat × Nat × RefMap :=
  (t.trackMap, t.trackBlocks, t.lkr, t.blockedMax, t.blockedCount, t.blockedStreams)

theorem Table.aux_eq {t' t : Table} (h : t'.aux = t.aux) :
    t'.trackMap = t.trackMap ∧ t'.trackBlocks = t.trackBlocks ∧ t'.lkr = t.lkr ∧ t'.blockedMax = t.blockedMax ∧
    t'.blockedCount = t.blockedCount ∧ t'.blockedStreams = t.blockedStreams := by
  simpa [Table.aux] using h

theorem Abs.head (h : Abs t st) {f : Field} {rest : List Field} (hf : t.fields = f :: rest) :
    st.all[st.dropped]? = some f ∧ st.dropped < st.all.length := by
  have h0 : t.fields[0]? = some f := by rw [hf]; rfl
  rw [h.fields, List.getElem?_drop, Nat.add_zero] at h0
  exact ⟨h0, (List.getElem?_eq_some_iff.mp h0).1⟩

theorem evict1_spec (h : Abs t st) (hne : t.fields ≠ []) :
    ∃ t', t.evict1 = .ok t' ∧ Abs t' { st with dropped := st.dropped + 1 } ∧ t'.aux = t.aux ∧
      (MapsOK t st → MapsOK t' { st with dropped := st.dropped + 1 }) := by
  cases hf : t.fields with
  | nil => exact absurd hf hne
  | cons f rest =>
    obtain ⟨hhead, hlen⟩ := h.head hf
    have hcurr : t.currSize = f.memSize + size rest := by rw [h.curr, hf]; simp
    have hd : t.vas.delta ≠ 0 := by rw [h.delta, hf]; simp
    have hdrop : t.vas.drop = .ok { t.vas with dropped := t.vas.dropped + 1, delta := t.vas.delta - 1 } := by
      simp [Vas.drop, hd]
    let v' : Vas := { t.vas with dropped := t.vas.dropped + 1, delta := t.vas.delta - 1 }
    have heq : t.evict1 = .ok { t with fields := rest, currSize := t.currSize - f.memSize, vas := v', nameMap := eraseIfEvicted t.nameMap v' f.name, fieldMap := eraseIfEvicted t.fieldMap v' f } := by
      simp only [Table.evict1, hf]; rw [if_neg (by omega), hdrop]
    refine ⟨_, heq, ?_, rfl, ?_⟩
    · constructor
      · simp only; rw [← List.drop_drop, ← h.fields, hf]; rfl
      · exact h.ins
      · show t.vas.dropped + 1 = _; rw [h.drp]
      · show t.vas.delta - 1 = _; rw [h.delta, hf]; simp
      · simp only; rw [hcurr]; omega
      · exact h.max
      · simp only; omega
      · simp only; have := h.cap; omega
    · intro hm
      -- a binding that survived does not name the evicted entry: that entry is `f`, whose two keys were looked at
      have hsurv : ∀ {a : Nat} {g : Field}, st.dropped < a → st.all[a - 1]? = some g →
          ¬ (g = f ∧ v'.evicted a = true) → st.dropped + 1 < a := by
        intro a g hlt hget hno
        apply Nat.lt_of_not_le; intro hle
        obtain rfl : a = st.dropped + 1 := Nat.le_antisymm hle hlt
        rw [Nat.add_sub_cancel, hhead] at hget
        exact hno ⟨(Option.some.inj hget).symm, by simp [Vas.evicted, v', h.drp]⟩
      constructor
      · intro g a hg
        obtain ⟨hg1, hg2⟩ := eraseIfEvicted_get hg
        obtain ⟨hlt, hget⟩ := hm.fm g a hg1
        exact ⟨hsurv hlt hget hg2, hget⟩
      · intro n a hg
        obtain ⟨hg1, hg2⟩ := eraseIfEvicted_get hg
        obtain ⟨hlt, g, hget, hname⟩ := hm.nm n a hg1
        exact ⟨hsurv hlt hget (fun ⟨e, hev⟩ => hg2 ⟨by rw [← hname, e], hev⟩), g, hget, hname⟩

theorem evict_spec (h : Abs t st) (n : Nat) (hn : n ≤ t.fields.length) :
    ∃ t', t.evict n = .ok t' ∧ Abs t' { st with dropped := st.dropped + n } ∧ t'.aux = t.aux ∧
      (MapsOK t st → MapsOK t' { st with dropped := st.dropped + n }) := by
  induction n generalizing t st with
  | zero => exact ⟨t, rfl, by simpa using h, rfl, by simp⟩
  | succ n ih =>
    have hne : t.fields ≠ [] := by intro e; rw [e] at hn; simp at hn
    obtain ⟨t1, h1, habs1, haux1, hm1⟩ := evict1_spec h hne
    obtain ⟨t2, h2, habs2, haux2, hm2⟩ := ih habs1 (by have := habs1.length; have := h.length; simp only at *; omega)
    have : st.dropped + 1 + n = st.dropped + (n + 1) := by omega
    refine ⟨t2, by simp only [Table.evict, h1, Res.bind_ok, h2], ?_, by rw [haux2, haux1], ?_⟩
    · simpa [this] using habs2
    · intro hm
      simpa [this] using hm2 (hm1 hm)

theorem makeRoom_spec (h : Abs t st) {req : Nat} (hreq : req ≤ t.maxSize) :
    (∃ n t1, n = evictCount (t.maxSize - req) st.live ∧ t.canFree req = .ok (some n) ∧ t.evict n = .ok t1 ∧
        Abs t1 { st with dropped := st.dropped + n } ∧ t1.aux = t.aux ∧
        (MapsOK t st → MapsOK t1 { st with dropped := st.dropped + n }) ∧
        (∀ a, st.dropped < a → a ≤ st.dropped + n → t.isTracked a = false) ∧
        size t1.fields ≤ t.maxSize - req) ∨
    (t.canFree req = .ok none ∧ ∃ i, i < t.fields.length ∧ t.isTracked (t.vas.dropped + i + 1) = true) := by
  rcases canFree_spec h req hreq with ⟨hc, hunt⟩ | hp
  · obtain ⟨t1, h1, habs1, haux1, hm1⟩ := evict_spec h _ (evictCount_le (t.maxSize - req) t.fields)
    refine Or.inl ⟨_, t1, by rw [STable.live, ← h.fields], hc, h1, habs1, haux1, hm1, fun a ha1 ha2 => ?_, ?_⟩
    · rw [← hunt (a - st.dropped - 1) (by omega)]; congr 1; rw [h.drp]; omega
    · rw [habs1.fields, ← List.drop_drop, ← h.fields]; exact evictCount_size _ _
  · exact Or.inr hp

theorem MapsOK.grow (h : MapsOK t st) (hd : st'.dropped = st.dropped) {l : List Field} (ha : st'.all = st.all ++ l) :
    MapsOK t st' := by
  have key : ∀ {a : Nat} {g : Field}, st.all[a - 1]? = some g → st'.all[a - 1]? = some g :=
    fun hg => by rw [ha, List.getElem?_append_left (List.getElem?_eq_some_iff.mp hg).1]; exact hg
  exact ⟨fun g a hg => ⟨hd ▸ (h.fm g a hg).1, key (h.fm g a hg).2⟩,
    fun n a hg => let ⟨h1, g, h2, h3⟩ := h.nm n a hg; ⟨hd ▸ h1, g, key h2, h3⟩⟩

/-- `DynamicTable::insert`. In `inserted`, `hmaps` speaks of the oracle table after the evictions and BEFORE the append, so
    that what the lookup maps name then is an old entry (`afterInsert_inv` needs that for the relative index it emits);
    `hlive`: only entries that were there before are evicted. -/
inductive InsertOutcome (t : Table) (st : STable) (f : Field) : Res (Option Nat × Table) → Prop where
  | zeroCap : t.maxSize = 0 → InsertOutcome t st f (.ok (none, t))
  | tooLarge : t.maxSize < f.memSize → InsertOutcome t st f (.err .maxTableSizeReached)
  | pinned :
      (∃ i, i < t.fields.length ∧ t.isTracked (t.vas.dropped + i + 1) = true) → InsertOutcome t st f (.ok (none, t))
  | inserted (t' : Table) (st' : STable) (hins : st.insert f = some st') (habs : Abs t' st') (haux : t'.aux = t.aux)
      (hmaps : MapsOK t st → MapsOK t' { st with dropped := st'.dropped })
      (hunt : ∀ a, st.dropped < a → a ≤ st'.dropped → t.isTracked a = false) (hlive : st'.dropped ≤ st.all.length) :
      InsertOutcome t st f (.ok (some (st.all.length + 1), t'))

theorem insert_spec (h : Abs t st) (f : Field) : InsertOutcome t st f (t.insert f) := by
  unfold Table.insert
  by_cases h0 : t.maxSize = 0
  · rw [if_pos h0]; exact .zeroCap h0
  · rw [if_neg h0]
    by_cases hbig : t.maxSize < f.memSize
    · have : t.canFree f.memSize = .err .maxTableSizeReached := by
        unfold Table.canFree; rw [if_pos hbig]
      rw [this]; exact .tooLarge hbig
    · rcases makeRoom_spec h (Nat.le_of_not_lt hbig) with
        ⟨n, t1, hn, hc, h1, habs1, haux1, hm1, hunt, hsz⟩ | ⟨hc, hpin⟩
      · rw [hc]; simp only
        rw [h1]; simp only [Res.bind_ok, Vas.add]
        have hle : st.dropped + n ≤ st.all.length := habs1.le
        have hins : st.insert f = some { st with all := st.all ++ [f], dropped := st.dropped + n } := by
          unfold STable.insert; rw [if_neg (by rw [← h.max]; exact hbig), hn, h.max]
        rw [show t1.vas.inserted = st.all.length from habs1.ins]
        refine .inserted _ _ hins ?_ haux1 (fun hm => (hm1 hm).congr rfl rfl) hunt hle
        constructor
        · simp only; rw [habs1.fields]; simp only
          rw [List.drop_append_of_le_length hle]
        · simp
        · exact habs1.drp
        · simp only; rw [habs1.delta]; simp
        · simp only; rw [habs1.curr, size_append]; simp
        · exact habs1.max
        · simp only [List.length_append, List.length_singleton]; exact Nat.le_succ_of_le hle
        · simp only; rw [habs1.curr, habs1.max, ← h.max]; omega
      · rw [hc]; exact .pinned hpin

/-- `DynamicTable::set_max_size` after the fix for D-20b: a reduction that would evict a tracked entry is refused (`pinned`) -/
inductive SetMaxOutcome (t : Table) (st : STable) (sz : Nat) : Res Table → Prop where
  | tooLarge : sz > SETTINGS_MAX_TABLE_CAPACITY_MAX → SetMaxOutcome t st sz (.err .maximumTableSizeTooLarge)
  | pinned :
      (∃ i, i < t.fields.length ∧ t.isTracked (t.vas.dropped + i + 1) = true) →
      SetMaxOutcome t st sz (.err .maxTableSizeReached)
  | done (t' : Table) : sz ≤ SETTINGS_MAX_TABLE_CAPACITY_MAX → Abs t' (st.setCap sz) → t'.aux = t.aux →
      (MapsOK t st → MapsOK t' (st.setCap sz)) →
      (∀ a, st.dropped < a → a ≤ (st.setCap sz).dropped → t.isTracked a = false) →
      SetMaxOutcome t st sz (.ok t')

theorem setMaxSize_spec (h : Abs t st) (sz : Nat) : SetMaxOutcome t st sz (t.setMaxSize sz) := by
  unfold Table.setMaxSize
  by_cases h0 : sz > SETTINGS_MAX_TABLE_CAPACITY_MAX
  · rw [if_pos h0]; exact .tooLarge h0
  · rw [if_neg h0]
    by_cases h1 : sz ≥ t.maxSize
    · rw [if_pos h1]
      have hev : evictCount sz st.live = 0 := by
        rw [STable.live, ← h.fields]; exact evictCount_zero (by have := h.cap; have := h.curr; omega)
      have hst : st.setCap sz = { st with cap := sz } := by simp [STable.setCap, hev]
      refine .done _ (Nat.le_of_not_lt h0) ?_ rfl ?_ ?_
      · rw [hst]; exact ⟨h.fields, h.ins, h.drp, h.delta, h.curr, rfl, h.le, Nat.le_trans h.cap h1⟩
      · rw [hst]; exact fun hm => ⟨hm.fm, hm.nm⟩
      · rw [hst]; exact fun a h1 h2 => absurd h2 (Nat.not_le_of_lt h1)
    · rw [if_neg h1]
      have hreq : t.maxSize - (t.maxSize - sz) = sz := by omega
      rcases makeRoom_spec h (Nat.sub_le t.maxSize sz) with
        ⟨n, t1, hn, hc, he, habs1, haux1, hm1, hunt, hsz⟩ | ⟨hc, hpin⟩
      · rw [hc]; simp only
        rw [he]; simp only [Res.bind_ok]
        rw [hreq] at hn hsz
        have hst : st.setCap sz = { st with cap := sz, dropped := st.dropped + n } := by rw [hn]; rfl
        refine .done _ (Nat.le_of_not_lt h0) ?_ haux1 ?_ ?_
        · rw [hst]
          exact ⟨habs1.fields, habs1.ins, habs1.drp, habs1.delta, habs1.curr, rfl, habs1.le, Nat.le_trans (Nat.le_of_eq habs1.curr) hsz⟩
        · rw [hst]; exact fun hm => ⟨(hm1 hm).fm, (hm1 hm).nm⟩
        · rw [hst]; exact hunt
      · rw [hc]; exact .pinned hpin

theorem _root_.H3.Spec.Dyn.STable.relEntry_eq_some {rel : Nat} {f : Field} :
    st.relEntry rel = some f ↔ ∃ k, st.all.length = rel + k + 1 ∧ st.dropped ≤ k ∧ st.all[k]? = some f := by
  unfold STable.relEntry STable.entry
  constructor
  · intro hf
    split at hf
    · split at hf
      · cases hf
      · exact ⟨st.all.length - 1 - rel, by omega, by omega, hf⟩
    · cases hf
  · rintro ⟨k, hk, hd, hf⟩
    rw [if_pos (by omega), show st.all.length - 1 - rel = k by omega, if_neg (by omega)]; exact hf

theorem relEntry_of {a : Nat} {g : Field} (h1 : st.dropped < a) (h2 : st.all[a - 1]? = some g) :
    st.relEntry (st.all.length - a) = some g := by
  have hlen : a - 1 < st.all.length := (List.getElem?_eq_some_iff.mp h2).1
  exact STable.relEntry_eq_some.mpr ⟨a - 1, by omega, by omega, h2⟩

theorem getRelative_spec (h : Abs t st) {rel : Nat} {f : Field} (hf : st.relEntry rel = some f) :
    t.getRelative rel = .ok f := by
  obtain ⟨k, hk, hd, hf⟩ := STable.relEntry_eq_some.mp hf
  obtain ⟨j, rfl⟩ : ∃ j, k = st.dropped + j := ⟨k - st.dropped, by omega⟩
  have hrel : t.vas.relative rel = some j := by
    unfold Vas.relative
    rw [h.ins, h.drp, h.delta, h.length, hk, if_neg (by omega)]; congr 1; omega
  simp only [Table.getRelative, hrel]
  rw [h.fields, List.getElem?_drop, hf]

def Untracked (t : Table) : Prop := t.trackMap = []

theorem Untracked.isTracked (h : Untracked t) (a : Nat) : t.isTracked a = false := by
  unfold Untracked at h
  unfold Table.isTracked; rw [h]; simp

theorem put_spec (h : Abs t st) (hu : Untracked t) {f : Field}
    (hs : st.insert f = some st') : ∃ t', t.put f = .ok t' ∧ Abs t' st' ∧ t'.aux = t.aux := by
  have hfit : f.memSize ≤ st.cap := by
    unfold STable.insert at hs; split at hs
    · simp at hs
    · omega
  have h32 := memSize_ge f
  unfold Table.put
  have hi := insert_spec h f
  generalize t.insert f = r at hi
  cases hi with
  | zeroCap h0 => rw [h.max] at h0; omega
  | tooLarge hb => rw [h.max] at hb; omega
  | pinned hp =>
    obtain ⟨i, _, hi⟩ := hp
    rw [hu.isTracked] at hi; simp at hi
  | inserted t1 st1 hs1 habs haux _ _ _ =>
    simp only [Res.bind_ok]
    rw [hs] at hs1; simp at hs1; subst hs1
    split <;> exact ⟨_, rfl, habs.of_core rfl rfl rfl rfl, haux⟩

theorem Untracked.of_aux {t t' : Table} (h : Untracked t) (ha : t'.aux = t.aux) : Untracked t' :=
  (Table.aux_eq ha).1.trans h

theorem encoderInstr_spec (h : Abs t st) (hu : Untracked t) {i : EncInstr}
    (hs : st.apply i = some st') : ∃ t', encoderInstr t i = .ok t' ∧ Abs t' st' ∧ t'.aux = t.aux := by
  cases i with
  | sizeUpdate c =>
    simp only [STable.apply] at hs
    split at hs
    · simp at hs
    · rename_i hc
      simp at hs; subst hs
      simp only [encoderInstr]
      have ho := setMaxSize_spec h c
      generalize t.setMaxSize c = r at ho
      cases ho with
      | tooLarge hb => simp [SETTINGS_MAX_TABLE_CAPACITY_MAX] at hb; omega
      | pinned hp => obtain ⟨j, _, hj⟩ := hp; rw [hu.isTracked] at hj; simp at hj
      | done t' _ habs haux _ _ => exact ⟨t', rfl, habs, haux⟩
  | insertLit n v => exact put_spec h hu hs
  | insertStatic idx v =>
    obtain ⟨f, hg, hs⟩ := Option.bind_eq_some_iff.mp hs
    simp only [encoderInstr, hg]
    exact put_spec h hu hs
  | insertDyn rel v | dup rel =>
    obtain ⟨f, hg, hs⟩ := Option.bind_eq_some_iff.mp hs
    simp only [encoderInstr, getRelative_spec h hg, Res.bind_ok]
    exact put_spec h hu hs

theorem _root_.H3.Spec.Dyn.STable.insert_all {f : Field} (h : st.insert f = some st') :
    st'.all = st.all ++ [f] ∧ st'.cap = st.cap ∧ st.dropped ≤ st'.dropped := by
  unfold STable.insert at h; split at h
  · simp at h
  · simp at h; subst h; simp

theorem _root_.H3.Spec.Dyn.STable.apply_cases {i : EncInstr} (h : st.apply i = some st') :
    (∃ c, i = .sizeUpdate c ∧ c ≤ 1073741823 ∧ st' = st.setCap c) ∨
    ((∀ c, i ≠ .sizeUpdate c) ∧ ∃ f, st.insert f = some st') := by
  cases i with
  | sizeUpdate c =>
    simp only [STable.apply] at h; split at h
    · cases h
    · exact Or.inl ⟨c, rfl, by omega, (Option.some.inj h).symm⟩
  | insertLit n v => exact Or.inr ⟨(fun _ e => nomatch e), _, h⟩
  | insertStatic idx v | insertDyn rel v | dup rel =>
    obtain ⟨f, _, hf⟩ := Option.bind_eq_some_iff.mp h
    exact Or.inr ⟨(fun _ e => nomatch e), _, hf⟩

theorem _root_.H3.Spec.Dyn.STable.run_induct {P : STable → Prop} {ins : List EncInstr}
    (hstep : ∀ i ∈ ins, ∀ s s', P s → s.apply i = some s' → P s') (h0 : P st) (h : st.run ins = some st') : P st' := by
  induction ins generalizing st with
  | nil => cases h; exact h0
  | cons i r ih =>
    obtain ⟨st1, hi, h⟩ := Option.bind_eq_some_iff.mp h
    exact ih (fun j hj => hstep j (List.mem_cons_of_mem _ hj)) (hstep i (List.mem_cons_self ..) _ _ h0 hi) h

theorem _root_.H3.Spec.Dyn.STable.run_mono {ins : List EncInstr} (h : st.run ins = some st') :
    (∃ l, st'.all = st.all ++ l) ∧ st.dropped ≤ st'.dropped := by
  refine STable.run_induct (P := fun s => (∃ l, s.all = st.all ++ l) ∧ st.dropped ≤ s.dropped) ?_
    ⟨⟨[], (List.append_nil _).symm⟩, Nat.le_refl _⟩ h
  intro i _ s s' ⟨⟨l, hl⟩, hd⟩ hi
  rcases STable.apply_cases hi with ⟨c, _, _, rfl⟩ | ⟨_, f, hf⟩
  · exact ⟨⟨l, hl⟩, Nat.le_trans hd (Nat.le_add_right _ _)⟩
  · obtain ⟨ha, _, hd'⟩ := STable.insert_all hf
    exact ⟨⟨l ++ [f], by rw [ha, hl, List.append_assoc]⟩, Nat.le_trans hd hd'⟩

theorem _root_.H3.Spec.Dyn.STable.run_cap_le {ins : List EncInstr} (h : st.run ins = some st')
    (hc : st.cap ≤ 1073741823) : st'.cap ≤ 1073741823 := by
  refine STable.run_induct (P := fun s => s.cap ≤ 1073741823) ?_ hc h
  intro i _ s s' hs hi
  rcases STable.apply_cases hi with ⟨c, _, hle, rfl⟩ | ⟨_, f, hf⟩
  · exact hle
  · rw [(STable.insert_all hf).2.1]; exact hs

theorem _root_.H3.Spec.Dyn.STable.run_noSU_cap {ins : List EncInstr} (h : st.run ins = some st')
    (hn : ∀ i ∈ ins, ∀ c, i ≠ .sizeUpdate c) : st'.cap = st.cap := by
  refine STable.run_induct (P := fun s => s.cap = st.cap) ?_ rfl h
  intro i hi s s' hs happ
  rcases STable.apply_cases happ with ⟨c, rfl, _⟩ | ⟨_, f, hf⟩
  · exact absurd rfl (hn _ hi c)
  · rw [(STable.insert_all hf).2.1]; exact hs

theorem _root_.H3.Spec.Dyn.STable.run_append {a b : List EncInstr} :
    st.run (a ++ b) = (st.run a).bind fun s => s.run b := by
  induction a generalizing st with
  | nil => simp [STable.run]
  | cons i r ih =>
    simp only [List.cons_append, STable.run]
    cases st.apply i with
    | none => simp
    | some s => simp [ih]

theorem _root_.H3.Spec.Dyn.STable.run_prefix {a b : List EncInstr} (h : st.run (a ++ b) = some st') :
    ∃ s1, st.run a = some s1 ∧ s1.run b = some st' := by
  rw [STable.run_append] at h
  exact Option.bind_eq_some_iff.mp h

theorem encoderInstrs_spec (h : Abs t st) (hu : Untracked t) {ins : List EncInstr}
    (hs : st.run ins = some st') :
    ∃ t', encoderInstrs t ins = (t', none) ∧ Abs t' st' ∧ t'.aux = t.aux := by
  induction ins generalizing t st with
  | nil => cases hs; exact ⟨t, rfl, h, rfl⟩
  | cons i r ih =>
    obtain ⟨st1, hi, hs⟩ := Option.bind_eq_some_iff.mp hs
    obtain ⟨t1, h1, habs1, haux1⟩ := encoderInstr_spec h hu hi
    obtain ⟨t2, h2, habs2, haux2⟩ := ih habs1 (hu.of_aux haux1) hs
    exact ⟨t2, by simp only [encoderInstrs, h1, h2], habs2, by rw [haux2, haux1]⟩

end H3.Dyn
