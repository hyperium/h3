import H3.Lemmas.ReqRecv
/-! A simulation between two frame layers *up to the answers that end the documented call pattern*.
    `FrameSim` (in `H3/Lemmas/ReqRecv.lean`) asks related states to stay related after every answer, which
    the `FrameStream` model over a transport script and the token source cannot do once a `Pending` precedes
    more data (the model answers `Pending` and later a frame; the token source answers its ending for ever;
    `C03_strict_sim_impossible`).  The documented pattern never calls the frame layer again after `Pending`
    or an error, so `FrameSimP` asks for related successors only after a frame, a data piece or `None`; that
    is enough for the pattern to see no difference (`same_documentedP`). -/
namespace H3.ReqRecv

/-- answers of the frame layer after which the request layer may call it again -/
def contOut : FOut → Bool
  | .frame _ => true
  | .data _ => true
  | .none => true
  | _ => false

/-- answers of the request layer after which the documented pattern goes on -/
def contRes : Res → Bool
  | .head _ => true
  | .data _ => true
  | .end_ => true
  | _ => false

/-- Two frame layers answer alike as long as the documented pattern goes on. -/
structure FrameSimP {σ₁ σ₂ : Type} (S₁ : Src σ₁) (S₂ : Src σ₂) (R : σ₁ → σ₂ → Prop) : Prop where
  hasData : ∀ c a, R c a → S₁.hasData c = S₂.hasData a
  next : ∀ c a, R c a → (S₁.pollNext c).1 = (S₂.pollNext a).1 ∧
    (contOut (S₂.pollNext a).1 = true → R (S₁.pollNext c).2 (S₂.pollNext a).2)
  data : ∀ c a, R c a → (S₁.pollData c).1 = (S₂.pollData a).1 ∧
    (contOut (S₂.pollData a).1 = true → R (S₁.pollData c).2 (S₂.pollData a).2)
  eosL : ∀ c a, R c a → S₁.isEos c = true → S₂.isEos a = false → S₂.hasData a = false →
    (S₂.pollNext a).1 = .none ∧ R c (S₂.pollNext a).2
  eosR : ∀ c a, R c a → S₁.isEos c = false → S₂.isEos a = true → S₂.hasData a = false →
    (S₁.pollNext c).1 = .none ∧ R (S₁.pollNext c).2 a

variable {σ₁ σ₂ : Type} {S₁ : Src σ₁} {S₂ : Src σ₂} {R : σ₁ → σ₂ → Prop}

theorem FrameSim.toP (sim : FrameSim S₁ S₂ R) : FrameSimP S₁ S₂ R where
  hasData := sim.hasData
  next := fun c a h => ⟨(sim.next c a h).1, fun _ => (sim.next c a h).2⟩
  data := fun c a h => ⟨(sim.data c a h).1, fun _ => (sim.data c a h).2⟩
  eosL := sim.eosL
  eosR := sim.eosR

def RelP (R : σ₁ → σ₂ → Prop) (b : Bool) (x : St σ₁) (y : St σ₂) : Prop :=
  (b = true → R x.src y.src) ∧ x.trailers = y.trailers ∧ x.env = y.env

/-- same answer; states related as far as the pattern still needs them -/
def SameP (R : σ₁ → σ₂ → Prop) (x : Res × St σ₁) (y : Res × St σ₂) : Prop :=
  x.1 = y.1 ∧ RelP R (contRes y.1) x.2 y.2

theorem relP_false {x : St σ₁} {y : St σ₂} (ht : x.trailers = y.trailers) (he : x.env = y.env) :
    RelP R false x y :=
  ⟨fun hc => Bool.noConfusion hc, ht, he⟩

theorem RelP.weaken {b : Bool} {x : St σ₁} {y : St σ₂} (h : RelP R b x y) : RelP R false x y :=
  relP_false h.2.1 h.2.2

theorem sameP_connErr {b : Bool} {x : St σ₁} {y : St σ₂} (h : RelP R b x y) (code : Nat) :
    SameP R (connErr x code) (connErr y code) := by
  obtain ⟨_, ht, he⟩ := h
  unfold connErr
  rw [he]
  split
  · exact ⟨rfl, relP_false ht he⟩
  · exact ⟨rfl, relP_false ht (by simp)⟩

theorem sameP_fsErr {b : Bool} {x : St σ₁} {y : St σ₂} (h : RelP R b x y) (o : FOut) :
    SameP R (fsErr x o) (fsErr y o) := by
  cases o with
  | errProto e => exact sameP_connErr h _
  | errEnd => exact sameP_connErr h _
  | _ => exact ⟨rfl, h.weaken⟩

theorem sameP_next (sim : FrameSimP S₁ S₂ R) {x : St σ₁} {y : St σ₂} (h : RelP R true x y) :
    (S₁.pollNext x.src).1 = (S₂.pollNext y.src).1 ∧
    RelP R (contOut (S₂.pollNext y.src).1) { x with src := (S₁.pollNext x.src).2 }
      { y with src := (S₂.pollNext y.src).2 } :=
  ⟨(sim.next _ _ (h.1 rfl)).1, (sim.next _ _ (h.1 rfl)).2, h.2.1, h.2.2⟩

theorem sameP_data (sim : FrameSimP S₁ S₂ R) {x : St σ₁} {y : St σ₂} (h : RelP R true x y) :
    (S₁.pollData x.src).1 = (S₂.pollData y.src).1 ∧
    RelP R (contOut (S₂.pollData y.src).1) { x with src := (S₁.pollData x.src).2 }
      { y with src := (S₂.pollData y.src).2 } :=
  ⟨(sim.data _ _ (h.1 rfl)).1, (sim.data _ _ (h.1 rfl)).2, h.2.1, h.2.2⟩

theorem sameP_headOut (role : Role) (H : Hdr) {x : St σ₁} {y : St σ₂} (o : FOut)
    (h : RelP R (contOut o) x y) : SameP R (headOut role H x o) (headOut role H y o) := by
  have hmal : ∀ {x' : St σ₁} {y' : St σ₂} (c : Nat), x'.trailers = y'.trailers → x'.env = y'.env →
      SameP R (Res.errStream c, x') (Res.errStream c, y') := fun c ht he => ⟨rfl, relP_false ht he⟩
  cases o with
  | frame f =>
    cases f with
    | headers enc =>
      cases role <;> simp only [headOut, pollHead, pollResolve, pollRecvResponse, oneSrc] <;> cases H.head enc
      · exact ⟨rfl, fun _ => h.1 rfl, h.2⟩
      · exact hmal _ h.2.1 (by rw [h.2.2])
      · exact sameP_connErr h _
      · exact ⟨rfl, fun _ => h.1 rfl, h.2⟩
      · exact hmal _ h.2.1 (by rw [h.2.2])
      · exact sameP_connErr h _
    | _ => cases role <;> exact sameP_connErr h _
  | none =>
    cases role
    · exact hmal _ h.2.1 (by rw [h.2.2])
    · exact hmal _ h.2.1 h.2.2
  | pending => cases role <;> exact ⟨rfl, h.weaken⟩
  | _ => cases role <;> exact sameP_fsErr h _

theorem sameP_pollHead (sim : FrameSimP S₁ S₂ R) (role : Role) (H : Hdr) {x : St σ₁} {y : St σ₂}
    (h : RelP R true x y) : SameP R (pollHead role S₁ H x) (pollHead role S₂ H y) := by
  obtain ⟨ho, hr⟩ := sameP_next sim h
  rw [pollHead_eq, pollHead_eq, ho]
  exact sameP_headOut role H _ hr

theorem sameP_dataOut {x : St σ₁} {y : St σ₂} (o : FOut) (h : RelP R (contOut o) x y) :
    SameP R (dataOut x o) (dataOut y o) := by
  cases o with
  -- a piece of data, the end of the payload: the pattern goes on, the states stay related
  | data d => exact ⟨rfl, fun _ => h.1 rfl, h.2⟩
  | none => exact ⟨rfl, fun _ => h.1 rfl, h.2⟩
  -- everything else ends it: only trailers and environment are compared
  | pending => exact ⟨rfl, h.weaken⟩
  | frame f => exact ⟨rfl, h.weaken⟩
  | _ => exact sameP_fsErr h _

theorem sameP_pollRecvData (sim : FrameSimP S₁ S₂ R) (fuel : Nat) :
    ∀ {x : St σ₁} {y : St σ₂}, RelP R true x y →
      SameP R (pollRecvData S₁ fuel x) (pollRecvData S₂ fuel y) := by
  induction fuel with
  | zero => intro x y h; exact ⟨rfl, h.weaken⟩
  | succ f ih =>
    intro x y h
    have hhd := sim.hasData _ _ (h.1 rfl)
    by_cases hd : S₂.hasData y.src = true
    · obtain ⟨ho, hr⟩ := sameP_data sim h
      rw [pollRecvData_has _ _ _ (hhd.trans hd), pollRecvData_has _ _ _ hd, ho]
      exact sameP_dataOut _ hr
    · obtain ⟨ho, hr⟩ := sameP_next sim h
      rw [pollRecvData_no _ _ _ (by rw [hhd]; exact hd), pollRecvData_no _ _ _ hd, ho]
      generalize (S₂.pollNext y.src).1 = o at hr
      cases o with
      | frame fr =>
        cases fr with
        | headers enc => exact ⟨rfl, fun _ => hr.1 rfl, rfl, hr.2.2⟩
        | data n => exact ih ⟨fun _ => hr.1 rfl, hr.2⟩
        | _ => exact sameP_connErr hr _
      | none => exact ⟨rfl, fun _ => hr.1 rfl, hr.2⟩
      | pending => exact ⟨rfl, hr.weaken⟩
      | data d => exact ⟨rfl, hr.weaken⟩
      | _ => exact sameP_fsErr hr _

theorem sameP_decodeTrailers (H : Hdr) {b : Bool} {x : St σ₁} {y : St σ₂} (h : RelP R b x y)
    (enc : Bytes) : SameP R (decodeTrailers H x enc) (decodeTrailers H y enc) := by
  unfold decodeTrailers
  cases H.trailer enc
  · exact ⟨rfl, h.weaken⟩
  · obtain ⟨_, ht, he⟩ := h
    exact ⟨rfl, relP_false ht (by simp [he])⟩
  · exact sameP_connErr h _

theorem sameP_checkOut (H : Hdr) (enc : Bytes) {x : St σ₁} {y : St σ₂} (o : FOut)
    (h : RelP R (contOut o) x y) : SameP R (checkOut H x enc o) (checkOut H y enc o) := by
  cases o with
  | frame fr => exact sameP_connErr h _
  | none => exact sameP_decodeTrailers H h enc
  | pending => exact ⟨rfl, relP_false rfl h.2.2⟩
  | data d => exact ⟨rfl, h.weaken⟩
  | _ => exact sameP_fsErr h _

theorem sameP_trailersTail (sim : FrameSimP S₁ S₂ R) (H : Hdr) {x : St σ₁} {y : St σ₂}
    (h : RelP R true x y) (hd : S₂.hasData y.src = false) (enc : Bytes) :
    SameP R (trailersTail S₁ H x enc) (trailersTail S₂ H y enc) := by
  obtain ⟨ho, hr⟩ := sameP_next sim h
  obtain ⟨hs, ht, he⟩ := h
  unfold trailersTail
  rw [trailersCheck_eq, trailersCheck_eq]
  cases h1 : S₁.isEos x.src <;> cases h2 : S₂.isEos y.src
  · simp only [Bool.false_eq_true, if_false]
    rw [ho]
    exact sameP_checkOut H enc _ hr
  · -- only the right side knows it is at the end: the left `poll_next` answers `None`
    obtain ⟨ho, hr⟩ := sim.eosR _ _ (hs rfl) h1 h2 hd
    simp only [Bool.false_eq_true, if_false, if_true]
    rw [ho]
    exact sameP_decodeTrailers H (show RelP R true { x with src := (S₁.pollNext x.src).2 } y from ⟨fun _ => hr, ht, he⟩) enc
  · obtain ⟨ho, hr⟩ := sim.eosL _ _ (hs rfl) h1 h2 hd
    simp only [Bool.false_eq_true, if_false, if_true]
    rw [ho]
    exact sameP_decodeTrailers H (show RelP R true x { y with src := (S₂.pollNext y.src).2 } from ⟨fun _ => hr, ht, he⟩) enc
  · simp only [if_true]
    exact sameP_decodeTrailers H (show RelP R true x y from ⟨hs, ht, he⟩) enc

theorem sameP_pollRecvTrailers (sim : FrameSimP S₁ S₂ R) (hS : HdrNoData S₂) (H : Hdr) {x : St σ₁}
    {y : St σ₂} (h : RelP R true x y) (hinv : y.trailers ≠ none → S₂.hasData y.src = false) :
    SameP R (pollRecvTrailers S₁ H x) (pollRecvTrailers S₂ H y) := by
  obtain ⟨ho, hr⟩ := sameP_next sim h
  have hlaw := hS y.src
  obtain ⟨hs, ht, he⟩ := h
  unfold pollRecvTrailers
  rw [ht]
  cases hy : y.trailers with
  | some enc =>
    exact sameP_trailersTail sim H
      (show RelP R true { x with trailers := none } { y with trailers := none } from ⟨hs, rfl, he⟩)
      (hinv (by simp [hy])) enc
  | none =>
    simp only [trailersFirst, ho]
    generalize (S₂.pollNext y.src).1 = o at hr hlaw
    cases o with
    | frame fr =>
      cases fr with
      | headers enc => exact sameP_trailersTail sim H ⟨fun _ => hr.1 rfl, hr.2⟩ (hlaw enc rfl) enc
      | _ => exact sameP_connErr hr _
    | none => exact ⟨rfl, hr.weaken⟩
    | pending => exact ⟨rfl, hr.weaken⟩
    | data d => exact ⟨rfl, hr.weaken⟩
    | _ => exact sameP_fsErr hr _

theorem sameP_drain (sim : FrameSimP S₁ S₂ R) (fuel : Nat) :
    ∀ {x : St σ₁} {y : St σ₂}, RelP R true x y →
      (drain S₁ fuel x).1 = (drain S₂ fuel y).1 ∧
      RelP R (decide ((drain S₂ fuel y).1.getLast? = some .end_)) (drain S₁ fuel x).2 (drain S₂ fuel y).2 := by
  induction fuel with
  | zero =>
    intro x y h
    exact ⟨rfl, h.weaken⟩
  | succ f ih =>
    intro x y h
    obtain ⟨hres, hrel⟩ := sameP_pollRecvData sim (f + 1) h
    have hne := drain_ne_nil S₂ f
    rw [drain, drain]
    rcases h1 : pollRecvData S₁ (f + 1) x with ⟨r1, x1⟩
    rcases h2 : pollRecvData S₂ (f + 1) y with ⟨r2, y1⟩
    rw [h1, h2] at hres hrel
    simp only at hres hrel
    subst hres
    cases r1 with
    | data d =>
      obtain ⟨h3, h4⟩ := ih (show RelP R true x1 y1 from hrel)
      refine ⟨by simp [h3], ?_⟩
      rw [List.getLast?_cons_of_ne_nil (hne y1)]
      exact h4
    | end_ => exact ⟨rfl, fun _ => hrel.1 rfl, hrel.2⟩
    | _ => exact ⟨rfl, hrel.weaken⟩

theorem sameP_bodyRun (sim : FrameSimP S₁ S₂ R) (hS : HdrNoData S₂) (H : Hdr) (fuel : Nat)
    {x : St σ₁} {y : St σ₂} (h : RelP R true x y) (hy : y.trailers = none) :
    bodyRun S₁ H fuel x = bodyRun S₂ H fuel y := by
  obtain ⟨h1, h2⟩ := sameP_drain sim fuel h
  unfold bodyRun
  simp only [h1]
  split
  · rename_i hlast
    have h2' : RelP R true (drain S₁ fuel x).2 (drain S₂ fuel y).2 := by
      simpa [hlast] using h2
    obtain ⟨h3, _, _, h4⟩ := sameP_pollRecvTrailers sim hS H h2' (drain_inv S₂ hS fuel y hy)
    simp [h3, h4]
  · simp [h2.2.2]

/-- the documented pattern sees no difference between two frame layers that answer alike as long
    as it goes on -/
theorem same_documentedP (sim : FrameSimP S₁ S₂ R) (hS : HdrNoData S₂) (role : Role) (H : Hdr)
    (fuel : Nat) {x : St σ₁} {y : St σ₂} (h : RelP R true x y) (hy : y.trailers = none) :
    documented role S₁ H fuel x = documented role S₂ H fuel y := by
  obtain ⟨hres, hrel⟩ := sameP_pollHead sim role H h
  have hy1 := pollHead_trailers role S₂ H y
  rw [hy] at hy1
  unfold documented
  rcases h1 : pollHead role S₁ H x with ⟨r1, x1⟩
  rcases h2 : pollHead role S₂ H y with ⟨r2, y1⟩
  rw [h1, h2] at hres hrel
  rw [h2] at hy1
  simp only at hres hrel hy1
  subst hres
  cases r1 with
  | head b => simp only [sameP_bodyRun sim hS H fuel (show RelP R true x1 y1 from hrel) hy1]
  | _ => simp [hrel.2.2]

theorem same_documented_fresh (sim : FrameSimP S₁ S₂ R) (hS : HdrNoData S₂) (role : Role) (H : Hdr)
    (fuel : Nat) {c : σ₁} {d : σ₂} (h : R c d) :
    documented role S₁ H fuel { src := c } = documented role S₂ H fuel { src := d } :=
  same_documentedP sim hS role H fuel ⟨fun _ => h, rfl, rfl⟩ rfl

end H3.ReqRecv
