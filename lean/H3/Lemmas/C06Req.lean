import H3.Lemmas.C06Frame
import H3.Lemmas.ReqRecv
/-! The documented receive pattern of a request stream (`H3.ReqRecv` over `fsSrc`) for C06.  Every call is a
    chain of frame-layer polls (`NextPoll`, `DataPoll`) whose last answer ends the pattern (`final`), is `Pending`,
    or is a value; the `*_cases` / `_ind` principles say so once per call, and the properties, all closed under
    `final`, are read off them. -/
namespace H3.C06
open H3.ReqRecv H3.Frame
open H3.Lemmas.C04 (ScriptWF)

abbrev RSt := H3.ReqRecv.St FSt

inductive Phase where
  | head | body | trailers
deriving Repr, DecidableEq

def pollPhase (role : Role) (H : Hdr) (N : Nat) : Phase → RSt → Res × RSt
  | .head, st => pollHead role fsSrc H st
  | .body, st => pollRecvData fsSrc N st
  | .trailers, st => pollRecvTrailers fsSrc H st

/-- what the application does with an answer: `none` = the pattern has ended (the last call
    answered, or a call failed); `Pending` = the same call is polled again when the task is woken -/
def nextPhase : Phase → Res → Option Phase
  | ph, .pending => some ph
  | .head, .head _ => some .body
  | .body, .data _ => some .body
  | .body, .end_ => some .trailers
  | _, _ => none

/-- the invariant that keeps the `assert!(remaining_data == 0)` of `poll_next` from firing: before the head
    and before the trailers `remaining_data = 0`; while the body is read `remaining_data < 2^62`, so
    `poll_data` never takes the WebTransport branch that answers `None` with data outstanding -/
def PhaseOK : Phase → RSt → Prop
  | .head, st => st.src.1.remaining = 0
  | .body, st => st.src.1.remaining < 2 ^ 62
  | .trailers, st => st.src.1.remaining = 0

def WFSt (st : RSt) : Prop := BufWF st.src.1 ∧ ScriptWF st.src.2

/-- the end of the stream has been read (`eos`), or an error is what the transport answers next — `reset x`: a
    RESET_STREAM, or the connection error of a closed connection as `Model/ConnClose.lean` lowers it to a `reset`
    (`atEnd_closed` in `Lemmas/ConnClose.lean` connects the two) -/
def AtEnd (c : FSt) : Prop := c.1.eos = true ∨ ∃ x r, c.2 = .reset x :: r

def final : Res → Bool
  | .trailers _ | .noTrailers | .errConn _ | .errStream _ | .errReset _ => true
  | _ => false

theorem final_ne_panic {r : Res} (h : final r = true) : r ≠ .panic := by rintro rfl; cases h

theorem final_ne_pending {r : Res} (h : final r = true) : r ≠ .pending := by rintro rfl; cases h

theorem final_ne_invalid {r : Res} (h : final r = true) : r ≠ .invalid := by rintro rfl; cases h

theorem nextPhase_final {ph : Phase} {r : Res} (h : final r = true) : nextPhase ph r = none := by
  cases ph <;> cases r <;> first | rfl | cases h

theorem connErr_final (st : RSt) (c : Nat) : final (connErr st c).1 = true := by
  unfold connErr; split <;> rfl

theorem decodeTrailers_final (H : Hdr) (st : RSt) (enc : Bytes) : final (decodeTrailers H st enc).1 = true := by
  unfold decodeTrailers; split <;> first | rfl | exact connErr_final _ _

theorem fs_next (c : FSt) (o : FOut) (s' : FS.St) (r : List FS.Ev)
    (h : FS.pollNext FS.frameDec c.1 c.2 = (o, s', r)) : fsSrc.pollNext c = (o, (s', r)) :=
  fs_pollNext _ _ o s' r h

theorem fs_data (c : FSt) (o : FOut) (s' : FS.St) (r : List FS.Ev)
    (h : FS.pollData (F := Frame) (E := FrameErr) c.1 c.2 = (o, s', r)) : fsSrc.pollData c = (o, (s', r)) :=
  fs_pollData _ _ o s' r h

structure NextPoll (c : FSt) (o : FOut) (c' : FSt) : Prop where
  rem0 : c.1.remaining = 0
  eq : FS.pollNext FS.frameDec c.1 c.2 = (o, c'.1, c'.2)
  safe : NextSafe FS.frameDec c.1 c.2 o c'.1 c'.2

theorem nextPoll (c : FSt) (h0 : c.1.remaining = 0) : NextPoll c (fsSrc.pollNext c).1 (fsSrc.pollNext c).2 :=
  ⟨h0, rfl, pollNext_safe FS.frameDec c.1 c.2 h0⟩

structure DataPoll (c : FSt) (o : FOut) (c' : FSt) : Prop where
  rem : c.1.remaining ≠ 0
  eq : FS.pollData (F := Frame) (E := FrameErr) c.1 c.2 = (o, c'.1, c'.2)
  safe : DataSafe (F := Frame) (E := FrameErr) c.1 c.2 o c'.1 c'.2

theorem dataPoll (c : FSt) (h : c.1.remaining ≠ 0) : DataPoll c (fsSrc.pollData c).1 (fsSrc.pollData c).2 :=
  ⟨h, rfl, pollData_safe c.1 c.2⟩

theorem hasData_iff (c : FSt) : fsSrc.hasData c = true ↔ c.1.remaining ≠ 0 := by simp [fsSrc]

theorem atEnd_poll {c c' : FSt} {o : FOut} (hE : AtEnd c)
    (hsticky : c.1.eos = true → c'.1.eos = true ∧ o ≠ .pending)
    (hreset : ∀ x r, c.2 = .reset x :: r → c.1.eos = false → o = .errQuic x) :
    o ≠ .pending ∧ (FS.Out.isErr o = false → AtEnd c') := by
  cases he : c.1.eos with
  | true => exact ⟨(hsticky he).2, fun _ => Or.inl (hsticky he).1⟩
  | false =>
    rcases hE with h | ⟨x, r, hr⟩
    · rw [he] at h; cases h
    · rw [hreset x r hr he]
      exact ⟨by simp, fun h => by cases h⟩

theorem NextPoll.atEnd {c c' : FSt} {o : FOut} (q : NextPoll c o c') (hE : AtEnd c) :
    o ≠ .pending ∧ (FS.Out.isErr o = false → AtEnd c') :=
  atEnd_poll hE (fun h => ⟨(q.safe.sticky h).1, (q.safe.sticky h).2.1⟩) (fun x r hr he => by
    have := q.eq
    rw [hr, pollNext_reset FS.frameDec c.1 x r q.rem0 he] at this
    exact (congrArg Prod.fst this).symm)

theorem DataPoll.atEnd {c c' : FSt} {o : FOut} (q : DataPoll c o c') (hE : AtEnd c) :
    o ≠ .pending ∧ (FS.Out.isErr o = false → AtEnd c') :=
  atEnd_poll hE (fun h => ⟨(q.safe.sticky h).1, (q.safe.sticky h).2.1⟩) (fun x r hr he => by
    have := q.eq
    rw [hr, pollData_reset c.1 x r q.rem he] at this
    exact (congrArg Prod.fst this).symm)

/-- the last branch of every call, `e => fsErr st e`: behind `poll_next` an answer that is no frame, not `None`, not
    `Pending` is an error (never the `assert!`, never a piece of data), and `fsErr` makes of it an answer that ends
    the pattern -/
theorem NextPoll.other {c c' : FSt} {o : FOut} (q : NextPoll c o c') (st : RSt) :
    match o with
    | .frame _ | .none | .pending => True
    | e => final (fsErr st e).1 = true := by
  have hout := q.safe.out
  cases o with
  | panic => exact hout.elim
  | data d => exact hout.elim
  | errProto e => exact connErr_final _ _
  | errEnd => exact connErr_final _ _
  | errQuic c => rfl
  | _ => trivial

theorem DataPoll.other {c c' : FSt} {o : FOut} (q : DataPoll c o c') (st : RSt) :
    match o with
    | .data _ | .none | .pending => True
    | e => final (fsErr st e).1 = true := by
  have hout := q.safe.out
  cases o with
  | frame f => exact hout.elim
  | errProto e => exact hout.elim
  | panic => exact hout.elim
  | errEnd => exact connErr_final _ _
  | errQuic c => rfl
  | _ => trivial

theorem pollHead_cases (role : Role) (H : Hdr) (st : RSt) (h0 : st.src.1.remaining = 0) {P : Res × RSt → Prop}
    (hfin : ∀ x : Res × RSt, final x.1 = true → P x)
    (hpend : ∀ c', NextPoll st.src .pending c' → P (.pending, { st with src := c' }))
    (hhead : ∀ enc c', NextPoll st.src (.frame (.headers enc)) c' → P (.head enc, { st with src := c' })) :
    P (pollHead role fsSrc H st) := by
  have q := nextPoll st.src h0
  rw [pollHead_eq]
  rcases hp : fsSrc.pollNext st.src with ⟨o, c'⟩
  rw [hp] at q
  -- the two roles differ in the error they make of a missing or malformed head, not in which answers are errors
  cases role <;> cases o with
  | frame f =>
    cases f with
    | headers enc =>
      simp only [headOut, pollHead, pollResolve, pollRecvResponse, oneSrc]
      cases H.head enc with
      | ok => exact hhead enc c' q
      | malformed => exact hfin _ rfl
      | qpack => exact hfin _ (connErr_final _ _)
    | _ => exact hfin _ (connErr_final _ _)
  | none => exact hfin _ rfl
  | pending => exact hpend c' q
  | _ => exact hfin _ (q.other _)

/-- `hskip`: `poll_next` answered a DATA header (any length `k`); the loop goes on, bound one less, from the state with
    `remaining_data = k` -/
theorem pollRecvData_ind {P : Nat → RSt → Res × RSt → Prop}
    (hzero : ∀ st, P 0 st (.invalid, st))
    (hfin : ∀ n st (x : Res × RSt), final x.1 = true → P n st x)
    (hdata : ∀ n st d c', DataPoll st.src (.data d) c' → P n st (.data d, { st with src := c' }))
    (hdend : ∀ n st c', DataPoll st.src .none c' → P n st (.end_, { st with src := c' }))
    (hdpend : ∀ n st c', DataPoll st.src .pending c' → P n st (.pending, { st with src := c' }))
    (hhdr : ∀ n st enc c', NextPoll st.src (.frame (.headers enc)) c' →
      P n st (.end_, { st with src := c', trailers := some enc }))
    (hskip : ∀ n st k c' x, NextPoll st.src (.frame (.data k)) c' → P n { st with src := c' } x → P (n + 1) st x)
    (hnone : ∀ n st c', NextPoll st.src .none c' → P n st (.end_, { st with src := c' }))
    (hpend : ∀ n st c', NextPoll st.src .pending c' → P n st (.pending, { st with src := c' })) :
    ∀ (n : Nat) (st : RSt), P n st (pollRecvData fsSrc n st) := by
  intro n
  induction n with
  | zero => exact hzero
  | succ n ih =>
    intro st
    rw [pollRecvData]
    by_cases hd : fsSrc.hasData st.src = true
    · rw [if_pos hd]
      have q := dataPoll st.src ((hasData_iff _).mp hd)
      rcases hp : fsSrc.pollData st.src with ⟨o, c'⟩
      rw [hp] at q
      cases o with
      | data d => exact hdata _ st d c' q
      | none => exact hdend _ st c' q
      | pending => exact hdpend _ st c' q
      | _ => exact hfin _ _ _ (q.other _)
    · rw [if_neg hd]
      have q := nextPoll st.src (by simpa [fsSrc] using hd)
      rcases hp : fsSrc.pollNext st.src with ⟨o, c'⟩
      rw [hp] at q
      cases o with
      | frame f =>
        cases f with
        | headers enc => exact hhdr _ st enc c' q
        | data k => exact hskip n st k c' _ q (ih _)
        | _ => exact hfin _ _ _ (connErr_final _ _)
      | none => exact hnone _ st c' q
      | pending => exact hpend _ st c' q
      | _ => exact hfin _ _ _ (q.other _)

/-- `hlook`: the look behind the trailer block `enc` is `Pending`; the block was saved by `recv_data` (`c1` is where
    the call started) or has just been read (`c1` is behind its frame) -/
theorem pollRecvTrailers_cases (H : Hdr) (st : RSt) (h0 : st.src.1.remaining = 0) {P : Res × RSt → Prop}
    (hfin : ∀ x : Res × RSt, final x.1 = true → P x)
    (hpend : ∀ c', NextPoll st.src .pending c' → P (.pending, { st with src := c' }))
    (hlook : ∀ enc c1 c', c1 = st.src ∨ NextPoll st.src (.frame (.headers enc)) c1 → NextPoll c1 .pending c' →
      P (.pending, { st with src := c', trailers := some enc })) :
    P (pollRecvTrailers fsSrc H st) := by
  have tail : ∀ enc c1, c1 = st.src ∨ NextPoll st.src (.frame (.headers enc)) c1 →
      P (trailersTail fsSrc H { st with src := c1, trailers := none } enc) := by
    intro enc c1 h1
    have h01 : c1.1.remaining = 0 := h1.elim (fun h => h ▸ h0) (fun q => q.safe.rem)
    unfold trailersTail
    split
    · exact hfin _ (decodeTrailers_final _ _ _)
    · rw [trailersCheck_eq]
      have q := nextPoll c1 h01
      rcases hp : fsSrc.pollNext c1 with ⟨o, c'⟩
      rw [hp] at q
      cases o with
      | frame f => exact hfin _ (connErr_final _ _)
      | none => exact hfin _ (decodeTrailers_final _ _ _)
      | pending => exact hlook enc c1 c' h1 q
      | _ => exact hfin _ (q.other _)
  unfold pollRecvTrailers
  cases ht : st.trailers with
  | some enc => exact tail enc st.src (.inl rfl)
  | none =>
    dsimp only
    unfold trailersFirst
    have q := nextPoll st.src h0
    rcases hp : fsSrc.pollNext st.src with ⟨o, c'⟩
    rw [hp] at q
    cases o with
    | frame f =>
      cases f with
      | headers enc =>
        have := tail enc c' (.inr q)
        rw [← ht] at this
        exact this
      | _ => exact hfin _ (connErr_final _ _)
    | none => exact hfin _ rfl
    | pending => exact hpend c' q
    | _ => exact hfin _ (q.other _)

/-- `st` is where the call started -/
structure StepOK (ph : Phase) (st : RSt) (x : Res × RSt) : Prop where
  noPanic : x.1 ≠ .panic
  pendOpen : x.1 = .pending → x.2.src.1.eos = false
  next : ∀ ph', nextPhase ph x.1 = some ph' → PhaseOK ph' x.2 ∧ WFSt x.2
  atEnd : AtEnd st.src → x.1 ≠ .pending ∧ ∀ ph', nextPhase ph x.1 = some ph' → AtEnd x.2.src

theorem stepOK_final {ph : Phase} {st : RSt} {x : Res × RSt} (h : final x.1 = true) : StepOK ph st x :=
  ⟨final_ne_panic h, fun hp => absurd hp (final_ne_pending h),
    fun ph' hn => (by rw [nextPhase_final h] at hn; cases hn),
    fun _ => ⟨final_ne_pending h, fun ph' hn => (by rw [nextPhase_final h] at hn; cases hn)⟩⟩

theorem nextPhase_pending {ph ph' : Phase} (h : nextPhase ph .pending = some ph') : ph' = ph := by
  cases ph <;> simp [nextPhase] at h <;> exact h.symm

theorem phaseOK_congr {ph : Phase} {st st' : RSt} (h : st'.src.1.remaining = st.src.1.remaining)
    (hok : PhaseOK ph st) : PhaseOK ph st' := by
  cases ph <;> simp only [PhaseOK] at hok ⊢ <;> rw [h] <;> exact hok

/-- what a call answers from a state `st'` it has moved to stands for the call from its start `st` -/
theorem StepOK.of_later {ph : Phase} {st st' : RSt} {x : Res × RSt} (h : StepOK ph st' x)
    (hsrc : AtEnd st.src → AtEnd st'.src) : StepOK ph st x :=
  ⟨h.noPanic, h.pendOpen, h.next, fun hE => h.atEnd (hsrc hE)⟩

theorem stepOK_pending {ph : Phase} {st st' : RSt} (q : NextPoll st.src .pending st'.src)
    (hok : PhaseOK ph st) (hwf : WFSt st) : StepOK ph st (.pending, st') := by
  refine ⟨by simp, fun _ => q.safe.pend rfl, fun ph' hn => ?_, fun hE => absurd rfl (q.atEnd hE).1⟩
  rw [nextPhase_pending hn]
  exact ⟨phaseOK_congr q.safe.rem hok, (q.safe.wf hwf.1 hwf.2).1, (q.safe.wf hwf.1 hwf.2).2.1⟩

theorem stepOK_value {ph ph' : Phase} {st st' : RSt} {o : FOut} {r : Res} (q : NextPoll st.src o st'.src)
    (hwf : WFSt st) (hr : nextPhase ph r = some ph') (hne : r ≠ .pending) (hnp : r ≠ .panic)
    (ho : FS.Out.isErr o = false) (hok : PhaseOK ph' st') : StepOK ph st (r, st') :=
  ⟨hnp, fun h => absurd h hne,
    fun ph'' hn => by
      rw [hr] at hn; cases hn
      exact ⟨hok, (q.safe.wf hwf.1 hwf.2).1, (q.safe.wf hwf.1 hwf.2).2.1⟩,
    fun hE => ⟨hne, fun _ _ => (q.atEnd hE).2 ho⟩⟩

theorem pollHead_safe (role : Role) (H : Hdr) (st : RSt) (h0 : st.src.1.remaining = 0) (hwf : WFSt st) :
    StepOK .head st (pollHead role fsSrc H st) :=
  pollHead_cases role H st h0 (fun _ => stepOK_final)
    (fun _ q => stepOK_pending q h0 hwf)
    (fun _ _ q => stepOK_value q hwf rfl (by simp) (by simp) rfl (by simp [PhaseOK, show _ = 0 from q.safe.rem]))

theorem pollRecvData_safe (N : Nat) (st : RSt) (hlt : st.src.1.remaining < 2 ^ 62) (hwf : WFSt st) :
    StepOK .body st (pollRecvData fsSrc N st) := by
  revert hlt hwf
  -- the bullets are the hypotheses of `pollRecvData_ind` in its order: hzero hfin hdata hdend hdpend hhdr hskip hnone hpend
  refine pollRecvData_ind (P := fun _ st x => st.src.1.remaining < 2 ^ 62 → WFSt st → StepOK .body st x)
    ?_ ?_ ?_ ?_ ?_ ?_ ?_ ?_ ?_ N st
  · exact fun st _ _ => ⟨by simp, by simp, by simp [nextPhase], fun _ => ⟨by simp, by simp [nextPhase]⟩⟩
  · exact fun _ _ _ h _ _ => stepOK_final h
  · intro _ st d c' q hlt hwf
    have hrem : c'.1.remaining = st.src.1.remaining - d.length := q.safe.out
    refine ⟨by simp, by simp, fun ph' hn => ?_, fun hE => ⟨by simp, fun _ _ => (q.atEnd hE).2 rfl⟩⟩
    cases hn
    exact ⟨by simp only [PhaseOK]; omega, q.safe.wf hwf.1 hwf.2⟩
  · -- `poll_data` answers `None` only with nothing outstanding or on a WebTransport stream (`usize::MAX`)
    intro _ st c' q hlt _
    have hrem : st.src.1.remaining = 0 ∨ st.src.1.remaining = FS.USIZE_MAX := (show _ ∧ _ from q.safe.out).2
    rcases hrem with hz | hm
    · exact absurd hz q.rem
    · rw [hm] at hlt; simp [FS.USIZE_MAX] at hlt
  · intro _ st c' q hlt hwf
    have hrem : c'.1.remaining = st.src.1.remaining := q.safe.out
    refine ⟨by simp, fun _ => q.safe.pend rfl, fun ph' hn => ?_, fun hE => absurd rfl (q.atEnd hE).1⟩
    cases hn
    exact ⟨by simp only [PhaseOK]; omega, q.safe.wf hwf.1 hwf.2⟩
  · exact fun _ st enc c' q _ hwf =>
      stepOK_value q hwf rfl (by simp) (by simp) rfl (by simp [PhaseOK, show _ = 0 from q.safe.rem])
  · -- a DATA header: its length `k` is a varint (`< 2^62`), so the loop goes on inside the invariant
    intro _ st k c' x q ih _ hwf
    obtain ⟨hb, hs, hf⟩ := q.safe.wf hwf.1 hwf.2
    obtain ⟨b, j, hbw, hdec⟩ := hf _ rfl
    have hk : k < 2 ^ 62 := frameDec_data_bound b hbw k j hdec
    have hrem : c'.1.remaining = k := q.safe.rem
    exact (ih (by simp only; omega) ⟨hb, hs⟩).of_later fun hE => (q.atEnd hE).2 rfl
  · exact fun _ st c' q _ hwf => stepOK_value q hwf rfl (by simp) (by simp) rfl
      (by simp only [PhaseOK]; rw [show c'.1.remaining = st.src.1.remaining from q.safe.rem, q.rem0])
  · exact fun _ st c' q hlt hwf => stepOK_pending q hlt hwf

theorem pollRecvTrailers_safe (H : Hdr) (st : RSt) (h0 : st.src.1.remaining = 0) (hwf : WFSt st) :
    StepOK .trailers st (pollRecvTrailers fsSrc H st) := by
  refine pollRecvTrailers_cases H st h0 (fun _ => stepOK_final) (fun _ q => stepOK_pending q h0 hwf) ?_
  rintro enc c1 c' (rfl | q1) q
  · exact stepOK_pending (st := st) q h0 hwf
  · exact StepOK.of_later (st' := { st with src := c1 })
      (stepOK_pending q q1.safe.rem ⟨(q1.safe.wf hwf.1 hwf.2).1, (q1.safe.wf hwf.1 hwf.2).2.1⟩)
      fun hE => (q1.atEnd hE).2 rfl

theorem pollPhase_safe (role : Role) (H : Hdr) (N : Nat) (ph : Phase) (st : RSt) (hok : PhaseOK ph st)
    (hwf : WFSt st) : StepOK ph st (pollPhase role H N ph st) := by
  cases ph with
  | head => exact pollHead_safe role H st hok hwf
  | body => exact pollRecvData_safe N st hok hwf
  | trailers => exact pollRecvTrailers_safe H st hok hwf

def rank : Phase → Nat
  | .head => 2
  | .body => 1
  | .trailers => 0

def muS (st : RSt) : Nat := mu st.src.1 st.src.2
def GoodS (st : RSt) : Prop := Good FS.frameDec st.src.1 st.src.2
def EndsS (st : RSt) : Prop := Ends st.src.1 st.src.2

/-- `N` = the bound handed to `poll_recv_data`'s loop over DATA headers -/
structure StepLive (N : Nat) (ph : Phase) (st : RSt) (x : Res × RSt) : Prop where
  fuel : x.1 = .invalid → N ≤ muS st
  next : ∀ ph', nextPhase ph x.1 = some ph' →
    GoodS x.2 ∧ (EndsS st → EndsS x.2) ∧ muS x.2 ≤ muS st ∧
    (x.1 = .pending → x.2.src.2 ≠ [] → muS x.2 < muS st) ∧
    (x.1 ≠ .pending → rank ph' + muS x.2 < rank ph + muS st)

theorem stepLive_final {N : Nat} {ph : Phase} {st : RSt} {x : Res × RSt} (h : final x.1 = true) :
    StepLive N ph st x :=
  ⟨fun hi => absurd hi (final_ne_invalid h), fun ph' hn => (by rw [nextPhase_final h] at hn; cases hn)⟩

theorem NextPoll.live {c c' : FSt} {o : FOut} (q : NextPoll c o c') (hG : Good FS.frameDec c.1 c.2) :
    (Ends c.1 c.2 → Ends c'.1 c'.2) ∧ NextLive FS.frameDec c.1 c.2 c'.1 c'.2 o :=
  pollNext_live FS.frameDec FS.frameDec_laws c.1 c.2 hG q.rem0 o c'.1 c'.2 q.eq

theorem DataPoll.live {c c' : FSt} {o : FOut} (q : DataPoll c o c') (hG : Good FS.frameDec c.1 c.2) :
    (Ends c.1 c.2 → Ends c'.1 c'.2) ∧ DataLive FS.frameDec c.1 c.2 c'.1 c'.2 o :=
  pollData_live FS.frameDec c.1 c.2 hG o c'.1 c'.2 q.eq

/-- what a call answers from a state `st'` it has moved to stands for the call from its start `st`; the bound may
    grow by what the measure has lost on the way -/
theorem StepLive.of_later {n k : Nat} {ph : Phase} {st st' : RSt} {x : Res × RSt} (h : StepLive n ph st' x)
    (hE : EndsS st → EndsS st') (hmu : muS st' + k ≤ muS st) : StepLive (n + k) ph st x := by
  refine ⟨fun hi => ?_, fun ph' hp => ?_⟩
  · have := h.fuel hi
    omega
  · obtain ⟨h1, h2, h3, h4, h5⟩ := h.next ph' hp
    exact ⟨h1, fun hE0 => h2 (hE hE0), by omega, fun hp' hr => by have := h4 hp' hr; omega,
      fun hnp => by have := h5 hnp; omega⟩

theorem stepLive_pending {N : Nat} {ph : Phase} {st st' : RSt} (hE : EndsS st → EndsS st')
    (hL : GoodS st' ∧ muS st' ≤ muS st ∧ (st.src.2 ≠ [] → muS st' < muS st) ∧ (st.src.2 = [] → st'.src.2 = [])) :
    StepLive N ph st (.pending, st') :=
  ⟨by simp, fun ph' _ => ⟨hL.1, hE, hL.2.1, fun _ hr => hL.2.2.1 (fun hnil => hr (hL.2.2.2 hnil)),
    fun h => absurd rfl h⟩⟩

theorem stepLive_value {N : Nat} {ph ph' : Phase} {st st' : RSt} {r : Res} (hr : nextPhase ph r = some ph')
    (hne : r ≠ .pending) (hni : r ≠ .invalid) (hG : GoodS st') (hE : EndsS st → EndsS st')
    (hmu : rank ph' + muS st' < rank ph + muS st) (hle : muS st' ≤ muS st) : StepLive N ph st (r, st') :=
  ⟨fun h => absurd h hni, fun ph'' hn => by
    rw [hr] at hn; cases hn
    exact ⟨hG, hE, hle, fun h => absurd h hne, fun _ => hmu⟩⟩

theorem pollHead_live (role : Role) (H : Hdr) (N : Nat) (st : RSt) (h0 : st.src.1.remaining = 0)
    (hG : GoodS st) : StepLive N .head st (pollHead role fsSrc H st) :=
  pollHead_cases role H st h0 (fun _ => stepLive_final)
    (fun _ q => stepLive_pending (q.live hG).1 (q.live hG).2)
    (fun _ _ q =>
      have hL : Good FS.frameDec _ _ ∧ mu _ _ < mu st.src.1 st.src.2 := (q.live hG).2
      stepLive_value rfl (by simp) (by simp) hL.1 (q.live hG).1 (by simp only [rank, muS]; omega)
        (Nat.le_of_lt hL.2))

theorem pollRecvData_live (N : Nat) (st : RSt) (hG : GoodS st) : StepLive N .body st (pollRecvData fsSrc N st) := by
  revert hG
  -- the bullets: hzero hfin hdata hdend hdpend hhdr hskip hnone hpend, as in `pollRecvData_safe`
  refine pollRecvData_ind (P := fun n st x => GoodS st → StepLive n .body st x) ?_ ?_ ?_ ?_ ?_ ?_ ?_ ?_ ?_ N st
  · exact fun st _ => ⟨fun _ => Nat.zero_le _, by simp [nextPhase]⟩
  · exact fun _ _ _ h _ => stepLive_final h
  · intro _ st d c' q hG
    have hL : d ≠ [] ∧ Good FS.frameDec c'.1 c'.2 ∧ mu c'.1 c'.2 < mu st.src.1 st.src.2 := (q.live hG).2
    exact stepLive_value rfl (by simp) (by simp) hL.2.1 (q.live hG).1 (by simp only [rank, muS]; omega)
      (Nat.le_of_lt hL.2.2)
  · intro _ st c' q hG
    have hL : Good FS.frameDec c'.1 c'.2 ∧ mu c'.1 c'.2 ≤ mu st.src.1 st.src.2 := (q.live hG).2
    exact stepLive_value rfl (by simp) (by simp) hL.1 (q.live hG).1 (by simp only [rank, muS]; omega) hL.2
  · exact fun _ st c' q hG => stepLive_pending (st' := { st with src := c' }) (q.live hG).1 (q.live hG).2
  · intro _ st enc c' q hG
    have hL : Good FS.frameDec c'.1 c'.2 ∧ mu c'.1 c'.2 < mu st.src.1 st.src.2 := (q.live hG).2
    exact stepLive_value rfl (by simp) (by simp) hL.1 (q.live hG).1 (by simp only [rank, muS]; omega)
      (Nat.le_of_lt hL.2)
  · -- a DATA header costs the loop one round and the measure at least one
    intro n st k c' x q ih hG
    have hL : Good FS.frameDec c'.1 c'.2 ∧ mu c'.1 c'.2 < mu st.src.1 st.src.2 := (q.live hG).2
    exact (ih hL.1).of_later (q.live hG).1 hL.2
  · intro _ st c' q hG
    have hL : Good FS.frameDec c'.1 c'.2 ∧ mu c'.1 c'.2 ≤ mu st.src.1 st.src.2 := (q.live hG).2
    exact stepLive_value rfl (by simp) (by simp) hL.1 (q.live hG).1 (by simp only [rank, muS]; omega) hL.2
  · exact fun _ st c' q hG => stepLive_pending (st' := { st with src := c' }) (q.live hG).1 (q.live hG).2

theorem pollRecvTrailers_live (H : Hdr) (N : Nat) (st : RSt) (h0 : st.src.1.remaining = 0) (hG : GoodS st) :
    StepLive N .trailers st (pollRecvTrailers fsSrc H st) := by
  refine pollRecvTrailers_cases H st h0 (fun _ => stepLive_final)
    (fun _ q => stepLive_pending (q.live hG).1 (q.live hG).2) ?_
  rintro enc c1 c' (rfl | q1) q
  · exact stepLive_pending (st := st) (q.live hG).1 (q.live hG).2
  · have hL : Good FS.frameDec c1.1 c1.2 ∧ mu c1.1 c1.2 < mu st.src.1 st.src.2 := (q1.live hG).2
    exact StepLive.of_later (st' := { st with src := c1 }) (k := 0) (stepLive_pending (q.live hL.1).1 (q.live hL.1).2)
      (q1.live hG).1 (Nat.le_of_lt hL.2)

theorem pollPhase_live (role : Role) (H : Hdr) (N : Nat) (ph : Phase) (st : RSt) (hok : PhaseOK ph st)
    (hG : GoodS st) : StepLive N ph st (pollPhase role H N ph st) := by
  cases ph with
  | head => exact pollHead_live role H N st hok hG
  | body => exact pollRecvData_live N st hG
  | trailers => exact pollRecvTrailers_live H N st hok hG

end H3.C06
