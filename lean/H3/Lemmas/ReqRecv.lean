import H3.Model.ReqRecv
import H3.Lemmas.FrameStream
import H3.Spec.ReqSeq
/-! How a model trace is read as the specification's observable outcome (`observe`); every poll of the
    request layer as a handler applied to ONE answer of the frame layer (`headOut`, `dataOut`, `nextOut`,
    `checkOut`); and the request layer over the token source against the recogniser (`recv_spec`).  Then, for any
    frame layer: trailers are saved only with no DATA payload pending (`HdrNoData`, `pollRecvData_inv`, `drain_inv`);
    over `FrameStream`'s model the RESET that comes next (`pollRecvData_reset`); frame layers that answer alike (`FrameSim`). -/
namespace H3.ReqRecv
open H3.Frame H3.Gen.Consts
open H3.Spec.ReqSeq

def kind : Tok → K
  | .headers b => .H b
  | .data n ps => if ps.flatten.length < n then .Dpart ps.flatten else .D ps.flatten
  | .unknown _ _ => .U
  | .cancelPush _ => .X
  | .settings _ => .X
  | .goaway _ => .X
  | .maxPushId _ => .X
  | .pushPromise _ _ => .P
  | .bad (.unsupported _) => .R
  | .bad .malformed => .M
  | .bad (.settings _) => .S

def stopOf : Ending → Stop
  | .fin => .fin
  | .truncated => .truncated
  | .reset c => .reset c
  | .open_ => .open_

def sideOf : Role → Side
  | .server => .server
  | .client => .client

def resObs : Res → List Obs
  | .trailers b => [.trailers b]
  | .noTrailers => [.noTrailers]
  | .errConn c => [.connError c]
  | .errStream c => [.streamError c]
  | .errReset c => [.resetBy c]
  | .pending => [.pending]
  | _ => []

/-- every byte handed to the application by the `recv_data` calls, in call order -/
def bodyBytes : List Res → Bytes
  | [] => []
  | .data d :: r => d ++ bodyBytes r
  | _ :: r => bodyBytes r

def tailObs (rs : List Res) (t : Option Res) : List Obs :=
  match rs.getLast? with
  | some .end_ => .bodyEnd :: (match t with | some r => resObs r | none => [])
  | some r => resObs r
  | none => []

def observe (t : Trace) : Outcome :=
  { calls := match t.head with
      | .head b => [.head b, .body (bodyBytes t.body)] ++ tailObs t.body t.trailers
      | r => resObs r
    connError := t.env.cell
    streamReset := t.env.rst }

def TokWF : Tok → Prop
  | .data n ps => (∀ p ∈ ps, p ≠ []) ∧ ps.flatten.length ≤ n
  | _ => True

instance (tok : Tok) : Decidable (TokWF tok) := by
  cases tok <;> simp only [TokWF] <;> exact inferInstance

/-- The position-blind reading of "the HEADERS blocks decode to well-formed messages": every block
    is acceptable both as a message head and as a trailer section.  With a faithful oracle no block
    is (a head needs `:method` / `:status`, a trailer section must not carry any pseudo-header
    field), so a hypothesis `∀ tok ∈ toks, HdrOk H tok` only covers sequences without any HEADERS
    frame.  C07's `_partial` theorem is stated with it; the positional hypothesis `HdrsOk` below is
    weaker: `hdrsOk_of_hdrOk`. -/
def HdrOk (H : Hdr) : Tok → Prop
  | .headers b => H.head b = .ok ∧ H.trailer b = .ok
  | _ => True

inductive HPos where
  /-- no HEADERS frame yet: the next one is the message head -/
  | head
  /-- the head has been seen: the next HEADERS frame is the trailer section -/
  | trailers
deriving Repr, DecidableEq

/-- The header oracle accepts the blocks the request layer decodes, each in ITS position (decided
    by C11/C12): the FIRST HEADERS frame of the sequence decodes to a well-formed message head,
    the SECOND one to a well-formed trailer section.  Nothing is asked of a block in the other
    position, nothing of a third HEADERS frame (it is refused without being decoded).  Stated on
    the recogniser's alphabet so that it can be read off the frame sequence (`HdrsOk`) and off
    the reference automaton's tokens over the wire bytes (`kindsOf`) alike. -/
def HdrsOkK (H : Hdr) : HPos → List K → Prop
  | _, [] => True
  | .head, .H b :: r => H.head b = .ok ∧ HdrsOkK H .trailers r
  | .trailers, .H b :: _ => H.trailer b = .ok
  | p, .D _ :: r => HdrsOkK H p r
  | p, .Dpart _ :: r => HdrsOkK H p r
  | p, .U :: r => HdrsOkK H p r
  | p, .X :: r => HdrsOkK H p r
  | p, .P :: r => HdrsOkK H p r
  | p, .R :: r => HdrsOkK H p r
  | p, .M :: r => HdrsOkK H p r
  | p, .S :: r => HdrsOkK H p r
  | p, .W :: r => HdrsOkK H p r
  | p, .Wpart :: r => HdrsOkK H p r

def HdrsOk (H : Hdr) (toks : List Tok) : Prop := HdrsOkK H .head (toks.map kind)

abbrev mk (items : List Item) (term : Term) (rem : Nat) (tr : Option Bytes) (env : Env) : St TS :=
  { src := { items := items, term := term, rem := rem }, trailers := tr, env := env }

@[simp] theorem tok_hasData (a : TS) : tokSrc.hasData a = (a.rem != 0) := rfl
@[simp] theorem tok_isEos (a : TS) : tokSrc.isEos a = false := rfl

theorem tok_next_frame (f : Frame) (r : List Item) (t : Term) :
    tokSrc.pollNext { items := .frame f :: r, term := t, rem := 0 } =
      (.frame f, { items := r, term := t, rem := kindLen f }) := by
  simp [tokSrc]

theorem tok_next_nil (t : Term) :
    tokSrc.pollNext { items := [], term := t, rem := 0 } = (t.next, { items := [], term := t, rem := 0 }) := by
  simp [tokSrc]

theorem tok_data_piece (b : Bytes) (r : List Item) (t : Term) (k : Nat) (hk : k ≠ 0) :
    tokSrc.pollData { items := .piece b :: r, term := t, rem := k } =
      (.data b, { items := r, term := t, rem := k - b.length }) := by
  simp [tokSrc, hk]

theorem tok_data_nil (t : Term) (k : Nat) (hk : k ≠ 0) :
    tokSrc.pollData { items := [], term := t, rem := k } = (t.data, { items := [], term := t, rem := k }) := by
  simp [tokSrc, hk]

theorem compile_data_part {n : Nat} {ps : List Bytes} (h : ps.flatten.length < n) (r : List Tok) (e : Ending) :
    compile (.data n ps :: r) e = (.frame (.data n) :: ps.map .piece, e.term) := by
  simp only [compile, h, if_true]

theorem compile_data_full {n : Nat} {ps : List Bytes} (h : ¬ ps.flatten.length < n) (r : List Tok) (e : Ending) :
    compile (.data n ps :: r) e =
      (.frame (.data n) :: (ps.map .piece ++ (compile r e).1), (compile r e).2) := by
  simp only [compile, h, if_false]

theorem kind_data_part {n : Nat} {ps : List Bytes} (h : ps.flatten.length < n) :
    kind (.data n ps) = .Dpart ps.flatten := by
  simp only [kind, h, if_true]

theorem kind_data_full {n : Nat} {ps : List Bytes} (h : ¬ ps.flatten.length < n) :
    kind (.data n ps) = .D ps.flatten := by
  simp only [kind, h, if_false]

theorem hdrsOkK_skip (H : Hdr) (p : HPos) (k : K) (r : List K) (hk : ∀ b, k ≠ .H b) :
    HdrsOkK H p (k :: r) = HdrsOkK H p r := by
  cases k with
  | H b => exact absurd rfl (hk b)
  | _ => cases p <;> simp only [HdrsOkK]

theorem kind_ne_H (tok : Tok) (h : ∀ b, tok ≠ .headers b) : ∀ b, kind tok ≠ .H b := by
  intro b
  cases tok with
  | headers c => exact absurd rfl (h c)
  | data n ps =>
    by_cases hlt : ps.flatten.length < n
    · rw [kind_data_part hlt]; simp
    · rw [kind_data_full hlt]; simp
  | bad e => cases e <;> simp [kind]
  | _ => simp [kind]

theorem hdrsOkK_of_hdrOk (H : Hdr) : ∀ (toks : List Tok) (p : HPos), (∀ tok ∈ toks, HdrOk H tok) →
    HdrsOkK H p (toks.map kind) := by
  intro toks
  induction toks with
  | nil => intro p _; cases p <;> simp [HdrsOkK]
  | cons tok r ih =>
    intro p h
    have hr : ∀ t ∈ r, HdrOk H t := fun t ht => h t (by simp [ht])
    cases tok with
    | headers b =>
      have hb := h (.headers b) (by simp)
      cases p
      · exact ⟨hb.1, ih .trailers hr⟩
      · exact hb.2
    | _ =>
      rw [List.map_cons, hdrsOkK_skip H p _ _ (kind_ne_H _ (by intro b hb; cases hb))]
      exact ih p hr

theorem hdrsOk_of_hdrOk (H : Hdr) (toks : List Tok) (h : ∀ tok ∈ toks, HdrOk H tok) : HdrsOk H toks :=
  hdrsOkK_of_hdrOk H toks .head h

def hdrBlocks : List K → List Bytes
  | [] => []
  | .H b :: r => b :: hdrBlocks r
  | _ :: r => hdrBlocks r

theorem hdrBlocks_append : ∀ a b : List K, hdrBlocks (a ++ b) = hdrBlocks a ++ hdrBlocks b := by
  intro a
  induction a with
  | nil => intro b; rfl
  | cons k r ih => intro b; cases k <;> simp [hdrBlocks, ih]

def BlocksOk (H : Hdr) : HPos → List Bytes → Prop
  | _, [] => True
  | .head, b :: r => H.head b = .ok ∧ BlocksOk H .trailers r
  | .trailers, b :: _ => H.trailer b = .ok

theorem hdrsOkK_iff (H : Hdr) : ∀ (ks : List K) (p : HPos), HdrsOkK H p ks ↔ BlocksOk H p (hdrBlocks ks) := by
  intro ks
  induction ks with
  | nil => intro p; cases p <;> simp [HdrsOkK, hdrBlocks, BlocksOk]
  | cons k r ih =>
    intro p
    cases k with
    | H b => cases p <;> simp [HdrsOkK, hdrBlocks, BlocksOk, ih]
    | _ => cases p <;> simp only [HdrsOkK, hdrBlocks, ih]

theorem blocksOk_prefix (H : Hdr) : ∀ (a b : List Bytes) (p : HPos), BlocksOk H p (a ++ b) → BlocksOk H p a := by
  intro a
  induction a with
  | nil => intro b p _; cases p <;> simp [BlocksOk]
  | cons x r ih =>
    intro b p h
    cases p
    · exact ⟨h.1, ih b .trailers h.2⟩
    · exact h

instance instDecBlocksOk (H : Hdr) : ∀ (p : HPos) (l : List Bytes), Decidable (BlocksOk H p l)
  | .head, [] => by simp only [BlocksOk]; exact inferInstance
  | .trailers, [] => by simp only [BlocksOk]; exact inferInstance
  | .head, b :: r => by
    simp only [BlocksOk]
    have := instDecBlocksOk H .trailers r
    exact inferInstance
  | .trailers, b :: _ => by simp only [BlocksOk]; exact inferInstance

instance (H : Hdr) (p : HPos) (ks : List K) : Decidable (HdrsOkK H p ks) :=
  decidable_of_iff _ (hdrsOkK_iff H ks p).symm

instance (H : Hdr) (toks : List Tok) : Decidable (HdrsOk H toks) := by unfold HdrsOk; exact inferInstance

/-! ### every call is a handler applied to one answer of the frame layer -/

section Handlers
variable {σ : Type}

/-- the frame layer that answers `o` whatever it is asked: the handlers below are the calls themselves over
    it, so that `pollHead_eq` (role by role) and `trailersCheck_eq` hold by `rfl` -/
def oneSrc (o : FOut) : Src σ := ⟨fun c => (o, c), fun c => (o, c), fun _ => false, fun _ => false⟩

/-- what the first-frame calls make of the answer `o` of `poll_next` (`st'`: the state after it) -/
def headOut (role : Role) (H : Hdr) (st' : St σ) (o : FOut) : Res × St σ := pollHead role (oneSrc o) H st'

theorem pollHead_eq (role : Role) (S : Src σ) (H : Hdr) (st : St σ) :
    pollHead role S H st = headOut role H { st with src := (S.pollNext st.src).2 } (S.pollNext st.src).1 := by
  cases role <;> rfl

/-- what the look behind the trailers makes of the answer `o` of `poll_next` -/
def checkOut (H : Hdr) (st' : St σ) (enc : Bytes) (o : FOut) : Res × St σ := trailersCheck (oneSrc o) H st' enc

theorem trailersCheck_eq (S : Src σ) (H : Hdr) (st : St σ) (enc : Bytes) :
    trailersCheck S H st enc = checkOut H { st with src := (S.pollNext st.src).2 } enc (S.pollNext st.src).1 := rfl

theorem headOut_ok (role : Role) (H : Hdr) (st' : St σ) (enc : Bytes) (hok : H.head enc = .ok) :
    headOut role H st' (.frame (.headers enc)) = (.head enc, st') := by
  cases role <;> simp [headOut, pollHead, pollResolve, pollRecvResponse, oneSrc, hok]

theorem decodeTrailers_of_ok (H : Hdr) (st : St σ) (enc : Bytes) (hok : H.trailer enc = .ok) :
    decodeTrailers H st enc = (.trailers enc, st) := by
  simp [decodeTrailers, hok]

theorem pollRecvTrailers_none (S : Src σ) (H : Hdr) (st : St σ) (ht : st.trailers = none) :
    pollRecvTrailers S H st = trailersFirst S H st := by
  rw [pollRecvTrailers, ht]

theorem pollRecvTrailers_saved (S : Src σ) (H : Hdr) (st : St σ) (enc : Bytes) (ht : st.trailers = some enc) :
    pollRecvTrailers S H st = trailersTail S H { st with trailers := none } enc := by
  rw [pollRecvTrailers, ht]

theorem pollRecvTrailers_some (S : Src σ) (H : Hdr) (st : St σ) (enc : Bytes) (ht : st.trailers = some enc) :
    pollRecvTrailers S H st =
      if S.isEos st.src then decodeTrailers H { st with trailers := none } enc
      else checkOut H { st with src := (S.pollNext st.src).2, trailers := none } enc (S.pollNext st.src).1 := by
  simp only [pollRecvTrailers, ht, trailersTail, trailersCheck_eq]

theorem pollRecvTrailers_none_none (S : Src σ) (H : Hdr) (st : St σ) (s' : σ)
    (ht : st.trailers = none) (hn : S.pollNext st.src = (.none, s')) :
    pollRecvTrailers S H st = (.noTrailers, { st with src := s' }) := by
  simp [pollRecvTrailers, ht, trailersFirst, hn]

/-- the loop bound of `poll_recv_data` is a device of the model: once it suffices, more changes nothing -/
theorem pollRecvData_mono (S : Src σ) : ∀ (f : Nat) (st : St σ), (pollRecvData S f st).1 ≠ .invalid →
    pollRecvData S (f + 1) st = pollRecvData S f st := by
  intro f
  induction f with
  | zero => intro st h; exact absurd rfl h
  | succ f ih =>
    intro st h
    rw [pollRecvData.eq_2 S st f] at h
    rw [pollRecvData.eq_2 S st (f + 1), pollRecvData.eq_2 S st f]
    by_cases hd : S.hasData st.src = true
    · rw [if_pos hd, if_pos hd]
    · rw [if_neg hd] at h
      rw [if_neg hd, if_neg hd]
      rcases hq : S.pollNext st.src with ⟨o, c'⟩
      rw [hq] at h
      cases o with
      | frame fr =>
        cases fr with
        | data n => exact ih _ h
        | _ => rfl
      | _ => rfl

theorem pollRecvData_mono' (S : Src σ) (f g : Nat) (st : St σ) (h : (pollRecvData S f st).1 ≠ .invalid)
    (hfg : f ≤ g) : pollRecvData S g st = pollRecvData S f st := by
  obtain ⟨d, rfl⟩ : ∃ d, g = f + d := ⟨g - f, by omega⟩
  clear hfg
  induction d with
  | zero => rfl
  | succ d ih =>
    have : pollRecvData S (f + d + 1) st = pollRecvData S (f + d) st :=
      pollRecvData_mono S (f + d) st (by rw [ih]; exact h)
    rw [show f + (d + 1) = f + d + 1 by omega, this, ih]

/-- what `poll_recv_data` makes of the answer of `poll_next` -/
def nextOut (S : Src σ) (f : Nat) (st' : St σ) (o : FOut) : Res × St σ :=
  match o with
  | .frame (.headers enc) => (.end_, { st' with trailers := some enc })
  | .frame (.data _) => pollRecvData S f st'
  | .frame _ => connErr st' CODE_H3_FRAME_UNEXPECTED
  | .none => (.end_, st')
  | .pending => (.pending, st')
  | .data _ => (.invalid, st')
  | e => fsErr st' e

theorem pollRecvData_has (S : Src σ) (f : Nat) (st : St σ) (hd : S.hasData st.src = true) :
    pollRecvData S (f + 1) st = dataOut { st with src := (S.pollData st.src).2 } (S.pollData st.src).1 := by
  rw [pollRecvData, if_pos hd]

theorem pollRecvData_no (S : Src σ) (f : Nat) (st : St σ) (hd : ¬ S.hasData st.src = true) :
    pollRecvData S (f + 1) st = nextOut S f { st with src := (S.pollNext st.src).2 } (S.pollNext st.src).1 := by
  rw [pollRecvData, if_neg hd]
  rfl

theorem connErr_keeps (st : St σ) (c : Nat) :
    (connErr st c).2.src = st.src ∧ (connErr st c).2.trailers = st.trailers := by
  unfold connErr; split <;> simp

theorem fsErr_keeps (st : St σ) (o : FOut) :
    (fsErr st o).2.src = st.src ∧ (fsErr st o).2.trailers = st.trailers := by
  cases o <;> simp [fsErr, connErr_keeps]

theorem dataOut_keeps (st : St σ) (o : FOut) :
    (dataOut st o).2.src = st.src ∧ (dataOut st o).2.trailers = st.trailers := by
  cases o <;> simp [dataOut, fsErr_keeps]

theorem headOut_keeps (role : Role) (H : Hdr) (st' : St σ) (o : FOut) :
    (headOut role H st' o).2.src = st'.src ∧ (headOut role H st' o).2.trailers = st'.trailers := by
  cases role <;> cases o with
  | frame f =>
    cases f with
    | headers enc =>
      simp only [headOut, pollHead, pollResolve, pollRecvResponse, oneSrc]
      cases H.head enc <;> first | exact ⟨rfl, rfl⟩ | exact connErr_keeps _ _
    | _ => exact connErr_keeps _ _
  | none => exact ⟨rfl, rfl⟩
  | pending => exact ⟨rfl, rfl⟩
  | _ => exact fsErr_keeps _ _

end Handlers

def Res.Plain (r : Res) : Prop := r ≠ .invalid ∧ ∀ d, r ≠ .data d

theorem connErr_plain {σ : Type} (st : St σ) (c : Nat) : (connErr st c).1.Plain := by
  unfold connErr; split <;> exact ⟨nofun, nofun⟩

theorem term_next_plain {σ : Type} (S : Src σ) (f : Nat) (st : St σ) (t : Term) :
    (nextOut S f st t.next).1.Plain := by
  cases t <;> first | exact connErr_plain _ _ | exact ⟨nofun, nofun⟩

theorem term_data_plain {σ : Type} (st : St σ) (t : Term) : (dataOut st t.data).1.Plain := by
  cases t <;> first | exact connErr_plain _ _ | exact ⟨nofun, nofun⟩

/-- the loop bound suffices when it exceeds the number of answers left: every round of the loop uses up
    an empty DATA frame -/
theorem tok_prd : ∀ (f : Nat) (st : St TS), st.src.items.length + 1 ≤ f →
    (pollRecvData tokSrc f st).1 ≠ .invalid ∧
    (∀ d, (pollRecvData tokSrc f st).1 = .data d →
      (pollRecvData tokSrc f st).2.src.items.length < st.src.items.length) := by
  intro f
  induction f with
  | zero => intro st h; omega
  | succ f ih =>
    intro st hf
    obtain ⟨⟨its, t, k⟩, tr, env⟩ := st
    have plain : ∀ {r : Res} {x : St TS}, r.Plain →
        r ≠ .invalid ∧ (∀ d, r = .data d → x.src.items.length < its.length) :=
      fun h => ⟨h.1, fun d hd => absurd hd (h.2 d)⟩
    by_cases hk : k = 0
    · subst hk
      rw [pollRecvData_no _ _ _ (by simp)]
      cases its with
      | nil => rw [tok_next_nil]; exact plain (term_next_plain _ _ _ t)
      | cons it r =>
        cases it with
        | piece b => exact plain (r := .panic) ⟨nofun, nofun⟩
        | frame fr =>
          rw [tok_next_frame]
          cases fr with
          | data n =>
            obtain ⟨h1, h2⟩ := ih (mk r t (kindLen (.data n)) tr env) (by simpa using hf)
            exact ⟨h1, fun d hd => Nat.lt_succ_of_lt (h2 d hd)⟩
          | headers enc => exact plain (r := .end_) ⟨nofun, nofun⟩
          | _ => exact plain (connErr_plain _ _)
    · rw [pollRecvData_has _ _ _ (by simpa using hk)]
      cases its with
      | nil => rw [tok_data_nil t k hk]; exact plain (term_data_plain _ t)
      | cons it r =>
        cases it with
        | piece b => rw [tok_data_piece b r t k hk]; exact ⟨nofun, fun _ _ => Nat.lt_succ_self _⟩
        | frame fr =>
          have hp : tokSrc.pollData { items := .frame fr :: r, term := t, rem := k } =
              (.panic, { items := .frame fr :: r, term := t, rem := k }) := by
            simp only [tokSrc, hk, if_false]
          rw [hp]; exact plain (r := .panic) ⟨nofun, nofun⟩

theorem pollRecvData_fuel (f : Nat) (st : St TS) (h : st.src.items.length + 1 ≤ f) :
    pollRecvData tokSrc f st = pollRecvData tokSrc (f + 1) st :=
  (pollRecvData_mono tokSrc f st (tok_prd f st h).1).symm

theorem tok_drain_no_invalid : ∀ (fuel : Nat) (st : St TS), st.src.items.length + 1 ≤ fuel →
    ∀ r ∈ (drain tokSrc fuel st).1, r ≠ .invalid := by
  intro fuel
  induction fuel with
  | zero => intro st h; omega
  | succ f ih =>
    intro st h r hr
    obtain ⟨h1, h2⟩ := tok_prd (f + 1) st h
    rw [drain] at hr
    rcases hq : pollRecvData tokSrc (f + 1) st with ⟨x, st'⟩
    rw [hq] at hr h1 h2
    simp only at h1 h2
    cases x with
    | data d =>
      simp only [List.mem_cons] at hr
      rcases hr with rfl | hr
      · simp
      · exact ih st' (by have := h2 d rfl; omega) r hr
    | invalid => exact absurd rfl h1
    | _ => simp only [List.mem_singleton] at hr; subst hr; simp

theorem tok_next_items (a : TS) : (tokSrc.pollNext a).2.items.length ≤ a.items.length := by
  obtain ⟨items, t, k⟩ := a
  simp only [tokSrc]
  by_cases hk : k = 0
  · subst hk
    cases items with
    | nil => simp
    | cons it r => cases it <;> simp
  · simp [hk]

theorem drain_ne_nil {σ : Type} (S : Src σ) (f : Nat) (st : St σ) : (drain S f st).1 ≠ [] := by
  cases f with
  | zero => simp [drain]
  | succ f =>
    rw [drain]
    split
    rename_i r st' _
    cases r <;> simp

/-- what the part of the run after the head adds to the observation -/
def tailOutcome (h acc : Bytes) (x : List Res × Option Res × Env) : Outcome :=
  { calls := [.head h, .body (acc ++ bodyBytes x.1)] ++ tailObs x.1 x.2.1
    connError := x.2.2.cell
    streamReset := x.2.2.rst }

theorem bodyBytes_data_append (ds : List Bytes) (rs : List Res) :
    bodyBytes (ds.map .data ++ rs) = ds.flatten ++ bodyBytes rs := by
  induction ds with
  | nil => simp
  | cons d ds ih => simp [bodyBytes, ih]

theorem bodyRun_data_header (H : Hdr) (n : Nat) (its : List Item) (t : Term) (F : Nat) (hF : its.length + 1 ≤ F) :
    bodyRun tokSrc H (F + 1) (mk (.frame (.data n) :: its) t 0 none {}) =
      bodyRun tokSrc H (F + 1) (mk its t n none {}) := by
  have h1 : pollRecvData tokSrc (F + 1) (mk (.frame (.data n) :: its) t 0 none {}) =
      pollRecvData tokSrc F (mk its t n none {}) := by
    rw [pollRecvData_no _ _ _ (by simp), tok_next_frame]; rfl
  have hd : drain tokSrc (F + 1) (mk (.frame (.data n) :: its) t 0 none {}) =
      drain tokSrc (F + 1) (mk its t n none {}) := by
    rw [drain, drain, h1, pollRecvData_fuel F (mk its t n none {}) hF]
  simp only [bodyRun, hd]

theorem tailOutcome_data {σ : Type} (S : Src σ) (H : Hdr) (h acc d : Bytes) (f : Nat) (st st' : St σ)
    (hp : pollRecvData S (f + 1) st = (.data d, st')) :
    tailOutcome h acc (bodyRun S H (f + 1) st) = tailOutcome h (acc ++ d) (bodyRun S H f st') := by
  have hd : drain S (f + 1) st = (.data d :: (drain S f st').1, (drain S f st').2) := by rw [drain, hp]
  have hl : (Res.data d :: (drain S f st').1).getLast? = (drain S f st').1.getLast? :=
    List.getLast?_cons_of_ne_nil (drain_ne_nil S f st')
  simp only [bodyRun, hd, hl]
  split <;> simp [tailOutcome, bodyBytes, tailObs, hl]

theorem bodyRun_pieces (H : Hdr) (h : Bytes) (its : List Item) (t : Term) (G : Nat) :
    ∀ (ps : List Bytes) (acc : Bytes) (k : Nat), (∀ p ∈ ps, p ≠ []) → ps.flatten.length ≤ k →
    tailOutcome h acc (bodyRun tokSrc H (ps.length + G) (mk (ps.map .piece ++ its) t k none {})) =
      tailOutcome h (acc ++ ps.flatten) (bodyRun tokSrc H G (mk its t (k - ps.flatten.length) none {})) := by
  intro ps
  induction ps with
  | nil => intro acc k _ _; simp
  | cons p ps ih =>
    intro acc k hne hle
    have hp : p.length ≠ 0 := fun h => hne p (by simp) (List.eq_nil_of_length_eq_zero h)
    simp only [List.flatten_cons, List.length_append] at hle
    have hk : k ≠ 0 := by omega
    have hstep : pollRecvData tokSrc (ps.length + G + 1) (mk (.piece p :: (ps.map .piece ++ its)) t k none {}) =
        (.data p, mk (ps.map .piece ++ its) t (k - p.length) none {}) := by
      rw [pollRecvData_has _ _ _ (by simpa using hk), tok_data_piece p _ t k hk]; rfl
    rw [show (p :: ps).length + G = ps.length + G + 1 by simp; omega]
    simp only [List.map_cons, List.cons_append]
    rw [tailOutcome_data _ _ _ _ _ _ _ _ hstep, ih _ _ (fun q hq => hne q (by simp [hq])) (by omega),
      List.flatten_cons, List.append_assoc, List.length_append, Nat.sub_sub]
theorem accepts_violation (p : Phase) (codes : List Nat) (c : Nat) (hc : c ∈ codes) (calls : List Obs)
    (hcalls : calls = p.seen ++ [.connError c]) :
    (violation p codes).accepts { calls := calls, connError := some c, streamReset := none } := by
  subst hcalls
  simp only [violation, Expect.accepts, List.mem_map]
  exact ⟨c, hc, rfl⟩

/-- the frames a request stream refuses wherever they stand, with the code of the connection error -/
def Tok.refusal : Tok → Option Nat
  | .cancelPush _ | .settings _ | .goaway _ | .maxPushId _ | .pushPromise _ _ => some CODE_H3_FRAME_UNEXPECTED
  | .bad e => some (frameErrCode e)
  | _ => none

theorem expected_U (side : Side) (p : Phase) (ks : List K) (stop : Stop) :
    expected side p (.U :: ks) stop = expected side p ks stop := by
  cases p <;> rfl

theorem expected_refusal (side : Side) (p : Phase) {tok : Tok} {c : Nat} (h : tok.refusal = some c)
    (ks : List K) (stop : Stop) :
    ∃ codes, c ∈ codes ∧ expected side p (kind tok :: ks) stop = violation p codes := by
  cases tok with
  | unknown ty pl => cases h
  | headers b => cases h
  | data n ps => cases h
  | pushPromise i pl =>
    cases h
    cases side <;> cases p <;> exact ⟨_, List.mem_cons_self, rfl⟩
  | bad err =>
    cases h
    cases err <;> cases p <;> exact ⟨_, List.mem_cons_self, rfl⟩
  | _ => cases h; cases p <;> exact ⟨_, List.mem_cons_self, rfl⟩

/-- what the frame layer answers next when such a frame is first: a frame that is neither DATA nor
    HEADERS, or the protocol error -/
def Refuses (c : Nat) (its : List Item) (t : Term) : Prop :=
  (∃ f r, its = .frame f :: r ∧ (∀ n, f ≠ .data n) ∧ (∀ b, f ≠ .headers b) ∧ c = CODE_H3_FRAME_UNEXPECTED) ∨
  (∃ err, its = [] ∧ t = .proto err ∧ c = frameErrCode err)

theorem compile_refusal {tok : Tok} {c : Nat} (h : tok.refusal = some c) (r : List Tok) (e : Ending) :
    Refuses c (compile (tok :: r) e).1 (compile (tok :: r) e).2 := by
  cases tok with
  | unknown ty pl => cases h
  | headers b => cases h
  | data n ps => cases h
  | bad err => cases h; exact .inr ⟨err, rfl, rfl, rfl⟩
  | _ => cases h; exact .inl ⟨_, _, rfl, nofun, nofun, rfl⟩

theorem documented_refuses (role : Role) (H : Hdr) (fuel : Nat) {c : Nat} {its : List Item} {t : Term}
    (h : Refuses c its t) :
    documented role tokSrc H fuel (mk its t 0 none {}) = { head := .errConn c, env := { cell := some c } } := by
  rcases h with ⟨f, r, rfl, hd, hh, rfl⟩ | ⟨err, rfl, rfl, rfl⟩
  · cases f with
    | headers b => exact absurd rfl (hh b)
    | _ => cases role <;> rfl
  · cases err <;> cases role <;> rfl

theorem bodyRun_refuses (H : Hdr) (F : Nat) {c : Nat} {its : List Item} {t : Term} (h : Refuses c its t) :
    bodyRun tokSrc H (F + 1) (mk its t 0 none {}) = ([.errConn c], none, { cell := some c }) := by
  rcases h with ⟨f, r, rfl, hd, hh, rfl⟩ | ⟨err, rfl, rfl, rfl⟩
  · cases f with
    | headers b => exact absurd rfl (hh b)
    | data n => exact absurd rfl (hd n)
    | _ => rfl
  · cases err <;> rfl

theorem trailersTail_refuses (H : Hdr) (enc : Bytes) {c : Nat} {its : List Item} {t : Term} (h : Refuses c its t) :
    ∃ src, trailersTail tokSrc H (mk its t 0 none {}) enc = (.errConn c, { src := src, env := { cell := some c } }) := by
  rcases h with ⟨f, r, rfl, hd, hh, rfl⟩ | ⟨err, rfl, rfl, rfl⟩
  · exact ⟨_, rfl⟩
  · cases err <;> exact ⟨_, rfl⟩

/-- row `.fin`: after the clean end of the body `recv_trailers` meets the ending a second time -/
theorem bodyRun_nil (H : Hdr) (F : Nat) (e : Ending) :
    bodyRun tokSrc H (F + 2) (mk [] e.term 0 none {}) =
      match e with
      | .fin => ([.end_], some .noTrailers, {})
      | .truncated => ([.errConn CODE_H3_FRAME_ERROR], none, { cell := some CODE_H3_FRAME_ERROR })
      | .reset c => ([.errReset c], none, {})
      | .open_ => ([.pending], none, {}) := by
  cases e <;> simp [Ending.term, bodyRun, drain, pollRecvData, tok_next_nil, Term.next, pollRecvTrailers, trailersFirst, fsErr, connErr]

theorem bodyRun_nil_data (H : Hdr) (G k : Nat) (hk : k ≠ 0) (e : Ending) :
    bodyRun tokSrc H (G + 1) (mk [] e.term k none {}) =
      match e with
      | .fin => ([.errConn CODE_H3_FRAME_ERROR], none, { cell := some CODE_H3_FRAME_ERROR })
      | .truncated => ([.errConn CODE_H3_FRAME_ERROR], none, { cell := some CODE_H3_FRAME_ERROR })
      | .reset c => ([.errReset c], none, {})
      | .open_ => ([.pending], none, {}) := by
  cases e <;> simp [Ending.term, bodyRun, drain, pollRecvData, hk, tok_data_nil, Term.data, dataOut, fsErr, connErr]

theorem trailersTail_nil (H : Hdr) (t : Bytes) (hT : H.trailer t = .ok) (e : Ending) :
    trailersTail tokSrc H (mk [] e.term 0 none {}) t =
      match e with
      | .fin => (.trailers t, mk [] .fin 0 none {})
      | .truncated => (.errConn CODE_H3_FRAME_ERROR, mk [] .truncated 0 none { cell := some CODE_H3_FRAME_ERROR })
      | .reset c => (.errReset c, mk [] (.reset c) 0 none {})
      | .open_ => (.pending, mk [] .open_ 0 (some t) {}) := by
  cases e <;> simp [Ending.term, trailersTail, trailersCheck, tok_next_nil, Term.next, decodeTrailers, hT, fsErr, connErr]

theorem documented_nil (role : Role) (H : Hdr) (fuel : Nat) (e : Ending) :
    documented role tokSrc H fuel (mk [] e.term 0 none {}) =
      match e, role with
      | .fin, .server => { head := .errStream CODE_H3_REQUEST_INCOMPLETE, env := { rst := some CODE_H3_REQUEST_INCOMPLETE } }
      | .fin, .client => { head := .errStream CODE_H3_MESSAGE_ERROR, env := {} }
      | .truncated, _ => { head := .errConn CODE_H3_FRAME_ERROR, env := { cell := some CODE_H3_FRAME_ERROR } }
      | .reset c, _ => { head := .errReset c, env := {} }
      | .open_, _ => { head := .pending, env := {} } := by
  cases role <;> cases e <;> simp [Ending.term, documented, pollHead, pollResolve, pollRecvResponse, tok_next_nil, Term.next, fsErr, connErr, first]

def trailersOutcome (h acc : Bytes) (x : Res × St TS) : Outcome :=
  { calls := [.head h, .body acc, .bodyEnd] ++ resObs x.1, connError := x.2.env.cell, streamReset := x.2.env.rst }

theorem tailOutcome_errConn (h acc : Bytes) (c : Nat) :
    tailOutcome h acc ([.errConn c], none, { cell := some c }) =
      { calls := (Phase.body h acc).seen ++ [.connError c], connError := some c, streamReset := none } := by
  simp [tailOutcome, bodyBytes, tailObs, resObs, Phase.seen]

theorem trailersTail_spec (side : Side) (H : Hdr) (h acc t : Bytes) (hT : H.trailer t = .ok)
    (r : List Tok) (e : Ending) :
    (expected side (.trailers h acc t) (r.map kind) (stopOf e)).accepts
      (trailersOutcome h acc (trailersTail tokSrc H (mk (compile r e).1 (compile r e).2 0 none {}) t)) := by
  have frame : ∀ (f : Frame) (its : List Item) (tm : Term),
      (violation (.trailers h acc t) [H3_FRAME_UNEXPECTED]).accepts
        (trailersOutcome h acc (trailersTail tokSrc H (mk (.frame f :: its) tm 0 none {}) t)) :=
    fun f its tm => accepts_violation _ _ _ List.mem_cons_self _ rfl
  induction r with
  | nil =>
    rw [show compile [] e = ([], e.term) from rfl, trailersTail_nil H t hT]
    -- per ending, the answer `trailersTail_nil` names is an element of the list `atStop` gives; `simp` unfolds both
    cases e <;>
      simp [trailersOutcome, resObs, expected, atStop, stopOf, violation, Phase.seen, Expect.accepts,
        CODE_H3_FRAME_ERROR, H3_FRAME_ERROR]
  | cons tok r ih =>
    cases hr : tok.refusal with
    | some c =>
      obtain ⟨codes, hc, hex⟩ := expected_refusal side (.trailers h acc t) hr (r.map kind) (stopOf e)
      obtain ⟨src, hm⟩ := trailersTail_refuses H t (compile_refusal hr r e)
      rw [List.map_cons, hex, hm]
      exact accepts_violation _ _ _ hc _ rfl
    | none =>
      cases tok with
      | unknown ty p => rw [List.map_cons, show kind (.unknown ty p) = .U from rfl, expected_U]; exact ih
      | headers b => exact frame _ _ _
      | data n ps =>
        by_cases hlt : ps.flatten.length < n
        · rw [compile_data_part hlt, List.map_cons, kind_data_part hlt]; exact frame _ _ _
        · rw [compile_data_full hlt, List.map_cons, kind_data_full hlt]; exact frame _ _ _
      | _ => cases hr

theorem bodyRun_headers (H : Hdr) (F : Nat) (b : Bytes) (its : List Item) (t : Term) :
    bodyRun tokSrc H (F + 1) (mk (.frame (.headers b) :: its) t 0 none {}) =
      ([.end_], some (trailersTail tokSrc H (mk its t 0 none {}) b).1,
        (trailersTail tokSrc H (mk its t 0 none {}) b).2.env) := rfl

theorem tailOutcome_end (h acc : Bytes) (x : Res × St TS) :
    tailOutcome h acc ([.end_], some x.1, x.2.env) = trailersOutcome h acc x := by
  simp [tailOutcome, trailersOutcome, bodyBytes, tailObs]

theorem bodyRun_data (H : Hdr) (h acc : Bytes) (n : Nat) (ps : List Bytes) (hne : ∀ p ∈ ps, p ≠ [])
    (hle : ps.flatten.length ≤ n) (its : List Item) (t : Term) (F : Nat) (hF : ps.length + its.length + 2 ≤ F) :
    tailOutcome h acc (bodyRun tokSrc H F (mk (.frame (.data n) :: (ps.map .piece ++ its)) t 0 none {})) =
      tailOutcome h (acc ++ ps.flatten)
        (bodyRun tokSrc H (F - ps.length) (mk its t (n - ps.flatten.length) none {})) := by
  obtain ⟨G, rfl⟩ : ∃ G, F = ps.length + G + 1 := ⟨F - ps.length - 1, by omega⟩
  rw [bodyRun_data_header H n _ t _ (by simp; omega), show ps.length + G + 1 - ps.length = G + 1 by omega]
  exact bodyRun_pieces H h its t (G + 1) ps acc n hne hle

theorem body_refused (side : Side) (H : Hdr) (h acc : Bytes) (e : Ending) (r : List Tok) (F : Nat)
    {tok : Tok} {c : Nat} (hr : tok.refusal = some c) :
    (expected side (.body h acc) ((tok :: r).map kind) (stopOf e)).accepts
      (tailOutcome h acc (bodyRun tokSrc H (F + 1)
        (mk (compile (tok :: r) e).1 (compile (tok :: r) e).2 0 none {}))) := by
  obtain ⟨codes, hc, hex⟩ := expected_refusal side (.body h acc) hr (r.map kind) (stopOf e)
  rw [List.map_cons, hex, bodyRun_refuses H F (compile_refusal hr r e), tailOutcome_errConn]
  exact accepts_violation _ _ _ hc _ rfl

theorem body_spec (side : Side) (H : Hdr) (h : Bytes) (e : Ending) :
    ∀ (r : List Tok) (acc : Bytes) (fuel : Nat), (∀ tok ∈ r, TokWF tok) →
      HdrsOkK H .trailers (r.map kind) →
      (compile r e).1.length + 2 ≤ fuel →
      (expected side (.body h acc) (r.map kind) (stopOf e)).accepts
        (tailOutcome h acc (bodyRun tokSrc H fuel (mk (compile r e).1 (compile r e).2 0 none {}))) := by
  intro r
  induction r with
  | nil =>
    intro acc fuel _ _ hf
    obtain ⟨F, rfl⟩ : ∃ F, fuel = F + 2 := ⟨fuel - 2, by omega⟩
    rw [show compile [] e = ([], e.term) from rfl, bodyRun_nil]
    cases e <;>
      simp [tailOutcome, tailObs, resObs, bodyBytes, expected, atStop, stopOf, violation, Phase.seen, Expect.accepts,
        CODE_H3_FRAME_ERROR, H3_FRAME_ERROR]
  | cons tok r ih =>
    intro acc fuel hwf hH hf
    have hwf' : ∀ tok ∈ r, TokWF tok := fun x hx => hwf x (by simp [hx])
    have hH' : (∀ b, tok ≠ .headers b) → HdrsOkK H .trailers (r.map kind) := fun hne => by
      rw [List.map_cons, hdrsOkK_skip H _ _ _ (kind_ne_H tok hne)] at hH
      exact hH
    obtain ⟨F, rfl⟩ : ∃ F, fuel = F + 2 := ⟨fuel - 2, by omega⟩
    cases tok with
    | unknown ty p =>
      rw [List.map_cons, show kind (.unknown ty p) = .U from rfl, expected_U]
      exact ih acc (F + 2) hwf' (hH' nofun) hf
    | headers t =>
      have hT : H.trailer t = .ok := hH
      rw [show compile (.headers t :: r) e = (.frame (.headers t) :: (compile r e).1, (compile r e).2) from rfl,
        bodyRun_headers, tailOutcome_end]
      exact trailersTail_spec side H h acc t hT r e
    | data n ps =>
      obtain ⟨hne, hle⟩ := hwf (.data n ps) (by simp)
      by_cases hlt : ps.flatten.length < n
      · -- the payload has not arrived in full: the pieces, then the ending
        rw [compile_data_part hlt] at hf ⊢
        rw [List.map_cons, kind_data_part hlt]
        have := bodyRun_data H h acc n ps hne hle [] e.term (F + 2) (by simp at hf; simp; omega)
        rw [List.append_nil] at this
        rw [this]
        obtain ⟨G, hG⟩ : ∃ G, F + 2 - ps.length = G + 1 := ⟨F + 1 - ps.length, by simp at hf; omega⟩
        have hk : n - ps.flatten.length ≠ 0 := by omega
        rw [hG]
        generalize n - ps.flatten.length = k at hk
        rw [bodyRun_nil_data H G k hk]
        cases e <;>
          simp [expected, tailOutcome, tailObs, resObs, bodyBytes, atStop, stopOf, violation, Phase.seen, Expect.accepts,
            CODE_H3_FRAME_ERROR, H3_FRAME_ERROR]
      · rw [compile_data_full hlt] at hf ⊢
        rw [List.map_cons, kind_data_full hlt,
          bodyRun_data H h acc n ps hne hle _ _ (F + 2) (by simp at hf; omega),
          show n - ps.flatten.length = 0 by omega]
        exact ih (acc ++ ps.flatten) (F + 2 - ps.length) hwf' (hH' nofun) (by simp at hf; omega)
    | _ => exact body_refused side H h acc e r (F + 1) rfl


theorem observe_head (b : Bytes) (x : List Res × Option Res × Env) :
    observe { head := .head b, body := x.1, trailers := x.2.1, env := x.2.2 } = tailOutcome b [] x := by
  simp [observe, tailOutcome]

theorem documented_headers (role : Role) (H : Hdr) (fuel : Nat) (b : Bytes) (hb : H.head b = .ok)
    (its : List Item) (t : Term) :
    observe (documented role tokSrc H fuel (mk (.frame (.headers b) :: its) t 0 none {})) =
      tailOutcome b [] (bodyRun tokSrc H fuel (mk its t 0 none {})) := by
  rw [← observe_head]
  cases role <;>
    simp only [documented, pollHead, pollResolve, pollRecvResponse, mk, tok_next_frame, hb, kindLen, FS.frameKind]

theorem start_refused (role : Role) (H : Hdr) (e : Ending) (r : List Tok) (fuel : Nat)
    {tok : Tok} {c : Nat} (hr : tok.refusal = some c) :
    (expected (sideOf role) .start ((tok :: r).map kind) (stopOf e)).accepts
      (observe (documented role tokSrc H fuel
        (mk (compile (tok :: r) e).1 (compile (tok :: r) e).2 0 none {}))) := by
  obtain ⟨codes, hc, hex⟩ := expected_refusal (sideOf role) .start hr (r.map kind) (stopOf e)
  rw [List.map_cons, hex, documented_refuses role H fuel (compile_refusal hr r e)]
  exact accepts_violation _ _ _ hc _ rfl

theorem recv_spec (role : Role) (H : Hdr) (e : Ending) :
    ∀ (toks : List Tok) (fuel : Nat), (∀ tok ∈ toks, TokWF tok) → HdrsOk H toks →
      (compile toks e).1.length + 2 ≤ fuel →
      (expected (sideOf role) .start (toks.map kind) (stopOf e)).accepts
        (observe (documented role tokSrc H fuel (mk (compile toks e).1 (compile toks e).2 0 none {}))) := by
  have data : ∀ (n : Nat) (its : List Item) (tm : Term) (fuel : Nat),
      (violation .start [H3_FRAME_UNEXPECTED]).accepts
        (observe (documented role tokSrc H fuel (mk (.frame (.data n) :: its) tm 0 none {}))) := by
    intro n its tm fuel
    cases role <;> exact accepts_violation _ _ _ List.mem_cons_self _ rfl
  intro toks
  induction toks with
  | nil =>
    intro fuel _ _ _
    rw [show compile [] e = ([], e.term) from rfl, documented_nil]
    -- per role and ending, the trace `documented_nil` names is in `atStop`'s list (client, FIN: the first of
    -- `clientNoResponse`); `simp` unfolds both
    cases role <;> cases e <;>
      simp [observe, resObs, expected, atStop, stopOf, sideOf, violation, Phase.seen, Expect.accepts, clientNoResponse,
        CODE_H3_FRAME_ERROR, H3_FRAME_ERROR, CODE_H3_REQUEST_INCOMPLETE, H3_REQUEST_INCOMPLETE,
        CODE_H3_MESSAGE_ERROR, H3_MESSAGE_ERROR]
  | cons tok r ih =>
    intro fuel hwf hHs hf
    have hwf' : ∀ tok ∈ r, TokWF tok := fun x hx => hwf x (by simp [hx])
    cases tok with
    | unknown ty p =>
      have hHr : HdrsOk H r := by
        unfold HdrsOk at hHs ⊢
        rw [List.map_cons, hdrsOkK_skip H _ _ _ (kind_ne_H (.unknown ty p) nofun)] at hHs
        exact hHs
      rw [List.map_cons, show kind (.unknown ty p) = .U from rfl, expected_U]
      exact ih fuel hwf' hHr hf
    | headers b =>
      rw [show compile (.headers b :: r) e = (.frame (.headers b) :: (compile r e).1, (compile r e).2) from rfl,
        documented_headers role H fuel b hHs.1]
      exact body_spec (sideOf role) H b e r [] fuel hwf' hHs.2 (by simp [compile] at hf; omega)
    | data n ps =>
      by_cases hlt : ps.flatten.length < n
      · rw [compile_data_part hlt, List.map_cons, kind_data_part hlt]; exact data _ _ _ _
      · rw [compile_data_full hlt, List.map_cons, kind_data_full hlt]; exact data _ _ _ _
    | _ => exact start_refused role H e r fuel rfl

section Inv
variable {σ : Type}

/-- the law of a frame layer the `is_eos` shortcut relies on: a HEADERS frame has no payload to
    hand out through `poll_data` -/
def HdrNoData (S : Src σ) : Prop :=
  ∀ a enc, (S.pollNext a).1 = .frame (.headers enc) → S.hasData (S.pollNext a).2 = false

theorem tokSrc_hdrNoData : HdrNoData tokSrc := by
  intro a enc h
  obtain ⟨items, term, rem⟩ := a
  simp only [tokSrc] at h ⊢
  by_cases hr : rem = 0
  · subst hr
    cases items with
    | nil => cases term <;> simp [Term.next] at h
    | cons it r =>
      cases it with
      | piece b => simp at h
      | frame f =>
        simp at h
        subst h
        simp [kindLen, H3.FS.frameKind]
  · simp [hr] at h

/-- `recv_data` remembers trailers only in the call that answers `None` for them, and then the
    frame layer has no data pending -/
theorem pollRecvData_inv (S : Src σ) (hS : HdrNoData S) : ∀ (fuel : Nat) (y : St σ), y.trailers = none →
    ((∃ d, (pollRecvData S fuel y).1 = .data d) → (pollRecvData S fuel y).2.trailers = none) ∧
    ((pollRecvData S fuel y).2.trailers ≠ none → S.hasData (pollRecvData S fuel y).2.src = false) := by
  intro fuel
  induction fuel with
  | zero => intro y hy; simp [pollRecvData, hy]
  | succ f ih =>
    intro y hy
    by_cases hd : S.hasData y.src = true
    · rw [pollRecvData_has _ _ _ hd, (dataOut_keeps _ _).2]
      simp [hy]
    · rw [pollRecvData_no _ _ _ hd]
      have hlaw := hS y.src
      generalize S.pollNext y.src = p at hlaw
      obtain ⟨o, s'⟩ := p
      cases o with
      | frame fr =>
        cases fr with
        | headers enc => simpa [nextOut] using hlaw enc rfl
        | data n => exact ih _ hy
        | _ => simp [nextOut, (connErr_keeps _ _).2, hy]
      | none => simp [nextOut, hy]
      | pending => simp [nextOut, hy]
      | data d => simp [nextOut, hy]
      | _ => simp [nextOut, (fsErr_keeps _ _).2, hy]

theorem drain_inv (S : Src σ) (hS : HdrNoData S) : ∀ (fuel : Nat) (y : St σ), y.trailers = none →
    ((drain S fuel y).2.trailers ≠ none → S.hasData (drain S fuel y).2.src = false) := by
  intro fuel
  induction fuel with
  | zero => intro y hy; simp [drain, hy]
  | succ f ih =>
    intro y hy
    obtain ⟨h1, h2⟩ := pollRecvData_inv S hS (f + 1) y hy
    rw [drain]
    generalize pollRecvData S (f + 1) y = p at h1 h2
    obtain ⟨r, y'⟩ := p
    cases r with
    | data d => exact ih y' (h1 ⟨d, rfl⟩)
    | _ => exact h2

theorem pollHead_trailers (role : Role) (S : Src σ) (H : Hdr) (st : St σ) :
    (pollHead role S H st).2.trailers = st.trailers := by
  rw [pollHead_eq]; exact (headOut_keeps role H _ _).2

end Inv

theorem pollRecvData_reset (f : Nat) (st : St FSt) (s : H3.FS.St) (c : Nat) (rest : List H3.FS.Ev)
    (hsrc : st.src = (s, .reset c :: rest)) (he : s.eos = false) :
    pollRecvData fsSrc (f + 1) st = (.errReset c, st) := by
  obtain ⟨src, tr, env⟩ := st
  subst hsrc
  by_cases hr : s.remaining = 0
  · rw [pollRecvData_no _ _ _ (by simp [fsSrc, hr])]
    simp only [fsSrc, H3.C06.pollNext_reset H3.FS.frameDec s c rest hr he]
    rfl
  · rw [pollRecvData_has _ _ _ (by simp [fsSrc, hr])]
    simp only [fsSrc, H3.C06.pollData_reset s c rest hr he]
    rfl

/-- Two frame layers answer alike: related states give the same answers and stay related.  That the
    request layer cannot tell such layers apart is proved in `Lemmas/ReqSimP.lean`, for the weaker
    `FrameSimP` (`FrameSim.toP`, `same_documentedP`). -/
structure FrameSim {σ₁ σ₂ : Type} (S₁ : Src σ₁) (S₂ : Src σ₂) (R : σ₁ → σ₂ → Prop) : Prop where
  hasData : ∀ c a, R c a → S₁.hasData c = S₂.hasData a
  next : ∀ c a, R c a → (S₁.pollNext c).1 = (S₂.pollNext a).1 ∧ R (S₁.pollNext c).2 (S₂.pollNext a).2
  data : ∀ c a, R c a → (S₁.pollData c).1 = (S₂.pollData a).1 ∧ R (S₁.pollData c).2 (S₂.pollData a).2
  /-- `is_eos` may be answered differently (it depends on whether the FIN has been read yet), but
      when one side says "at the end" — and no DATA payload is outstanding — the other side's
      `poll_next` says `None` and stays related -/
  eosL : ∀ c a, R c a → S₁.isEos c = true → S₂.isEos a = false → S₂.hasData a = false →
    (S₂.pollNext a).1 = .none ∧ R c (S₂.pollNext a).2
  eosR : ∀ c a, R c a → S₁.isEos c = false → S₂.isEos a = true → S₂.hasData a = false →
    (S₁.pollNext c).1 = .none ∧ R (S₁.pollNext c).2 a

end H3.ReqRecv
