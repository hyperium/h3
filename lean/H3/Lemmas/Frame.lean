import H3.Model.Frame
import H3.Lemmas.VarintSpec
/-! A *view* of `Frame.decode` through the two varints of the frame header (`hdr2`, over `Varint.vhead`), from which
    the three decoder laws follow by arithmetic.  The header is where the three parties meet: the model reads it
    (`decode_view`), the encoder writes it (`decode_hdr`), and on bytes it is what two RFC 9000 §16 readings in a row
    find (`rfc2`, `decode_rfc`).  Well-formedness of the bytes is needed only where `rfcDecode` or a bound on a value
    comes in. -/
namespace H3.Frame
open H3.Varint H3.Gen.Consts
open H3.Spec.Output (wire)

/-- both varints of the frame header, if completely there: type (or WebTransport marker),
    second varint (length / session id), header size -/
def hdr2 (b : Bytes) : Option (Nat × Nat × Nat) :=
  match vhead b with
  | none => none
  | some (ty, n1) =>
    match vhead (b.drop n1) with
    | none => none
    | some (x, n2) => some (ty, x, n1 + n2)

/-- the number in `Incomplete(_)` when the header is not complete -/
def incN (b : Bytes) : Nat :=
  match vhead b with
  | none => b.length + 1
  | some (ty, n1) => if ty = FRAME_WEBTRANSPORT_BI_STREAM then vkOf (b.drop n1) else b.length + 1

/-- `Frame::decode` once the header `(ty, x, h)` has been read -/
def body (ty x h : Nat) (b : Bytes) : DecRes :=
  if ty = FRAME_WEBTRANSPORT_BI_STREAM then .frame (.webTransport x) h
  else if ty = FRAME_DATA then .frame (.data x) h
  else if b.length - h < x then .incomplete (2 + x)
  else typed ty ((b.drop h).take x) (h + x)

theorem incN_le (b : Bytes) : incN b ≤ b.length + 1 ∨ incN b ≤ 3 := by
  unfold incN
  split
  · exact .inl (Nat.le_refl _)
  · split
    · exact .inr (vkOf_le _)
    · exact .inl (Nat.le_refl _)

theorem decode_view (b : Bytes) :
    decode b = match hdr2 b with
      | none => .incomplete (incN b)
      | some (ty, x, h) => body ty x h b := by
  unfold decode hdr2 incN afterType
  rw [decode_vhead b]
  cases h1 : vhead b with
  | none => rfl
  | some p =>
    obtain ⟨ty, n1⟩ := p
    simp only
    rw [decode_vhead (b.drop n1)]
    cases h2 : vhead (b.drop n1) with
    | none => split <;> rfl
    | some q =>
      obtain ⟨x, n2⟩ := q
      have := (vhead_bounds h1).2
      have := (vhead_bounds h2).2
      have e : b.length - (b.length - (n1 + n2)) = n1 + n2 := by
        simp only [List.length_drop] at *; omega
      simp only [body, List.drop_drop, List.length_drop, e]

theorem hdr2_eq_some {b : Bytes} {ty x h : Nat} :
    hdr2 b = some (ty, x, h) ↔
      ∃ n1 n2, vhead b = some (ty, n1) ∧ vhead (b.drop n1) = some (x, n2) ∧ h = n1 + n2 := by
  unfold hdr2
  cases h1 : vhead b with
  | none => exact ⟨fun hh => (nomatch hh), fun ⟨_, _, hc, _⟩ => (nomatch hc)⟩
  | some p =>
    obtain ⟨ty', n1⟩ := p
    simp only
    cases h2 : vhead (b.drop n1) with
    | none =>
      refine ⟨fun hh => (nomatch hh), fun ⟨m1, _, hc, hc2, _⟩ => ?_⟩
      cases hc; rw [h2] at hc2; cases hc2
    | some q =>
      obtain ⟨x', n2⟩ := q
      refine ⟨fun hh => by cases hh; exact ⟨n1, n2, rfl, h2, rfl⟩, fun ⟨m1, m2, hc, hc2, he⟩ => ?_⟩
      cases hc; rw [h2] at hc2; cases hc2; rw [he]

theorem hdr2_lt {b : Bytes} {ty x h : Nat} (hwf : WF b) (hh : hdr2 b = some (ty, x, h)) : x < 2^62 := by
  obtain ⟨n1, _, _, h2, _⟩ := hdr2_eq_some.mp hh
  exact vhead_lt (WF_drop hwf n1) h2

theorem hdr2_bounds {b : Bytes} {ty x h : Nat} (hh : hdr2 b = some (ty, x, h)) :
    2 ≤ h ∧ h ≤ b.length := by
  obtain ⟨n1, n2, h1, h2, rfl⟩ := hdr2_eq_some.mp hh
  have ⟨a1, a2⟩ := vhead_bounds h1
  have ⟨a3, a4⟩ := vhead_bounds h2
  simp only [List.length_drop] at a4
  omega

theorem hdr2_append {b : Bytes} {t : Nat × Nat × Nat} (hh : hdr2 b = some t) (c : Bytes) :
    hdr2 (b ++ c) = some t := by
  obtain ⟨ty, x, h⟩ := t
  obtain ⟨n1, n2, h1, h2, rfl⟩ := hdr2_eq_some.mp hh
  refine hdr2_eq_some.mpr ⟨n1, n2, vhead_append h1 c, ?_, rfl⟩
  rw [List.drop_append_of_le_length (vhead_bounds h1).2]
  exact vhead_append h2 c

theorem hdr2_take {b : Bytes} {ty x h : Nat} (hh : hdr2 b = some (ty, x, h)) (k : Nat) :
    hdr2 (b.take k) = if k < h then none else some (ty, x, h) := by
  obtain ⟨n1, n2, h1, h2, rfl⟩ := hdr2_eq_some.mp hh
  unfold hdr2
  rw [vhead_take h1 k]
  by_cases hk1 : k < n1
  · rw [if_pos hk1, if_pos (by omega)]
  · rw [if_neg hk1]
    simp only
    rw [List.drop_take, vhead_take h2 (k - n1)]
    by_cases hk2 : k - n1 < n2
    · rw [if_pos hk2, if_pos (by omega)]
    · rw [if_neg hk2, if_neg (by omega)]

theorem hdr2_none_append {b c : Bytes} {ty x h : Nat} (hn : hdr2 b = none)
    (hh : hdr2 (b ++ c) = some (ty, x, h)) : incN b ≤ h := by
  -- the header is not complete in `b`
  have hlt : b.length < h := by
    have := hdr2_take hh b.length
    rw [List.take_left' rfl, hn] at this
    split at this
    · assumption
    · cases this
  obtain ⟨n1, n2, h1', h2', rfl⟩ := hdr2_eq_some.mp hh
  unfold incN
  cases h1 : vhead b with
  | none => simp only; omega
  | some p =>
    obtain ⟨ty', n1'⟩ := p
    simp only
    split
    · -- the WebTransport arm reports how much of the second varint is missing
      rw [vhead_append h1 c] at h1'
      cases h1'
      rw [List.drop_append_of_le_length (vhead_bounds h1).2] at h2'
      cases h2 : vhead (b.drop n1) with
      | some q => rw [hdr2_eq_some.mpr ⟨n1, q.2, h1, h2, rfl⟩] at hn; cases hn
      | none => have := (vhead_none_append h2 h2').2; omega
    · omega

theorem hdr2_none_take {b : Bytes} (hn : hdr2 b = none) (k : Nat) : hdr2 (b.take k) = none := by
  cases h' : hdr2 (b.take k) with
  | none => rfl
  | some t =>
    have := hdr2_append h' (b.drop k)
    rw [List.take_append_drop, hn] at this
    cases this

/-- what `typed` can answer for a payload ending at `n`: an error, "unknown", or a frame that is neither DATA nor
    the WebTransport signal, each at position `n`; never `incomplete` -/
def DecRes.typedOK (n : Nat) : DecRes → Prop
  | .frame (.data _) _ | .frame (.webTransport _) _ | .incomplete _ => False
  | .frame _ m | .unknown m => m = n
  | .error _ => True

theorem typed_ok (ty : Nat) (p : Bytes) (n : Nat) : (typed ty p n).typedOK n := by
  unfold typed
  by_cases h1 : ty = FRAME_HEADERS
  · rw [if_pos h1]; rfl
  rw [if_neg h1]
  by_cases h2 : ty = FRAME_SETTINGS
  · rw [if_pos h2]; cases settingsDecode p <;> first | rfl | trivial
  rw [if_neg h2]
  by_cases h3 : ty = FRAME_CANCEL_PUSH
  · rw [if_pos h3]; cases oneVarint p <;> first | rfl | trivial
  rw [if_neg h3]
  by_cases h4 : ty = FRAME_PUSH_PROMISE
  · rw [if_pos h4]; cases Varint.decode p <;> first | rfl | trivial
  rw [if_neg h4]
  by_cases h5 : ty = FRAME_GOAWAY
  · rw [if_pos h5]; cases oneVarint p <;> first | rfl | trivial
  rw [if_neg h5]
  by_cases h6 : ty = FRAME_MAX_PUSH_ID
  · rw [if_pos h6]; cases oneVarint p <;> first | rfl | trivial
  rw [if_neg h6]
  cases isH2 ty <;> first | rfl | trivial

/-- two RFC 9000 §16 integers in a row: what every specification in `H3/Spec` starts a frame, a SETTINGS
    entry or a stream header with -/
def rfc2 (w : Bytes) : Option (Nat × Nat × Bytes) :=
  match rfcDecode w with
  | none => none
  | some (a, r1) => match rfcDecode r1 with
    | none => none
    | some (x, r2) => some (a, x, r2)

theorem rfc2_some {w r1 r2 : Bytes} {a x : Nat} (h1 : rfcDecode w = some (a, r1))
    (h2 : rfcDecode r1 = some (x, r2)) : rfc2 w = some (a, x, r2) := by
  simp only [rfc2, h1, h2]

theorem rfc2_none {w : Bytes}
    (h : rfcDecode w = none ∨ ∃ a r1, rfcDecode w = some (a, r1) ∧ rfcDecode r1 = none) : rfc2 w = none := by
  rcases h with h | ⟨a, r1, h1, h2⟩
  · simp only [rfc2, h]
  · simp only [rfc2, h1, h2]

theorem rfc2_eq_hdr2 (w : Bytes) (hwf : WF w) :
    rfc2 w = (hdr2 w).map fun t => (t.1, t.2.1, w.drop t.2.2) := by
  unfold rfc2 hdr2
  rw [rfcDecode_eq_vhead w hwf]
  cases h1 : vhead w with
  | none => rfl
  | some p =>
    obtain ⟨a, n1⟩ := p
    simp only [Option.map_some]
    rw [rfcDecode_eq_vhead _ (WF_drop hwf n1)]
    cases h2 : vhead (w.drop n1) with
    | none => rfl
    | some q =>
      simp only [Option.map_some, List.drop_drop]

theorem rfc2_facts {w r2 : Bytes} {a x : Nat} (hwf : WF w) (h : rfc2 w = some (a, x, r2)) :
    a < 2^62 ∧ x < 2^62 ∧ WF r2 ∧ r2.length + 2 ≤ w.length ∧ r2 = w.drop (w.length - r2.length) := by
  rw [rfc2_eq_hdr2 w hwf] at h
  cases hh : hdr2 w with
  | none => rw [hh] at h; cases h
  | some t =>
    obtain ⟨a', x', n⟩ := t
    rw [hh] at h
    simp only [Option.map_some, Option.some.injEq, Prod.mk.injEq] at h
    obtain ⟨rfl, rfl, rfl⟩ := h
    obtain ⟨n1, n2, h1, h2, rfl⟩ := hdr2_eq_some.mp hh
    have hb := hdr2_bounds hh
    rw [List.length_drop]
    exact ⟨vhead_lt hwf h1, vhead_lt (WF_drop hwf n1) h2, WF_drop hwf _, by omega,
      by rw [show w.length - (w.length - (n1 + n2)) = n1 + n2 by omega]⟩

/-- the header only; `typed_classify`, `typed_unknown` (Lemmas/FrameSpec.lean) do the payload -/
theorem decode_rfc (w : Bytes) (hwf : WF w) :
    decode w = match rfc2 w with
      | none => .incomplete (incN w)
      | some (ty, len, r2) =>
        if ty = FRAME_WEBTRANSPORT_BI_STREAM then .frame (.webTransport len) (w.length - r2.length)
        else if ty = FRAME_DATA then .frame (.data len) (w.length - r2.length)
        else if r2.length < len then .incomplete (2 + len)
        else typed ty (r2.take len) (w.length - r2.length + len) := by
  rw [decode_view, rfc2_eq_hdr2 w hwf]
  cases hh : hdr2 w with
  | none => rfl
  | some t =>
    obtain ⟨ty, x, h⟩ := t
    have hb := (hdr2_bounds hh).2
    have e : w.length - (w.length - h) = h := by omega
    simp only [Option.map_some, body, List.length_drop, e]

theorem hdr2_wire (ty x : Nat) (hty : ty < 2^62) (hx : x < 2^62) (r : Bytes) :
    hdr2 (encode ty ++ encode x ++ r) = some (ty, x, (encode ty ++ encode x).length) := by
  refine hdr2_eq_some.mpr ⟨_, _, ?_, ?_, List.length_append⟩
  · rw [List.append_assoc]; exact vhead_encode ty hty _
  · rw [List.append_assoc, List.drop_left]; exact vhead_encode x hx r

theorem decode_hdr (ty x : Nat) (hty : ty < 2^62) (hx : x < 2^62) (r : Bytes) :
    decode (encode ty ++ encode x ++ r) =
      body ty x (encode ty ++ encode x).length (encode ty ++ encode x ++ r) := by
  rw [decode_view, hdr2_wire ty x hty hx]

theorem decode_wire (ty : Nat) (p rest : Bytes) (hty : ty < 2^62) (hp : p.length < 2^62) :
    decode (wire ty p ++ rest) =
      if ty = FRAME_WEBTRANSPORT_BI_STREAM then .frame (.webTransport p.length) (encode ty ++ encode p.length).length
      else if ty = FRAME_DATA then .frame (.data p.length) (encode ty ++ encode p.length).length
      else typed ty p (wire ty p).length := by
  have e : wire ty p ++ rest = encode ty ++ encode p.length ++ (p ++ rest) := by simp [wire]
  have hl : (wire ty p).length = (encode ty ++ encode p.length).length + p.length := by
    simp only [wire, List.length_append]
  rw [e, decode_hdr ty _ hty hp, hl]
  simp only [body, List.drop_left, List.take_left]
  rw [if_neg (show ¬ (encode ty ++ encode p.length ++ (p ++ rest)).length - (encode ty ++ encode p.length).length
    < p.length by simp only [List.length_append]; omega)]

end H3.Frame
