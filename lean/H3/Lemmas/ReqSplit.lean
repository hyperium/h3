import H3.Model.ReqRecv
/-! `RequestStream::split` in the scenario machine `Sim` (what the correspondence run executes): a
    `split` posted anywhere — before, between or behind the receive calls, while a call is waiting
    (it then waits in the mailbox), twice, to a task that has ended — changes nothing but its own
    entries in the log: the stream state (buffered bytes, decoder state, `remaining_data`, saved
    trailers, the error cell and the resets), the task's life, the call in progress, the calls
    waiting and every other log entry are what they are without it (`SimEq`, `runOps_noSp`). -/
namespace H3.ReqRecv

def Call.isSp (c : Call) : Bool := c.cmd == .sp
def notSpL (e : Cmd × Ans) : Bool := e.1 != .sp
def Op.isSpCall : Op → Bool
  | .call c => c.isSp
  | _ => false

/-- equal up to `split` entries in the log and `split` calls waiting in the mailbox -/
structure SimEq (a b : Sim) : Prop where
  role : a.role = b.role
  st : a.st = b.st
  alive : a.alive = b.alive
  resolved : a.resolved = b.resolved
  inflight : a.inflight = b.inflight
  mailbox : a.mailbox.filter (fun c => !c.isSp) = b.mailbox.filter (fun c => !c.isSp)
  log : a.log.filter notSpL = b.log.filter notSpL

theorem SimEq.refl (a : Sim) : SimEq a a := ⟨rfl, rfl, rfl, rfl, rfl, rfl, rfl⟩
theorem SimEq.symm {a b : Sim} (h : SimEq a b) : SimEq b a :=
  ⟨h.role.symm, h.st.symm, h.alive.symm, h.resolved.symm, h.inflight.symm, h.mailbox.symm, h.log.symm⟩
theorem SimEq.trans {a b c : Sim} (h : SimEq a b) (g : SimEq b c) : SimEq a c :=
  ⟨h.role.trans g.role, h.st.trans g.st, h.alive.trans g.alive, h.resolved.trans g.resolved,
   h.inflight.trans g.inflight, h.mailbox.trans g.mailbox, h.log.trans g.log⟩

theorem SimEq.log_cons {a b : Sim} (h : SimEq a b) (e : Cmd × Ans) :
    (e :: a.log).filter notSpL = (e :: b.log).filter notSpL := by
  simp only [List.filter_cons, h.log]

theorem SimEq.update {a b : Sim} (h : SimEq a b) (st : St FSt) {aa ab ra rb : Bool} (ha : aa = ab)
    (hr : ra = rb) (e : Cmd × Ans) :
    SimEq { a with st := st, alive := aa, resolved := ra, log := e :: a.log }
      { b with st := st, alive := ab, resolved := rb, log := e :: b.log } :=
  ⟨h.role, rfl, ha, hr, h.inflight, h.mailbox, h.log_cons e⟩

theorem SimEq.logged {a b : Sim} (h : SimEq a b) (e : Cmd × Ans) :
    SimEq { a with log := e :: a.log } { b with log := e :: b.log } :=
  ⟨h.role, h.st, h.alive, h.resolved, h.inflight, h.mailbox, h.log_cons e⟩

theorem SimEq.queued {a b : Sim} (h : SimEq a b) {ia ib : Option Call} (hi : ia = ib) {ma mb : List Call}
    (hm : (ma.filter fun c => !c.isSp) = mb.filter fun c => !c.isSp) :
    SimEq { a with inflight := ia, mailbox := ma } { b with inflight := ib, mailbox := mb } :=
  ⟨h.role, h.st, h.alive, h.resolved, hi, hm, h.log⟩

theorem SimEq.loggedSp {a b : Sim} (h : SimEq a b) (e : Cmd × Ans) (he : notSpL e = false) :
    SimEq { a with log := e :: a.log } b :=
  ⟨h.role, h.st, h.alive, h.resolved, h.inflight, h.mailbox, by simp [he, h.log]⟩

theorem SimEq.fuel {a b : Sim} (h : SimEq a b) : a.fuel = b.fuel := by simp only [Sim.fuel, h.st]

theorem Call.cmd_of_isSp {c : Call} (h : c.isSp = true) : c.cmd = .sp := by simpa [Call.isSp] using h

def Sim.WFm (m : Sim) : Prop := m.inflight = none → m.mailbox = []

theorem recvHalf_eq {σ : Type} (st : St σ) : st.recvHalf = st := rfl

theorem attempt_sp (H : Hdr) (m : Sim) (c : Call) (hc : c.isSp = true) (fuel : Nat) :
    attempt H m c (fuel + 1) = some { m with log := (.sp, .ok) :: m.log } := by
  rw [attempt]
  simp only [Call.cmd_of_isSp hc, recvHalf_eq]

theorem accepts_eq {a b : Sim} (h : SimEq a b) (c : Cmd) : accepts a c = accepts b c := by
  unfold accepts
  rw [h.role, h.resolved]

theorem attempt_congr (H : Hdr) (c : Call) (hc : c.isSp = false) : ∀ (fuel : Nat) (a b : Sim), SimEq a b →
    (attempt H a c fuel = none ∧ attempt H b c fuel = none) ∨
    (∃ a' b', attempt H a c fuel = some a' ∧ attempt H b c fuel = some b' ∧ SimEq a' b') := by
  have hne : c.cmd ≠ .sp := by
    intro h; simp [Call.isSp, h] at hc
  intro fuel
  induction fuel with
  | zero =>
    intro a b h
    exact Or.inr ⟨_, _, rfl, rfl, h.logged _⟩
  | succ f ih =>
    intro a b h
    rw [attempt, attempt]
    cases hcmd : c.cmd with
    | sp => exact absurd hcmd hne
    | res =>
      simp only [h.st]
      split
      · exact Or.inl ⟨rfl, rfl⟩
      · exact Or.inr ⟨_, _, rfl, rfl, h.update _ rfl rfl _⟩
    | rr | rd | rt =>
      simp only [h.st, h.fuel]
      split
      · exact Or.inl ⟨rfl, rfl⟩
      · exact Or.inr ⟨_, _, rfl, rfl, h.update _ rfl h.resolved _⟩
    | rda =>
      simp only [h.st, h.fuel]
      rcases hq : pollRecvData fsSrc b.fuel b.st with ⟨r, st'⟩
      cases r with
      | pending => exact Or.inl ⟨rfl, rfl⟩
      | data d =>
        simp only
        have h' : SimEq { a with st := st', log := (Cmd.rd, Ans.res (Res.data d)) :: a.log }
            { b with st := st', log := (Cmd.rd, Ans.res (Res.data d)) :: b.log } :=
          h.update st' h.alive h.resolved _
        rcases ih _ _ h' with ⟨h1, h2⟩ | ⟨a', b', h1, h2, h3⟩
        · rw [h1, h2]
          exact Or.inr ⟨_, _, rfl, rfl, ⟨h'.role, h'.st, h'.alive, h'.resolved, rfl, h'.mailbox, h'.log⟩⟩
        · rw [h1, h2]
          exact Or.inr ⟨_, _, rfl, rfl, h3⟩
      | _ => exact Or.inr ⟨_, _, rfl, rfl, h.update _ rfl h.resolved _⟩

theorem runQueue_dead (H : Hdr) (l : List Call) (a : Sim) (h : a.alive = false) :
    runQueue H l a = { a with mailbox := [] } := by
  cases l with
  | nil => rfl
  | cons c rest => rw [runQueue]; simp [h]

theorem runQueue_bad (H : Hdr) (c : Call) (rest : List Call) (a : Sim) (h : a.alive = true)
    (hacc : accepts a c.cmd = false) :
    runQueue H (c :: rest) a = runQueue H rest { a with log := (c.cmd, .badCmd) :: a.log } := by
  rw [runQueue]; simp [h, hacc]

def afterAttempt (H : Hdr) (rest : List Call) (a : Sim) (c : Call) : Option Sim → Sim
  | none => { a with inflight := some c, mailbox := rest }
  | some m' =>
    match m'.inflight with
    | some _ => { m' with mailbox := rest }
    | none => runQueue H rest m'

theorem runQueue_run (H : Hdr) (c : Call) (rest : List Call) (a : Sim) (h : a.alive = true)
    (hacc : accepts a c.cmd = true) :
    runQueue H (c :: rest) a = afterAttempt H rest a c (attempt H a c (a.fuel + 1)) := by
  rw [runQueue, if_neg (by simp [h]), if_neg (by simp [hacc])]
  cases attempt H a c (a.fuel + 1) <;> rfl

theorem afterAttempt_idle (H : Hdr) (rest : List Call) (a : Sim) (c : Call) (m' : Sim) (hi : m'.inflight = none) :
    afterAttempt H rest a c (some m') = runQueue H rest m' := by
  simp only [afterAttempt]
  rw [hi]

theorem afterAttempt_busy (H : Hdr) (rest : List Call) (a : Sim) (c c' : Call) (m' : Sim)
    (hi : m'.inflight = some c') :
    afterAttempt H rest a c (some m') = { m' with mailbox := rest } := by
  simp only [afterAttempt]
  rw [hi]

/-- running a queue of calls: the `split` calls in it do not matter -/
theorem runQueue_congr (H : Hdr) : ∀ (l : List Call) (a b : Sim), SimEq a b → a.inflight = none →
    SimEq (runQueue H l a) (runQueue H (l.filter fun c => !c.isSp) b) ∧ (runQueue H l a).WFm := by
  intro l
  induction l with
  | nil =>
    intro a b h _
    exact ⟨h.queued h.inflight rfl, fun _ => rfl⟩
  | cons c rest ih =>
    intro a b h ha
    have hb : b.inflight = none := h.inflight ▸ ha
    by_cases halive : a.alive = true
    · have hbalive : b.alive = true := h.alive ▸ halive
      by_cases hsp : c.isSp = true
      · -- a `split`: carried out (or refused) at once, only the log changes
        have hfil : ((c :: rest).filter fun c => !c.isSp) = rest.filter fun c => !c.isSp := by
          simp [hsp]
        rw [hfil]
        by_cases hacc : accepts a c.cmd = true
        · rw [runQueue_run H c rest a halive hacc, attempt_sp H a c hsp,
            afterAttempt_idle H rest a c { a with log := (.sp, .ok) :: a.log } ha]
          exact ih { a with log := (.sp, .ok) :: a.log } b (h.loggedSp _ rfl) ha
        · rw [runQueue_bad H c rest a halive (by simpa using hacc)]
          exact ih { a with log := (c.cmd, .badCmd) :: a.log } b (h.loggedSp _ (by simp [notSpL, Call.cmd_of_isSp hsp])) ha
      · have hsp' : c.isSp = false := by simpa using hsp
        have hfil : ((c :: rest).filter fun c => !c.isSp) = c :: rest.filter fun c => !c.isSp := by
          simp [hsp']
        rw [hfil]
        by_cases hacc : accepts a c.cmd = true
        · have hacc' : accepts b c.cmd = true := by rw [← accepts_eq h]; exact hacc
          rw [runQueue_run H c rest a halive hacc, runQueue_run H c _ b hbalive hacc']
          rw [← h.fuel]
          rcases attempt_congr H c hsp' (a.fuel + 1) a b h with ⟨h1, h2⟩ | ⟨a', b', h1, h2, h3⟩
          · rw [h1, h2]
            exact ⟨h.queued rfl (by simp [List.filter_filter]), fun hc => by cases hc⟩
          · rw [h1, h2]
            cases hi : a'.inflight with
            | none =>
              have hi' : b'.inflight = none := h3.inflight ▸ hi
              rw [afterAttempt_idle H rest a c a' hi, afterAttempt_idle H _ b c b' hi']
              exact ih a' b' h3 hi
            | some c' =>
              -- the body loop made progress and waits again
              have hi' : b'.inflight = some c' := h3.inflight ▸ hi
              rw [afterAttempt_busy H rest a c c' a' hi, afterAttempt_busy H _ b c c' b' hi']
              exact ⟨h3.queued h3.inflight (by simp [List.filter_filter]), fun hc => absurd (hi.symm.trans hc) (by simp)⟩
        · have hacc0 : accepts a c.cmd = false := by simpa using hacc
          have hacc' : accepts b c.cmd = false := by rw [← accepts_eq h]; exact hacc0
          rw [runQueue_bad H c rest a halive hacc0, runQueue_bad H c _ b hbalive hacc']
          exact ih { a with log := (c.cmd, .badCmd) :: a.log } { b with log := (c.cmd, .badCmd) :: b.log }
            (h.logged _) ha
    · have halive' : a.alive = false := by simpa using halive
      have hbalive : b.alive = false := h.alive ▸ halive'
      rw [runQueue_dead H _ a halive', runQueue_dead H _ b hbalive]
      exact ⟨h.queued h.inflight rfl, fun _ => rfl⟩

theorem runQueue_congr2 (H : Hdr) (l l' : List Call) (a b : Sim) (h : SimEq a b) (ha : a.inflight = none)
    (hl : (l.filter fun c => !c.isSp) = l'.filter fun c => !c.isSp) :
    SimEq (runQueue H l a) (runQueue H l' b) ∧ (runQueue H l a).WFm ∧ (runQueue H l' b).WFm := by
  have hb : b.inflight = none := h.inflight ▸ ha
  obtain ⟨h1, w1⟩ := runQueue_congr H l a b h ha
  obtain ⟨h2, w2⟩ := runQueue_congr H l' b b (SimEq.refl b) hb
  rw [hl] at h1
  exact ⟨h1.trans h2.symm, w1, w2⟩

def Sim.arrive (m : Sim) (e : FS.Ev) : Sim :=
  { m with st := { m.st with src := (m.st.src.1, m.st.src.2 ++ [e]) } }

theorem step_ev_dead (H : Hdr) (e : FS.Ev) (a : Sim) (h : a.alive = false) : a.step H (.ev e) = a.arrive e := by
  simp [Sim.step, Sim.arrive, h]

theorem step_ev_idle (H : Hdr) (e : FS.Ev) (a : Sim) (h : a.alive = true) (hi : a.inflight = none) :
    a.step H (.ev e) = a.arrive e := by
  simp [Sim.step, Sim.arrive, h, hi]

theorem step_ev_run (H : Hdr) (e : FS.Ev) (a : Sim) (c : Call) (h : a.alive = true) (hi : a.inflight = some c) :
    a.step H (.ev e) = runQueue H (c :: a.mailbox) { a.arrive e with inflight := none } := by
  simp [Sim.step, Sim.arrive, h, hi]

theorem step_call_dead (H : Hdr) (c : Call) (a : Sim) (h : a.alive = false) :
    a.step H (.call c) = { a with log := (c.cmd, .noTask) :: a.log } := by
  simp [Sim.step, h]

theorem step_call_busy (H : Hdr) (c c0 : Call) (a : Sim) (h : a.alive = true) (hi : a.inflight = some c0) :
    a.step H (.call c) = { a with mailbox := a.mailbox ++ [c] } := by
  simp [Sim.step, h, hi]

theorem step_call_idle (H : Hdr) (c : Call) (a : Sim) (h : a.alive = true) (hi : a.inflight = none) :
    a.step H (.call c) = runQueue H [c] a := by
  simp [Sim.step, h, hi]

theorem arrive_eq {a b : Sim} (h : SimEq a b) (e : FS.Ev) : SimEq (a.arrive e) (b.arrive e) :=
  ⟨h.role, by simp [Sim.arrive, h.st], h.alive, h.resolved, h.inflight, h.mailbox, h.log⟩

/-- one op on machines equal up to `split` entries -/
theorem step_congr (H : Hdr) (op : Op) (a b : Sim) (h : SimEq a b) (wa : a.WFm) (wb : b.WFm) :
    SimEq (a.step H op) (b.step H op) ∧ (a.step H op).WFm ∧ (b.step H op).WFm := by
  cases op with
  | ev e =>
    have h1 := arrive_eq h e
    by_cases halive : a.alive = true
    · have hbalive : b.alive = true := h.alive ▸ halive
      cases hi : a.inflight with
      | none =>
        have hi' : b.inflight = none := h.inflight ▸ hi
        rw [step_ev_idle H e a halive hi, step_ev_idle H e b hbalive hi']
        exact ⟨h1, fun _ => wa hi, fun _ => wb hi'⟩
      | some c =>
        have hi' : b.inflight = some c := h.inflight ▸ hi
        rw [step_ev_run H e a c halive hi, step_ev_run H e b c hbalive hi']
        refine runQueue_congr2 H _ _ _ _
          ⟨h1.role, h1.st, h1.alive, h1.resolved, rfl, h1.mailbox, h1.log⟩ rfl ?_
        by_cases hcs : c.isSp = true
        · simp [hcs, h.mailbox]
        · simp [hcs, h.mailbox]
    · have halive' : a.alive = false := by simpa using halive
      have hbalive : b.alive = false := h.alive ▸ halive'
      rw [step_ev_dead H e a halive', step_ev_dead H e b hbalive]
      exact ⟨h1, wa, wb⟩
  | call c =>
    by_cases halive : a.alive = true
    · have hbalive : b.alive = true := h.alive ▸ halive
      cases hi : a.inflight with
      | none =>
        have hi' : b.inflight = none := h.inflight ▸ hi
        rw [step_call_idle H c a halive hi, step_call_idle H c b hbalive hi']
        exact runQueue_congr2 H [c] [c] a b h hi rfl
      | some c0 =>
        have hi' : b.inflight = some c0 := h.inflight ▸ hi
        rw [step_call_busy H c c0 a halive hi, step_call_busy H c c0 b hbalive hi']
        refine ⟨⟨h.role, h.st, h.alive, h.resolved, h.inflight, ?_, h.log⟩, fun hc => ?_, fun hc => ?_⟩
        · simp [List.filter_append, h.mailbox]
        · exact absurd (hi.symm.trans hc) (by simp)
        · exact absurd (hi'.symm.trans hc) (by simp)
    · have halive' : a.alive = false := by simpa using halive
      have hbalive : b.alive = false := h.alive ▸ halive'
      rw [step_call_dead H c a halive', step_call_dead H c b hbalive]
      exact ⟨h.logged _, wa, wb⟩

/-- a `split` posted to the task: nothing but its own entries changes -/
theorem step_sp (H : Hdr) (c : Call) (hc : c.isSp = true) (a : Sim) (wa : a.WFm) :
    SimEq (a.step H (.call c)) a ∧ (a.step H (.call c)).WFm := by
  by_cases halive : a.alive = true
  · cases hi : a.inflight with
    | none =>
      rw [step_call_idle H c a halive hi]
      obtain ⟨h1, w1⟩ := runQueue_congr H [c] a a (SimEq.refl a) hi
      have hf : ([c].filter fun c => !c.isSp) = [] := by simp [hc]
      rw [hf, runQueue] at h1
      refine ⟨h1.trans ⟨rfl, rfl, rfl, rfl, rfl, ?_, rfl⟩, w1⟩
      rw [wa hi]
    | some c0 =>
      rw [step_call_busy H c c0 a halive hi]
      refine ⟨⟨rfl, rfl, rfl, rfl, rfl, ?_, rfl⟩, fun h => absurd (hi.symm.trans h) (by simp)⟩
      simp [List.filter_append, hc]
  · have halive' : a.alive = false := by simpa using halive
    rw [step_call_dead H c a halive']
    refine ⟨⟨rfl, rfl, rfl, rfl, rfl, rfl, ?_⟩, wa⟩
    simp [notSpL, Call.cmd_of_isSp hc]

/-- **Splitting does not change what the receive side does.**  Remove every `split` from a scenario:
    the machine ends up equal up to the `split` entries of the log (and `split` calls still waiting). -/
theorem runOps_noSp (H : Hdr) : ∀ (ops : List Op) (a b : Sim), SimEq a b → a.WFm → b.WFm →
    SimEq (runOps H a ops) (runOps H b (ops.filter fun o => !o.isSpCall)) := by
  intro ops
  induction ops with
  | nil => intro a b h _ _; exact h
  | cons op rest ih =>
    intro a b h wa wb
    by_cases hs : op.isSpCall = true
    · have hf : ((op :: rest).filter fun o => !o.isSpCall) = rest.filter fun o => !o.isSpCall := by
        simp [hs]
      rw [hf]
      cases op with
      | ev e => simp [Op.isSpCall] at hs
      | call c =>
        obtain ⟨h1, w1⟩ := step_sp H c (by simpa [Op.isSpCall] using hs) a wa
        exact ih _ b (h1.trans h) w1 wb
    · have hf : ((op :: rest).filter fun o => !o.isSpCall) = op :: rest.filter fun o => !o.isSpCall := by
        simp [hs]
      rw [hf]
      obtain ⟨h1, w1, w2⟩ := step_congr H op a b h wa wb
      exact ih _ _ h1 w1 w2

end H3.ReqRecv
