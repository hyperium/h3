import H3.Model.Split
/-! `split()` on a request stream (`H3.E2E.Handle`, `Model/Split.lean`): receive calls on the receive half and
    send calls on the send half do what they would have done on the whole stream, wherever the split falls and
    however the two tasks are interleaved.  All of it rests on `Whole.split_rx`, `split_maxSize`, `split_tx`
    (the halves are handed the receive state resp. the send side; false for a `split` that forgets a field),
    carried through the calls by `Shows`. -/
namespace H3.E2E
open H3.SendSide
open H3.ReqRecv (Role Hdr Res St FSt fsSrc fsFuel pollHead)

theorem Whole.split_rx (w : Whole) : w.split.2.rx = w.rx := rfl
theorem Whole.split_maxSize (w : Whole) : w.split.2.maxSize = w.maxSize := rfl
theorem Whole.split_tx (w : Whole) : w.split.1.tx = w.tx := rfl

theorem Handle.split_rx (h : Handle) : h.split.rx = h.rx := by
  cases h with
  | whole w => exact w.split_rx
  | halves _ _ => rfl
theorem Handle.split_maxSize (h : Handle) : h.split.maxSize = h.maxSize := by
  cases h with
  | whole w => exact w.split_maxSize
  | halves _ _ => rfl
theorem Handle.split_tx (h : Handle) : h.split.tx = h.tx := by
  cases h with
  | whole w => exact w.split_tx
  | halves _ _ => rfl

theorem Handle.recvPoll_ans (HL : Nat → Hdr) (c : RCall) (h : Handle) :
    (h.recvPoll HL c).1 = (c.poll (HL h.maxSize) h.rx).1 := by cases h <;> rfl
theorem Handle.recvPoll_rx (HL : Nat → Hdr) (c : RCall) (h : Handle) :
    (h.recvPoll HL c).2.rx = (c.poll (HL h.maxSize) h.rx).2 := by cases h <;> rfl
theorem Handle.recvPoll_maxSize (HL : Nat → Hdr) (c : RCall) (h : Handle) :
    (h.recvPoll HL c).2.maxSize = h.maxSize := by cases h <;> rfl
theorem Handle.recvPoll_tx (HL : Nat → Hdr) (c : RCall) (h : Handle) :
    (h.recvPoll HL c).2.tx = h.tx := by cases h <;> rfl

theorem Handle.sendOp_rx (op : SOp) (h : Handle) : (h.sendOp op).rx = h.rx := by cases h <;> rfl
theorem Handle.sendOp_maxSize (op : SOp) (h : Handle) : (h.sendOp op).maxSize = h.maxSize := by
  cases h <;> rfl
theorem Handle.sendOp_tx (op : SOp) (h : Handle) : (h.sendOp op).tx = op.apply h.tx := by cases h <;> rfl

/-- what a receive task and a send task can tell apart of two handles -/
structure Same (h h' : Handle) : Prop where
  rx : h.rx = h'.rx
  maxSize : h.maxSize = h'.maxSize
  tx : h.tx = h'.tx

/-- all that the two tasks see of a handle.  With `st`, `L`, `tx` variables a step on the handle is the step
    on `st` (resp. `tx`) and the inductions below need no rewriting. -/
structure Shows (h : Handle) (st : St FSt) (L : Nat) (tx : Stream) : Prop where
  rx : h.rx = st
  maxSize : h.maxSize = L
  tx : h.tx = tx

theorem shows (h : Handle) : Shows h h.rx h.maxSize h.tx := ⟨rfl, rfl, rfl⟩

section Shows
variable {h h' : Handle} {st : St FSt} {L : Nat} {tx : Stream}

theorem Shows.same (s : Shows h st L tx) (s' : Shows h' st L tx) : Same h h' :=
  ⟨s.rx.trans s'.rx.symm, s.maxSize.trans s'.maxSize.symm, s.tx.trans s'.tx.symm⟩

theorem Shows.split (s : Shows h st L tx) : Shows h.split st L tx :=
  ⟨h.split_rx.trans s.rx, h.split_maxSize.trans s.maxSize, h.split_tx.trans s.tx⟩

theorem Shows.sendOp (s : Shows h st L tx) (op : SOp) : Shows (h.sendOp op) st L (op.apply tx) :=
  ⟨(h.sendOp_rx op).trans s.rx, (h.sendOp_maxSize op).trans s.maxSize, by rw [h.sendOp_tx op, s.tx]⟩

theorem Shows.recvPoll (s : Shows h st L tx) (HL : Nat → Hdr) (c : RCall) :
    (h.recvPoll HL c).1 = (c.poll (HL L) st).1 ∧ Shows (h.recvPoll HL c).2 (c.poll (HL L) st).2 L tx := by
  obtain ⟨rfl, rfl, rfl⟩ := s
  exact ⟨h.recvPoll_ans HL c, h.recvPoll_rx HL c, h.recvPoll_maxSize HL c, h.recvPoll_tx HL c⟩

theorem Shows.tick {x : Option Nat × Handle} (s : Shows x.2 st L tx) : Shows (tick x).2 st L tx := by
  obtain ⟨k, h⟩ := x
  cases k with
  | none => exact s
  | some n =>
    cases n with
    | zero => exact s.split
    | succ n => exact s

theorem Shows.await (HL : Nat → Hdr) (call : RCall) : ∀ (fuel : Nat) {h : Handle} {st : St FSt}, Shows h st L tx →
    (Handle.await HL call fuel h).1 = (H3.E2E.await (call.poll (HL L)) fuel st).1 ∧
    Shows (Handle.await HL call fuel h).2 (H3.E2E.await (call.poll (HL L)) fuel st).2 L tx := by
  intro fuel
  induction fuel with
  | zero => intro h st s; exact ⟨rfl, s⟩
  | succ fuel ih =>
    intro h st s
    obtain ⟨a, s'⟩ := s.recvPoll HL call
    rw [Handle.await, H3.E2E.await, a, s'.rx]
    by_cases hc : (call.poll (HL L) st).1 = Res.pending ∧ (call.poll (HL L) st).2.src.2 ≠ []
    · rw [if_pos hc, if_pos hc]
      exact ih s'
    · rw [if_neg hc, if_neg hc]
      exact ⟨a, s'⟩

theorem Shows.awaitCall (s : Shows h st L tx) (HL : Nat → Hdr) (call : RCall) :
    (h.awaitCall HL call).1 = (H3.E2E.awaitCall (call.poll (HL L)) st).1 ∧
    Shows (h.awaitCall HL call).2 (H3.E2E.awaitCall (call.poll (HL L)) st).2 L tx := by
  rw [Handle.awaitCall, s.rx]
  exact Shows.await HL call _ s

theorem Shows.recvBodyH (HL : Nat → Hdr) : ∀ (fuel : Nat) {x : Option Nat × Handle} {st : St FSt},
    Shows x.2 st L tx →
    (recvBodyH HL fuel x).1 = (recvBody fuel st).1 ∧ Shows (recvBodyH HL fuel x).2.2 (recvBody fuel st).2 L tx := by
  intro fuel
  induction fuel with
  | zero => intro x st s; exact ⟨rfl, s⟩
  | succ fuel ih =>
    intro x st s
    have ⟨a, s'⟩ := s.tick.awaitCall HL .data
    -- `RCall.data.poll` is the body of `recvData`
    simp only [RCall.poll, ← recvData.eq_1] at a s'
    rw [H3.E2E.recvBodyH, recvBody, a]
    generalize (recvData st).1 = r
    cases r with
    | data d => exact ⟨congrArg _ (ih (x := (_, _)) s').1, (ih (x := (_, _)) s').2⟩
    | _ => exact ⟨rfl, s'⟩

theorem Shows.recvTailH {x : Option Nat × Handle} (s : Shows x.2 st L tx) (HL : Nat → Hdr) :
    (recvTailH HL x).1 = (recvTailFrom (HL L) st).1 ∧ (recvTailH HL x).2.1 = (recvTailFrom (HL L) st).2.1 ∧
    Shows (recvTailH HL x).2.2 (recvTailFrom (HL L) st).2.2 L tx := by
  have ⟨e, s'⟩ := Shows.recvBodyH HL (fsFuel st.src) s
  simp only [H3.E2E.recvTailH, recvTailFrom, s.rx, e]
  split
  · have ⟨a, s''⟩ := s'.tick.awaitCall HL .trailers
    exact ⟨rfl, congrArg some a, s''⟩
  · exact ⟨rfl, rfl, s'⟩

theorem Shows.recvPatternH (s : Shows h st L tx) (role : Role) (HL : Nat → Hdr) (k : Option Nat) :
    (recvPatternH role HL k h).1 = (recvPatternFrom role (HL L) st).1 ∧
    Shows (recvPatternH role HL k h).2 (recvPatternFrom role (HL L) st).2 L tx := by
  have ⟨a, s'⟩ := (Shows.tick (x := (k, h)) s).awaitCall HL (.head role)
  simp only [RCall.poll] at a s'
  simp only [H3.E2E.recvPatternH, recvPatternFrom, a]
  generalize (H3.E2E.awaitCall (pollHead role fsSrc (HL L)) st).1 = r
  cases r with
  | head b =>
    have ⟨e, f, s''⟩ := Shows.recvTailH (x := ((H3.E2E.tick (k, h)).1, _)) s' HL
    exact ⟨by simp only [e, f, s''.rx], s''⟩
  | _ => exact ⟨by simp only [s'.rx], s'⟩

end Shows

theorem Shows.run (HL : Nat → Hdr) {L : Nat} : ∀ (acts : List Act) {h : Handle} {st : St FSt} {tx : Stream},
    Shows h st L tx →
    (Handle.run HL h acts).1 = (pollsRun (HL L) st (acts.filterMap Act.recv?)).1 ∧
    Shows (Handle.run HL h acts).2 (pollsRun (HL L) st (acts.filterMap Act.recv?)).2 L
      (runS tx (acts.filterMap Act.send?)) := by
  intro acts
  induction acts with
  | nil => intro h st tx s; exact ⟨rfl, s⟩
  | cons a r ih =>
    intro h st tx s
    cases a with
    | recv c =>
      obtain ⟨e, s'⟩ := s.recvPoll HL c
      obtain ⟨i, s''⟩ := ih s'
      exact ⟨by simp only [Handle.run, Handle.act, Act.recv?, List.filterMap_cons, pollsRun, Option.toList,
        List.singleton_append, e, i], s''⟩
    | send op => exact ih (s.sendOp op)
    | split => exact ih s.split

/-- **Projection.**  Whatever the interleaving of receive polls, send steps (calls and transport
    polls) and `split()`s: the receive polls are answered, and leave the receive machine, as if they
    had been made alone on the stream as it was at the start; the send side is what the send steps
    alone make of it. -/
theorem Handle.run_projects (HL : Nat → Hdr) : ∀ (acts : List Act) (h : Handle),
    (Handle.run HL h acts).1 = (pollsRun (HL h.maxSize) h.rx (acts.filterMap Act.recv?)).1 ∧
    (Handle.run HL h acts).2.rx = (pollsRun (HL h.maxSize) h.rx (acts.filterMap Act.recv?)).2 ∧
    (Handle.run HL h acts).2.maxSize = h.maxSize ∧
    (Handle.run HL h acts).2.tx = runS h.tx (acts.filterMap Act.send?) := by
  intro acts h
  obtain ⟨a, s⟩ := Shows.run HL acts (shows h)
  exact ⟨a, s.rx, s.maxSize, s.tx⟩

/-- a step of the task that owns the send side and a poll of the task that owns the receive side
    commute: same answer, same state of the receive machine, same state of the send machine —
    before the split (one object) as after it (two objects) -/
theorem send_recv_commute (HL : Nat → Hdr) (h : Handle) (op : SOp) (c : RCall) :
    ((h.sendOp op).recvPoll HL c).1 = (h.recvPoll HL c).1 ∧
    Same ((h.sendOp op).recvPoll HL c).2 ((h.recvPoll HL c).2.sendOp op) := by
  obtain ⟨a, s⟩ := ((shows h).sendOp op).recvPoll HL c
  obtain ⟨b, s'⟩ := (shows h).recvPoll HL c
  exact ⟨a.trans b.symm, s.same (s'.sendOp op)⟩

/-- `split()` commutes with a receive poll and with a send step -/
theorem split_recv_commute (HL : Nat → Hdr) (h : Handle) (c : RCall) :
    (h.split.recvPoll HL c).1 = (h.recvPoll HL c).1 ∧
    Same (h.split.recvPoll HL c).2 (h.recvPoll HL c).2.split := by
  obtain ⟨a, s⟩ := (shows h).split.recvPoll HL c
  obtain ⟨b, s'⟩ := (shows h).recvPoll HL c
  exact ⟨a.trans b.symm, s.same s'.split⟩

theorem split_send_commute (h : Handle) (op : SOp) : Same (h.split.sendOp op) (h.sendOp op).split :=
  ((shows h).split.sendOp op).same ((shows h).sendOp op).split

theorem Handle.await_sim (HL : Nat → Hdr) (call : RCall) : ∀ (fuel : Nat) (h : Handle),
    (Handle.await HL call fuel h).1 = (H3.E2E.await (call.poll (HL h.maxSize)) fuel h.rx).1 ∧
    (Handle.await HL call fuel h).2.rx = (H3.E2E.await (call.poll (HL h.maxSize)) fuel h.rx).2 ∧
    (Handle.await HL call fuel h).2.maxSize = h.maxSize ∧
    (Handle.await HL call fuel h).2.tx = h.tx := by
  intro fuel h
  obtain ⟨a, s⟩ := Shows.await HL call fuel (shows h)
  exact ⟨a, s.rx, s.maxSize, s.tx⟩

theorem recvBodyH_sim (HL : Nat → Hdr) : ∀ (fuel : Nat) (x : Option Nat × Handle),
    (recvBodyH HL fuel x).1 = (recvBody fuel x.2.rx).1 ∧
    (recvBodyH HL fuel x).2.2.rx = (recvBody fuel x.2.rx).2 ∧
    (recvBodyH HL fuel x).2.2.maxSize = x.2.maxSize ∧
    (recvBodyH HL fuel x).2.2.tx = x.2.tx := by
  intro fuel x
  obtain ⟨a, s⟩ := Shows.recvBodyH HL fuel (shows x.2)
  exact ⟨a, s.rx, s.maxSize, s.tx⟩

theorem recvTailH_sim (HL : Nat → Hdr) (x : Option Nat × Handle) :
    (recvTailH HL x).1 = (recvTailFrom (HL x.2.maxSize) x.2.rx).1 ∧
    (recvTailH HL x).2.1 = (recvTailFrom (HL x.2.maxSize) x.2.rx).2.1 ∧
    (recvTailH HL x).2.2.rx = (recvTailFrom (HL x.2.maxSize) x.2.rx).2.2 ∧
    (recvTailH HL x).2.2.maxSize = x.2.maxSize ∧
    (recvTailH HL x).2.2.tx = x.2.tx := by
  obtain ⟨a, b, s⟩ := (shows x.2).recvTailH HL
  exact ⟨a, b, s.rx, s.maxSize, s.tx⟩

/-- **`split()` anywhere.**  The documented receive pattern on a handle that is split just before its
    `k`-th call — any `k`, or never; whole stream or halves to begin with — answers exactly what the
    pattern answers on the receive machine of that handle left alone, and leaves that machine in the
    same state; the send side is untouched. -/
theorem recvPatternH_sim (role : Role) (HL : Nat → Hdr) (k : Option Nat) (h : Handle) :
    (recvPatternH role HL k h).1 = (recvPatternFrom role (HL h.maxSize) h.rx).1 ∧
    (recvPatternH role HL k h).2.rx = (recvPatternFrom role (HL h.maxSize) h.rx).2 ∧
    (recvPatternH role HL k h).2.maxSize = h.maxSize ∧
    (recvPatternH role HL k h).2.tx = h.tx := by
  obtain ⟨a, s⟩ := (shows h).recvPatternH role HL k
  exact ⟨a, s.rx, s.maxSize, s.tx⟩

end H3.E2E
