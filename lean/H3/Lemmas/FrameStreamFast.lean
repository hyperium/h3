import H3.Model.FrameStream
/-! A faster way to EVALUATE the model of `FrameStream::poll_next` on long frames, proved equal to
    the model, for the driver only.

    `pollNextLoop` flattens the whole buffer after every chunk before it looks at the `expected`
    memo; on a 70 000-byte HEADERS frame delivered in 7-byte chunks that is 10 000 × 70 000 list
    cells.  The fast version looks at the memo first (sum of the chunk lengths, no flattening) — which
    is what `FrameDecoder::decode` does (`if src.remaining() < min { return Ok(None) }`) — and only
    otherwise runs the model's step.  Theorems are stated about the model; the driver runs the fast
    version and this file says the two are the same function. -/
namespace H3.FS

/-- `BufList::remaining` -/
def bufLen (buf : List Bytes) : Nat := buf.foldl (fun a c => a + c.length) 0

theorem foldl_len (buf : List Bytes) (a : Nat) :
    buf.foldl (fun a c => a + c.length) a = a + buf.flatten.length := by
  induction buf generalizing a with
  | nil => simp
  | cons c cs ih => simp [List.foldl_cons, ih, Nat.add_assoc]

theorem bufLen_eq (buf : List Bytes) : bufLen buf = buf.flatten.length := by
  simp [bufLen, foldl_len]

variable {F E : Type}

theorem decLoop_blocked (D : Dec F E) (fuel : Nat) (flat : Bytes) (exp : Option Nat)
    (h : expBlocks exp flat.length = true) : decLoop D (fuel + 1) flat exp 0 = .none 0 exp := by
  unfold decLoop
  split <;> first | rfl | simp [h]

theorem advance_zero (buf : List Bytes) : advance 0 buf = buf := by
  unfold advance; rfl

/-- a chunk that leaves the buffer short of the memo is appended and nothing else happens -/
theorem pollNextLoop_blocked (D : Dec F E) {s : St} {b : Bytes} {r : List Ev} (he : ¬ s.eos = true)
    (hb : expBlocks (s.push b).expected (s.push b).flat.length = true) :
    pollNextLoop D s (.chunk b :: r) = pollNextLoop D (s.push b) r := by
  have hd := decLoop_blocked D (s.push b).flat.length (s.push b).flat (s.push b).expected hb
  have ha : afterRecv D (s.push b) .more = none := by
    unfold afterRecv; rw [hd]
  conv => lhs; unfold pollNextLoop
  rw [if_neg he]
  simp only [ha, hd, advance_zero]

/-- `pollNextLoop`, asking the memo before flattening the buffer -/
def pollNextLoopF (D : Dec F E) : St → List Ev → Out F E × St × List Ev
  | s, [] => pollNextLoop D s []
  | s, .chunk b :: r =>
    if s.eos then pollNextLoop D s (.chunk b :: r)
    else if expBlocks (s.push b).expected (bufLen (s.push b).buf) then pollNextLoopF D (s.push b) r
    else
      match afterRecv D (s.push b) .more with
      | some (o, s') => (o, s', r)
      | none =>
        match decLoop D ((s.push b).flat.length + 1) (s.push b).flat (s.push b).expected 0 with
        | .none d exp => pollNextLoopF D { (s.push b) with buf := advance d (s.push b).buf, expected := exp } r
        | _ => (.pending, s.push b, r)
  | s, e :: r => pollNextLoop D s (e :: r)

theorem pollNextLoopF_eq (D : Dec F E) (s : St) (script : List Ev) :
    pollNextLoopF D s script = pollNextLoop D s script := by
  induction script generalizing s with
  | nil => rfl
  | cons e r ih =>
    cases e with
    | pend => rfl
    | fin => rfl
    | reset c => rfl
    | chunk b =>
      unfold pollNextLoopF
      by_cases he : s.eos = true
      · rw [if_pos he]
      · rw [if_neg he]
        by_cases hb : expBlocks (s.push b).expected (bufLen (s.push b).buf) = true
        · rw [if_pos hb, ih, pollNextLoop_blocked D he (by rw [St.flat, ← bufLen_eq]; exact hb)]
        · -- the model's own step, with the fast loop where it calls itself
          conv => rhs; unfold pollNextLoop
          rw [if_neg hb, if_neg he]
          simp only [ih]
          rfl

def pollNextF (D : Dec F E) (s : St) (script : List Ev) : Out F E × St × List Ev :=
  if s.remaining ≠ 0 then (.panic, s, script) else pollNextLoopF D s script

theorem pollNextF_eq (D : Dec F E) (s : St) (script : List Ev) :
    pollNextF D s script = pollNext D s script := by
  unfold pollNextF pollNext; rw [pollNextLoopF_eq]

/-- `runCalls` over `pollNextF` -/
def runCallsF : St → List Ev → List Call → List FOut
  | _, _, [] => []
  | s, script, c :: cs =>
    match c with
    | .next =>
      let (o, s', r) := pollNextF frameDec s script
      match o with
      | .frame _ => o :: runCallsF s' r cs
      | .pending => o :: runCallsF s' r cs
      | _ => [o]
    | .data =>
      let (o, s', r) := pollData (F := H3.Frame.Frame) (E := H3.Frame.FrameErr) s script
      match o with
      | .data _ => o :: runCallsF s' r cs
      | .pending => o :: runCallsF s' r cs
      | .none => o :: runCallsF s' r cs
      | _ => [o]

theorem runCallsF_eq (s : St) (script : List Ev) (calls : List Call) :
    runCallsF s script calls = runCalls s script calls := by
  induction calls generalizing s script with
  | nil => rfl
  | cons c cs ih =>
    cases c with
    | next =>
      simp only [runCallsF, runCalls, pollNextF_eq]
      generalize pollNext frameDec s script = res
      obtain ⟨o, s', r⟩ := res
      cases o <;> simp only [ih]
    | data =>
      simp only [runCallsF, runCalls]
      generalize pollData (F := H3.Frame.Frame) (E := H3.Frame.FrameErr) s script = res
      obtain ⟨o, s', r⟩ := res
      cases o <;> simp only [ih]

/-- `readerLoop` over `pollNextF` -/
def readerLoopF : Nat → St → List Ev → List FOut
  | 0, _, _ => []
  | fuel+1, s, script =>
    if s.remaining ≠ 0 then
      let (o, s', r) := pollData (F := H3.Frame.Frame) (E := H3.Frame.FrameErr) s script
      match o with
      | .data _ => o :: readerLoopF fuel s' r
      | .pending => if script.isEmpty then [o] else readerLoopF fuel s' r
      | _ => [o]
    else
      let (o, s', r) := pollNextF frameDec s script
      match o with
      | .frame _ => o :: readerLoopF fuel s' r
      | .pending => if script.isEmpty then [o] else readerLoopF fuel s' r
      | _ => [o]

theorem readerLoopF_eq (fuel : Nat) (s : St) (script : List Ev) :
    readerLoopF fuel s script = readerLoop fuel s script := by
  induction fuel generalizing s script with
  | zero => rfl
  | succ n ih =>
    simp only [readerLoopF, readerLoop, pollNextF_eq]
    split
    · generalize pollData (F := H3.Frame.Frame) (E := H3.Frame.FrameErr) s script = res
      obtain ⟨o, s', r⟩ := res
      cases o <;> simp only [ih]
    · generalize pollNext frameDec s script = res
      obtain ⟨o, s', r⟩ := res
      cases o <;> simp only [ih]

end H3.FS
