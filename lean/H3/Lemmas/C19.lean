import H3.Lemmas.FrameStreamReach
import H3.Lemmas.C04
/-! For C19, generic in the frame decoder: what the reference automaton does on a prefix of
    `hdr ++ payload` when the decoder reads `hdr` as one frame whatever follows; the chunk-wise forms
    of `evBytes`, and (in the namespace of Lemmas/C04) of `bytesOf` and `future`. -/
namespace H3.FS
variable {F E : Type}

theorem take_of_append_eq {α : Type} {a b c d : List α} (h : a ++ b = c ++ d)
    (hle : a.length ≤ c.length) : a = c.take a.length := by
  have h1 := congrArg (List.take a.length) h
  rw [List.take_left, List.take_append_of_le_length hle] at h1
  exact h1

theorem run_on_header (D : Dec F E) (L : Laws D) {hdr payload : Bytes} {f : F}
    (hdec : ∀ p, D.dec (hdr ++ p) = .frame f hdr.length)
    {x rest : Bytes} (hx : x ++ rest = hdr ++ payload) {p : PSt} {toks : List (Tok F E)}
    (hrun : run D (.hdr []) x = (p, toks)) :
    (p = .hdr x ∧ toks = []) ∨
    (∃ d t, x = hdr ++ d ∧ payload = d ++ rest ∧ toks = .frame f :: t ∧
      run D (PSt.ofRem (D.kind f).rem) d = (p, t)) := by
  rcases Nat.lt_or_ge x.length hdr.length with hlt | hge
  · have hmin := (L.minimal (hdr ++ payload) hdr.length (by rw [hdec payload]; rfl)).1
    rw [run_hdr_incomplete D x (fun i hi _ => by
      rw [← List.take_append_of_le_length (l₂ := rest) hi, hx]
      exact hmin i (Nat.lt_of_le_of_lt hi hlt))] at hrun
    cases hrun
    exact .inl ⟨rfl, rfl⟩
  · obtain ⟨d, rfl⟩ := List.prefix_of_prefix_length_le (List.prefix_append hdr payload) (hx ▸ List.prefix_append x rest) hge
    rw [List.append_assoc] at hx
    have hr := run_dec_frame L (hdec d)
    rw [hrun, List.drop_left] at hr
    cases hr
    exact .inr ⟨d, _, rfl, (List.append_cancel_left hx).symm, rfl, rfl⟩

theorem run_raw_hdr (D : Dec F E) (L : Laws D) {hdr payload consumed rest : Bytes} {f g : F}
    (hdec : ∀ p, D.dec (hdr ++ p) = .frame f hdr.length)
    (hraw : payload.length ≤ (D.kind f).rem)
    (hsplit : consumed ++ rest = hdr ++ payload)
    {p : PSt} (hrun : run D (.hdr []) consumed = (p, [.frame g])) :
    g = f ∧ consumed = hdr ∧ rest = payload ∧ p = PSt.ofRem (D.kind f).rem := by
  rcases run_on_header D L hdec hsplit hrun with ⟨_, ht⟩ | ⟨d, t, rfl, hpay, ht, hr⟩
  · cases ht
  cases ht
  cases d with
  | nil => cases hr; exact ⟨rfl, List.append_nil _, hpay.symm, rfl⟩
  | cons b d =>
    -- every further byte would be a token of its own
    have hl : (b :: d).length ≤ (D.kind f).rem :=
      Nat.le_trans (by rw [hpay, List.length_append]; exact Nat.le_add_right _ _) hraw
    have h0 : (D.kind f).rem ≠ 0 := Nat.ne_of_gt (Nat.lt_of_lt_of_le (Nat.succ_pos _) hl)
    rw [PSt.ofRem_pos h0, run_data D _ _ h0 hl] at hr
    cases hr

theorem run_raw_header_prefix (D : Dec F E) (L : Laws D) (hdr payload consumed rest : Bytes) (f g : F)
    (hdec : ∀ p, D.dec (hdr ++ p) = .frame f hdr.length)
    (hraw : payload.length ≤ (D.kind f).rem)
    (hsplit : consumed ++ rest = hdr ++ payload)
    (p : PSt) (hrun : run D (.hdr []) consumed = (p, [.frame g])) :
    consumed = hdr ∧ g = f :=
  have h := run_raw_hdr D L hdec hraw hsplit hrun
  ⟨h.2.1, h.1⟩

/-- the chunks a script still delivers, one list element per `poll_data` answer -/
def evChunks : List Ev → List Bytes
  | [] => []
  | .chunk b :: r => b :: evChunks r
  | _ :: r => evChunks r

theorem evChunks_flatten (sc : List Ev) : (evChunks sc).flatten = evBytes sc := by
  induction sc with
  | nil => rfl
  | cons e r ih => cases e <;> simp [evChunks, evBytes, ih]

end H3.FS

namespace H3.Lemmas.C04
open H3.UniAccept

/-- the chunks the transport delivers before the stream ends (cf. `bytesOf`) -/
def chunksBeforeEnd : List Ev → List (List Nat)
  | [] => []
  | .chunk b :: r => b :: chunksBeforeEnd r
  | .pend :: r => chunksBeforeEnd r
  | .fin :: _ => []
  | .reset _ :: _ => []

theorem chunksBeforeEnd_flatten (sc : List Ev) : (chunksBeforeEnd sc).flatten = bytesOf sc := by
  induction sc with
  | nil => rfl
  | cons e r ih => cases e <;> simp [chunksBeforeEnd, bytesOf, ih]

def futureChunks (s : St) (sc : List Ev) : List (List Nat) :=
  if s.ended.isSome then [] else chunksBeforeEnd sc

theorem futureChunks_flatten (s : St) (sc : List Ev) : (futureChunks s sc).flatten = future s sc := by
  unfold futureChunks future
  split <;> simp [chunksBeforeEnd_flatten]

end H3.Lemmas.C04
