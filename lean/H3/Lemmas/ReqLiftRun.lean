import H3.Lemmas.ReqRecv
import H3.Lemmas.FrameStreamPoll
import H3.Lemmas.FrameLaws
/-! The answers the `FrameStream` model gives to the canonical reader (`poll_next` at a frame boundary,
    `poll_data` inside a DATA payload), up to the first that is not a frame or a data piece: `FutW w`, for the
    model as it is and for the model that waits out a `Pending` (`Fut`, `FutS` are its instances:
    `futW_false_iff`, `futW_true_iff`).  `futW_exists`: such a run exists, is well formed (`Run`) and is
    tied to the bytes of the script by the C02 invariant (`TermOK`). -/
namespace H3.ReqRecv
open H3.Frame

abbrev RefTok := FS.Tok Frame FrameErr

/-- frame-layer answers at byte granularity (the alphabet of the reference automaton) -/
def itemToks : List Item → List RefTok
  | [] => []
  | .frame f :: r => .frame f :: itemToks r
  | .piece b :: r => b.map .byte ++ itemToks r

theorem kindLen_eq (f : Frame) : kindLen f = (FS.frameDec.kind f).rem := by
  unfold kindLen
  show _ = (FS.frameKind f).rem
  cases FS.frameKind f <;> rfl

/-- the canonical reader's run of the `FrameStream` model from configuration `(s, script)` -/
inductive Fut : FS.St → List FS.Ev → List Item → Term → Prop
  | frame {s sc f s' sc' items t} (h0 : s.remaining = 0)
      (hc : FS.pollNext FS.frameDec s sc = (.frame f, s', sc')) (hr : Fut s' sc' items t) :
      Fut s sc (.frame f :: items) t
  | piece {s sc d s' sc' items t} (h0 : s.remaining ≠ 0)
      (hc : FS.pollData (F := Frame) (E := FrameErr) s sc = (.data d, s', sc'))
      (hr : Fut s' sc' items t) : Fut s sc (.piece d :: items) t
  | nextEnd {s sc t} (h0 : s.remaining = 0)
      (hc : (FS.pollNext FS.frameDec s sc).1 = t.next) : Fut s sc [] t
  | dataEnd {s sc t} (h0 : s.remaining ≠ 0)
      (hc : (FS.pollData (F := Frame) (E := FrameErr) s sc).1 = t.data) : Fut s sc [] t

/-- a well-formed sequence of answers from a state with `remaining_data = rem` -/
inductive Run : Nat → List Item → Term → Prop
  | nil0 {t} : Run 0 [] t
  | nilD {rem t} (h0 : rem ≠ 0) (ht : ∀ e, t ≠ .proto e) : Run rem [] t
  | frame {f items t} (hwt : ∀ x, f ≠ .webTransport x) (hr : Run (kindLen f) items t) :
      Run 0 (.frame f :: items) t
  | piece {rem d items t} (h0 : rem ≠ 0) (hd : d ≠ []) (hle : d.length ≤ rem)
      (hr : Run (rem - d.length) items t) : Run rem (.piece d :: items) t

/-- how the run ended, in terms of the reference automaton's result `R` over the bytes taken from
    the transport, the tokens `all` handed out, whether FIN was taken (`eos`), what was taken from
    the script (`taken`) and what is left of it (`rest`); `open_` = the frame layer answered
    `Pending`: the script is used up or a `pend` event was taken -/
def TermOK (R : FS.PSt × List RefTok) (all : List RefTok) (eos : Bool) (taken rest : List FS.Ev) :
    Term → Prop
  | .fin => eos = true ∧ R.1 = .hdr [] ∧ R.2 = all
  | .truncated => eos = true ∧
      ((∃ acc, acc ≠ [] ∧ R.1 = .hdr acc ∧ R.2 = all) ∨
       (∃ (rem : Nat) (bs : FS.Bytes), rem ≠ 0 ∧ R.1 = .data rem ∧ R.2 = all ++ bs.map .byte))
  | .open_ => eos = false ∧ R.2 = all ∧ R.1 ≠ .dead ∧ (rest = [] ∨ FS.Ev.pend ∈ taken)
  | .proto e => R.1 = .dead ∧ R.2 = all ++ [.errProto e]
  | .reset c => eos = false ∧ (∃ r, rest = .reset c :: r) ∧ ∃ more, R.2 = all ++ more

/-- what has been handed out is among the tokens of the reference run over the bytes before the FIN -/
theorem tok_in_wire {sc0 script : List FS.Ev} {toks : List RefTok} {s : FS.St}
    (hC : FS.CInv FS.frameDec sc0 toks s script) {x : RefTok} (hx : x ∈ toks) :
    x ∈ (FS.run FS.frameDec (.hdr []) (FS.evBytes (FS.upToFin sc0))).2 := by
  obtain ⟨taken, h0, htk, hI⟩ := hC
  obtain ⟨more, hm⟩ : ∃ more, (FS.run FS.frameDec (.hdr []) (FS.evBytes (FS.upToFin sc0))).2 = toks ++ more := by
    rw [(FS.wire_taken h0 htk).1]
    exact FS.inv_toks_prefix FS.frameDec hI _
  rw [hm]
  exact List.mem_append_left _ hx

/-- `Fut` (`w = false`: the first `Pending` is the last word) and `FutS` (`w = true`: a `Pending` with
    events left is waited out, and the ending `open_` means that the script is used up) in one -/
inductive FutW (w : Bool) : FS.St → List FS.Ev → List Item → Term → Prop
  | frame {s sc f s' sc' items t} (h0 : s.remaining = 0)
      (hc : FS.pollNext FS.frameDec s sc = (.frame f, s', sc')) (hr : FutW w s' sc' items t) :
      FutW w s sc (.frame f :: items) t
  | piece {s sc d s' sc' items t} (h0 : s.remaining ≠ 0)
      (hc : FS.pollData (F := Frame) (E := FrameErr) s sc = (.data d, s', sc'))
      (hr : FutW w s' sc' items t) : FutW w s sc (.piece d :: items) t
  | skipN {s sc s' sc' items t} (hw : w = true) (h0 : s.remaining = 0)
      (hc : FS.pollNext FS.frameDec s sc = (.pending, s', sc')) (hne : sc' ≠ [])
      (hr : FutW w s' sc' items t) : FutW w s sc items t
  | skipD {s sc s' sc' items t} (hw : w = true) (h0 : s.remaining ≠ 0)
      (hc : FS.pollData (F := Frame) (E := FrameErr) s sc = (.pending, s', sc')) (hne : sc' ≠ [])
      (hr : FutW w s' sc' items t) : FutW w s sc items t
  | nextEnd {s sc t} (h0 : s.remaining = 0)
      (hc : (FS.pollNext FS.frameDec s sc).1 = t.next)
      (hfin : w = true → t = .open_ → (FS.pollNext FS.frameDec s sc).2.2 = []) : FutW w s sc [] t
  | dataEnd {s sc t} (h0 : s.remaining ≠ 0)
      (hc : (FS.pollData (F := Frame) (E := FrameErr) s sc).1 = t.data)
      (hfin : w = true → t = .open_ → (FS.pollData (F := Frame) (E := FrameErr) s sc).2.2 = []) :
      FutW w s sc [] t

theorem futW_false_iff {s : FS.St} {sc : List FS.Ev} {items : List Item} {t : Term} :
    FutW false s sc items t ↔ Fut s sc items t := by
  constructor
  · intro h
    induction h with
    | frame h0 hc _ ih => exact Fut.frame h0 hc ih
    | piece h0 hc _ ih => exact Fut.piece h0 hc ih
    | skipN hw => cases hw
    | skipD hw => cases hw
    | nextEnd h0 hc _ => exact Fut.nextEnd h0 hc
    | dataEnd h0 hc _ => exact Fut.dataEnd h0 hc
  · intro h
    induction h with
    | frame h0 hc _ ih => exact FutW.frame h0 hc ih
    | piece h0 hc _ ih => exact FutW.piece h0 hc ih
    | nextEnd h0 hc => exact FutW.nextEnd h0 hc nofun
    | dataEnd h0 hc => exact FutW.dataEnd h0 hc nofun

open H3.C06 (mu)

theorem itemToks_cons (it : Item) (items : List Item) : itemToks (it :: items) = itemToks [it] ++ itemToks items := by
  cases it <;> simp [itemToks]

/-- the conclusion of `futW_exists`; `toks`: what has been handed out of `sc0` before -/
def Reads (w : Bool) (sc0 : List FS.Ev) (toks : List RefTok) (s : FS.St) (script : List FS.Ev) : Prop :=
  ∃ items t, FutW w s script items t ∧ Run s.remaining items t ∧
    items.length ≤ mu s script ∧
    (w = false → items.length ≤ s.flat.length + (FS.evBytes script).length) ∧
    ∃ takenF restF eosF, sc0 = takenF ++ restF ∧ FS.TakenOK false eosF takenF ∧
      TermOK (FS.run FS.frameDec (.hdr []) (FS.evBytes takenF)) (toks ++ itemToks items)
        eosF takenF restF t ∧ (w = true → t = .open_ → restF = [])

/-- the run terminates because a frame, a piece and a `Pending` that is waited out each use up
    something of `mu` -/
theorem futW_exists (w : Bool) (sc0 : List FS.Ev) (hsc0 : FS.ScriptOK sc0)
    (hraw : ∀ f, FS.Tok.frame f ∈ (FS.run FS.frameDec (.hdr []) (FS.evBytes (FS.upToFin sc0))).2 →
      (FS.frameDec.kind f).rem < FS.USIZE_MAX) :
    ∀ (n : Nat) (s : FS.St) (script : List FS.Ev) (toks : List RefTok),
      FS.CInv FS.frameDec sc0 toks s script → mu s script < n → Reads w sc0 toks s script := by
  intro n
  induction n with
  | zero => intro s script toks _ h; omega
  | succ n ih =>
    intro s script toks hC hn
    obtain ⟨taken, hsc0eq, htk0, hI⟩ := hC
    have hsc : FS.ScriptOK script := by rw [hsc0eq] at hsc0; exact FS.scriptOK_suffix hsc0
    -- the invariant after a call that took `tk`
    have keep : ∀ {s' : FS.St} {tk script' : List FS.Ev} {toks' : List RefTok}, script = tk ++ script' →
        FS.TakenOK s.eos s'.eos tk → FS.Inv FS.frameDec (FS.evBytes taken ++ FS.evBytes tk) toks' s' →
        FS.CInv FS.frameDec sc0 toks' s' script' :=
      @fun _ tk _ _ hs htk hI' => ⟨taken ++ tk, by rw [hsc0eq, hs, List.append_assoc], FS.takenOK_trans htk0 htk,
        by rw [FS.evBytes_append]; exact hI'⟩
    -- the poll handed out `it`: the run goes on behind it
    have step : ∀ (it : Item) {s' : FS.St} {tk script' : List FS.Ev}, script = tk ++ script' →
        FS.TakenOK s.eos s'.eos tk → itemToks [it] ≠ [] →
        FS.Inv FS.frameDec (FS.evBytes taken ++ FS.evBytes tk) (toks ++ itemToks [it]) s' →
        mu s' script' < mu s script →
        (∀ items t, FutW w s' script' items t → FutW w s script (it :: items) t) →
        (∀ items t, Run s'.remaining items t → Run s.remaining (it :: items) t) →
        Reads w sc0 toks s script := by
      intro it s' tk script' hs htk hne hI' hmu hFut hRun
      have hprog := FS.inv_progress FS.frameDec hI hI' hne
      have hlenS : (FS.evBytes script).length = (FS.evBytes tk).length + (FS.evBytes script').length := by
        rw [hs, FS.evBytes_append, List.length_append]
      obtain ⟨items, t, hF, hR, hlen, hlen', tF, rF, eF, h1, h2, h3, h4⟩ :=
        ih s' script' _ (keep hs htk hI') (by omega)
      exact ⟨it :: items, t, hFut _ _ hF, hRun _ _ hR, by simp only [List.length_cons]; omega,
        fun hw => by have := hlen' hw; simp only [List.length_cons]; omega,
        tF, rF, eF, h1, h2, by rw [itemToks_cons, ← List.append_assoc]; exact h3, h4⟩
    -- the poll answered `Pending` and the reader waits: the call is repeated
    have skip : ∀ {s' : FS.St} {tk script' : List FS.Ev}, script = tk ++ script' →
        FS.TakenOK s.eos s'.eos tk → w = true → script' ≠ [] →
        FS.Inv FS.frameDec (FS.evBytes taken ++ FS.evBytes tk) toks s' →
        (script ≠ [] → mu s' script' < mu s script) → s'.remaining = s.remaining →
        (∀ items t, FutW w s' script' items t → FutW w s script items t) →
        Reads w sc0 toks s script := by
      intro s' tk script' hs htk hw hne hI' hmu hrem hFut
      have hsne : script ≠ [] := by
        intro hc; rw [hc] at hs
        exact hne (List.append_eq_nil_iff.mp hs.symm).2
      have := hmu hsne
      obtain ⟨items, t, hF, hR, hlen, _, rest⟩ :=
        ih s' script' _ (keep hs htk hI') (by omega)
      exact ⟨items, t, hFut _ _ hF, by rw [← hrem]; exact hR, by omega,
        (fun hf => by rw [hw] at hf; cases hf), rest⟩
    -- the run ends here with `t`: no items
    have stop : ∀ (t : Term) {s' : FS.St} {tk script' : List FS.Ev}, script = tk ++ script' →
        FS.TakenOK s.eos s'.eos tk → FutW w s script [] t → Run s.remaining [] t →
        TermOK (FS.run FS.frameDec (.hdr []) (FS.evBytes taken ++ FS.evBytes tk)) toks s'.eos (taken ++ tk) script' t →
        (w = true → t = .open_ → script' = []) → Reads w sc0 toks s script := by
      intro t s' tk script' hs htk hF hR hT hopen
      exact ⟨[], t, hF, hR, Nat.zero_le _, fun _ => Nat.zero_le _, taken ++ tk, script', s'.eos,
        by rw [hsc0eq, hs, List.append_assoc], FS.takenOK_trans htk0 htk,
        by simpa only [itemToks, List.append_nil, FS.evBytes_append] using hT, hopen⟩
    -- a `Pending`: waited out (`w`, events left), or the last word
    have pend : ∀ {s' : FS.St} {tk script' : List FS.Ev}, script = tk ++ script' → FS.TakenOK s.eos s'.eos tk →
        FS.Inv FS.frameDec (FS.evBytes taken ++ FS.evBytes tk) toks s' → s'.remaining = s.remaining →
        (script' = [] ∨ FS.Ev.pend ∈ tk) → (script ≠ [] → mu s' script' < mu s script) →
        FS.FinalOK (FS.run FS.frameDec (.hdr []) (FS.evBytes taken ++ FS.evBytes tk)) s'.eos toks .pending →
        (w = true → script' ≠ [] → ∀ items t, FutW w s' script' items t → FutW w s script items t) →
        ((w = true → script' = []) → FutW w s script [] .open_) → Run s.remaining [] .open_ →
        Reads w sc0 toks s script := by
      intro s' tk script' hs htk hI' hrem hwhy hmu hR hskip hlast hrun
      by_cases hcont : w = true ∧ script' ≠ []
      · exact skip hs htk hcont.1 hcont.2 hI' hmu hrem (hskip hcont.1 hcont.2)
      · have hnil : w = true → script' = [] := fun hw => Classical.byContradiction fun hne => hcont ⟨hw, hne⟩
        exact stop .open_ hs htk (hlast hnil) hrun
          ⟨hR.1, hR.2.1, hR.2.2, hwhy.imp id (fun h => List.mem_append_right _ h)⟩ (fun hw _ => hnil hw)
    by_cases h0 : s.remaining = 0
    · rcases hres : FS.pollNext FS.frameDec s script with ⟨o, s', script'⟩
      obtain ⟨tk, hs, htk, hst⟩ := FS.pollNext_step FS.frameDec FS.frameDec_laws hI hsc h0 hres
      -- the run ends here: the call's answer is `t.next`
      have hend : ∀ t : Term, o = t.next → (t = .open_ → w = true → script' = []) → FutW w s script [] t :=
        fun t ho hfin => FutW.nextEnd h0 (by rw [hres]; exact ho)
          (fun hw ht => by rw [hres]; exact hfin ht hw)
      have hR0 : ∀ t : Term, Run s.remaining [] t := fun t => by rw [h0]; exact Run.nil0
      cases hst with
      | frame f hI' hrem hmu =>
        refine step (.frame f) hs htk (by simp [itemToks]) hI' hmu (fun _ _ hF => FutW.frame h0 hres hF) ?_
        intro items t hR
        rw [h0]
        refine Run.frame ?_ (by rw [kindLen_eq, ← hrem]; exact hR)
        rintro x rfl
        exact absurd (hraw _ (tok_in_wire (keep hs htk hI') (x := .frame (.webTransport x)) (by simp)))
          (Nat.lt_irrefl _)
      | wait hI' hrem _ _ hwhy hmu _ hR =>
        exact pend hs htk hI' hrem hwhy hmu hR (fun hw hne _ _ hF => FutW.skipN hw h0 hres hne hF)
          (fun hnil => hend _ rfl (fun _ => hnil)) (hR0 _)
      | none _ _ _ _ hR => exact stop .fin hs htk (hend _ rfl nofun) (hR0 _) hR nofun
      | errEnd hR => exact stop .truncated hs htk (hend _ rfl nofun) (hR0 _) hR nofun
      | errProto e hR => exact stop (.proto e) hs htk (hend _ rfl nofun) (hR0 _) hR nofun
      | errQuic c heos' hr hR => exact stop (.reset c) hs htk (hend _ rfl nofun) (hR0 _) ⟨heos', hr, hR⟩ nofun
    · have hbound : s.remaining < FS.USIZE_MAX :=
        FS.inv_rem_bound FS.frameDec FS.USIZE_MAX hI
          (fun f hf => hraw f (tok_in_wire ⟨taken, hsc0eq, htk0, hI⟩ hf)) FS.usize_pos
      rcases hres : FS.pollData (F := Frame) (E := FrameErr) s script with ⟨o, s', script'⟩
      obtain ⟨tk, hs, htk, hst⟩ := FS.pollData_step FS.frameDec hI hsc h0 hres
      have hend : ∀ t : Term, o = t.data → (t = .open_ → w = true → script' = []) → FutW w s script [] t :=
        fun t ho hfin => FutW.dataEnd h0 (by rw [hres]; exact ho)
          (fun hw ht => by rw [hres]; exact hfin ht hw)
      have hRD : ∀ t : Term, (∀ e, t ≠ .proto e) → Run s.remaining [] t := fun t ht => Run.nilD h0 ht
      cases hst with
      | data d hd hle hrem hI' hmu =>
        exact step (.piece d) hs htk (by simpa [itemToks] using hd) (by simpa [itemToks] using hI') hmu
          (fun _ _ hF => FutW.piece h0 hres hF)
          (fun _ _ hR => Run.piece h0 hd hle (by rw [← hrem]; exact hR))
      | wait hI' hrem _ _ hwhy hmu _ hR =>
        exact pend hs htk hI' hrem hwhy hmu hR (fun hw hne _ _ hF => FutW.skipD hw h0 hres hne hF)
          (fun hnil => hend _ rfl (fun _ => hnil)) (hRD _ nofun)
      | errEnd hR => exact stop .truncated hs htk (hend _ rfl nofun) (hRD _ nofun) hR nofun
      | errQuic c heos' hr hR => exact stop (.reset c) hs htk (hend _ rfl nofun) (hRD _ nofun) ⟨heos', hr, hR⟩ nofun
      | rawEnd hmax => omega

theorem fut_exists (sc0 : List FS.Ev) (hsc0 : FS.ScriptOK sc0)
    (hraw : ∀ f, FS.Tok.frame f ∈ (FS.run FS.frameDec (.hdr []) (FS.evBytes (FS.upToFin sc0))).2 →
      (FS.frameDec.kind f).rem < FS.USIZE_MAX) :
    ∀ (n : Nat) (s : FS.St) (script : List FS.Ev) (toks : List RefTok),
      FS.CInv FS.frameDec sc0 toks s script → s.flat.length + (FS.evBytes script).length < n →
      ∃ items t, Fut s script items t ∧ Run s.remaining items t ∧
        items.length ≤ s.flat.length + (FS.evBytes script).length ∧
        ∃ takenF restF eosF, sc0 = takenF ++ restF ∧ FS.TakenOK false eosF takenF ∧
          TermOK (FS.run FS.frameDec (.hdr []) (FS.evBytes takenF)) (toks ++ itemToks items)
            eosF takenF restF t := by
  intro _ s script toks hC _
  obtain ⟨items, t, hF, hR, _, hlen, tF, rF, eF, h1, h2, h3, _⟩ :=
    futW_exists false sc0 hsc0 hraw (mu s script + 1) s script toks hC (Nat.lt_succ_self _)
  exact ⟨items, t, futW_false_iff.1 hF, hR, hlen rfl, tF, rF, eF, h1, h2, h3⟩

end H3.ReqRecv
