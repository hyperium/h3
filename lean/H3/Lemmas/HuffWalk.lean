import H3.Model.Huffman
import H3.Lemmas.Bits
/-! The level tree of the decoder, seen as a function on bit strings (`walkL`) and as a set of
    root-to-symbol paths (`pathsL`; as numbers: `pathsNL`, `pathsNL_word`); generic lemmas relating them for a tree
    of the decoder's shape (`wfL`), and `walkL_short_suffix`: what a short walk hands back is a suffix of its input. -/
namespace H3.Huffman
open H3.Bits
open H3.Gen.HuffDec (Level Entry)

inductive WalkRes where
  /-- a symbol was reached; the bits not consumed -/
  | sym (s : Nat) (rest : List Bool)
  /-- a level's `lookup` bits are not there (or its `lookup` is not in 1..8, which `read_bits` refuses the same
      way); the bits left at that level's start -/
  | short (q : List Bool)
  /-- the level's table has no entry for the bits read -/
  | unhandled
deriving DecidableEq, Repr

mutual
def walkL : Level → List Bool → WalkRes
  | .mk k tbl, t =>
    if k = 0 ∨ k > 8 ∨ t.length < k then .short t
    else walkT tbl (val (t.take k)) (t.drop k)
def walkT : List Entry → Nat → List Bool → WalkRes
  | [], _, _ => .unhandled
  | e :: _, 0, t => walkE e t
  | _ :: es, i+1, t => walkT es i t
def walkE : Entry → List Bool → WalkRes
  | .sym s, t => .sym s t
  | .sub l, t => walkL l t
end

mutual
def pathsL : Level → List (List Bool × Nat)
  | .mk k tbl => pathsT tbl k 0
def pathsT : List Entry → Nat → Nat → List (List Bool × Nat)
  | [], _, _ => []
  | e :: es, k, i => (pathsE e).map (fun ps => (bitsN k i ++ ps.1, ps.2)) ++ pathsT es k (i + 1)
def pathsE : Entry → List (List Bool × Nat)
  | .sym s => [([], s)]
  | .sub l => pathsL l
end

theorem walkL_mk (k : Nat) (tbl : List Entry) (t : List Bool) :
    walkL (.mk k tbl) t =
      if k = 0 ∨ k > 8 ∨ t.length < k then .short t
      else walkT tbl (val (t.take k)) (t.drop k) := by
  rw [walkL]

mutual
theorem walkL_append : ∀ (l : Level) (t : List Bool) (s : Nat) (rest r : List Bool),
    walkL l t = .sym s rest → walkL l (t ++ r) = .sym s (rest ++ r)
  | .mk k tbl, t, s, rest, r, h => by
    rw [walkL_mk] at h ⊢
    by_cases hc : k = 0 ∨ k > 8 ∨ t.length < k
    · rw [if_pos hc] at h; cases h
    · rw [if_neg hc] at h
      have hk : k ≤ t.length := by omega
      rw [if_neg (by simp; omega), List.take_append_of_le_length hk,
        List.drop_append_of_le_length hk]
      exact walkT_append tbl _ _ s rest r h
theorem walkT_append : ∀ (tbl : List Entry) (i : Nat) (t : List Bool) (s : Nat)
    (rest r : List Bool), walkT tbl i t = .sym s rest → walkT tbl i (t ++ r) = .sym s (rest ++ r)
  | [], _, _, _, _, _, h => by simp [walkT] at h
  | e :: _, 0, t, s, rest, r, h => by
    rw [walkT] at h ⊢; exact walkE_append e t s rest r h
  | _ :: es, i+1, t, s, rest, r, h => by
    rw [walkT] at h ⊢; exact walkT_append es i t s rest r h
theorem walkE_append : ∀ (e : Entry) (t : List Bool) (s : Nat) (rest r : List Bool),
    walkE e t = .sym s rest → walkE e (t ++ r) = .sym s (rest ++ r)
  | .sym x, t, s, rest, r, h => by
    rw [walkE] at h ⊢; cases h; rfl
  | .sub l, t, s, rest, r, h => by
    rw [walkE] at h ⊢; exact walkL_append l t s rest r h
end

mutual
theorem walkL_path : ∀ (l : Level) (t : List Bool) (s : Nat) (rest : List Bool),
    walkL l t = .sym s rest → ∃ p, (p, s) ∈ pathsL l ∧ t = p ++ rest
  | .mk k tbl, t, s, rest, h => by
    rw [walkL_mk] at h
    by_cases hc : k = 0 ∨ k > 8 ∨ t.length < k
    · rw [if_pos hc] at h; cases h
    · rw [if_neg hc] at h
      have hk : k ≤ t.length := by omega
      obtain ⟨p, hp, ht⟩ := walkT_path tbl k 0 _ _ s rest h
      refine ⟨bitsN k (val (t.take k)) ++ p, ?_, ?_⟩
      · rw [pathsL]; simpa using hp
      · have hl : (t.take k).length = k := by simp [hk]
        have := bitsN_val (t.take k)
        rw [hl] at this
        rw [this, List.append_assoc, ← ht, List.take_append_drop]
theorem walkT_path : ∀ (tbl : List Entry) (k i j : Nat) (t : List Bool) (s : Nat)
    (rest : List Bool), walkT tbl j t = .sym s rest →
      ∃ p, (bitsN k (i + j) ++ p, s) ∈ pathsT tbl k i ∧ t = p ++ rest
  | [], _, _, _, _, _, _, h => by simp [walkT] at h
  | e :: es, k, i, 0, t, s, rest, h => by
    rw [walkT] at h
    obtain ⟨p, hp, ht⟩ := walkE_path e t s rest h
    refine ⟨p, ?_, ht⟩
    rw [pathsT]
    apply List.mem_append_left
    rw [List.mem_map]
    exact ⟨(p, s), hp, rfl⟩
  | e :: es, k, i, j+1, t, s, rest, h => by
    rw [walkT] at h
    obtain ⟨p, hp, ht⟩ := walkT_path es k (i + 1) j t s rest h
    refine ⟨p, ?_, ht⟩
    rw [pathsT]
    apply List.mem_append_right
    have : i + 1 + j = i + (j + 1) := by omega
    rw [← this]; exact hp
theorem walkE_path : ∀ (e : Entry) (t : List Bool) (s : Nat) (rest : List Bool),
    walkE e t = .sym s rest → ∃ p, (p, s) ∈ pathsE e ∧ t = p ++ rest
  | .sym x, t, s, rest, h => by
    rw [walkE] at h; cases h
    exact ⟨[], by simp [pathsE], rfl⟩
  | .sub l, t, s, rest, h => by
    rw [walkE] at h
    obtain ⟨p, hp, ht⟩ := walkL_path l t s rest h
    exact ⟨p, by rw [pathsE]; exact hp, ht⟩
end

mutual
/-- every level reads 1..8 bits and its table is no longer than the `2 ^ lookup` indexes they can give -/
def wfL : Level → Bool
  | .mk k tbl => decide (1 ≤ k) && decide (k ≤ 8) && decide (tbl.length ≤ 2 ^ k) && wfT tbl
def wfT : List Entry → Bool
  | [] => true
  | e :: es => wfE e && wfT es
def wfE : Entry → Bool
  | .sym _ => true
  | .sub l => wfL l
end

mutual
theorem walkL_of_path : ∀ (l : Level) (p : List Bool) (s : Nat) (r : List Bool),
    wfL l = true → (p, s) ∈ pathsL l → walkL l (p ++ r) = .sym s r
  | .mk k tbl, p, s, r, hwf, hp => by
    simp only [wfL, Bool.and_eq_true, decide_eq_true_eq] at hwf
    obtain ⟨⟨⟨h1, h8⟩, hlen⟩, hT⟩ := hwf
    rw [pathsL] at hp
    obtain ⟨j, p', rfl, hj, hw⟩ := walkT_of_path tbl k 0 p s r hT hp
    have hk : (bitsN k (0 + j)).length = k := length_bitsN _ _
    rw [walkL_mk, if_neg (by simp only [List.length_append, hk]; omega), List.append_assoc,
      List.take_left' hk, List.drop_left' hk, val_bitsN, Nat.zero_add, Nat.mod_eq_of_lt (Nat.lt_of_lt_of_le hj hlen)]
    exact hw
theorem walkT_of_path : ∀ (es : List Entry) (k i : Nat) (q : List Bool) (s : Nat) (r : List Bool),
    wfT es = true → (q, s) ∈ pathsT es k i →
      ∃ j p, q = bitsN k (i + j) ++ p ∧ j < es.length ∧ walkT es j (p ++ r) = .sym s r
  | [], _, _, _, _, _, _, h => by simp [pathsT] at h
  | e :: es, k, i, q, s, r, hwf, h => by
    simp only [wfT, Bool.and_eq_true] at hwf
    rw [pathsT, List.mem_append, List.mem_map] at h
    rcases h with ⟨ps, hps, heq⟩ | h
    · cases heq
      exact ⟨0, ps.1, rfl, Nat.succ_pos _, by rw [walkT]; exact walkE_of_path e ps.1 ps.2 r hwf.1 hps⟩
    · obtain ⟨j, p, rfl, hj, hw⟩ := walkT_of_path es k (i + 1) q s r hwf.2 h
      exact ⟨j + 1, p, by rw [Nat.add_assoc, Nat.add_comm 1], Nat.succ_lt_succ hj, by rw [walkT]; exact hw⟩
theorem walkE_of_path : ∀ (e : Entry) (p : List Bool) (s : Nat) (r : List Bool),
    wfE e = true → (p, s) ∈ pathsE e → walkE e (p ++ r) = .sym s r
  | .sym x, p, s, r, _, h => by
    simp only [pathsE, List.mem_singleton, Prod.mk.injEq] at h
    obtain ⟨rfl, rfl⟩ := h
    rfl
  | .sub l, p, s, r, hwf, h => by
    rw [walkE]; exact walkL_of_path l p s r (by rwa [wfE] at hwf) (by rwa [pathsE] at h)
end
mutual
/-- the root-to-symbol paths below a level reached by the `n` bits of `v`, as numbers (symbol, length, value) -/
def pathsNL : Level → Nat → Nat → List (Nat × Nat × Nat)
  | .mk k tbl, n, v => pathsNT tbl k 0 n v
def pathsNT : List Entry → Nat → Nat → Nat → Nat → List (Nat × Nat × Nat)
  | [], _, _, _, _ => []
  | e :: es, k, i, n, v => pathsNE e (n + k) (v * 2 ^ k + i) ++ pathsNT es k (i + 1) n v
def pathsNE : Entry → Nat → Nat → List (Nat × Nat × Nat)
  | .sym s, n, v => [(s, n, v)]
  | .sub l, n, v => pathsNL l n v
end

mutual
theorem pathsNL_word : ∀ (l : Level) (n v : Nat), wfL l = true →
    (pathsNL l n v).map word = (pathsL l).map fun ps => (bitsN n v ++ ps.1, ps.2)
  | .mk k tbl, n, v, hwf => by
    simp only [wfL, Bool.and_eq_true, decide_eq_true_eq] at hwf
    rw [pathsNL, pathsL]
    exact pathsNT_word tbl k 0 n v hwf.2 (by omega)
theorem pathsNT_word : ∀ (es : List Entry) (k i n v : Nat), wfT es = true → i + es.length ≤ 2 ^ k →
    (pathsNT es k i n v).map word = (pathsT es k i).map fun ps => (bitsN n v ++ ps.1, ps.2)
  | [], _, _, _, _, _, _ => rfl
  | e :: es, k, i, n, v, hwf, hi => by
    simp only [wfT, Bool.and_eq_true] at hwf
    simp only [List.length_cons] at hi
    rw [pathsNT, pathsT, List.map_append, List.map_append, pathsNE_word e _ _ hwf.1,
      pathsNT_word es k (i + 1) n v hwf.2 (by omega), bitsN_snoc n k v i (by omega), List.map_map]
    congr 1
    apply List.map_congr_left
    intro ps _
    simp only [Function.comp, List.append_assoc]
theorem pathsNE_word : ∀ (e : Entry) (n v : Nat), wfE e = true →
    (pathsNE e n v).map word = (pathsE e).map fun ps => (bitsN n v ++ ps.1, ps.2)
  | .sym s, n, v, _ => by simp [pathsNE, pathsE, word]
  | .sub l, n, v, hwf => by
    rw [pathsNE, pathsE]; exact pathsNL_word l n v (by rwa [wfE] at hwf)
end

mutual
theorem walkL_short_suffix : ∀ (l : Level) (t q : List Bool), walkL l t = .short q → ∃ c, t = c ++ q
  | .mk k tbl, t, q, h => by
    rw [walkL_mk] at h
    by_cases hc : k = 0 ∨ k > 8 ∨ t.length < k
    · rw [if_pos hc] at h; cases h; exact ⟨[], rfl⟩
    · rw [if_neg hc] at h
      obtain ⟨c, hc'⟩ := walkT_short_suffix tbl _ _ q h
      exact ⟨t.take k ++ c, by rw [List.append_assoc, ← hc', List.take_append_drop]⟩
theorem walkT_short_suffix : ∀ (tbl : List Entry) (i : Nat) (t q : List Bool),
    walkT tbl i t = .short q → ∃ c, t = c ++ q
  | [], _, _, _, h => by rw [walkT] at h; cases h
  | e :: _, 0, t, q, h => by rw [walkT] at h; exact walkE_short_suffix e t q h
  | _ :: es, i+1, t, q, h => by rw [walkT] at h; exact walkT_short_suffix es i t q h
theorem walkE_short_suffix : ∀ (e : Entry) (t q : List Bool), walkE e t = .short q → ∃ c, t = c ++ q
  | .sym s, t, q, h => by rw [walkE] at h; cases h
  | .sub l, t, q, h => by rw [walkE] at h; exact walkL_short_suffix l t q h
end

end H3.Huffman
