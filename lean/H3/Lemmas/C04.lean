import H3.Model.UniAccept
import H3.Model.Control
import H3.Spec.ControlRules
import H3.Lemmas.Varint
/-! The proofs behind the C04 theorems of `H3/Props/C04.lean`: `H3.UniAccept` (`AcceptRecvStream`) and `H3.Control`
    (`poll_accept_recv`, `poll_control`, `poll_grease_stream`, role handlers) against the oracle `H3.Spec.ControlRules`.
    Type resolution: every loop is specified as a function of what a call can see of the stream — the bytes still to
    come, whether its end is among the events, a bound on their number —, so an event that moves from the script into
    the state only rewrites these arguments. -/
namespace H3.Lemmas.C04
open H3.Control H3.Frame

section resolution
open H3.UniAccept H3.Varint
open H3.Spec.ControlRules (Hdr header hasId)

/-- the bytes the transport delivers before the stream ends (events behind FIN/RESET are never
    looked at) -/
def bytesOf : List Ev → Bytes
  | [] => []
  | .chunk b :: r => b ++ bytesOf r
  | .pend :: r => bytesOf r
  | .fin :: _ => []
  | .reset _ :: _ => []

def hasEnd : List Ev → Bool
  | [] => false
  | .chunk _ :: r => hasEnd r
  | .pend :: r => hasEnd r
  | .fin :: _ => true
  | .reset _ :: _ => true

def ScriptWF (sc : List Ev) : Prop := ∀ b, FS.Ev.chunk b ∈ sc → WF b

def future (s : St) (sc : List Ev) : Bytes := if s.ended.isSome then [] else bytesOf sc

def endSeen (s : St) (sc : List Ev) : Bool := s.ended.isSome || hasEnd sc

private def Inv (s : St) : Prop :=
  WF s.buf ∧ (s.expected = none ∨ ∃ b0 r, s.buf = b0 :: r ∧ s.expected = some (encodedSize b0))

private theorem announce_eq (s : St) (hinv : Inv s) (b0 : Nat) (r : Bytes) (hb : s.buf = b0 :: r) :
    announce s = some (encodedSize b0) := by
  unfold announce
  rcases hinv.2 with h | ⟨b0', r', hb', he⟩
  · simp [h, hb]
  · rw [hb] at hb'; cases hb'; simp [he]

private theorem inv_announce {s : St} (hinv : Inv s) : Inv { s with expected := announce s } := by
  refine ⟨hinv.1, ?_⟩
  cases hb : s.buf with
  | nil =>
    rcases hinv.2 with h | ⟨b0, r, hb', _⟩
    · exact Or.inl (by simp [announce, h, hb])
    · rw [hb] at hb'; cases hb'
  | cons b0 r => exact Or.inr ⟨b0, r, rfl, announce_eq s hinv b0 r hb⟩

private theorem tryBuf_eq (s : St) (hinv : Inv s) :
    tryBuf s = match rfcDecode s.buf with
      | some (v, rest) => (some (.ok v), { s with buf := rest, expected := none })
      | none => (none, { s with expected := announce s }) := by
  unfold tryBuf
  cases hd : rfcDecode s.buf with
  | some vr =>
    obtain ⟨b0, r, hb, hl, _, _⟩ := rfcDecode_iff.mp hd
    have hl' : ¬ s.buf.length < encodedSize b0 := Nat.not_lt.mpr hl
    rw [announce_eq s hinv b0 r hb]
    simp only
    rw [if_neg hl', decode_of_rfc s.buf hinv.1, hd]
  | none =>
    by_cases hnil : s.buf = []
    · have he : s.expected = none := by
        rcases hinv.2 with h | ⟨b0', r', hb', _⟩
        · exact h
        · rw [hnil] at hb'; cases hb'
      have ha : announce s = none := by simp [announce, he, hnil]
      have hs : { s with expected := announce s } = s := by rw [ha, ← he]
      rw [hs, ha]
    · obtain ⟨b0, r, hb⟩ := List.exists_cons_of_ne_nil hnil
      rw [announce_eq s hinv b0 r hb]
      simp only
      rw [if_pos (by rw [hb] at hd ⊢; exact rfcDecode_cons_none.mp hd)]

private theorem tryBuf_spec {s s1 : St} {x : Option VRes} (hinv : Inv s) (ht : tryBuf s = (x, s1)) :
    match x with
    | some x =>
      ∃ v rest, rfcDecode s.buf = some (v, rest) ∧ x = .ok v ∧ s1 = { s with buf := rest, expected := none }
    | none => rfcDecode s.buf = none ∧ s1 = { s with expected := announce s } := by
  rw [tryBuf_eq s hinv] at ht
  cases hd : rfcDecode s.buf with
  | some vr => rw [hd] at ht; cases ht; exact ⟨vr.1, vr.2, rfl, rfl, rfl⟩
  | none => rw [hd] at ht; cases ht; exact ⟨rfl, rfl⟩

theorem scriptWF_tail {x : Ev} {r : List Ev} (h : ScriptWF (x :: r)) : ScriptWF r :=
  fun b hb => h b (List.mem_cons_of_mem _ hb)

/-- `w`: the bytes still to come (buffer, then transport); `e`: the end of the stream is among the events; `n`: a bound
    on their number.  `r.length ≤ n - 1`: a `Pending` has used up an event unless there was none -/
private def VSpec (w : Bytes) (e : Bool) (ty id : Option Nat) (n : Nat) (out : VRes × St × List Ev) : Prop :=
  match out with
  | (.ok v, s', r) =>
    rfcDecode w = some (v, s'.buf ++ future s' r) ∧ Inv s' ∧ s'.ty = ty ∧ s'.id = id ∧ ScriptWF r ∧
    r.length ≤ n ∧ endSeen s' r = e
  | (.pending, s', r) =>
    rfcDecode s'.buf = none ∧ s'.buf ++ future s' r = w ∧ s'.ended = none ∧ Inv s' ∧ s'.ty = ty ∧ s'.id = id ∧
    ScriptWF r ∧ endSeen s' r = e ∧ r.length ≤ n - 1
  | (.ended, _, _) => rfcDecode w = none ∧ e = true
  | (.internal, _, _) => False

private theorem pollVarint_spec (sc : List Ev) (s : St) (hinv : Inv s) (hwf : ScriptWF sc) (n : Nat)
    (hn : sc.length ≤ n) : VSpec (s.buf ++ future s sc) (endSeen s sc) s.ty s.id n (pollVarint s sc) := by
  fun_induction pollVarint s sc with
  | case1 s sc x s1 ht =>   -- the buffer holds an integer: it is the answer
    obtain ⟨v, rest, hd, rfl, rfl⟩ := tryBuf_spec hinv ht
    exact ⟨rfcDecode_append hd _, ⟨rfcDecode_wf hd hinv.1, Or.inl rfl⟩, rfl, rfl, hwf, hn, rfl⟩
  | case2 s sc s1 ht y hen =>   -- not enough buffered, and the stream has ended
    obtain ⟨hd, rfl⟩ := tryBuf_spec hinv ht
    have hen : s.ended = some y := hen
    exact ⟨by simp [future, hen, hd], by simp [endSeen, hen]⟩
  | case3 s s1 ht hen =>   -- the script is used up: `Pending`
    obtain ⟨hd, rfl⟩ := tryBuf_spec hinv ht
    have hen : s.ended = none := hen
    exact ⟨hd, by simp [future, hen], hen, inv_announce hinv, rfl, rfl, hwf, by simp [endSeen, hen], Nat.zero_le _⟩
  | case4 s s1 ht hen r =>   -- the transport says `Pending`
    obtain ⟨hd, rfl⟩ := tryBuf_spec hinv ht
    have hen : s.ended = none := hen
    exact ⟨hd, by simp [future, hen, bytesOf], hen, inv_announce hinv, rfl, rfl, scriptWF_tail hwf,
      by simp [endSeen, hen, hasEnd], Nat.le_sub_one_of_lt hn⟩
  -- the other events move from the script into the state: what the call can see stays what it was
  | case5 s s1 ht hen b r ih =>   -- a chunk is appended to the buffer
    obtain ⟨hd, rfl⟩ := tryBuf_spec hinv ht
    have hen : s.ended = none := hen
    have hinv1 := inv_announce hinv
    have hinv2 : Inv { s with expected := announce s, buf := s.buf ++ b } := by
      refine ⟨WF_append_iff.mpr ⟨hinv.1, hwf b (List.mem_cons_self)⟩, ?_⟩
      rcases hinv1.2 with h | ⟨b0, r0, hb0, he0⟩
      · exact Or.inl h
      · exact Or.inr ⟨b0, r0 ++ b, by simp [show s.buf = b0 :: r0 from hb0], he0⟩
    simpa [future, endSeen, hen, bytesOf, hasEnd] using ih hinv2 (scriptWF_tail hwf) (Nat.le_of_succ_le hn)
  | case6 s s1 ht hen r ih | case7 s s1 ht hen c r ih =>   -- FIN, RESET
    obtain ⟨hd, rfl⟩ := tryBuf_spec hinv ht
    have hen : s.ended = none := hen
    simpa [future, endSeen, hen, bytesOf, hasEnd] using
      ih (inv_announce hinv) (scriptWF_tail hwf) (Nat.le_of_succ_le hn)

/-- the stream header (RFC 9114 §6.2) as it remains to be read in state `s` from the bytes `w` -/
private def hdrFrom (s : St) (w : Bytes) : Hdr :=
  match s.ty with
  | none => header w
  | some ty =>
    if wantsId s then
      match rfcDecode w with
      | none => .incomplete
      | some (id, r2) => .complete ty (some id) r2
    else .complete ty s.id w

private theorem hdrFrom_congr (s1 s : St) (w : Bytes) (h1 : s1.ty = s.ty) (h2 : s1.id = s.id) :
    hdrFrom s1 w = hdrFrom s w := by
  unfold hdrFrom wantsId; rw [h1, h2]

private theorem needsId_eq (v : Nat) : needsId v = hasId v := rfl

private theorem hdrFrom_none {s : St} (hty : s.ty = none) (w : Bytes) : hdrFrom s w = header w := by
  unfold hdrFrom; rw [hty]

private theorem hdrFrom_wants {s : St} {ty : Nat} (hty : s.ty = some ty) (hw : wantsId s = true) (w : Bytes) :
    hdrFrom s w = match rfcDecode w with
      | none => .incomplete
      | some (id, r2) => .complete ty (some id) r2 := by
  unfold hdrFrom; rw [hty]; simp only; rw [if_pos hw]

private theorem hdrFrom_done {s : St} {ty : Nat} (hty : s.ty = some ty) (hw : ¬ wantsId s = true) (w : Bytes) :
    hdrFrom s w = .complete ty s.id w := by
  unfold hdrFrom; rw [hty]; simp only; rw [if_neg hw]

/-- `h`: the header still to be read (`hdrFrom`); `e`, `n` as in `VSpec` -/
private def TSpec (h : Hdr) (e : Bool) (n : Nat) (out : TRes × St × List Ev) : Prop :=
  match out with
  | (.ready, s', r) => ∃ ty, s'.ty = some ty ∧ h = .complete ty s'.id (s'.buf ++ future s' r)
  | (.pending, s', r) =>
    hdrFrom s' (s'.buf ++ future s' r) = h ∧ hdrFrom s' s'.buf = .incomplete ∧ s'.ended = none ∧ Inv s' ∧
    (s'.ty = none → s'.id = none) ∧ ScriptWF r ∧ endSeen s' r = e ∧ r.length ≤ n - 1
  | (.ended, _, _) => h = .incomplete ∧ e = true
  | (.internal, _, _) => False

private theorem pollId_spec (s : St) (sc : List Ev) (ty : Nat) (hty : s.ty = some ty) (hinv : Inv s)
    (hwf : ScriptWF sc) (n : Nat) (hn : sc.length ≤ n) :
    TSpec (hdrFrom s (s.buf ++ future s sc)) (endSeen s sc) n (pollId s sc) := by
  unfold pollId
  by_cases hw : wantsId s = true
  · rw [if_pos hw]
    have hv := pollVarint_spec sc s hinv hwf n hn
    rcases hp : pollVarint s sc with ⟨res, s1, r⟩
    rw [hp] at hv
    cases res with
    | ok v =>
      obtain ⟨h1, h2, h3, h4, h5, h6, h7⟩ := hv
      exact ⟨ty, h3.trans hty, by rw [hdrFrom_wants hty hw, h1]; rfl⟩
    | pending =>
      obtain ⟨h1, h2, h3, h4, h5, h6, h7, h8, h9⟩ := hv
      have hw1 : wantsId s1 = true := by unfold wantsId at hw ⊢; rw [h5, h6]; exact hw
      exact ⟨by rw [h2]; exact hdrFrom_congr s1 s _ h5 h6, by rw [hdrFrom_wants (h5.trans hty) hw1, h1], h3, h4,
        fun hn => (by rw [h5, hty] at hn; cases hn), h7, h8, h9⟩
    | ended => exact ⟨by rw [hdrFrom_wants hty hw, hv.1], hv.2⟩
    | internal => exact hv
  · rw [if_neg hw]
    exact ⟨ty, hty, hdrFrom_done hty hw _⟩

private theorem pollType_some (s : St) (sc : List Ev) (ty : Nat) (hty : s.ty = some ty) :
    pollType s sc = pollId s sc := by
  unfold pollType; rw [hty]

private theorem pollType_none (s : St) (sc : List Ev) (hty : s.ty = none) :
    pollType s sc =
      match pollVarint s sc with
      | (.ok v, s1, r) => pollId { s1 with ty := some v } r
      | (.pending, s1, r) => (.pending, s1, r)
      | (.ended, s1, r) => (.ended, s1, r)
      | (.internal, s1, r) => (.internal, s1, r) := by
  unfold pollType; rw [hty]; rfl

private theorem header_none (w : Bytes) (h : rfcDecode w = none) : header w = .incomplete := by
  unfold header; rw [h]

theorem header_id (w : Bytes) (ty : Nat) (id : Option Nat) (rest : Bytes)
    (h : header w = .complete ty id rest) (hid : hasId ty = true) :
    id.isSome = true := by
  unfold header at h
  split at h
  · cases h
  · rename_i ty' r1 _
    split at h
    · split at h
      · cases h
      · simp only [Hdr.complete.injEq] at h
        rw [← h.2.1]; rfl
    · rename_i hn
      simp only [Hdr.complete.injEq] at h
      rw [h.1] at hn
      exact absurd hid hn

private theorem pollType_spec (s : St) (sc : List Ev) (hinv : Inv s) (hwf : ScriptWF sc)
    (hid : s.ty = none → s.id = none) (n : Nat) (hn : sc.length ≤ n) :
    TSpec (hdrFrom s (s.buf ++ future s sc)) (endSeen s sc) n (pollType s sc) := by
  cases hty : s.ty with
  | some ty =>
    rw [pollType_some s sc ty hty]
    exact pollId_spec s sc ty hty hinv hwf n hn
  | none =>
    rw [pollType_none s sc hty]
    have hv := pollVarint_spec sc s hinv hwf n hn
    rcases hp : pollVarint s sc with ⟨res, s1, r⟩
    rw [hp] at hv
    have hidn : s.id = none := hid hty
    cases res with
    | ok v =>
      obtain ⟨h1, h2, h3, h4, h5, h6, h7⟩ := hv
      -- the header read from `s` is the type just decoded followed by what is read from `s1` on
      have hh : hdrFrom { s1 with ty := some v } (s1.buf ++ future s1 r) = hdrFrom s (s.buf ++ future s sc) := by
        have hi2 : s1.id = none := by rw [h4, hidn]
        rw [hdrFrom_none hty]
        unfold header hdrFrom wantsId
        simp only [h1, hi2, Option.isNone_none, Bool.and_true, needsId_eq]
        rfl
      have he : endSeen { s1 with ty := some v } r = endSeen s sc := h7
      rw [← hh, ← he]
      exact pollId_spec { s1 with ty := some v } r v rfl h2 h5 n h6
    | pending =>
      obtain ⟨h1, h2, h3, h4, h5, h6, h7, h8, h9⟩ := hv
      exact ⟨by rw [h2]; exact hdrFrom_congr s1 s _ h5 h6, by rw [hdrFrom_none (h5.trans hty)]; exact header_none _ h1,
        h3, h4, fun _ => by rw [h6, hidn], h7, h8, h9⟩
    | ended => exact ⟨by rw [hdrFrom_none hty]; exact header_none _ hv.1, hv.2⟩
    | internal => exact hv

/-- `h`: the header RFC 9114 §6.2 reads from the bytes sent before the end of the stream; `ended`: the stream has ended -/
def ResolveOK (h : Hdr) (ended : Bool) : Outcome → Prop
  | .resolved s' r => ∃ ty, s'.ty = some ty ∧ h = .complete ty s'.id (s'.buf ++ future s' r)
  | .dropped => h = .incomplete ∧ ended = true
  | .waiting _ => h = .incomplete ∧ ended = false
  | .internal => False

private theorem resolve_spec :
    ∀ (fuel : Nat) (s : St) (sc : List Ev), sc.length < fuel → Inv s → ScriptWF sc →
      (s.ty = none → s.id = none) →
      ResolveOK (hdrFrom s (s.buf ++ future s sc)) (endSeen s sc) (resolve fuel s sc) := by
  intro fuel
  induction fuel with
  | zero => intro s sc h; omega
  | succ fuel ih =>
    intro s sc hlen hinv hwf hid
    have ht := pollType_spec s sc hinv hwf hid sc.length (Nat.le_refl _)
    unfold resolve
    rcases hp : pollType s sc with ⟨res, s1, r⟩
    rw [hp] at ht
    cases res with
    | ready | ended | internal => exact ht
    | pending =>
      obtain ⟨h1, h2, h3, h4, h5, h6, h7, h8⟩ := ht
      simp only
      rw [← h1, ← h7]
      by_cases hemp : sc.isEmpty = true
      · rw [if_pos hemp]
        have hsc : sc = [] := by simpa using hemp
        have hr : r = [] := by rw [hsc] at h8; exact List.eq_nil_of_length_eq_zero (by simpa using h8)
        subst hr
        exact ⟨by simpa [future, h3, bytesOf] using h2, by simp [endSeen, h3, hasEnd]⟩
      · rw [if_neg hemp]
        have hsc : 0 < sc.length := List.length_pos_iff.mpr (by simpa using hemp)
        exact ih s1 r (by omega) h4 h6 h5

/-- `type_resolution` sorted by the outcome alone -/
theorem resolve_outcome (sc : List Ev) (hwf : ScriptWF sc) :
    ResolveOK (header (bytesOf sc)) (hasEnd sc) (resolve (sc.length + 1) {} sc) := by
  have hinv : Inv {} := ⟨fun _ h => by simp at h, Or.inl rfl⟩
  have h := resolve_spec (sc.length + 1) {} sc (by omega) hinv hwf (fun _ => rfl)
  have h0 : hdrFrom {} (({} : St).buf ++ future {} sc) = header (bytesOf sc) := by
    simp [hdrFrom, future]
  rw [h0] at h
  exact h

/-- stated as `C04_type_resolution` (Props/C04) -/
theorem type_resolution (sc : List Ev) (hwf : ScriptWF sc) :
    match header (bytesOf sc), resolve (sc.length + 1) {} sc with
    | .complete ty id rest, .resolved s r => s.ty = some ty ∧ s.id = id ∧ s.buf ++ future s r = rest
    | .incomplete, .dropped => hasEnd sc = true
    | .incomplete, .waiting _ => hasEnd sc = false
    | _, _ => False := by
  have h := resolve_outcome sc hwf
  generalize resolve (sc.length + 1) {} sc = out at h
  cases out with
  | resolved s r =>
    obtain ⟨ty, h1, h2⟩ := h
    rw [h2]
    exact ⟨h1, rfl, rfl⟩
  | dropped | waiting s => rw [h.1]; exact h.2
  | internal => exact h.elim

/-! `into_stream` hands the bytes read behind the header on as one chunk, or as no chunk when there are none. -/

theorem leftover_flatten (b : Bytes) : (if b = [] then [] else [b]).flatten = b := by
  split <;> simp [*]

theorem leftover_ne (b : Bytes) : ∀ c ∈ (if b = [] then [] else [b]), c ≠ [] := by
  split
  · nofun
  · intro c hc
    rw [List.mem_singleton.mp hc]
    assumption

end resolution

section machine
open H3.Spec.ControlRules H3.Gen.Consts

def absKind (cfg : Cfg) : UniAccept.Kind → StreamTy
  | .control => .control
  | .push => .push
  | .encoder => .encoder
  | .decoder => .decoder
  | .wtUni _ => if cfg.wt then .wtUni else .unknown
  | .unknown _ => .unknown

def absItem : Item → CtlEv
  | .frame (.settings _) => .settings
  | .frame (.data _) => .data
  | .frame (.headers _) => .headers
  | .frame (.pushPromise _ _) => .pushPromise
  | .frame (.goaway id) => .goaway id
  | .frame (.cancelPush id) => .cancelPush id
  | .frame (.maxPushId id) => .maxPushId id
  | .frame (.webTransport _) => .wtSignal
  | .fin => .fin
  | .reset _ => .reset
  | .truncated => .truncatedFin
  | .proto .malformed => .malformed
  | .proto (.unsupported ty) => .h2 ty
  | .proto (.settings _) => .badSettings

/-- `none`: no event for the oracle (`pend`), or the arrival `internal`, which `NoInternal` excludes -/
def absIn (cfg : Cfg) : In → Option Ev
  | .pend => none
  | .uni _ (.kind k) => some (.stream (absKind cfg k))
  | .uni _ .dropped => some .closedEarly
  | .uni _ .internal => none
  | .item i => some (.ctl (absItem i))

def isServer (cfg : Cfg) : Bool :=
  match cfg.role with
  | .server => true
  | .client => false

/-- `some e` = a connection error with code `e` was raised -/
def accepts : Verdict → Option Nat → Prop
  | .ok, none => True
  | .ok, some _ => False
  | .must cs, some e => e ∈ cs
  | .must _, none => False
  | .may cs, some e => e ∈ cs
  | .may _, none => True

/-- Step by step along a history: at every input the oracle's verdict accepts what the machine
    did, up to and including the first connection error. -/
def Conforms (cfg : Cfg) : St → Conn → List In → Prop
  | _, _, [] => True
  | sp, c, x :: r =>
    match absIn cfg x with
    | none => Conforms cfg sp (step cfg c x).1 r
    | some ev =>
      accepts (verdict (isServer cfg) sp ev).1 (step cfg c x).2.2 ∧
      ((step cfg c x).2.2 = none → Conforms cfg (verdict (isServer cfg) sp ev).2 (step cfg c x).1 r)

def NoInternal (ins : List In) : Prop := ∀ tag, In.uni tag .internal ∉ ins

def Sim (sp : St) (c : Conn) : Prop :=
  sp.control = c.control ∧ sp.encoder = c.encoder ∧ sp.decoder = c.decoder ∧
  sp.settings = c.gotSettings ∧ sp.lastGoaway = c.recvClosing

section tables
/-! The proofs of this section unfold the two tables — the model's arms and the oracle's rows — and compare. -/
attribute [local simp] absIn absKind absItem verdict firstFrame laterFrame step acceptArrival acceptKind classify
  classifyLater protoCode handle serverHandle clientHandle isServer accepts Sim Conn.fail
  CODE_H3_STREAM_CREATION_ERROR H3_STREAM_CREATION_ERROR CODE_H3_CLOSED_CRITICAL_STREAM H3_CLOSED_CRITICAL_STREAM
  CODE_H3_FRAME_ERROR H3_FRAME_ERROR CODE_H3_FRAME_UNEXPECTED H3_FRAME_UNEXPECTED CODE_H3_SETTINGS_ERROR
  H3_SETTINGS_ERROR CODE_H3_MISSING_SETTINGS H3_MISSING_SETTINGS CODE_H3_ID_ERROR H3_ID_ERROR

private theorem step_uni (cfg : Cfg) (sp : St) (c : Conn) (tag : Nat) (a : Arrival) (ev : Ev)
    (hs : Sim sp c) (ha : absIn cfg (.uni tag a) = some ev) :
    accepts (verdict (isServer cfg) sp ev).1 (step cfg c (.uni tag a)).2.2 ∧
    ((step cfg c (.uni tag a)).2.2 = none → Sim (verdict (isServer cfg) sp ev).2 (step cfg c (.uni tag a)).1) := by
  obtain ⟨h1, h2, h3, h4, h5⟩ := hs
  cases a with
  | internal => simp at ha
  | dropped => simp at ha; subst ha; simp [*]
  | kind k =>
    simp at ha; subst ha
    cases k with
    | control => by_cases hc : c.control = true <;> simp [*]
    | encoder => by_cases hc : c.encoder = true <;> simp [*]
    | decoder => by_cases hc : c.decoder = true <;> simp [*]
    | wtUni sid => by_cases hw : cfg.wt = true <;> simp [*]
    | _ => simp [*]

private theorem goaway_server (sp : St) (c : Conn) (id : Nat) (h5 : sp.lastGoaway = c.recvClosing) :
    accepts (if goawayOk true sp id then Verdict.ok else .must [H3_ID_ERROR]) (processGoaway c id).2 ∧
    ((processGoaway c id).2 = none → (processGoaway c id).1 = { c with recvClosing := some id }) := by
  unfold processGoaway goawayOk
  rw [h5]
  cases hrc : c.recvClosing with
  | none => simp
  | some prev =>
    by_cases hlt : prev < id
    · have : ¬ id ≤ prev := by omega
      simp [hlt, this]
    · have : id ≤ prev := by omega
      simp [hlt, this]

private theorem goaway_client (sp : St) (c : Conn) (id : Nat) (h5 : sp.lastGoaway = c.recvClosing) :
    accepts (if goawayOk false sp id then Verdict.ok else .must [H3_ID_ERROR]) (clientHandle c (.goaway id)).2 ∧
    ((clientHandle c (.goaway id)).2 = none → (clientHandle c (.goaway id)).1 = { c with recvClosing := some id }) := by
  by_cases h4 : id % 4 = 0
  · have := goaway_server sp c id h5
    simpa [goawayOk, h4] using this
  · simp [goawayOk, h4]

private theorem step_item (cfg : Cfg) (sp : St) (c : Conn) (i : Item) (hs : Sim sp c) :
    accepts (verdict (isServer cfg) sp (.ctl (absItem i))).1 (step cfg c (.item i)).2.2 ∧
    ((step cfg c (.item i)).2.2 = none →
      Sim (verdict (isServer cfg) sp (.ctl (absItem i))).2 (step cfg c (.item i)).1) := by
  obtain ⟨h1, h2, h3, h4, h5⟩ := hs
  by_cases hc : c.control = true
  · by_cases hg : c.gotSettings = true
    · cases i with
      | frame f =>
        cases f with
        | goaway id =>
          -- the identifier rules are `goaway_server` / `goaway_client`; `accepts`, `Sim` and `clientHandle` are
          -- withheld from `simp` so that the goal keeps the shape of those two statements
          cases hr : cfg.role
          · have := goaway_server sp c id h5
            simp [*, -accepts, -Sim, -clientHandle]
            refine ⟨this.1, fun hn => ?_⟩
            rw [this.2 hn]
            simp [*]
          · have := goaway_client sp c id h5
            simp [*, -accepts, -Sim, -clientHandle]
            refine ⟨this.1, fun hn => ?_⟩
            rw [this.2 hn]
            simp [*]
        | maxPushId id =>
          cases hr : cfg.role
          · -- `ok` if the id does not go down (`maxPushOk`), `may [H3_ID_ERROR]` otherwise: no error is accepted by both
            simp [*, -accepts]
            split <;> simp
          · simp [*]
        | _ => cases hr : cfg.role <;> simp [*]
      | proto e => cases e <;> simp [*]
      | _ => simp [*]
    · cases i with
      | frame f => cases f <;> cases hr : cfg.role <;> simp [*]
      | proto e => cases e <;> simp [*]
      | _ => simp [*]
  · simp [*]

private theorem step_sound (cfg : Cfg) (sp : St) (c : Conn) (x : In) (ev : Ev)
    (hs : Sim sp c) (ha : absIn cfg x = some ev) :
    accepts (verdict (isServer cfg) sp ev).1 (step cfg c x).2.2 ∧
    ((step cfg c x).2.2 = none → Sim (verdict (isServer cfg) sp ev).2 (step cfg c x).1) := by
  cases x with
  | pend => simp at ha
  | uni tag a => exact step_uni cfg sp c tag a ev hs ha
  | item i =>
    simp at ha; subst ha
    exact step_item cfg sp c i hs

end tables

private theorem conforms_of_sim (cfg : Cfg) :
    ∀ (ins : List In) (sp : St) (c : Conn), Sim sp c → NoInternal ins → Conforms cfg sp c ins := by
  intro ins
  induction ins with
  | nil => intro sp c _ _; simp [Conforms]
  | cons x r ih =>
    intro sp c hs hni
    have hni' : NoInternal r := fun tag hm => hni tag (List.mem_cons_of_mem _ hm)
    simp only [Conforms]
    cases ha : absIn cfg x with
    | none =>
      simp only
      cases x with
      | pend => simpa [step] using ih sp c hs hni'
      | uni tag a =>
        cases a with
        | internal => exact absurd (List.mem_cons_self) (hni tag)
        | dropped | kind k => simp [absIn] at ha
      | item i => simp [absIn] at ha
    | some ev =>
      simp only
      obtain ⟨h1, h2⟩ := step_sound cfg sp c x ev hs ha
      exact ⟨h1, fun hn => ih _ _ (h2 hn) hni'⟩

/-- stated as `C04_control_machine` (Props/C04); `NoInternal` is a hypothesis on the history -/
theorem control_machine (cfg : Cfg) (ins : List In) (h : NoInternal ins) :
    Conforms cfg {} {} ins :=
  conforms_of_sim cfg ins {} {} ⟨rfl, rfl, rfl, rfl, rfl⟩ h

def firstErr (cfg : Cfg) : Conn → List In → Option Nat
  | _, [] => none
  | c, x :: r =>
    match (step cfg c x).2.2 with
    | some e => some e
    | none => firstErr cfg (step cfg c x).1 r

/-- with `acted_once_any` (the polled machine is `refRun`) this gives `C04_first_error`: the error the polled machine
    returns is the one raised at the first input that raises one -/
theorem refRun_err (cfg : Cfg) : ∀ (ins : List In) (c : Conn), (refRun cfg c ins).2.1 = firstErr cfg c ins := by
  intro ins
  induction ins with
  | nil => intro c; rfl
  | cons x r ih =>
    intro c
    simp only [refRun, firstErr]
    rcases hs : step cfg c x with ⟨c1, f, e⟩
    cases e with
    | some e' => rfl
    | none =>
      simp only
      rw [← ih c1]

/-- stated as `C04_into_stream` (Props/C04) -/
theorem into_stream (cfg : Cfg) (s : UniAccept.St) (ty : Nat) (hty : s.ty = some ty)
    (hid : hasId ty = true → s.id.isSome = true) :
    ∃ k, UniAccept.intoStream s = some k ∧ absKind cfg k = streamTy cfg.wt ty := by
  unfold UniAccept.intoStream
  rw [hty]
  simp only [STREAM_CONTROL, STREAM_PUSH, STREAM_ENCODER, STREAM_DECODER, STREAM_WEBTRANSPORT_UNI]
  by_cases h0 : ty = 0
  · subst h0; exact ⟨.control, by simp, by simp [absKind, streamTy, TY_CONTROL]⟩
  by_cases h1 : ty = 1
  · subst h1; exact ⟨.push, by simp, by simp [absKind, streamTy, TY_CONTROL, TY_PUSH]⟩
  by_cases h2 : ty = 2
  · subst h2; exact ⟨.encoder, by simp, by simp [absKind, streamTy, TY_CONTROL, TY_PUSH, TY_QPACK_ENCODER]⟩
  by_cases h3 : ty = 3
  · subst h3
    exact ⟨.decoder, by simp, by simp [absKind, streamTy, TY_CONTROL, TY_PUSH, TY_QPACK_ENCODER, TY_QPACK_DECODER]⟩
  by_cases h4 : ty = 84
  · subst h4
    have := hid (by decide)
    obtain ⟨i, hi⟩ := Option.isSome_iff_exists.mp this
    refine ⟨.wtUni i, by simp [hi], ?_⟩
    simp [absKind, streamTy, TY_CONTROL, TY_PUSH, TY_QPACK_ENCODER, TY_QPACK_DECODER, TY_WEBTRANSPORT_UNI]
  · refine ⟨.unknown ty, by simp [h0, h1, h2, h3, h4], ?_⟩
    simp [absKind, streamTy, TY_CONTROL, TY_PUSH, TY_QPACK_ENCODER, TY_QPACK_DECODER, TY_WEBTRANSPORT_UNI,
      h0, h1, h2, h3, h4]

/-- a stream of unknown type is told to stop with H3_STREAM_CREATION_ERROR (RFC 9114 §6.2 SHOULD)
    and never causes a connection error; neither does a stream dropped before its type is known -/
theorem unknown_stream (cfg : Cfg) (c : Conn) (ty : Nat) :
    acceptArrival cfg c (.kind (.unknown ty)) = { conn := c, stop := some 0x0103 } ∧
    acceptArrival cfg c .dropped = { conn := c } := ⟨rfl, rfl⟩

end machine

/-- no arm of `poll_accept_recv` clears `control`, a failing one included (`Conn.fail` writes `err` only) -/
theorem acceptArrival_keeps (cfg : Cfg) (c : Conn) (a : Arrival) :
    (c.control = true → (acceptArrival cfg c a).conn.control = true) ∧
    ((acceptArrival cfg c a).err = none → (acceptArrival cfg c a).conn.err = c.err) := by
  cases a with
  | dropped => exact ⟨id, fun _ => rfl⟩
  | internal => exact ⟨id, nofun⟩
  | kind k =>
    cases k with
    | control =>
      by_cases hc : c.control = true
      · rw [show acceptArrival cfg c (.kind .control) = _ from if_pos hc]; exact ⟨id, nofun⟩
      · rw [show acceptArrival cfg c (.kind .control) = _ from if_neg hc]; exact ⟨fun _ => rfl, fun _ => rfl⟩
    | encoder =>
      by_cases hc : c.encoder = true
      · rw [show acceptArrival cfg c (.kind .encoder) = _ from if_pos hc]; exact ⟨id, nofun⟩
      · rw [show acceptArrival cfg c (.kind .encoder) = _ from if_neg hc]; exact ⟨id, fun _ => rfl⟩
    | decoder =>
      by_cases hc : c.decoder = true
      · rw [show acceptArrival cfg c (.kind .decoder) = _ from if_pos hc]; exact ⟨id, nofun⟩
      · rw [show acceptArrival cfg c (.kind .decoder) = _ from if_neg hc]; exact ⟨id, fun _ => rfl⟩
    | wtUni sid =>
      by_cases hw : cfg.wt = true
      · rw [show acceptArrival cfg c (.kind (.wtUni sid)) = _ from if_pos hw]; exact ⟨id, fun _ => rfl⟩
      · rw [show acceptArrival cfg c (.kind (.wtUni sid)) = _ from if_neg hw]; exact ⟨id, fun _ => rfl⟩
    | push | unknown ty => exact ⟨id, fun _ => rfl⟩

theorem processGoaway_keeps (c : Conn) (id : Nat) :
    (processGoaway c id).1.control = c.control ∧
    ((processGoaway c id).2 = none → (processGoaway c id).1.err = c.err) := by
  unfold processGoaway
  split
  · split
    · exact ⟨rfl, nofun⟩
    · exact ⟨rfl, fun _ => rfl⟩
  · exact ⟨rfl, fun _ => rfl⟩

/-- an arm of a role handler answers `(c, none)`, or an error — then the second half is void —, or is
    `process_goaway` -/
theorem handle_keeps (role : Role) (c : Conn) (f : Frame) :
    (handle role c f).1.control = c.control ∧ ((handle role c f).2 = none → (handle role c f).1.err = c.err) := by
  cases role with
  | server =>
    cases f with
    | settings es | maxPushId id | cancelPush id => exact ⟨rfl, fun _ => rfl⟩
    | goaway id => exact processGoaway_keeps c id
    | data n | headers p | pushPromise id p | webTransport sid => exact ⟨rfl, nofun⟩
  | client =>
    cases f with
    | settings es => exact ⟨rfl, fun _ => rfl⟩
    | goaway id =>
      by_cases h4 : id % 4 = 0
      · rw [show handle .client c (.goaway id) = processGoaway c id from if_pos h4]
        exact processGoaway_keeps c id
      · rw [show handle .client c (.goaway id) = (c.fail _, some _) from if_neg h4]
        exact ⟨rfl, nofun⟩
    | maxPushId id | cancelPush id | data n | headers p | pushPromise id p | webTransport sid => exact ⟨rfl, nofun⟩

theorem handle_none {role : Role} {c c2 : Conn} {f : Frame} (h : handle role c f = (c2, none)) :
    c2.err = c.err ∧ c2.control = c.control := by
  have := handle_keeps role c f
  rw [h] at this
  exact ⟨this.2 rfl, this.1⟩

/-- SETTINGS passes only while `gotSettings` is false and sets it; the other frames pass only once it is true
    and leave the state alone — so in both cases the state afterwards is `c` with `gotSettings` true -/
theorem classify_pass {c c1 : Conn} {i : Item} {f : Frame} (h : classify c i = .pass f c1) :
    i = .frame f ∧ c1 = { c with gotSettings := true } := by
  cases i with
  | frame f0 =>
    cases f0 with
    | settings es =>
      simp only [classify] at h
      split at h
      · cases h
      · cases h; exact ⟨rfl, rfl⟩
    | goaway id | cancelPush id | maxPushId id =>
      -- the later arms that pass: reached with `gotSettings = true` (`hg`), and `classifyLater` passes `c` itself
      simp only [classify, classifyLater] at h
      split at h
      · rename_i hg
        cases h
        exact ⟨rfl, by rw [← hg]⟩
      · cases h
    | _ =>
      -- the other frames are an error before SETTINGS and after
      simp only [classify, classifyLater] at h
      split at h <;> cases h
  | _ => simp [classify] at h

theorem step_keeps (cfg : Cfg) (c : Conn) (x : In) :
    (c.control = true → (step cfg c x).1.control = true) ∧
    ((step cfg c x).2.2 = none → (step cfg c x).1.err = c.err) := by
  cases x with
  | pend => exact ⟨id, fun _ => rfl⟩
  | uni tag a => exact acceptArrival_keeps cfg c a
  | item i =>
    by_cases hc : c.control = true
    · simp only [step, hc, if_true]
      cases hcl : classify c i with
      | error e => exact ⟨fun _ => hc, nofun⟩
      | pass f c1 =>
        have hk := handle_keeps cfg.role c1 f
        have h1 := (classify_pass hcl).2
        exact ⟨fun _ => by rw [hk.1, h1]; exact hc, fun h => by rw [hk.2 h, h1]⟩
    · exact ⟨fun h => absurd h hc, fun _ => by simp [step, hc]⟩

private theorem afterFrame_false (f : Frame) (c : Conn) (gs : Grease) (r : List In) (g : List GAns) :
    (afterFrame false f c gs r g).res = .ready f ∧ (afterFrame false f c gs r g).conn = c ∧
    (afterFrame false f c gs r g).ins = r := by
  unfold afterFrame
  split
  · simp
  · simp

/-- what one call of `poll_control` means in terms of the reference run -/
private def PCSpec (cfg : Cfg) (c : Conn) (ins : List In) (o : PollOut) : Prop :=
  match o.res with
  | .pending =>
    o.conn.err = none ∧ refRun cfg c ins = refRun cfg o.conn o.ins ∧
    (ins ≠ [] → o.ins.length < ins.length) ∧ (ins = [] → o.ins = [])
  | .err e => refRun cfg c ins = ([], some e, o.conn)
  | .ready f =>
    o.conn.err = none ∧ o.ins.length < ins.length ∧
    refRun cfg c ins =
      (match handle cfg.role o.conn f with
       | (c2, some e) => ([f], some e, c2)
       | (c2, none) =>
         match refRun cfg c2 o.ins with
         | (a, e, c3) => (f :: a, e, c3))

private theorem refRun_cons_none (cfg : Cfg) (c c1 : Conn) (x : In) (r : List In)
    (h : step cfg c x = (c1, none, none)) : refRun cfg c (x :: r) = refRun cfg c1 r := by
  simp only [refRun, h]
  rcases refRun cfg c1 r with ⟨a, e, c2⟩
  simp [optList]

private theorem PCSpec_stops (cfg : Cfg) (c : Conn) (ins : List In) (o : PollOut) (st : List (Nat × Nat)) :
    PCSpec cfg c ins { o with stops := st } = PCSpec cfg c ins o := rfl

private theorem length_le_pred {α : Type} {r sc : List α} (h1 : sc ≠ [] → r.length < sc.length)
    (h2 : sc = [] → r = []) : r.length ≤ sc.length - 1 := by
  cases sc with
  | nil => simp [h2 rfl]
  | cons _ _ => have := h1 (by simp); omega

private theorem PCSpec_lift (cfg : Cfg) (c c1 : Conn) (x : In) (r : List In) (o : PollOut)
    (hr : refRun cfg c (x :: r) = refRun cfg c1 r) (h : PCSpec cfg c1 r o) : PCSpec cfg c (x :: r) o := by
  unfold PCSpec at h ⊢
  cases hres : o.res with
  | pending =>
    simp only [hres] at h ⊢
    obtain ⟨h1, h2, h3, h4⟩ := h
    refine ⟨h1, by rw [hr, h2], fun _ => ?_, by simp⟩
    have := length_le_pred h3 h4
    simp only [List.length_cons]
    omega
  | err e => simp only [hres] at h ⊢; rw [hr]; exact h
  | ready f =>
    simp only [hres] at h ⊢
    obtain ⟨h1, h2, h3⟩ := h
    exact ⟨h1, by simp; omega, by rw [hr]; exact h3⟩

private theorem pollControl_spec (cfg : Cfg) (gs : Grease) (g : List GAns) :
    ∀ (ins : List In) (c : Conn), c.err = none → PCSpec cfg c ins (pollControl false cfg c gs ins g) := by
  intro ins
  induction ins with
  | nil =>
    intro c hc
    simp [pollControl, hc, PCSpec]
  | cons x r ih =>
    intro c hc
    cases x with
    | pend =>
      simp only [pollControl, hc]
      unfold PCSpec
      refine ⟨hc, ?_, by simp, by simp⟩
      exact refRun_cons_none cfg c c .pend r (by simp [step])
    | uni tag a =>
      simp only [pollControl, hc]
      cases hae : (acceptArrival cfg c a).err with
      | some e =>
        simp only [PCSpec]
        simp [refRun, step, hae, optList]
      | none =>
        have hc1 : (acceptArrival cfg c a).conn.err = none := ((acceptArrival_keeps cfg c a).2 hae).trans hc
        have := ih (acceptArrival cfg c a).conn hc1
        have hr : refRun cfg c (.uni tag a :: r) = refRun cfg (acceptArrival cfg c a).conn r :=
          refRun_cons_none cfg c _ (.uni tag a) r (by simp [step, hae])
        simp only [PCSpec_stops]
        exact PCSpec_lift cfg c _ _ r _ hr this
    | item i =>
      simp only [pollControl, hc]
      by_cases hctl : c.control = true
      · rw [if_pos hctl]
        cases hcl : classify c i with
        | error e =>
          simp only [PCSpec]
          simp [refRun, step, hctl, hcl, optList]
        | pass f c1 =>
          obtain ⟨h1, h2, h3⟩ := afterFrame_false f c1 gs r g
          have he : c1.err = c.err := by rw [(classify_pass hcl).2]
          simp only [PCSpec, h1, h2, h3]
          refine ⟨he.trans hc, by simp, ?_⟩
          simp only [refRun, step, hctl, if_true, hcl]
          rcases hh : handle cfg.role c1 f with ⟨c2, e⟩
          cases e with
          | some e' => simp [optList]
          | none =>
            simp only
            rcases refRun cfg c2 r with ⟨a, e, c3⟩
            simp [optList]
      · rw [if_neg hctl]
        unfold PCSpec
        refine ⟨hc, ?_, by simp, by simp⟩
        exact refRun_cons_none cfg c c (.item i) r (by simp [step, hctl])

/-- what one poll of the driver means: the reference run is the frames acted on, then what is left to run
    (nothing after an error) -/
private def DSpec (cfg : Cfg) (c : Conn) (ins : List In) (d : DriveOut) : Prop :=
  (d.res = none → d.conn.err = none ∧ d.ins.length ≤ ins.length - 1) ∧
  let k := match d.res with
    | some e => ([], some e, d.conn)
    | none => refRun cfg d.conn d.ins
  refRun cfg c ins = (d.acts ++ k.1, k.2.1, k.2.2)

private theorem drivePoll_spec (cfg : Cfg) :
    ∀ (fuel : Nat) (c : Conn) (gs : Grease) (ins : List In) (g : List GAns),
      c.err = none → ins.length < fuel → DSpec cfg c ins (drivePoll false cfg fuel c gs ins g) := by
  intro fuel
  induction fuel with
  | zero => intro c gs ins g _ h; omega
  | succ fuel ih =>
    intro c gs ins g hc hlen
    have hp := pollControl_spec cfg gs g ins c hc
    simp only [drivePoll]
    generalize pollControl false cfg c gs ins g = o at hp
    simp only [PCSpec] at hp
    cases hres : o.res with
    | pending =>
      simp only [hres] at hp ⊢
      obtain ⟨h1, h2, h3, h4⟩ := hp
      exact ⟨fun _ => ⟨h1, length_le_pred h3 h4⟩, h2⟩
    | err e =>
      simp only [hres] at hp ⊢
      exact ⟨nofun, hp⟩
    | ready f =>
      simp only [hres] at hp ⊢
      obtain ⟨h1, h2, h3⟩ := hp
      rcases hh : handle cfg.role o.conn f with ⟨c1, e⟩
      rw [hh] at h3
      cases e with
      | some e' => exact ⟨nofun, h3⟩
      | none =>
        simp only at h3 ⊢
        -- the rest of the poll runs from `c1`: its frames follow `f`, whatever its answer
        obtain ⟨g1, g2⟩ := ih c1 o.gs o.ins o.g ((handle_none hh).1.trans h1) (by omega)
        refine ⟨fun hd => ⟨(g1 hd).1, Nat.le_trans (g1 hd).2 (by omega)⟩, ?_⟩
        rw [h3, g2]
        rfl

private theorem driveAll_spec (cfg : Cfg) :
    ∀ (fuel : Nat) (c : Conn) (gs : Grease) (ins : List In) (g : List GAns),
      c.err = none → ins.length < fuel → driveAll false cfg fuel c gs ins g = refRun cfg c ins := by
  intro fuel
  induction fuel with
  | zero => intro c gs ins g _ h; omega
  | succ fuel ih =>
    intro c gs ins g hc hlen
    obtain ⟨hd, h4⟩ := drivePoll_spec cfg (ins.length + 1) c gs ins g hc (by omega)
    simp only [driveAll]
    generalize drivePoll false cfg (ins.length + 1) c gs ins g = d at hd h4
    cases hres : d.res with
    | some e => simp only [hres] at h4 ⊢; rw [h4, List.append_nil]
    | none =>
      simp only [hres] at h4 ⊢
      obtain ⟨h1, h2⟩ := hd hres
      by_cases he : d.ins.isEmpty = true
      · rw [if_pos he]
        have : d.ins = [] := by simpa using he
        rw [h4, this]; simp [refRun]
      · rw [if_neg he]
        have : 0 < d.ins.length := List.length_pos_iff.mpr (by simpa using he)
        rw [ih d.conn d.gs d.ins d.g h1 (by omega), h4]

def delivered : List In → List Frame
  | [] => []
  | .item (.frame f) :: r => f :: delivered r
  | _ :: r => delivered r

private theorem refRun_prefix (cfg : Cfg) :
    ∀ (ins : List In) (c : Conn), c.control = true →
      (refRun cfg c ins).1 <+: delivered ins ∧
      ((refRun cfg c ins).2.1 = none → (refRun cfg c ins).1 = delivered ins) := by
  intro ins
  induction ins with
  | nil => intro c _; simp [refRun, delivered]
  | cons x r ih =>
    intro c hctl
    cases x with
    | pend =>
      rw [refRun_cons_none cfg c c .pend r (by simp [step])]
      simpa [delivered] using ih c hctl
    | uni tag a =>
      cases hae : (acceptArrival cfg c a).err with
      | some e => simp [refRun, step, hae, optList]
      | none =>
        rw [refRun_cons_none cfg c (acceptArrival cfg c a).conn (.uni tag a) r (by simp [step, hae])]
        simpa [delivered] using ih _ ((acceptArrival_keeps cfg c a).1 hctl)
    | item i =>
      cases hcl : classify c i with
      | error e => simp [refRun, step, hctl, hcl, optList]
      | pass f c1 =>
        obtain ⟨hi, hc1⟩ := classify_pass hcl
        subst hi
        simp only [refRun, step, hctl, if_true, hcl, delivered]
        rcases hh : handle cfg.role c1 f with ⟨c2, e⟩
        cases e with
        | some e' => simp [optList]
        | none =>
          have hc2 : c2.control = true := by rw [(handle_none hh).2, hc1]; exact hctl
          have := ih c2 hc2
          dsimp only
          generalize refRun cfg c2 r = p at this ⊢
          obtain ⟨a, e, c3⟩ := p
          simp only [optList, List.singleton_append, List.cons.injEq, true_and]
          exact ⟨(List.prefix_cons_inj f).mpr this.1, this.2⟩

/-- stated as `C04_acted_once_any` (Props/C04) -/
theorem acted_once_any (cfg : Cfg) (c : Conn) (gs : Grease) (ins : List In) (g : List GAns)
    (hc : c.err = none) :
    driveAll false cfg (ins.length + 1) c gs ins g = refRun cfg c ins :=
  driveAll_spec cfg _ c gs ins g hc (by omega)

/-- stated as `C04_acted_once` (Props/C04) -/
theorem acted_once (cfg : Cfg) (c : Conn) (gs : Grease) (ins : List In) (g : List GAns)
    (hc : c.err = none) (hctl : c.control = true) :
    driveAll false cfg (ins.length + 1) c gs ins g = refRun cfg c ins ∧
    (refRun cfg c ins).1 <+: delivered ins ∧
    ((refRun cfg c ins).2.1 = none → (refRun cfg c ins).1 = delivered ins) :=
  ⟨acted_once_any cfg c gs ins g hc, refRun_prefix cfg ins c hctl⟩

def evWF : FS.Ev → Bool
  | .chunk b => b.all (· < 256)
  | _ => true

theorem scriptWF_iff_all (sc : List UniAccept.Ev) : ScriptWF sc ↔ sc.all evWF = true := by
  unfold ScriptWF Varint.WF
  rw [List.all_eq_true]
  constructor
  · intro h ev hev
    cases ev with
    | chunk b => simpa [evWF] using h b hev
    | _ => rfl
  · intro h b hb
    simpa [evWF] using h _ hb

instance decidableScriptWF (sc : List UniAccept.Ev) : Decidable (ScriptWF sc) :=
  decidable_of_iff _ (scriptWF_iff_all sc).symm

end H3.Lemmas.C04
