import H3.Lemmas.DynEnc
/-! Invariants of the connected system that hold for *every* history. -/
namespace H3.Dyn
open H3.Spec.Dyn (STable)

def initST (cap : Nat) : STable := { cap := cap }

/-- the queue `track_blocks` must hold for a stream, from the harness's bookkeeping -/
def qOf (st : StreamSt) : Option (List RefMap) :=
  if ((st.done ++ st.todo).drop st.npop).map (·.refMap) = [] then none
  else some (((st.done ++ st.todo).drop st.npop).map (·.refMap))

/-- what is recorded about an emitted header block stays true as the encoder's table grows -/
structure BlockOK (all : List Field) (b : BlockRec) : Prop where
  den : denoteAll all b.base b.blk.reps = some b.orig
  refs : ∀ r ∈ b.blk.reps, ∀ a, r.absRef b.base = some a → 1 ≤ cnt b.refMap a ∧ a ≤ b.required ∧ 1 ≤ a
  req : b.required = 0 ∨ ∃ r ∈ b.blk.reps, r.absRef b.base = some b.required
  reqLe : b.required ≤ all.length
  wf : RefMapWF b.refMap

theorem BlockOK.append {all : List Field} {b : BlockRec} (h : BlockOK all b) (l : List Field) :
    BlockOK (all ++ l) b :=
  ⟨denoteAll_append_all l h.den, h.refs, h.req, by have := h.reqLe; simp; omega, h.wf⟩

structure SysInv (cap0 : Nat) (s : Sys) (stE stD : STable) : Prop where
  enc : TableInv (initST cap0) s.encQ s.enc stE
  decRun : (initST cap0).run (s.encQ.take s.encDel) = some stD
  decAbs : Abs s.dec stD
  decUn : Untracked s.dec
  delLe : s.encDel ≤ s.encQ.length
  queues : ∀ sid, aget s.enc.trackBlocks sid = qOf (s.stream sid)
  npopLe : ∀ sid, (s.stream sid).npop ≤ ((s.stream sid).done ++ (s.stream sid).todo).length
  blocks : ∀ sid, ∀ b ∈ (s.stream sid).done ++ (s.stream sid).todo, BlockOK stE.all b

variable {cap0 : Nat} {s s' : Sys} {stE stD : STable} {log : List EncInstr} {t : Table} {ss : List (Nat × StreamSt)}

theorem stream_aset (ss : List (Nat × StreamSt)) (sid x : Nat) (st : StreamSt) :
    (aget (aset ss sid st) x).getD {} = if sid = x then st else (aget ss x).getD {} := by
  rw [aget_aset]; split <;> rfl

theorem stream_of_aset {sid : Nat} {st : StreamSt} (h : s'.streams = aset s.streams sid st) (x : Nat) :
    s'.stream x = if sid = x then st else s.stream x := by
  unfold Sys.stream; rw [h, stream_aset]

/-- the part of `AckInv` / `SysInv` that speaks of one stream -/
structure StreamOK (tb : List (Nat × List RefMap)) (all : List Field) (sid : Nat) (st : StreamSt) : Prop where
  queue : aget tb sid = qOf st
  npopLe : st.npop ≤ (st.done ++ st.todo).length
  blocks : ∀ b ∈ st.done ++ st.todo, BlockOK all b

theorem StreamOK.of_view {tb all sid} {st st' : StreamSt} (h : StreamOK tb all sid st)
    (hl : st'.done ++ st'.todo = st.done ++ st.todo) (hn : st'.npop = st.npop) : StreamOK tb all sid st' :=
  ⟨by rw [h.queue]; unfold qOf; rw [hl, hn], by rw [hl, hn]; exact h.npopLe, by rw [hl]; exact h.blocks⟩

structure AckInv (cap0 : Nat) (log : List EncInstr) (stE : STable) (t : Table) (ss : List (Nat × StreamSt)) : Prop where
  tinv : TableInv (initST cap0) log t stE
  queues : ∀ sid, aget t.trackBlocks sid = qOf ((aget ss sid).getD {})
  npopLe : ∀ sid, ((aget ss sid).getD {}).npop ≤ (((aget ss sid).getD {}).done ++ ((aget ss sid).getD {}).todo).length
  blocks : ∀ sid, ∀ b ∈ ((aget ss sid).getD {}).done ++ ((aget ss sid).getD {}).todo, BlockOK stE.all b

theorem AckInv.stream (h : AckInv cap0 log stE t ss) (sid : Nat) :
    StreamOK t.trackBlocks stE.all sid ((aget ss sid).getD {}) :=
  ⟨h.queues sid, h.npopLe sid, h.blocks sid⟩

theorem AckInv.update (h : AckInv cap0 log stE t ss) {log' : List EncInstr} {stE' : STable}
    {t' : Table} {sid : Nat} {st' : StreamSt} (ht : TableInv (initST cap0) log' t' stE')
    (hs : StreamOK t'.trackBlocks stE'.all sid st')
    (ho : ∀ x, x ≠ sid → aget t'.trackBlocks x = aget t.trackBlocks x) (hall : ∃ l, stE'.all = stE.all ++ l) :
    AckInv cap0 log' stE' t' (aset ss sid st') := by
  have key : ∀ x, StreamOK t'.trackBlocks stE'.all x ((aget (aset ss sid st') x).getD {}) := by
    intro x
    rw [stream_aset]
    by_cases hx : sid = x
    · subst hx; rw [if_pos rfl]; exact hs
    · rw [if_neg hx]
      obtain ⟨l, hl⟩ := hall
      exact ⟨(ho x (Ne.symm hx)).trans (h.queues x), h.npopLe x, fun b hb => hl ▸ (h.blocks x b hb).append l⟩
  exact ⟨ht, fun x => (key x).queue, fun x => (key x).npopLe, fun x => (key x).blocks⟩

theorem SysInv.toAck {cap0 s stE stD} (h : SysInv cap0 s stE stD) : AckInv cap0 s.encQ stE s.enc s.streams :=
  ⟨h.enc, h.queues, h.npopLe, h.blocks⟩

theorem SysInv.ofAck (h : AckInv cap0 s.encQ stE s.enc s.streams)
    (decRun : (initST cap0).run (s.encQ.take s.encDel) = some stD) (decAbs : Abs s.dec stD)
    (decUn : Untracked s.dec) (delLe : s.encDel ≤ s.encQ.length) : SysInv cap0 s stE stD :=
  ⟨h.tinv, decRun, decAbs, decUn, delLe, h.queues, h.npopLe, h.blocks⟩

/-- a step on the encoder's side: table, streams and oracle move and the log grows; what is known of the decoder,
    which has read a prefix of the old log, stands -/
theorem SysInv.encStep (h : SysInv cap0 s stE stD) {stE' : STable} {t' : Table} {ins : List EncInstr}
    {ss' : List (Nat × StreamSt)} (ha : AckInv cap0 (s.encQ ++ ins) stE' t' ss') :
    SysInv cap0 { s with enc := t', encQ := s.encQ ++ ins, streams := ss' } stE' stD :=
  .ofAck ha (by simp only; rw [List.take_append_of_le_length h.delLe]; exact h.decRun) h.decAbs h.decUn
    (Nat.le_trans h.delLe (by simp))

theorem configured_spec {cap bl : Nat} {t : Table} (h : Table.configured cap bl = .ok t) :
    t = { maxSize := cap, blockedMax := bl } ∧ cap ≤ SETTINGS_MAX_TABLE_CAPACITY_MAX := by
  unfold Table.configured Table.setMaxSize Table.setMaxBlocked at h
  by_cases h1 : cap > SETTINGS_MAX_TABLE_CAPACITY_MAX
  · simp [h1] at h
  · simp only [h1, if_false] at h
    have : cap ≥ ({} : Table).maxSize := by simp
    rw [if_pos this] at h
    simp only [Res.bind_ok] at h
    split at h
    · simp at h
    · simp at h; exact ⟨h.symm, by omega⟩

theorem init_spec {cap bl : Nat} (h : Sys.init cap bl = .ok s) :
    s = { enc := { maxSize := cap, blockedMax := bl }, dec := { maxSize := cap, blockedMax := bl } } ∧
    cap ≤ SETTINGS_MAX_TABLE_CAPACITY_MAX := by
  obtain ⟨t, ht, hs⟩ := Res.bind_eq_ok.mp h
  obtain ⟨rfl, hc⟩ := configured_spec ht
  exact ⟨(Res.ok.inj hs).symm, hc⟩

theorem init_inv {cap bl : Nat} (h : Sys.init cap bl = .ok s) :
    SysInv cap s (initST cap) (initST cap) := by
  obtain ⟨rfl, _⟩ := init_spec h
  have habs : Abs ({ maxSize := cap, blockedMax := bl } : Table) (initST cap) :=
    ⟨rfl, rfl, rfl, rfl, rfl, rfl, by simp [initST], by simp⟩
  exact {
    enc := ⟨rfl, habs, ⟨by intro f a h; simp at h, by intro f a h; simp at h⟩,
      ⟨by intro a; rfl, by intro a h; simp at h, by simp [keys], by intro p hp; simp at hp, by intro p hp; simp at hp⟩,
      ⟨rfl⟩⟩
    decRun := rfl
    decAbs := habs
    decUn := rfl
    delLe := by simp
    queues := by intro sid; simp [Sys.stream, qOf]
    npopLe := by intro sid; simp [Sys.stream]
    blocks := by intro sid b hb; simp [Sys.stream] at hb }

theorem getD_qOf (st : StreamSt) :
    (qOf st).getD [] = ((st.done ++ st.todo).drop st.npop).map (·.refMap) := by
  unfold qOf; split
  · rename_i h; rw [h]; rfl
  · rfl

theorem qOf_push (st : StreamSt) (b : BlockRec) (h : st.npop ≤ (st.done ++ st.todo).length) :
    qOf { st with todo := st.todo ++ [b] } = some ((qOf st).getD [] ++ [b.refMap]) := by
  rw [getD_qOf]
  unfold qOf
  simp only
  have : (st.done ++ (st.todo ++ [b])).drop st.npop = (st.done ++ st.todo).drop st.npop ++ [b] := by
    rw [← List.append_assoc, List.drop_append_of_le_length h]
  rw [this]; simp

theorem step_encode_inv {sid : Nat} {fields : List Field} {out : Out}
    (h : SysInv cap0 s stE stD) (hs : step s (.encode sid fields) = .ok (s', out)) :
    ∃ enc stE', SysInv cap0 s' stE' stD ∧ EncodeFacts s.enc stE sid fields enc stE' ∧
      s'.enc = enc.table ∧ s'.encQ = s.encQ ++ enc.instrs ∧ s'.decQ = s.decQ ∧ s'.decDel = s.decDel ∧
      s'.streams = aset s.streams sid { s.stream sid with todo := (s.stream sid).todo ++ [.ofEncoded fields enc s.enc.maxSize] } := by
  obtain ⟨enc, stE', he, hti, hf⟩ := encode_spec h.enc sid fields
  simp only [step, he, Res.bind_ok] at hs
  cases hs
  refine ⟨enc, stE', ?_, hf, rfl, rfl, rfl, rfl, rfl⟩
  obtain ⟨l, hl⟩ := hf.grow
  have hst : StreamOK s.enc.trackBlocks stE.all sid (s.stream sid) := h.toAck.stream sid
  have hnew : BlockOK stE'.all (.ofEncoded fields enc s.enc.maxSize) :=
    ⟨hf.den, fun r hr a ha => ⟨(hf.refs r hr a ha).1, (hf.refs r hr a ha).2, hf.refPos r hr a ha⟩, hf.req, hf.reqLe, hf.wf⟩
  refine h.encStep (h.toAck.update hti ⟨?_, ?_, ?_⟩ hf.others hf.grow)
  · rw [hf.queue, hst.queue]; exact (qOf_push _ (.ofEncoded fields enc s.enc.maxSize) hst.npopLe).symm
  · have := hst.npopLe; simp only [List.length_append] at this ⊢; omega
  · rw [← List.append_assoc]
    exact forall_mem_snoc (fun b hb => hl ▸ (hst.blocks b hb).append l) hnew

theorem take_add_drop_take (l : List α) (d k : Nat) :
    l.take (d + ((l.drop d).take k).length) = l.take d ++ (l.drop d).take k := by
  rw [List.take_add]
  congr 1
  simp [List.length_take, List.take_eq_take_iff]

theorem step_deliverEnc_ok {cap0 : Nat} {s : Sys} {stE stD : STable} (h : SysInv cap0 s stE stD) (k : Nat) :
    ∃ s' out stD', step s (.deliverEnc k) = .ok (s', out) ∧ SysInv cap0 s' stE stD' ∧
      s'.enc = s.enc ∧ s'.streams = s.streams ∧ s'.encQ = s.encQ ∧ s'.decDel = s.decDel ∧
      stD.all.length ≤ stD'.all.length ∧
      (s'.decQ = s.decQ ∨ ∃ n, s'.decQ = s.decQ ++ [.incr n]) := by
  have hrunE := h.enc.run
  rw [← List.take_append_drop (s.encDel + ((s.encQ.drop s.encDel).take k).length) s.encQ] at hrunE
  obtain ⟨stD', hrunD', _⟩ := STable.run_prefix hrunE
  rw [take_add_drop_take] at hrunD'
  obtain ⟨s1, hs1, hs1'⟩ := STable.run_prefix hrunD'
  cases h.decRun.symm.trans hs1
  obtain ⟨d', hd', habs', haux'⟩ := encoderInstrs_spec h.decAbs h.decUn hs1'
  obtain ⟨l, hl⟩ := (STable.run_mono hs1').1
  have hins : s.dec.vas.inserted ≤ d'.vas.inserted := by
    rw [h.decAbs.ins, habs'.ins, hl]; simp
  -- an Insert Count Increment is written exactly when the count has moved
  have hstep : onEncoderRecv s.dec ((s.encQ.drop s.encDel).take k) = (d',
      if d'.vas.inserted = s.dec.vas.inserted then [] else [.incr (d'.vas.inserted - s.dec.vas.inserted)],
      .ok d'.totalInserted) := by
    unfold onEncoderRecv
    rw [hd']; simp only [Table.totalInserted]
    by_cases hne : d'.vas.inserted = s.dec.vas.inserted
    · simp [hne]
    · simp [hne, Nat.not_lt.mpr hins]
  refine ⟨{ s with dec := d', encDel := _, decQ := s.decQ ++ _ }, _, stD', by simp only [step, hstep]; rfl,
    ?_, rfl, rfl, rfl, rfl, by rw [hl]; simp, ?_⟩
  · exact { h with
      decRun := by simp only; rw [take_add_drop_take]; exact hrunD'
      decAbs := habs'
      decUn := h.decUn.of_aux haux'
      delLe := by simp only [List.length_take, List.length_drop]; have := h.delLe; omega }
  · show s.decQ ++ (if _ then _ else _) = _ ∨ _
    split
    · exact .inl (List.append_nil _)
    · exact .inr ⟨_, rfl⟩

/-- `deliverBlock` leaves the state alone (cancelled, nothing to decode, blocked) or moves the first waiting block of
    the stream to `done` -/
theorem step_deliverBlock_cases {sid : Nat} {out : Out} (hs : step s (.deliverBlock sid) = .ok (s', out)) :
    s' = s ∨ ∃ b rest dynRef fs, (s.stream sid).todo = b :: rest ∧ decodeHeader s.dec b.blk = .ok (fs, dynRef) ∧
      s' = { s with
        streams := aset s.streams sid { s.stream sid with done := (s.stream sid).done ++ [b], todo := rest }
        decQ := if dynRef then s.decQ ++ [.ack sid] else s.decQ } := by
  -- in the order of `step`: cancelled, nothing to decode (both skip); then `decode_header` answers `MissingRefs`
  -- (blocked, state unchanged), another error, a panic (both end the history), or decodes
  simp only [step] at hs
  split at hs
  · cases hs; exact .inl rfl
  · cases hs; exact .inl rfl
  · rename_i b rest _ ht
    split at hs
    · cases hs; exact .inl rfl
    · cases hs
    · cases hs
    · rename_i fs dynRef hd
      cases hs
      exact .inr ⟨b, rest, dynRef, fs, ht, hd, rfl⟩

theorem step_deliverBlock_inv {sid : Nat} {out : Out}
    (h : SysInv cap0 s stE stD) (hs : step s (.deliverBlock sid) = .ok (s', out)) :
    SysInv cap0 s' stE stD ∧ s'.enc = s.enc ∧ s'.encQ = s.encQ ∧ s'.decDel = s.decDel ∧
    (s' = s ∨
     ∃ b rest dynRef fs, (s.stream sid).todo = b :: rest ∧ decodeHeader s.dec b.blk = .ok (fs, dynRef) ∧
       s'.streams = aset s.streams sid { s.stream sid with done := (s.stream sid).done ++ [b], todo := rest } ∧
       s'.decQ = s.decQ ++ if dynRef then [.ack sid] else []) := by
  rcases step_deliverBlock_cases hs with rfl | ⟨b, rest, dynRef, fs, ht, hd, rfl⟩
  · exact ⟨h, rfl, rfl, rfl, Or.inl rfl⟩
  · refine ⟨?_, rfl, rfl, rfl, Or.inr ⟨b, rest, dynRef, fs, ht, hd, rfl, by cases dynRef <;> simp⟩⟩
    -- the block moves from `todo` to `done`: the list of all blocks is the same
    have hview := (h.toAck.stream sid).of_view
      (st' := { s.stream sid with done := (s.stream sid).done ++ [b], todo := rest })
      (by show ((s.stream sid).done ++ [b]) ++ rest = (s.stream sid).done ++ (s.stream sid).todo; rw [ht]; simp) rfl
    exact .ofAck (h.toAck.update h.enc hview (fun _ _ => rfl) ⟨[], (List.append_nil _).symm⟩)
      h.decRun h.decAbs h.decUn h.delLe

theorem map_drop_succ {l : List BlockRec} {n : Nat} {m : RefMap} {rest : List RefMap}
    (h : (l.drop n).map (·.refMap) = m :: rest) :
    (l.drop (n + 1)).map (·.refMap) = rest ∧ n + 1 ≤ l.length := by
  refine ⟨?_, Nat.lt_of_not_le fun hle => by rw [List.drop_eq_nil_of_le hle] at h; cases h⟩
  rw [← List.drop_drop, List.map_drop, h]; rfl

theorem qOf_eq_some {st : StreamSt} {q : List RefMap} (h : some q = qOf st) :
    ((st.done ++ st.todo).drop st.npop).map (·.refMap) = q := by
  rw [← getD_qOf, ← h]; rfl

theorem untrack_cases (h : AckInv cap0 log stE t ss) (sid : Nat) :
    (aget t.trackBlocks sid = none ∧ t.untrackBlock sid = .err .unknownStreamId) ∨
    ∃ t' m, t.untrackBlock sid = .ok t' ∧
      AckInv cap0 log stE t' (aset ss sid { (aget ss sid).getD {} with npop := ((aget ss sid).getD {}).npop + 1 }) ∧
      t'.vas = t.vas ∧ aget t.trackBlocks sid = some (m :: (aget t'.trackBlocks sid).getD []) := by
  rcases untrackBlock_spec h.tinv.track sid with hn | ⟨m, rest, t', hq, hok, htk, hq', hoth, hcnt, e1, e2, e3, e4, e5, e6, e7, e8, e9, e10⟩
  · exact Or.inl hn
  · obtain ⟨hdrop, hlen⟩ := map_drop_succ (qOf_eq_some (hq.symm.trans (h.queues sid)))
    have hrest : (aget t'.trackBlocks sid).getD [] = rest := by
      rw [hq']; split
      · rename_i e; exact e.symm
      · rfl
    refine Or.inr ⟨t', m, hok, ?_, e4, hrest ▸ hq⟩
    refine h.update ⟨h.tinv.run, h.tinv.abs.of_core e1 e2 e3 e4, h.tinv.maps.congr e5 e6, htk,
      ⟨by rw [e9, e10]; exact h.tinv.blocked.sum⟩⟩ ⟨?_, hlen, h.blocks sid⟩ hoth ⟨[], (List.append_nil _).symm⟩
    rw [hq']; unfold qOf; simp only; rw [hdrop]

theorem StreamSt.npop_add_zero (st : StreamSt) : { st with npop := st.npop + 0 } = st := by
  cases st; rfl

theorem decoderInstr_inv (h : AckInv cap0 log stE t ss) (i : DecInstr) :
    (∃ sid, i = .ack sid ∧ aget t.trackBlocks sid = none ∧ decoderInstr t i = .err .unknownStreamId) ∨
    ∃ t', decoderInstr t i = .ok t' ∧ AckInv cap0 log stE t' (popGhost t ss i) ∧ t'.vas = t.vas := by
  cases i with
  | ack sid =>
    rcases untrack_cases h sid with ⟨hn, he⟩ | ⟨t', _, hu, h1, h2, _⟩
    · exact Or.inl ⟨sid, rfl, hn, he⟩
    · exact Or.inr ⟨t', hu, h1, h2⟩
  | incr n =>
    obtain ⟨bc, bs, hok, hb⟩ := updateLargestReceived_spec h.tinv.blocked n
    refine Or.inr ⟨_, hok, ?_, rfl⟩
    exact { h with
      tinv := ⟨h.tinv.run, h.tinv.abs.of_core rfl rfl rfl rfl, h.tinv.maps.congr rfl rfl,
        h.tinv.track.congr rfl rfl rfl, ⟨hb⟩⟩ }
  | cancel sid =>
    right
    simp only [decoderInstr, popGhost]
    -- the ghost counter moves by the number of pops that found a queue: 0, 1 or 2
    rcases untrack_cases h sid with ⟨hn, he⟩ | ⟨t1, m, hu, h1, hc1, hq⟩
    · rw [he, hn]
      exact ⟨t, rfl, h.update h.tinv ((h.stream sid).of_view rfl rfl) (fun _ _ => rfl) ⟨[], (List.append_nil _).symm⟩, rfl⟩
    · rw [hu]; simp only
      rcases untrack_cases h1 sid with ⟨hn2, he2⟩ | ⟨t2, m2, hu2, h2, hc2, hq2⟩
      · rw [he2]
        refine ⟨t1, rfl, ?_, hc1⟩
        rw [hq, hn2]; simpa using h1
      · rw [hu2, hq, hq2]
        rw [aset_aset, aget_aset_self] at h2
        exact ⟨t2, rfl, h2, hc2.trans hc1⟩

theorem deliverAcks_inv (h : AckInv cap0 log stE t ss) (ins : List DecInstr) :
    (∃ e, deliverAcks t ss ins = .err e) ∨
    ∃ t' ss', deliverAcks t ss ins = .ok (t', ss') ∧ AckInv cap0 log stE t' ss' ∧ t'.vas = t.vas := by
  induction ins generalizing t ss with
  | nil => exact Or.inr ⟨t, ss, rfl, h, rfl⟩
  | cons i r ih =>
    simp only [deliverAcks]
    rcases decoderInstr_inv h i with ⟨_, _, _, he⟩ | ⟨t1, h1, hi1, hc1⟩
    · left; exact ⟨_, by rw [he]; rfl⟩
    · rw [h1]; simp only [Res.bind_ok]
      rcases ih hi1 with ⟨e, he⟩ | ⟨t2, ss2, h2, hi2, hc2⟩
      · exact Or.inl ⟨e, he⟩
      · exact Or.inr ⟨t2, ss2, h2, hi2, hc2.trans hc1⟩

theorem step_deliverAck_inv (h : SysInv cap0 s stE stD) (k : Nat) :
    (∃ e, step s (.deliverAck k) = .err e) ∨
    ∃ s' out, step s (.deliverAck k) = .ok (s', out) ∧ SysInv cap0 s' stE stD ∧ s'.enc.vas = s.enc.vas ∧
      s'.encQ = s.encQ ∧ s'.decQ = s.decQ ∧
      s'.decDel = s.decDel + ((s.decQ.drop s.decDel).take k).length ∧
      deliverAcks s.enc s.streams ((s.decQ.drop s.decDel).take k) = .ok (s'.enc, s'.streams) := by
  simp only [step]
  rcases deliverAcks_inv h.toAck ((s.decQ.drop s.decDel).take k) with ⟨e, he⟩ | ⟨t', ss', hok, hi, hc⟩
  · left; exact ⟨e, by rw [he]; rfl⟩
  · right
    rw [hok]; simp only [Res.bind_ok]
    exact ⟨_, _, rfl, .ofAck hi h.decRun h.decAbs h.decUn h.delLe, hc, rfl, rfl, rfl, rfl⟩

theorem step_setCapacity_inv (h : SysInv cap0 s stE stD) (c : Nat) :
    (∃ e, step s (.setCapacity c) = .err e) ∨
    ∃ s' out stE', step s (.setCapacity c) = .ok (s', out) ∧ SysInv cap0 s' stE' stD ∧
      s'.enc.trackMap = s.enc.trackMap := by
  simp only [step, setDynamicTableSize]
  have ho := setMaxSize_spec h.enc.abs c
  generalize s.enc.setMaxSize c = r at ho
  cases ho with
  | tooLarge _ => exact Or.inl ⟨_, rfl⟩
  | pinned _ => exact Or.inl ⟨_, rfl⟩
  | done t' hle habs haux hm hunt =>
    right
    simp only [Res.bind_ok]
    obtain ⟨htm, htb, _, _, hbc, hbs⟩ := Table.aux_eq haux
    refine ⟨_, _, stE.setCap c, rfl, ?_, htm⟩
    refine h.encStep (ss' := s.streams) ⟨?_, fun x => by rw [htb]; exact h.queues x, h.npopLe, h.blocks⟩
    exact {
      run := by
        rw [STable.run_append, h.enc.run]
        simp only [Option.bind_some, STable.run, STable.apply]
        rw [if_neg (by simp [SETTINGS_MAX_TABLE_CAPACITY_MAX] at hle; omega)]; rfl
      abs := habs
      maps := hm h.enc.maps
      track := h.enc.track.of_aux haux (by rw [h.enc.abs.drp, habs.drp]; exact hunt)
        (by rw [h.enc.abs.ins, habs.ins]; exact Nat.le_refl _)
      blocked := ⟨by rw [hbc, hbs]; exact h.enc.blocked.sum⟩ }

theorem step_cancel_inv (h : SysInv cap0 s stE stD) (sid : Nat) :
    ∃ s' out, step s (.cancel sid) = .ok (s', out) ∧ SysInv cap0 s' stE stD ∧ s'.enc = s.enc := by
  refine ⟨_, _, rfl, ?_, rfl⟩
  have hview := (h.toAck.stream sid).of_view (st' := { s.stream sid with cancelled := true }) rfl rfl
  exact .ofAck (h.toAck.update h.enc hview (fun _ _ => rfl) ⟨[], (List.append_nil _).symm⟩)
    h.decRun h.decAbs h.decUn h.delLe

theorem run_cons_some {ev : Event} {r : List Event} (h : run s (ev :: r) = some s') :
    ∃ s1 out, step s ev = .ok (s1, out) ∧ run s1 r = some s' := by
  simp only [run] at h
  cases hs : step s ev with
  | err e => rw [hs] at h; cases h
  | panic p => rw [hs] at h; cases h
  | ok x => rw [hs] at h; exact ⟨x.1, x.2, rfl, h⟩

theorem run_induct {P : Sys → Prop} (hstep : ∀ s ev s' out, P s → step s ev = .ok (s', out) → P s')
    {evs : List Event} (h0 : P s) (hr : run s evs = some s') : P s' := by
  induction evs generalizing s with
  | nil => cases hr; exact h0
  | cons ev r ih =>
    obtain ⟨s1, out, hs, hr⟩ := run_cons_some hr
    exact ih (hstep s ev s1 out h0 hs) hr

/-- `deliverBlock` is left out: what it answers depends on the history (`DynPartial`) -/
theorem step_sound (h : SysInv cap0 s stE stD) (ev : Event)
    (hne : ∀ sid, ev ≠ .deliverBlock sid) :
    (∃ e, step s ev = .err e) ∨ ∃ s' out stE' stD', step s ev = .ok (s', out) ∧ SysInv cap0 s' stE' stD' := by
  cases ev with
  | encode sid fields =>
    obtain ⟨enc, _, he, _⟩ := encode_spec h.enc sid fields
    obtain ⟨x, hs⟩ : ∃ x, step s (.encode sid fields) = .ok x := by
      simp only [step, he, Res.bind_ok]; exact ⟨_, rfl⟩
    obtain ⟨_, stE', hi, _⟩ := step_encode_inv h hs
    exact Or.inr ⟨_, _, stE', stD, hs, hi⟩
  | deliverEnc k =>
    obtain ⟨s2, out2, stD', h2, hi, _⟩ := step_deliverEnc_ok h k
    exact Or.inr ⟨s2, out2, stE, stD', h2, hi⟩
  | deliverBlock sid => exact absurd rfl (hne sid)
  | deliverAck k =>
    exact (step_deliverAck_inv h k).imp id fun ⟨s2, out2, h2, hi, _⟩ => ⟨s2, out2, stE, stD, h2, hi⟩
  | setCapacity c =>
    exact (step_setCapacity_inv h c).imp id fun ⟨s2, out2, stE', h2, hi, _⟩ => ⟨s2, out2, stE', stD, h2, hi⟩
  | cancel sid =>
    obtain ⟨s2, out2, h2, hi, _⟩ := step_cancel_inv h sid
    exact Or.inr ⟨s2, out2, stE, stD, h2, hi⟩

theorem step_inv {ev : Event} {out : Out}
    (h : SysInv cap0 s stE stD) (hs : step s ev = .ok (s', out)) : ∃ stE' stD', SysInv cap0 s' stE' stD' := by
  by_cases hb : ∃ sid, ev = .deliverBlock sid
  · obtain ⟨sid, rfl⟩ := hb
    exact ⟨stE, stD, (step_deliverBlock_inv h hs).1⟩
  · rcases step_sound h ev (fun sid e => hb ⟨sid, e⟩) with ⟨e, he⟩ | ⟨s2, out2, stE', stD', h2, hi⟩
    · rw [he] at hs; cases hs
    · cases Res.ok_inj h2 hs; exact ⟨stE', stD', hi⟩

theorem run_inv {cap bl : Nat} {s0 s : Sys} {evs : List Event} (h0 : Sys.init cap bl = .ok s0)
    (hr : run s0 evs = some s) : ∃ stE stD, SysInv cap s stE stD :=
  run_induct (P := fun s => ∃ stE stD, SysInv cap s stE stD) (fun _ _ _ _ ⟨_, _, h⟩ hs => step_inv h hs)
    ⟨_, _, init_inv h0⟩ hr

theorem step_no_panic (h : SysInv cap0 s stE stD) (ev : Event)
    (hne : ∀ sid, ev ≠ .deliverBlock sid) (p : Site) : step s ev ≠ .panic p := by
  rcases step_sound h ev hne with ⟨e, he⟩ | ⟨s2, out2, _, _, h2, _⟩
  · rw [he]; exact fun e => nomatch e
  · rw [h2]; exact fun e => nomatch e

theorem SysInv.unreleased_live (h : SysInv cap0 s stE stD) {sid : Nat} {b : BlockRec}
    (hb : b ∈ ((s.stream sid).done ++ (s.stream sid).todo).drop (s.stream sid).npop) {a : Nat}
    (hc : 1 ≤ cnt b.refMap a) : 0 < cnt s.enc.trackMap a ∧ stE.dropped < a ∧ a ≤ stE.all.length := by
  have hmem : b.refMap ∈ (qOf (s.stream sid)).getD [] := by
    rw [getD_qOf]; exact List.mem_map.mpr ⟨b, hb, rfl⟩
  rw [← h.queues sid] at hmem
  obtain ⟨q, hg, hmem⟩ := mem_getD_aget hmem
  have h1 := qsum_ge_of_mem hmem a
  have h2 := qsum_le_total a hg
  have h3 := h.enc.track.sum a
  have hpos : 0 < cnt s.enc.trackMap a := by omega
  have := h.enc.track.live a hpos
  rw [h.enc.abs.drp, h.enc.abs.ins] at this; exact ⟨hpos, this⟩

theorem dropped_le_of (h : SysInv cap0 s stE stD)
    (hnp : ∀ sid, (s.stream sid).npop ≤ (s.stream sid).done.length)
    (hun : ∀ a, stD.all.length < a → a ≤ stE.all.length →
      ∃ sid, ∃ b ∈ (s.stream sid).todo, 1 ≤ cnt b.refMap a ∧ a ≤ b.required) : stE.dropped ≤ stD.all.length := by
  apply Nat.le_of_not_lt; intro hlt
  obtain ⟨sid, b, hb, hc, _⟩ := hun stE.dropped hlt h.enc.abs.le
  have hmem : b ∈ ((s.stream sid).done ++ (s.stream sid).todo).drop (s.stream sid).npop := by
    rw [List.drop_append_of_le_length (hnp sid)]; exact List.mem_append_right _ hb
  exact Nat.lt_irrefl _ (h.unreleased_live hmem hc).2.1

theorem step_encQ_mono {ev : Event} {out : Out} (hs : step s ev = .ok (s', out)) :
    ∃ l, s'.encQ = s.encQ ++ l := by
  have same : ∃ l, s.encQ = s.encQ ++ l := ⟨[], (List.append_nil _).symm⟩
  cases ev with
  | encode sid fields =>
    obtain ⟨e, _, h⟩ := Res.bind_eq_ok.mp hs
    cases h; exact ⟨_, rfl⟩
  | deliverEnc k =>
    -- `on_encoder_recv`: an error and a panic end the history, success leaves `encQ` alone
    simp only [step] at hs
    split at hs
    · cases hs
    · cases hs
    · cases hs; exact same
  | deliverBlock sid =>
    rcases step_deliverBlock_cases hs with rfl | ⟨_, _, _, _, _, _, rfl⟩ <;> exact same
  | deliverAck k =>
    obtain ⟨r, _, h⟩ := Res.bind_eq_ok.mp hs
    cases h; exact same
  | setCapacity c =>
    obtain ⟨r, _, h⟩ := Res.bind_eq_ok.mp hs
    cases h; exact ⟨_, rfl⟩
  | cancel sid => cases hs; exact same

theorem run_encQ_mono {evs : List Event} (hr : run s evs = some s') : ∃ l, s'.encQ = s.encQ ++ l :=
  run_induct (P := fun x => ∃ l, x.encQ = s.encQ ++ l)
    (fun _ _ _ _ ⟨l1, h1⟩ hs => by
      obtain ⟨l2, h2⟩ := step_encQ_mono hs
      exact ⟨l1 ++ l2, by rw [h2, h1, List.append_assoc]⟩)
    ⟨[], (List.append_nil _).symm⟩ hr

theorem run_append {a b : List Event} :
    run s (a ++ b) = (run s a).bind fun s1 => run s1 b := by
  induction a generalizing s with
  | nil => simp [run]
  | cons ev r ih =>
    simp only [List.cons_append, run]
    cases step s ev with
    | err e => simp
    | panic p => simp
    | ok x => simp [ih]

end H3.Dyn
