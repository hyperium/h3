import H3.Lemmas.E2ECompose
import H3.Lemmas.IsoPolled
/-! End to end under interleaving: the C14 connection machine of the sending endpoint
    (`H3.SendSide.run`), the product machine of the receiving endpoint (`H3.Iso.run`: any number of
    request streams, deliveries and polls as events of one history, the driver's polls) and the
    composition lemmas of `E2ECompose`, put together.  `HeadOk` is derived from the `http` laws
    (`headOk_of_values`); that an exchange's stream never writes the shared error cell is a conclusion,
    not a hypothesis (`healthy_quiet`); `Exchange.Ok.delivered_in` is one such stream inside any
    history none of whose streams writes the cell (`Iso.QuietHist`). -/
namespace H3.E2E
open H3.SendSide H3.Headers H3.ReqRecv H3.Gen.WriteBuf
open H3.Iso (Peer StreamEv HEv Dig digest follows peersOf fsScript obsOf APhase)

/-- The head of the message is made of values of the `http` crate.  Requests: the method is a
    token; the scheme, the authority and the path-and-query of the target are values the crate's
    own parsers produced (what an `http::Uri` holds; `https` and `/`, which h3 fills in, included);
    the `Protocol` extension is one h3 knows; a target without an authority is completed by a `Host`
    value that is an authority; the submitted `Host` values are all the same (D-12e); and — what the
    CALLER owes since the D-12g fix, because `http::Uri` accepts `1http://…`, `h~p://…` and
    `https://a@b@c/` as the crate's `Scheme` / `Authority` parsers do — the scheme of the target is an
    RFC 3986 scheme and its authority has at most one `@` and a numeric port (`schemeSyntax`,
    `authoritySyntax`: what the receiving h3 checks; the `https` default and a path-and-query of the
    crate always pass, `HttpRoundTrip.path_print_no_fragment`).  Responses:
    the status is 100…999 (`http::StatusCode`). -/
inductive HeadValues (H : Http) : Role → Message → Prop where
  | request (m : Message) (method : Bytes) (uri : UriParts) (ext : Option Bytes) :
      m.head = .request method uri ext →
      validMethod method = true →
      (∀ s, (Pseudo.request method uri ext).scheme = some s → ∃ w, H.parseScheme w = some s) →
      (∀ a, uri.authority = some a → ∃ w, H.parseAuthority w = some a) →
      (∀ x, (Pseudo.request method uri ext).path = some x → ∃ w, H.parsePath w = some x) →
      (∀ x, (Pseudo.request method uri ext).protocol = some x → parseProtocol x = some x) →
      (uri.authority = none → ∀ hv, hmGet (mapOf m.headers) nHost = some hv → H.parseAuthority hv = some hv) →
      allFirst (hmGroup (mapOf m.headers) nHost) = true →
      (∀ s, uri.scheme = some s → schemeSyntax s = true) →
      (∀ a, uri.authority = some a → authoritySyntax a = true) →
      HeadValues H .server m
  | response (m : Message) (status : Nat) :
      m.head = .response status → 100 ≤ status → status ≤ 999 → HeadValues H .client m

/-- what the receiving application must be handed as head: the same method; the scheme the sender
    put in `:scheme` (the URI's own, `https` when it has none; none for a plain CONNECT), the
    authority of the URI (or the `Host` value), the path the sender put in `:path` (none for a plain
    CONNECT); the `Protocol`; the header map the application filled — resp. the same status -/
def expectedHead (m : Message) : HeadOut :=
  match m.head with
  | .request method uri ext =>
    .request { method := method
               uri := { scheme := (Pseudo.request method uri ext).scheme
                        authority := some (effAuthority uri.authority (hmGet (mapOf m.headers) nHost))
                        path := (Pseudo.request method uri ext).path }
               protocol := (Pseudo.request method uri ext).protocol
               headers := mapOf m.headers }
  | .response status => .response status (mapOf m.headers)

theorem pseudoBack_of_laws (H : Http) (L : HttpLaws H) (R : HttpRoundTrip H) (method : List Nat)
    (uri : UriParts) (ext : Option (List Nat)) (hm : validMethod method = true)
    (hs : ∀ s, (Pseudo.request method uri ext).scheme = some s → ∃ w, H.parseScheme w = some s)
    (ha : ∀ a, uri.authority = some a → ∃ w, H.parseAuthority w = some a)
    (hp : ∀ x, (Pseudo.request method uri ext).path = some x → ∃ w, H.parsePath w = some x)
    (hx : ∀ x, (Pseudo.request method uri ext).protocol = some x → parseProtocol x = some x)
    (hss : ∀ s, uri.scheme = some s → schemeSyntax s = true)
    (has : ∀ a, uri.authority = some a → authoritySyntax a = true) :
    PseudoBack H (Pseudo.request method uri ext) := by
  refine ⟨?_, ?_, ?_, ?_, ?_, hx, ?_, has, ?_⟩
  · intro v hv
    have : (Pseudo.request method uri ext).method = some method := rfl
    rw [this] at hv; cases hv; exact hm
  · intro s h
    obtain ⟨w, hw⟩ := hs s h
    exact R.scheme_print_parse w s hw
  · intro a h
    obtain ⟨w, hw⟩ := ha a h
    have := L.authority_as_str w a hw
    rw [this] at hw ⊢
    exact hw
  · intro x h
    obtain ⟨w, hw⟩ := hp x h
    exact R.path_print_parse w x hw
  · intro st h
    have : (Pseudo.request method uri ext).status = none := rfl
    rw [this] at h; cases h
  · -- the scheme h3 writes is the URI's own, or the `https` default
    intro s h
    have hs' : (Pseudo.request method uri ext).scheme =
        if method = mCONNECT ∧ (Pseudo.request method uri ext).protocol = none then none
        else some (uri.scheme.getD sHttps) := rfl
    rw [hs'] at h
    split at h
    · cases h
    · cases hu : uri.scheme with
      | none => rw [hu] at h; cases h; decide
      | some s' => rw [hu] at h; cases h; exact hss s' hu
  · intro x h
    obtain ⟨w, hw⟩ := hp x h
    exact R.path_print_no_fragment w x hw

/-- `Pseudo::request` sends `:scheme` and `:path` together — or neither (plain CONNECT) -/
theorem pseudo_scheme_path (method : Bytes) (uri : UriParts) (ext : Option Bytes) :
    ((Pseudo.request method uri ext).scheme = none ∧ (Pseudo.request method uri ext).path = none) ∨
    (∃ s p, (Pseudo.request method uri ext).scheme = some s ∧ (Pseudo.request method uri ext).path = some p) := by
  by_cases hc : method = mCONNECT ∧ (if method = mCONNECT then ext else none) = none
  · exact Or.inl ⟨if_pos hc, if_pos hc⟩
  · exact Or.inr ⟨_, _, if_neg hc, if_neg hc⟩

/-- **`HeadOk` from the laws**: a head made of values of the crate, submitted in a message the
    sender accepts, survives the trip, and what arrives is `expectedHead m`. -/
theorem headOk_of_values (H : Http) (L : HttpLaws H) (R : HttpRoundTrip H) (role : Role) (m : Message)
    (h : Header) (hh : headerOf m = .ok h) (hv : HeadValues H role m) :
    HeadOk H role m (expectedHead m) := by
  cases hv with
  | response m status hm h1 h2 =>
    have : expectedHead m = .response status (mapOf m.headers) := by unfold expectedHead; rw [hm]
    rw [this]
    exact HeadOk.response m status hm h1 h2
  | request m method uri ext hm hmeth hs ha hp hx hhost hall hss has =>
    have hpb := pseudoBack_of_laws H L R method uri ext hmeth hs ha hp hx hss has
    -- the effective authority is the URI's or, without one, the `Host` value: either parses to itself
    have hauth : H.parseAuthority (effAuthority uri.authority (hmGet (mapOf m.headers) nHost)) =
        some (effAuthority uri.authority (hmGet (mapOf m.headers) nHost)) := by
      have hreq : Header.request method uri (mapOf m.headers) ext = .ok h := by
        unfold headerOf at hh; rw [hm] at hh; exact hh
      obtain ⟨hor, hfrom, _⟩ := chooseAuthority_ok (request_chooses hreq)
      generalize effAuthority uri.authority (hmGet (mapOf m.headers) nHost) = x at hor hfrom ⊢
      cases hua : uri.authority with
      | none => exact hhost hua x (hor.resolve_left (by rw [hua]; nofun))
      | some a =>
        obtain rfl := hfrom a hua
        exact hpb.authority a hua
    have hbuilds : (H.uriBuild (Pseudo.request method uri ext).scheme
        (effAuthority uri.authority (hmGet (mapOf m.headers) nHost))
        (Pseudo.request method uri ext).path).isSome = true := by
      rcases pseudo_scheme_path method uri ext with ⟨h1, h2⟩ | ⟨s, p, h1, h2⟩
      · rw [h1, h2]; exact R.uri_builds_authority _ hauth
      · rw [h1, h2]; exact R.uri_builds s _ p (hpb.scheme s h1) hauth (hpb.path p h2)
    obtain ⟨u, hu⟩ := Option.isSome_iff_exists.mp hbuilds
    have hparts := R.uri_parts _ _ _ _ hu
    have hout : expectedHead m = .request (RequestParts.mk method u
        (Pseudo.request method uri ext).protocol (mapOf m.headers)) := by
      unfold expectedHead; rw [hm]; simp only [hparts]
    rw [hout]
    exact HeadOk.request m method uri ext u hm hpb hu hall

/-- `decode_stateless` + `Header::try_from` + `into_*` with the size limit kept apart
    (`H3.Iso.HClass.tooBig`, C10) -/
def isoClassify {α : Type} (max : Nat) (parse : List FieldLine → Headers.Res α) (block : Bytes) : Iso.HClass :=
  match Qpack.decodeStateless block max with
  | .ok fs _ =>
    match parse (lines fs) with
    | .ok _ => .ok
    | _ => .malformed
  | .err (.headerTooLong _) => .tooBig
  | .err _ => .qpack

def isoHdrOf (H : Http) (role : Role) (max : Nat) : Iso.Hdr where
  head := fun b =>
    match role with
    | .server => isoClassify max (recvRequest H) b
    | .client => isoClassify max (recvResponse H) b
  trailer := isoClassify max (recvTrailers H)

/-- the receiving endpoint: its role, QPACK + header validation with limit `max` -/
def isoCfg (H : Http) (role : Role) (max : Nat) : Iso.Cfg := { role := role, hdr := isoHdrOf H role max }

theorem isoClassify_ok {α : Type} (max : Nat) (parse : List FieldLine → Headers.Res α) (b : Bytes)
    (h : classifyBlock max parse b = .ok) : isoClassify max parse b = .ok := by
  unfold classifyBlock at h
  unfold isoClassify
  cases hd : Qpack.decodeStateless b max with
  | ok fs n =>
    rw [hd] at h
    simp only at h ⊢
    cases hp : parse (lines fs) <;> rw [hp] at h <;> first | rfl | cases h
  | err e =>
    rw [hd] at h
    cases e <;> cases h

theorem isoHdr_head_ok (H : Http) (role : Role) (max : Nat) (b : Bytes)
    (h : (hdrOf H role max).head b = .ok) : (isoHdrOf H role max).head b = .ok := by
  cases role <;> exact isoClassify_ok max _ b h

theorem bodyToks_eq_iso (ps : List Bytes) : bodyToks ps = Iso.bodyToks ps := by
  induction ps with
  | nil => rfl
  | cons p r ih => rw [Iso.bodyToks_cons, ← ih]; rfl

theorem msgToks_eq_iso (hb : Bytes) (ps : List Bytes) (tr : Option Bytes) :
    msgToks hb ps tr = Iso.msgToks hb ps tr := by
  rw [Iso.msgToks_eq, msgToks, bodyToks_eq_iso]
  cases tr <;> rfl

/-- the stream bytes of a well-formed message are, for the frame layer, a sequence of complete
    frames: HEADERS, one DATA per piece, trailing HEADERS iff trailers (+ the skipped grease frame) -/
theorem wire_of_wellFormed (m : Message) (h : Header) (hwf : WellFormed m h) (g : Option Nat)
    (hg : ∀ n, g = some n → n < GREASE_RANGE_END) :
    Iso.Wire (streamBytes m g) (Iso.msgToks (fieldSection h) m.pieces (m.trailers.map trailerSection)) := by
  have hrun := run_streamBytes m h hwf g hg
  rw [msgToks_eq_iso] at hrun
  refine ⟨hrun, Iso.noRaw_of_msgToks _ _ _ _ _ hrun ?_⟩
  intro d hd
  have := (hwf.pieces d hd).1
  unfold FS.USIZE_MAX
  omega

/-- a schedule that follows the documented pattern does so up to any point -/
theorem follows_prefix (cfg : Iso.Cfg) (fuel : Nat) : ∀ (a b : List StreamEv) (ph : APhase) (cell : Option Nat)
    (r : Iso.Req), follows cfg fuel ph cell r (a ++ b) = true → follows cfg fuel ph cell r a = true :=
  Iso.follows_prefix cfg fuel

theorem peersOf_append (a b : List StreamEv) : peersOf (a ++ b) = peersOf a ++ peersOf b := by
  induction a with
  | nil => rfl
  | cons ev a ih => cases ev <;> simp [peersOf, ih]

theorem fsScript_append (a b : List Peer) : fsScript (a ++ b) = fsScript a ++ fsScript b := by
  simp [fsScript]

/-- the cell is empty after every prefix ⇒ no step writes it -/
theorem quiet_of_prefix_cells (cfg : Iso.Cfg) : ∀ (evs : List StreamEv) (r : Iso.Req),
    (∀ a b, evs = a ++ b → (Iso.Req.run cfg none r a).2.1 = none) → Iso.Req.quiet cfg r evs := by
  intro evs
  induction evs with
  | nil => intro _ _; trivial
  | cons ev rest ih =>
    intro r h
    have h0 : (Iso.Req.step cfg none r ev).2.1 = none := by
      have := h [ev] rest rfl
      rw [Iso.Req.run_cons] at this
      exact this
    refine ⟨h0, ih _ ?_⟩
    intro a b hab
    have := h (ev :: a) b (by rw [hab]; rfl)
    rw [Iso.Req.run_cons, h0] at this
    exact this

section Healthy
variable {w : FS.Bytes} {h : ReqRecv.Bytes} {ds : List ReqRecv.Bytes} {tr : Option ReqRecv.Bytes}

/-- **A healthy stream is quiet.**  The stream carries the bytes of a valid message, cut in any way,
    FIN after them; its application follows the documented pattern (each call polled again after
    `Pending`); deliveries and polls interleaved in any way.  Then no step of the stream writes the
    shared error cell. -/
theorem healthy_quiet (hw : Iso.Wire w (Iso.msgToks h ds tr)) (cfg : Iso.Cfg) (hh : cfg.hdr.head h = .ok)
    (hT : ∀ t, tr = some t → cfg.hdr.trailer t = .ok) (fuel : Nat) (hfuel : (Iso.msgToks h ds tr).length < fuel)
    (cs : List FS.Bytes) (hne : ∀ b ∈ cs, b ≠ []) (hcs : cs.flatten = w) (evs : List StreamEv)
    (hpeers : peersOf evs = cs.map Peer.chunk ++ [Peer.fin])
    (hfollow : follows cfg fuel .head none {} evs = true) :
    Iso.Req.quiet cfg {} evs := by
  apply quiet_of_prefix_cells
  intro a b hab
  have hfa : follows cfg fuel .head none {} a = true := by
    rw [hab] at hfollow; exact follows_prefix cfg fuel a b _ _ _ hfollow
  have hpre : [] ++ fsScript (peersOf a) <+: cs.map FS.Ev.chunk ++ [FS.Ev.fin] := by
    rw [List.nil_append, ← Iso.fsScript_chunks_fin, ← hpeers, hab, peersOf_append, fsScript_append]
    exact List.prefix_append _ _
  obtain ⟨_, _, hc, _⟩ := Iso.polled_run hw cfg hh hT fuel hfuel cs hne hcs a .head [] [] {} {}
    (Iso.rinv_init _ h ds tr) rfl hpre hfa
  exact hc

end Healthy

/-- the receiving application's digest decoded as `deliver` decodes the trace of `recvPattern`:
    the head from the (single) answer of the head call, the body bytes and the number of `Ok(None)`
    answers from ALL answers of `recv_data`, the trailers from the (single) answer of
    `recv_trailers`; `env` = what h3 did on the stream besides -/
def deliveredOf (H : Http) (role : Role) (max : Nat) (g : Dig) (env : Env) : Delivered :=
  { head := match g.heads with
      | [.res (.head b)] => decodeHead H role max b
      | _ => none
    body := bodyOf g.body
    cleanEnd := g.body.getLast? == some .end_
    ends := endsOf g.body
    trailers := match g.trailers with
      | [.res (.trailers b)] => (decodeWith max (recvTrailers H) b).map some
      | [.res .noTrailers] => some none
      | _ => none
    env := env }

/-- one direction of one exchange: the message `m` submitted on request stream `sid` (`h` = its
    `Header`), whether the handle owes the grease frame (`g`, draw `gN`), the write-acceptance
    scripts of its calls, and how the transport cuts its bytes (`cs`) -/
structure Exchange where
  sid : Nat
  m : Message
  h : Header
  g : Bool
  gN : Nat
  scripts : List (List Nat)
  cs : List Bytes

def Exchange.calls (x : Exchange) : List (SOp × List Nat) := callsOf (framesOf x.m x.h) x.gN x.scripts

def Exchange.toks (x : Exchange) : List ReqRecv.RefTok :=
  Iso.msgToks (fieldSection x.h) x.m.pieces (x.m.trailers.map trailerSection)

/-- What is asked of an exchange inside a run `steps` of the sending endpoint's connection machine
    (from `st`) and a history `hist` of the receiving endpoint. -/
structure Exchange.Ok (H : Http) (role : Role) (L : Nat) (fuel : Nat) (st : State) (steps : List Step)
    (hist : List HEv) (x : Exchange) : Prop where
  /-- the quantifier of C01 -/
  wf : WellFormed x.m x.h
  fits : Fits x.m x.h L
  values : HeadValues H role x.m
  draw : x.gN < GREASE_RANGE_END
  sid : x.sid % 4 = 0
  /-- sender: the stream is there, fresh; the steps that address it are the awaited calls of the
      message with their transport polls (R-14), interleaved at will with every other step -/
  fresh : getStream st.streams x.sid = some (freshStream x.g)
  awaited : Awaited (freshStream x.g) x.calls
  mine : steps.filterMap (proj x.sid) = opsOf x.calls
  /-- transport: the receiver's stream is delivered what the sender's transport was handed, cut into
      non-empty chunks in any way, then FIN — anywhere in the history -/
  chunks : ∀ b ∈ x.cs, b ≠ []
  carried : ∀ s, getStream (SendSide.run st steps).streams x.sid = some s → x.cs.flatten = s.log
  delivered : peersOf (Iso.proj x.sid hist) = x.cs.map Peer.chunk ++ [Peer.fin]
  /-- receiver: the application follows the documented pattern, each call polled again after
      `Pending`, anywhere in the history; its last poll comes after FIN -/
  follows : follows (isoCfg H role L) fuel .head none {} (Iso.proj x.sid hist) = true
  last : (Iso.proj x.sid hist).getLast? = some (.call (.body fuel))
  /-- the loop bound of a poll of the body task exceeds the number of frame-layer tokens -/
  bound : x.toks.length < fuel

/-- the closed fields of `Exchange.Ok`, decided by evaluation for a concrete exchange; `carried` is asked of
    the stream's own program (`getStream_run`) -/
abbrev Exchange.Checks (H : Http) (role : Role) (L : Nat) (fuel : Nat) (st : State) (steps : List Step)
    (hist : List HEv) (x : Exchange) : Prop :=
  x.gN < GREASE_RANGE_END ∧ x.sid % 4 = 0 ∧ getStream st.streams x.sid = some (freshStream x.g) ∧
  Awaited (freshStream x.g) x.calls ∧ steps.filterMap (proj x.sid) = opsOf x.calls ∧ (∀ b ∈ x.cs, b ≠ []) ∧
  x.cs.flatten = (runS (freshStream x.g) (opsOf x.calls)).log ∧
  peersOf (Iso.proj x.sid hist) = x.cs.map Peer.chunk ++ [Peer.fin] ∧
  follows (isoCfg H role L) fuel .head none {} (Iso.proj x.sid hist) = true ∧
  (Iso.proj x.sid hist).getLast? = some (.call (.body fuel)) ∧ x.toks.length < fuel

theorem Exchange.Ok.of_checks {H : Http} {role : Role} {L fuel : Nat} {st : State} {steps : List Step}
    {hist : List HEv} {x : Exchange} (wf : WellFormed x.m x.h) (fits : Fits x.m x.h L)
    (values : HeadValues H role x.m) (c : x.Checks H role L fuel st steps hist) :
    x.Ok H role L fuel st steps hist := by
  obtain ⟨draw, sid, fresh, awaited, mine, chunks, carried, delivered, follows, last, bound⟩ := c
  refine ⟨wf, fits, values, draw, sid, fresh, awaited, mine, chunks, ?_, delivered, follows, last, bound⟩
  intro s hs
  rw [getStream_run steps st x.sid _ sid fresh, mine] at hs
  cases hs
  exact carried

section Exchange
variable {H : Http} {role : Role} {L fuel : Nat} {st : State} {steps : List Step} {hist : List HEv}
  {x : Exchange}

theorem Exchange.Ok.sent (ok : x.Ok H role L fuel st steps hist) :
    ∃ s, getStream (SendSide.run st steps).streams x.sid = some s ∧
      s.log = streamBytes x.m (if x.g then some x.gN else none) ∧ s.fin = true :=
  sent_in_any_run x.m x.h ok.wf x.g x.gN ok.draw x.scripts ok.awaited st x.sid ok.sid ok.fresh steps ok.mine

theorem Exchange.Ok.grease_ok (ok : x.Ok H role L fuel st steps hist) :
    ∀ n, (if x.g then some x.gN else none) = some n → n < GREASE_RANGE_END :=
  draw_ok x.g x.gN ok.draw

theorem Exchange.Ok.wire (ok : x.Ok H role L fuel st steps hist) : Iso.Wire x.cs.flatten x.toks := by
  obtain ⟨s, hs, hlog, _⟩ := ok.sent
  rw [ok.carried s hs, hlog]
  exact wire_of_wellFormed x.m x.h ok.wf _ ok.grease_ok

theorem Exchange.Ok.headOk (L' : HttpLaws H) (R : HttpRoundTrip H) (ok : x.Ok H role L fuel st steps hist) :
    HeadOk H role x.m (expectedHead x.m) :=
  headOk_of_values H L' R role x.m x.h ok.wf.header ok.values

theorem Exchange.Ok.hdr_head (L' : HttpLaws H) (R : HttpRoundTrip H) (ok : x.Ok H role L fuel st steps hist) :
    (isoCfg H role L).hdr.head (fieldSection x.h) = .ok :=
  isoHdr_head_ok H role L _ (head_block H role x.m x.h _ L ok.wf ok.fits (ok.headOk L' R)).1

theorem Exchange.Ok.hdr_trailer (ok : x.Ok H role L fuel st steps hist) :
    ∀ t, x.m.trailers.map trailerSection = some t → (isoCfg H role L).hdr.trailer t = .ok :=
  fun t ht => isoClassify_ok L _ _ (trailer_ok H role x.m x.h L ok.wf ok.fits t ht)

theorem Exchange.Ok.quiet (L' : HttpLaws H) (R : HttpRoundTrip H) (ok : x.Ok H role L fuel st steps hist) :
    Iso.Req.quiet (isoCfg H role L) {} (Iso.proj x.sid hist) :=
  healthy_quiet ok.wire (isoCfg H role L) (ok.hdr_head L' R) ok.hdr_trailer fuel ok.bound x.cs ok.chunks rfl _
    ok.delivered ok.follows

theorem deliveredOf_good (H : Http) (role : Role) (L : Nat) (hb : Bytes) (ds : List Bytes) (tr : Option Bytes)
    (g : Dig) (h1 : g.heads = [.res (.head hb)]) (h2 : g.body = ds.map .data ++ [.end_])
    (h3 : g.trailers = [.res (Iso.trRes tr)]) :
    deliveredOf H role L g {} = deliverOf H role L (goodTrace hb ds tr) := by
  unfold deliveredOf deliverOf goodTrace
  rw [h1, h2, h3]
  cases tr <;> rfl

/-- one exchange inside any history that no stream's error disturbs: the digest counts ALL answers of all
    polls of the stream's application, `Pending` left out -/
theorem Exchange.Ok.delivered_in (L' : HttpLaws H) (R : HttpRoundTrip H)
    (ok : x.Ok H role L fuel st steps hist) (hq : Iso.QuietHist (isoCfg H role L) {} hist) :
    deliveredOf H role L (digest (obsOf x.sid (Iso.run (isoCfg H role L) {} hist).2))
        ((Iso.run (isoCfg H role L) {} hist).1.get x.sid).rx.env = expected x.m (expectedHead x.m) ∧
    (digest (obsOf x.sid (Iso.run (isoCfg H role L) {} hist).2)).heads.length = 1 ∧
    (digest (obsOf x.sid (Iso.run (isoCfg H role L) {} hist).2)).trailers.length = 1 := by
  obtain ⟨_, _, hview⟩ := Iso.run_decomposes (isoCfg H role L) hist {} rfl rfl hq
  -- `Iso.run_decomposes`: in a quiet history a stream sees what its own events alone produce
  have hv := (hview x.sid).1
  have hg : ({} : Iso.Conn).get x.sid = ({} : Iso.Req) := rfl
  rw [hg] at hv
  simp only [Iso.view, Prod.mk.injEq] at hv
  have hscript : fsScript (peersOf (Iso.proj x.sid hist)) = x.cs.map FS.Ev.chunk ++ [FS.Ev.fin] := by
    rw [ok.delivered, Iso.fsScript_chunks_fin]
  -- `Iso.polled_run`: `hr` invariant at the end (`.2.1`: clean env), `hgok` shape of the digest, `hdone` the
  -- pattern has ended after FIN and a last body poll
  obtain ⟨ph', b', _, hr, hgok, hdone⟩ := Iso.polled_run ok.wire (isoCfg H role L) (ok.hdr_head L' R)
    ok.hdr_trailer fuel ok.bound x.cs ok.chunks rfl (Iso.proj x.sid hist) .head [] [] {} {}
    (Iso.rinv_init _ _ _ _) rfl (by rw [List.nil_append, hscript]; exact List.prefix_refl _) ok.follows
  have hph : ph' = .done := hdone (by rw [List.nil_append, hscript]; simp) ok.last
  subst hph
  obtain ⟨h1, ⟨ps, h2, h3⟩, h4⟩ := hgok
  have henv := hr.2.1
  have hdig : digest (obsOf x.sid (Iso.run (isoCfg H role L) {} hist).2) =
      List.foldl Dig.add {} (Iso.Req.run (isoCfg H role L) none {} (Iso.proj x.sid hist)).2.2 := by
    rw [hv.2]; rfl
  rw [hdig, hv.1, henv]
  refine ⟨?_, by rw [h1]; rfl, by rw [h4]; rfl⟩
  rw [deliveredOf_good H role L _ ps _ _ h1 h2 h4]
  exact deliverOf_goodTrace H role x.m x.h _ L ok.wf ok.fits (ok.headOk L' R) ps h3

end Exchange

/-- a step of the connection, seen from both ends: a step of the sending endpoint's machine (an API
    call or a transport poll of any of its streams, GOAWAY, the grease stream) or an event of the
    receiving endpoint (a delivery on, or a poll of a call of, any request stream; a poll of its
    driver) -/
inductive GEv where
  | snd (s : Step)
  | rcv (e : HEv)

def sndOf : List GEv → List Step
  | [] => []
  | .snd s :: r => s :: sndOf r
  | .rcv _ :: r => sndOf r

def rcvOf : List GEv → List HEv
  | [] => []
  | .snd _ :: r => rcvOf r
  | .rcv e :: r => e :: rcvOf r

/-- the two endpoints run through one interleaved sequence: the sender's state, the receiver's
    state, and everything the receiver's applications observed -/
def grun (cfg : Iso.Cfg) : State → Iso.Conn → List GEv → State × Iso.Conn × List (Nat × Iso.Obs)
  | s, c, [] => (s, c, [])
  | s, c, .snd x :: r => grun cfg (step s x) c r
  | s, c, .rcv e :: r =>
    ((grun cfg s (Iso.hstep cfg c e).1 r).1, (grun cfg s (Iso.hstep cfg c e).1 r).2.1,
     (Iso.hstep cfg c e).2 ++ (grun cfg s (Iso.hstep cfg c e).1 r).2.2)

/-- `grun` threads a sender state and a receiver state that never meet, so the interleaved run is the pair of the runs.  The
    transport between the two is not in `grun`: it is the hypothesis `Exchange.Ok.carried` about the sender's final log. -/
theorem grun_eq (cfg : Iso.Cfg) : ∀ (evs : List GEv) (s : State) (c : Iso.Conn),
    grun cfg s c evs = (SendSide.run s (sndOf evs), (Iso.run cfg c (rcvOf evs)).1, (Iso.run cfg c (rcvOf evs)).2) := by
  intro evs
  induction evs with
  | nil => intro s c; rfl
  | cons e r ih =>
    intro s c
    cases e with
    | snd x =>
      rw [grun, ih]
      simp only [sndOf, rcvOf, SendSide.run, List.foldl_cons]
    | rcv e =>
      rw [grun, ih]
      simp only [sndOf, rcvOf, Iso.run_cons]

end H3.E2E
