import H3.Model.E2E
import H3.Lemmas.Iso
/-! Interleavings on the receive side.  The request streams of a connection share one thing in
    the receive model: the connection error cell (`SharedState.connection_error`, first error
    wins).  Every receive call touches it only on the way to answering a connection error.  So as
    long as no call answers a connection error — in particular while valid messages are being
    received — each stream's calls see exactly what they would see if that stream were alone,
    however the polls of the tasks are interleaved. -/
namespace H3.E2E
open H3.ReqRecv

def isErrConn : Res → Bool
  | .errConn _ => true
  | _ => false

theorem isErrConn_eq (r : Res) : isErrConn r = Iso.resConn r := by cases r <;> rfl

/-- **The error cell is written only on the way to a connection error**: a poll of any receive
    call that answers anything else leaves the cell as it found it. -/
theorem poll_cell (H : Hdr) (call : RCall) (st : St FSt)
    (h : isErrConn (call.poll H st).1 = false) : (call.poll H st).2.env.cell = st.env.cell := by
  rw [isErrConn_eq] at h
  cases call with
  | head role => exact Iso.pollHead_ok role fsSrc H st h
  | data => exact Iso.pollRecvData_ok fsSrc _ st h
  | trailers => exact Iso.pollRecvTrailers_ok fsSrc H st h

/-- what one request stream owns on the receive side: its `FrameStream` with the transport events
    still to come, the remembered trailers, the reset / stop codes it has sent -/
structure Comp where
  src : FSt
  trailers : Option Bytes := none
  rst : Option Nat := none
  stop : Option Nat := none

def Comp.toSt (c : Comp) (cell : Option Nat) : St FSt :=
  { src := c.src, trailers := c.trailers, env := { cell := cell, rst := c.rst, stop := c.stop } }

def Comp.ofSt (st : St FSt) : Comp :=
  { src := st.src, trailers := st.trailers, rst := st.env.rst, stop := st.env.stop }

/-- one poll of a call on one component, given the cell: answer, cell afterwards, component -/
def pollComp (H : Hdr) (cell : Option Nat) (c : Comp) (call : RCall) : Res × Option Nat × Comp :=
  ((call.poll H (c.toSt cell)).1, (call.poll H (c.toSt cell)).2.env.cell,
    Comp.ofSt (call.poll H (c.toSt cell)).2)

/-- a stream alone: its calls polled one after the other -/
def isolated (H : Hdr) : Option Nat → Comp → List RCall → List Res × Option Nat × Comp
  | cell, c, [] => ([], cell, c)
  | cell, c, call :: r =>
    ((pollComp H cell c call).1 :: (isolated H (pollComp H cell c call).2.1 (pollComp H cell c call).2.2 r).1,
     (isolated H (pollComp H cell c call).2.1 (pollComp H cell c call).2.2 r).2)

/-- the receive side of a connection: the shared cell and one component per request stream -/
structure Conn where
  cell : Option Nat
  comps : Nat → Comp

def Conn.poll (H : Nat → Hdr) (k : Conn) (sid : Nat) (call : RCall) : Res × Conn :=
  ((pollComp (H sid) k.cell (k.comps sid) call).1,
   { cell := (pollComp (H sid) k.cell (k.comps sid) call).2.1,
     comps := fun i => if i = sid then (pollComp (H sid) k.cell (k.comps sid) call).2.2 else k.comps i })

/-- a schedule: which task polls which call, in any order -/
def Conn.run (H : Nat → Hdr) : Conn → List (Nat × RCall) → List (Nat × Res) × Conn
  | k, [] => ([], k)
  | k, (sid, call) :: r =>
    ((sid, (k.poll H sid call).1) :: (Conn.run H (k.poll H sid call).2 r).1,
     (Conn.run H (k.poll H sid call).2 r).2)

def callsFor (σ : List (Nat × RCall)) (i : Nat) : List RCall := (σ.filter (fun e => e.1 = i)).map (·.2)

def answersFor (as : List (Nat × Res)) (i : Nat) : List Res := (as.filter (fun e => e.1 = i)).map (·.2)

theorem pollComp_cell (H : Hdr) (cell : Option Nat) (c : Comp) (call : RCall)
    (h : isErrConn (pollComp H cell c call).1 = false) : (pollComp H cell c call).2.1 = cell :=
  poll_cell H call (c.toSt cell) h

/-- **Interleaving is irrelevant on the receive side.**  Take any schedule of polls of any number
    of request streams.  If each stream, run alone on its own calls, never answers a connection
    error, then in the interleaved run every stream gets exactly the answers of its isolated run
    and ends in exactly that state, and the error cell is untouched. -/
theorem conn_run_projects (H : Nat → Hdr) (σ : List (Nat × RCall)) : ∀ (k : Conn),
    (∀ i, ∀ a ∈ (isolated (H i) k.cell (k.comps i) (callsFor σ i)).1, isErrConn a = false) →
    (∀ i, answersFor (Conn.run H k σ).1 i = (isolated (H i) k.cell (k.comps i) (callsFor σ i)).1 ∧
      (Conn.run H k σ).2.comps i = (isolated (H i) k.cell (k.comps i) (callsFor σ i)).2.2) ∧
    (Conn.run H k σ).2.cell = k.cell := by
  induction σ with
  | nil => intro k _; exact ⟨fun i => ⟨rfl, rfl⟩, rfl⟩
  | cons e r ih =>
    obtain ⟨sid, call⟩ := e
    intro k hk
    have hfor : callsFor ((sid, call) :: r) sid = call :: callsFor r sid := by simp [callsFor]
    have hother : ∀ i, i ≠ sid → callsFor ((sid, call) :: r) i = callsFor r i := by
      intro i hi
      simp [callsFor, Ne.symm hi]
    -- the first poll answers no connection error, so it leaves the cell alone
    have hcell : (pollComp (H sid) k.cell (k.comps sid) call).2.1 = k.cell := by
      have := hk sid
      rw [hfor] at this
      exact pollComp_cell _ _ _ _ (this _ (by simp [isolated]))
    -- so the rest of the schedule starts from the same cell
    have hsid : isolated (H sid) k.cell (k.comps sid) (callsFor ((sid, call) :: r) sid) =
        ((pollComp (H sid) k.cell (k.comps sid) call).1 ::
          (isolated (H sid) (k.poll H sid call).2.cell ((k.poll H sid call).2.comps sid) (callsFor r sid)).1,
         (isolated (H sid) (k.poll H sid call).2.cell ((k.poll H sid call).2.comps sid) (callsFor r sid)).2) := by
      simp only [hfor, isolated, Conn.poll, hcell, if_true]
    have hoth : ∀ i, i ≠ sid → isolated (H i) k.cell (k.comps i) (callsFor ((sid, call) :: r) i) =
        isolated (H i) (k.poll H sid call).2.cell ((k.poll H sid call).2.comps i) (callsFor r i) := by
      intro i hi
      simp only [hother i hi, Conn.poll, hcell, if_neg hi]
    obtain ⟨hall, hc⟩ := ih (k.poll H sid call).2 (by
      intro i a ha
      by_cases hi : i = sid
      · subst hi
        exact hk i a (by rw [hsid]; exact List.mem_cons_of_mem _ ha)
      · exact hk i a (by rw [hoth i hi]; exact ha))
    simp only [Conn.run]
    refine ⟨fun i => ?_, by rw [hc]; simp only [Conn.poll, hcell]⟩
    obtain ⟨h1, h2⟩ := hall i
    by_cases hi : i = sid
    · subst hi
      rw [hsid]
      refine ⟨?_, h2⟩
      simp only [answersFor, List.filter_cons, decide_true, if_true, List.map_cons] at h1 ⊢
      rw [h1]
      rfl
    · rw [hoth i hi]
      exact ⟨by simpa [answersFor, Ne.symm hi] using h1, h2⟩

/-- two polls of different streams commute when neither answers a connection error -/
theorem conn_polls_commute (H : Nat → Hdr) (k : Conn) (i j : Nat) (hij : i ≠ j) (ci cj : RCall)
    (hi : isErrConn (k.poll H i ci).1 = false) (hj : isErrConn (k.poll H j cj).1 = false) :
    ((k.poll H i ci).2.poll H j cj).1 = (k.poll H j cj).1 ∧
    ((k.poll H j cj).2.poll H i ci).1 = (k.poll H i ci).1 ∧
    ((k.poll H i ci).2.poll H j cj).2.cell = ((k.poll H j cj).2.poll H i ci).2.cell ∧
    ∀ x, ((k.poll H i ci).2.poll H j cj).2.comps x = ((k.poll H j cj).2.poll H i ci).2.comps x := by
  have hci := pollComp_cell (H i) k.cell (k.comps i) ci hi
  have hcj := pollComp_cell (H j) k.cell (k.comps j) cj hj
  have hji : ¬ j = i := fun e => hij e.symm
  simp only [Conn.poll, hci, hcj, if_neg hij, if_neg hji]
  refine ⟨trivial, trivial, trivial, fun x => ?_⟩
  by_cases hx : x = i
  · subst hx; simp [hij]
  · by_cases hx' : x = j
    · subst hx'; simp [hji]
    · simp [hx, hx']

end H3.E2E
