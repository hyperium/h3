import H3.Lemmas.ReqRecv
/-! Re-polling.  An API call of the request layer that answers `Pending` is polled again when the
    task is woken (`retry`): it starts over from its first line with whatever the previous poll left
    in the stream object.  For ANY frame layer `S` in which a `Pending` answer is inert (`PendLaws`)
    that is the same as ONE poll of the call over `skipSrc S`, whose `poll_next` / `poll_data`
    themselves wait out the `Pending` answers: every call resumes exactly where its previous poll
    stopped, nothing is read twice, nothing is lost.  Hence `documentedR` over `S` is `documented` over `skipSrc S`
    when the bounds on re-polls and loop rounds suffice (`documentedR_eq`: no `invalid` in the body of the latter). -/
namespace H3.ReqRecv

def isPend : FOut → Bool
  | .pending => true
  | _ => false

section Generic
variable {σ : Type}

/-- poll the frame layer again while it answers `Pending` and more is to come (`len ≠ 0`) -/
def skipPoll (len : σ → Nat) (poll : σ → FOut × σ) : Nat → σ → FOut × σ
  | 0, c => poll c
  | k+1, c => if isPend (poll c).1 = true ∧ len (poll c).2 ≠ 0 then skipPoll len poll k (poll c).2 else poll c

/-- the frame layer whose calls wait out the `Pending` answers -/
def skipSrc (S : Src σ) (len : σ → Nat) : Src σ where
  pollNext := fun c => skipPoll len S.pollNext (len c) c
  pollData := fun c => skipPoll len S.pollData (len c) c
  hasData := S.hasData
  isEos := S.isEos

/-- an API call polled again while it answers `Pending` and more is to come -/
def retry (len : σ → Nat) (f : St σ → Res × St σ) : Nat → St σ → Res × St σ
  | 0, st => f st
  | k+1, st => if (f st).1 = .pending ∧ len (f st).2.src ≠ 0 then retry len f k (f st).2 else f st

/-- `Pending` is inert: `len` = how much is still to come (for the `FrameStream` model: the events
    left in the transport script) never grows and shrinks with every `Pending` that is not the last
    word; a `Pending` from `poll_next` leaves `has_data = false`, `is_eos = false`; a `Pending` from
    `poll_data` leaves `has_data` as it was. -/
structure PendLaws (S : Src σ) (len : σ → Nat) : Prop where
  next_len : ∀ c, len (S.pollNext c).2 ≤ len c
  data_len : ∀ c, len (S.pollData c).2 ≤ len c
  next_pend : ∀ c, isPend (S.pollNext c).1 = true →
    S.hasData (S.pollNext c).2 = false ∧ S.isEos (S.pollNext c).2 = false ∧
      (len (S.pollNext c).2 ≠ 0 → len (S.pollNext c).2 < len c)
  data_pend : ∀ c, isPend (S.pollData c).1 = true →
    S.hasData (S.pollData c).2 = S.hasData c ∧ (len (S.pollData c).2 ≠ 0 → len (S.pollData c).2 < len c)

variable {S : Src σ} {len : σ → Nat}

theorem skipPoll_succ (poll : σ → FOut × σ)
    (hlaw : ∀ c, isPend (poll c).1 = true → len (poll c).2 ≠ 0 → len (poll c).2 < len c) :
    ∀ (K : Nat) (c : σ), len c ≤ K → skipPoll len poll (K + 1) c = skipPoll len poll K c := by
  intro K
  induction K with
  | zero =>
    intro c h
    have hc : ¬ (isPend (poll c).1 = true ∧ len (poll c).2 ≠ 0) := fun hc => by
      have := hlaw c hc.1 hc.2; omega
    rw [skipPoll.eq_2, if_neg hc, skipPoll.eq_1]
  | succ K ih =>
    intro c h
    rw [skipPoll.eq_2 len poll c (K + 1), skipPoll.eq_2 len poll c K]
    by_cases hc : isPend (poll c).1 = true ∧ len (poll c).2 ≠ 0
    · have := hlaw c hc.1 hc.2
      rw [if_pos hc, if_pos hc, ih _ (by omega)]
    · rw [if_neg hc, if_neg hc]

theorem skipPoll_fuel (poll : σ → FOut × σ)
    (hlaw : ∀ c, isPend (poll c).1 = true → len (poll c).2 ≠ 0 → len (poll c).2 < len c)
    (K : Nat) (c : σ) (h : len c ≤ K) : skipPoll len poll K c = skipPoll len poll (len c) c := by
  obtain ⟨d, rfl⟩ : ∃ d, K = len c + d := ⟨K - len c, by omega⟩
  induction d with
  | zero => rfl
  | succ d ih => exact (skipPoll_succ poll hlaw (len c + d) c (by omega)).trans (ih (by omega))

theorem skipPoll_unfold (poll : σ → FOut × σ)
    (hlaw : ∀ c, isPend (poll c).1 = true → len (poll c).2 ≠ 0 → len (poll c).2 < len c) (c : σ) :
    skipPoll len poll (len c) c =
      if isPend (poll c).1 = true ∧ len (poll c).2 ≠ 0 then skipPoll len poll (len (poll c).2) (poll c).2
      else poll c := by
  by_cases hc : isPend (poll c).1 = true ∧ len (poll c).2 ≠ 0
  · have hlt := hlaw c hc.1 hc.2
    obtain ⟨n, hn⟩ : ∃ n, len c = n + 1 := ⟨len c - 1, by omega⟩
    rw [hn, skipPoll, if_pos hc, if_pos hc, skipPoll_fuel poll hlaw _ _ (by omega)]
  · rw [if_neg hc]
    cases hn : len c with
    | zero => rw [skipPoll]
    | succ n => rw [skipPoll, if_neg hc]

theorem skipNext_unfold (L : PendLaws S len) (c : σ) :
    (skipSrc S len).pollNext c =
      if isPend (S.pollNext c).1 = true ∧ len (S.pollNext c).2 ≠ 0 then (skipSrc S len).pollNext (S.pollNext c).2
      else S.pollNext c :=
  skipPoll_unfold S.pollNext (fun c h1 h2 => (L.next_pend c h1).2.2 h2) c

theorem skipData_unfold (L : PendLaws S len) (c : σ) :
    (skipSrc S len).pollData c =
      if isPend (S.pollData c).1 = true ∧ len (S.pollData c).2 ≠ 0 then (skipSrc S len).pollData (S.pollData c).2
      else S.pollData c :=
  skipPoll_unfold S.pollData (fun c h1 h2 => (L.data_pend c h1).2 h2) c

@[simp] theorem skip_hasData (c : σ) : (skipSrc S len).hasData c = S.hasData c := rfl
@[simp] theorem skip_isEos (c : σ) : (skipSrc S len).isEos c = S.isEos c := rfl

theorem connErr_ne_pending (st : St σ) (c : Nat) : (connErr st c).1 ≠ .pending := by
  unfold connErr; split <;> simp

theorem fsErr_ne_pending (st : St σ) (o : FOut) : (fsErr st o).1 ≠ .pending := by
  cases o <;> simp [fsErr, connErr_ne_pending]

theorem decodeTrailers_ne_pending (H : Hdr) (st : St σ) (enc : Bytes) :
    (decodeTrailers H st enc).1 ≠ .pending := by
  unfold decodeTrailers; split <;> simp [connErr_ne_pending]

theorem headOut_pending (role : Role) (H : Hdr) (st' : St σ) (o : FOut) (h : isPend o = true) :
    headOut role H st' o = (.pending, st') := by
  cases o <;> simp [isPend] at h
  cases role <;> rfl

theorem headOut_ne_pending (role : Role) (H : Hdr) (st' : St σ) (o : FOut) (h : isPend o = false) :
    (headOut role H st' o).1 ≠ .pending := by
  cases role <;> cases o with
  | pending => simp [isPend] at h
  | frame f =>
    cases f with
    | headers enc =>
      simp only [headOut, pollHead, pollResolve, pollRecvResponse, oneSrc]
      cases H.head enc <;> simp [connErr_ne_pending]
    | _ => exact connErr_ne_pending _ _
  | none => simp [headOut, pollHead, pollResolve, pollRecvResponse, oneSrc]
  | _ => exact fsErr_ne_pending _ _

/-- an answer made of `o` is not polled again unless `o` is a `Pending` with more to come -/
theorem not_polled_again {x : Res × St σ} {o : FOut} {c' : σ} (hc : ¬ (isPend o = true ∧ len c' ≠ 0))
    (hsrc : isPend o = true → x.2.src = c') (hne : isPend o = false → x.1 ≠ .pending) :
    ¬ (x.1 = .pending ∧ len x.2.src ≠ 0) := by
  rintro ⟨h1, h2⟩
  cases hp : isPend o with
  | true => exact hc ⟨hp, hsrc hp ▸ h2⟩
  | false => exact hne hp h1

theorem retry_pollHead (L : PendLaws S len) (role : Role) (H : Hdr) : ∀ (K : Nat) (st : St σ), len st.src ≤ K →
    retry len (pollHead role S H) K st = pollHead role (skipSrc S len) H st := by
  intro K
  induction K with
  | zero =>
    intro st h
    have hc : ¬ (isPend (S.pollNext st.src).1 = true ∧ len (S.pollNext st.src).2 ≠ 0) := fun hc => by
      have := L.next_len st.src; omega
    rw [retry, pollHead_eq, pollHead_eq, skipNext_unfold L, if_neg hc]
  | succ K ih =>
    intro st h
    rw [retry]
    by_cases hc : isPend (S.pollNext st.src).1 = true ∧ len (S.pollNext st.src).2 ≠ 0
    · have hp : pollHead role S H st = (.pending, { st with src := (S.pollNext st.src).2 }) := by
        rw [pollHead_eq, headOut_pending _ _ _ _ hc.1]
      have hlt := (L.next_pend _ hc.1).2.2 hc.2
      rw [hp, if_pos ⟨rfl, hc.2⟩, ih _ (by simp only; omega), pollHead_eq,
        pollHead_eq (S := skipSrc S len) (st := st), skipNext_unfold L st.src, if_pos hc]
    · rw [pollHead_eq,
        if_neg (not_polled_again hc (fun _ => (headOut_keeps role H _ _).1) (headOut_ne_pending role H _ _)),
        pollHead_eq (S := skipSrc S len) (st := st), skipNext_unfold L st.src, if_neg hc]

theorem checkOut_pending (H : Hdr) (st' : St σ) (enc : Bytes) (o : FOut) (h : isPend o = true) :
    checkOut H st' enc o = (.pending, { st' with trailers := some enc }) := by
  cases o <;> simp [isPend] at h
  rfl

theorem checkOut_ne_pending (H : Hdr) (st' : St σ) (enc : Bytes) (o : FOut) (h : isPend o = false) :
    (checkOut H st' enc o).1 ≠ .pending := by
  cases o with
  | pending => simp [isPend] at h
  | frame f => exact connErr_ne_pending _ _
  | none => exact decodeTrailers_ne_pending _ _ _
  | data d => simp [checkOut, trailersCheck, oneSrc]
  | _ => exact fsErr_ne_pending _ _

/-- the look behind the trailers, re-polled: the retry finds the saved trailers and repeats the look -/
theorem retry_check (L : PendLaws S len) (H : Hdr) (enc : Bytes) : ∀ (K : Nat) (st : St σ),
    st.trailers = none → len st.src ≤ K →
    (if (trailersCheck S H st enc).1 = .pending ∧ len (trailersCheck S H st enc).2.src ≠ 0
      then retry len (pollRecvTrailers S H) K (trailersCheck S H st enc).2 else trailersCheck S H st enc) =
      trailersCheck (skipSrc S len) H st enc := by
  -- the bound is spent by re-polls only: that case has `K = K' + 1` and the hypothesis at `K'`, the other needs none
  intro K
  induction K using Nat.strongRecOn with
  | _ K ih =>
    intro st ht h
    by_cases hc : isPend (S.pollNext st.src).1 = true ∧ len (S.pollNext st.src).2 ≠ 0
    · have hp : trailersCheck S H st enc =
          (.pending, { st with src := (S.pollNext st.src).2, trailers := some enc }) := by
        rw [trailersCheck_eq, checkOut_pending _ _ _ _ hc.1]
      obtain ⟨_, heos, hlt⟩ := L.next_pend _ hc.1
      have hlt := hlt hc.2
      obtain ⟨K', rfl⟩ : ∃ K', K = K' + 1 := ⟨K - 1, by omega⟩
      rw [hp, if_pos ⟨rfl, hc.2⟩, retry]
      -- the retry: the saved trailers are found, `is_eos` is false, the look is repeated
      have hre : pollRecvTrailers S H { st with src := (S.pollNext st.src).2, trailers := some enc } =
          trailersCheck S H { st with src := (S.pollNext st.src).2 } enc := by
        have : ({ st with src := (S.pollNext st.src).2, trailers := none } : St σ) =
            { st with src := (S.pollNext st.src).2 } := by
          cases st; simp only at ht; subst ht; rfl
        simp only [pollRecvTrailers, trailersTail, heos, this]
        rfl
      rw [hre, ih K' (Nat.lt_succ_self K') { st with src := (S.pollNext st.src).2 } ht (by simp only; omega),
        trailersCheck_eq (S := skipSrc S len), trailersCheck_eq (S := skipSrc S len) (st := st),
        skipNext_unfold L st.src, if_pos hc]
    · -- no `Pending` with more to come: one poll on both sides
      rw [trailersCheck_eq,
        if_neg (not_polled_again hc (fun hp => by rw [checkOut_pending _ _ _ _ hp]) (checkOut_ne_pending H _ enc _)),
        trailersCheck_eq (S := skipSrc S len), skipNext_unfold L, if_neg hc]


theorem retry_tail (L : PendLaws S len) (H : Hdr) (enc : Bytes) (K : Nat) (st : St σ)
    (ht : st.trailers = none) (h : len st.src ≤ K) :
    (if (trailersTail S H st enc).1 = .pending ∧ len (trailersTail S H st enc).2.src ≠ 0
      then retry len (pollRecvTrailers S H) K (trailersTail S H st enc).2 else trailersTail S H st enc) =
      trailersTail (skipSrc S len) H st enc := by
  unfold trailersTail
  rw [skip_isEos]
  by_cases he : S.isEos st.src = true
  · rw [if_pos he, if_pos he, if_neg (fun hc => decodeTrailers_ne_pending H st enc hc.1)]
  · rw [if_neg he, if_neg he]
    exact retry_check L H enc K st ht h

theorem firstStep_pending (H : Hdr) (st : St σ) (h : isPend (S.pollNext st.src).1 = true) :
    trailersFirst S H st = (.pending, { st with src := (S.pollNext st.src).2 }) := by
  unfold trailersFirst
  rcases hp : S.pollNext st.src with ⟨o, c'⟩
  rw [hp] at h
  cases o <;> simp [isPend] at h
  rfl

theorem retry_first (L : PendLaws S len) (H : Hdr) : ∀ (K : Nat) (st : St σ),
    st.trailers = none → len st.src ≤ K →
    (if (trailersFirst S H st).1 = .pending ∧ len (trailersFirst S H st).2.src ≠ 0
      then retry len (pollRecvTrailers S H) K (trailersFirst S H st).2 else trailersFirst S H st) =
      trailersFirst (skipSrc S len) H st := by
  intro K
  induction K using Nat.strongRecOn with
  | _ K ih =>
    intro st ht h
    by_cases hc : isPend (S.pollNext st.src).1 = true ∧ len (S.pollNext st.src).2 ≠ 0
    · have hlt := (L.next_pend _ hc.1).2.2 hc.2
      obtain ⟨K', rfl⟩ : ∃ K', K = K' + 1 := ⟨K - 1, by omega⟩
      rw [firstStep_pending H st hc.1, if_pos ⟨rfl, hc.2⟩, retry]
      rw [pollRecvTrailers_none S H { st with src := (S.pollNext st.src).2 } ht,
        ih K' (Nat.lt_succ_self K') { st with src := (S.pollNext st.src).2 } ht (by simp only; omega)]
      conv => rhs; unfold trailersFirst; rw [skipNext_unfold L, if_pos hc]
      rfl
    · -- no `Pending` with more to come: this call is not polled again; after HEADERS the look behind them may be
      have hlen := L.next_len st.src
      unfold trailersFirst
      rw [skipNext_unfold L, if_neg hc]
      rcases hq : S.pollNext st.src with ⟨o, c'⟩
      rw [hq] at hc hlen
      simp only at hc hlen
      cases o with
      | pending => exact if_neg (fun hx => hc ⟨rfl, hx.2⟩)
      | frame f =>
        cases f with
        | headers enc => exact retry_tail L H enc K { st with src := c' } ht (by simp only; omega)
        | _ => exact if_neg (fun hx => connErr_ne_pending _ _ hx.1)
      | none => exact if_neg (fun hx => by simp at hx)
      | data d => exact if_neg (fun hx => by simp at hx)
      | _ => exact if_neg (fun hx => fsErr_ne_pending _ _ hx.1)

/-- `poll_recv_trailers` polled again while it answers `Pending` = one poll over the waiting frame layer -/
theorem retry_pollRecvTrailers (L : PendLaws S len) (H : Hdr) (K : Nat) (st : St σ) (h : len st.src < K) :
    retry len (pollRecvTrailers S H) K st = pollRecvTrailers (skipSrc S len) H st := by
  obtain ⟨K', rfl⟩ : ∃ K', K = K' + 1 := ⟨K - 1, by omega⟩
  rw [retry]
  cases ht : st.trailers with
  | none =>
    rw [pollRecvTrailers_none S H st ht, pollRecvTrailers_none (skipSrc S len) H st ht]
    exact retry_first L H K' st ht (by omega)
  | some enc =>
    rw [pollRecvTrailers_saved S H st enc ht, pollRecvTrailers_saved (skipSrc S len) H st enc ht]
    exact retry_tail L H enc K' { st with trailers := none } rfl (by simp only; omega)


theorem dataOut_pending (st' : St σ) (o : FOut) (h : isPend o = true) : dataOut st' o = (.pending, st') := by
  cases o <;> simp [isPend] at h
  rfl

theorem dataOut_ne_pending (st' : St σ) (o : FOut) (h : isPend o = false) : (dataOut st' o).1 ≠ .pending := by
  cases o with
  | pending => simp [isPend] at h
  | data d => simp [dataOut]
  | none => simp [dataOut]
  | frame f => simp [dataOut]
  | _ => exact fsErr_ne_pending _ _

theorem nextOut_pending (S : Src σ) (f : Nat) (st' : St σ) (o : FOut) (h : isPend o = true) :
    nextOut S f st' o = (.pending, st') := by
  cases o <;> simp [isPend] at h
  rfl

/-- a `Pending` with more to come does not show in a poll over the waiting frame layer: from the state it
    leaves, the poll answers what it answers from the state before it -/
theorem skip_resume_data (L : PendLaws S len) (f : Nat) (st : St σ) (hd : S.hasData st.src = true)
    (hc : isPend (S.pollData st.src).1 = true ∧ len (S.pollData st.src).2 ≠ 0) :
    pollRecvData (skipSrc S len) (f + 1) { st with src := (S.pollData st.src).2 } =
      pollRecvData (skipSrc S len) (f + 1) st := by
  rw [pollRecvData_has (skipSrc S len) _ st hd, skipData_unfold L st.src, if_pos hc]
  exact pollRecvData_has _ _ _ ((L.data_pend _ hc.1).1.trans hd)

theorem skip_resume_next (L : PendLaws S len) (f : Nat) (st : St σ) (hd : ¬ S.hasData st.src = true)
    (hc : isPend (S.pollNext st.src).1 = true ∧ len (S.pollNext st.src).2 ≠ 0) :
    pollRecvData (skipSrc S len) (f + 1) { st with src := (S.pollNext st.src).2 } =
      pollRecvData (skipSrc S len) (f + 1) st := by
  rw [pollRecvData_no (skipSrc S len) _ st hd, skipNext_unfold L st.src, if_pos hc]
  exact pollRecvData_no _ _ _ (by simp [(L.next_pend _ hc.1).1])

/-- One poll with loop bound `g`, then polled again, each poll with the full bound `N`.  The inner half
    of a double induction: `hrec` is the
    hypothesis of the outer induction on what is still to come (`len … < m`), supplied by
    `retry_pollRecvData`; the induction here is on the loop bound `f` of the waiting side, with the
    bound `g ≥ f` of the first poll free (a round of the loop lowers both). -/
theorem retry_data_core (L : PendLaws S len) (N K m : Nat)
    (hrec : ∀ (st₁ : St σ) (f₁ : Nat), len st₁.src < m → f₁ ≤ N →
      (pollRecvData (skipSrc S len) f₁ st₁).1 ≠ .invalid →
      retry len (pollRecvData S N) K st₁ = pollRecvData (skipSrc S len) f₁ st₁) :
    ∀ (f g : Nat) (st : St σ), len st.src ≤ m → f ≤ g → g ≤ N →
      (pollRecvData (skipSrc S len) f st).1 ≠ .invalid →
      (if (pollRecvData S g st).1 = .pending ∧ len (pollRecvData S g st).2.src ≠ 0
        then retry len (pollRecvData S N) K (pollRecvData S g st).2 else pollRecvData S g st) =
        pollRecvData (skipSrc S len) f st := by
  intro f
  induction f with
  | zero => intro g st _ _ _ h; exact absurd rfl h
  | succ f ih =>
    intro g st hm hfg hgN hni
    obtain ⟨g', rfl⟩ : ∃ g', g = g' + 1 := ⟨g - 1, by omega⟩
    by_cases hd : S.hasData st.src = true
    · rw [pollRecvData_has _ _ _ hd]
      by_cases hc : isPend (S.pollData st.src).1 = true ∧ len (S.pollData st.src).2 ≠ 0
      · have hlt := (L.data_pend _ hc.1).2 hc.2
        have hres := skip_resume_data L f st hd hc
        rw [dataOut_pending _ _ hc.1, if_pos ⟨rfl, hc.2⟩, hrec { st with src := (S.pollData st.src).2 } (f + 1)
          (by simp only; omega) (by omega) (by rw [hres]; exact hni), hres]
      · rw [pollRecvData_has (skipSrc S len) _ _ hd, skipData_unfold L, if_neg hc]
        exact if_neg (not_polled_again hc (fun _ => (dataOut_keeps _ _).1) (dataOut_ne_pending _ _))
    · rw [pollRecvData_no _ _ _ hd]
      by_cases hc : isPend (S.pollNext st.src).1 = true ∧ len (S.pollNext st.src).2 ≠ 0
      · have hlt := (L.next_pend _ hc.1).2.2 hc.2
        have hres := skip_resume_next L f st hd hc
        rw [nextOut_pending _ _ _ _ hc.1, if_pos ⟨rfl, hc.2⟩, hrec { st with src := (S.pollNext st.src).2 } (f + 1)
          (by simp only; omega) (by omega) (by rw [hres]; exact hni), hres]
      · rw [pollRecvData_no (skipSrc S len) _ _ hd, skipNext_unfold L, if_neg hc] at hni ⊢
        have hlen := L.next_len st.src
        rcases hq : S.pollNext st.src with ⟨o, c'⟩
        rw [hq] at hc hni hlen
        simp only at hc hni hlen ⊢
        cases o with
        | frame fr =>
          cases fr with
          | data n => exact ih g' { st with src := c' } (by simp only; omega) (by omega) (by omega) hni
          | headers enc => exact if_neg (fun hx => by simp [nextOut] at hx)
          | _ => exact if_neg (fun hx => connErr_ne_pending _ _ hx.1)
        | pending => exact if_neg (fun hx => hc ⟨rfl, hx.2⟩)
        | none => exact if_neg (fun hx => by simp [nextOut] at hx)
        | data d => exact if_neg (fun hx => by simp [nextOut] at hx)
        | _ => exact if_neg (fun hx => fsErr_ne_pending _ _ hx.1)

/-- `poll_recv_data` polled again while it answers `Pending` = one poll over the waiting frame
    layer (whenever the latter's loop bound `f ≤ N` suffices) -/
theorem retry_pollRecvData (L : PendLaws S len) (N : Nat) : ∀ (m K : Nat) (st : St σ) (f : Nat),
    len st.src ≤ m → m < K → f ≤ N → (pollRecvData (skipSrc S len) f st).1 ≠ .invalid →
    retry len (pollRecvData S N) K st = pollRecvData (skipSrc S len) f st := by
  intro m
  induction m using Nat.strongRecOn with
  | _ m ih =>
    intro K st f hm hK hf hni
    obtain ⟨K', rfl⟩ : ∃ K', K = K' + 1 := ⟨K - 1, by omega⟩
    rw [retry]
    exact retry_data_core L N K' m
      (fun st₁ f₁ h1 h2 h3 => ih _ h1 K' st₁ f₁ (Nat.le_refl _) (by omega) h2 h3) f N st hm hf (Nat.le_refl _) hni


theorem skipPoll_len (poll : σ → FOut × σ) (hle : ∀ c, len (poll c).2 ≤ len c) :
    ∀ (k : Nat) (c : σ), len (skipPoll len poll k c).2 ≤ len c := by
  intro k
  induction k with
  | zero => intro c; exact hle c
  | succ k ih =>
    intro c
    rw [skipPoll]
    split
    · exact Nat.le_trans (ih _) (hle c)
    · exact hle c

theorem skip_next_len (L : PendLaws S len) (c : σ) : len ((skipSrc S len).pollNext c).2 ≤ len c :=
  skipPoll_len S.pollNext L.next_len _ c

theorem skip_data_len (L : PendLaws S len) (c : σ) : len ((skipSrc S len).pollData c).2 ≤ len c :=
  skipPoll_len S.pollData L.data_len _ c

section Len
variable {S' : Src σ} (hn : ∀ c, len (S'.pollNext c).2 ≤ len c) (hdl : ∀ c, len (S'.pollData c).2 ≤ len c)
include hn hdl

theorem pollRecvData_len : ∀ (f : Nat) (st : St σ), len (pollRecvData S' f st).2.src ≤ len st.src := by
  intro f
  induction f with
  | zero => intro st; exact Nat.le_refl _
  | succ f ih =>
    intro st
    by_cases hd : S'.hasData st.src = true
    · rw [pollRecvData_has _ _ _ hd, (dataOut_keeps _ _).1]
      exact hdl _
    · rw [pollRecvData_no _ _ _ hd]
      have h1 := hn st.src
      rcases hq : S'.pollNext st.src with ⟨o, c'⟩
      rw [hq] at h1
      simp only at h1 ⊢
      cases o with
      | frame fr =>
        cases fr with
        | data n => exact Nat.le_trans (ih _) h1
        | headers enc => exact h1
        | _ => simp only [nextOut]; rw [(connErr_keeps _ _).1]; exact h1
      | none => exact h1
      | pending => exact h1
      | data d => exact h1
      | _ => simp only [nextOut]; rw [(fsErr_keeps _ _).1]; exact h1

omit hdl in
theorem pollHead_len (role : Role) (H : Hdr) (st : St σ) : len (pollHead role S' H st).2.src ≤ len st.src := by
  rw [pollHead_eq, (headOut_keeps _ _ _ _).1]
  exact hn _

theorem drain_len : ∀ (fuel : Nat) (st : St σ), len (drain S' fuel st).2.src ≤ len st.src := by
  intro fuel
  induction fuel with
  | zero => intro st; exact Nat.le_refl _
  | succ f ih =>
    intro st
    have h1 := pollRecvData_len hn hdl (f + 1) st
    rw [drain]
    rcases hq : pollRecvData S' (f + 1) st with ⟨r, st'⟩
    rw [hq] at h1
    cases r with
    | data d => exact Nat.le_trans (ih st') h1
    | _ => exact h1

end Len

/-- `recv_data` — polled again while it answers `Pending` — until it answers something else than data -/
def drainR (S : Src σ) (len : σ → Nat) (N K : Nat) : Nat → St σ → List Res × St σ
  | 0, st => ([.invalid], st)
  | fuel+1, st =>
    let (r, st') := retry len (pollRecvData S N) K st
    match r with
    | .data d =>
      let (rs, st'') := drainR S len N K fuel st'
      (.data d :: rs, st'')
    | r => ([r], st')

def bodyRunR (S : Src σ) (len : σ → Nat) (H : Hdr) (N K fuel : Nat) (st : St σ) : List Res × Option Res × Env :=
  let (rs, st2) := drainR S len N K fuel st
  if rs.getLast? = some .end_ then
    let (t, st3) := retry len (pollRecvTrailers S H) K st2
    (rs, some t, st3.env)
  else (rs, none, st2.env)

/-- The documented call pattern, every call polled again while it answers `Pending` and more is to
    come: `resolve_request` / `recv_response`; `recv_data` until it answers `None` or fails;
    `recv_trailers` after a clean end of the body.  `N` bounds the `while !has_data` loop of one
    poll of `poll_recv_data`, `K` the number of polls of one call, `fuel` the number of `recv_data`
    calls; a `Pending` in the trace is the last word: nothing more will arrive. -/
def documentedR (role : Role) (S : Src σ) (len : σ → Nat) (H : Hdr) (N K fuel : Nat) (st : St σ) : Trace :=
  let (h, st1) := retry len (pollHead role S H) K st
  match h with
  | .head _ =>
    let (rs, t, env) := bodyRunR S len H N K fuel st1
    { head := h, body := rs, trailers := t, env := env }
  | _ => { head := h, env := st1.env }

theorem drainR_eq (L : PendLaws S len) (N K : Nat) : ∀ (fuel : Nat) (st : St σ), len st.src < K → fuel ≤ N →
    (∀ r ∈ (drain (skipSrc S len) fuel st).1, r ≠ .invalid) →
    drainR S len N K fuel st = drain (skipSrc S len) fuel st := by
  intro fuel
  induction fuel with
  | zero => intro st _ _ _; rfl
  | succ f ih =>
    intro st hK hN hni
    have hlen := pollRecvData_len (len := len) (skip_next_len L) (skip_data_len L) (f + 1) st
    rw [drain] at hni
    rw [drainR, drain]
    have hfirst : (pollRecvData (skipSrc S len) (f + 1) st).1 ≠ .invalid := by
      intro hc
      rcases hq : pollRecvData (skipSrc S len) (f + 1) st with ⟨r, st'⟩
      rw [hq] at hni hc
      simp only at hc
      subst hc
      exact hni .invalid (by simp) rfl
    rw [retry_pollRecvData L N (len st.src) K st (f + 1) (Nat.le_refl _) hK hN hfirst]
    rcases hq : pollRecvData (skipSrc S len) (f + 1) st with ⟨r, st'⟩
    rw [hq] at hni hlen
    simp only at hlen
    cases r with
    | data d =>
      simp only at hni ⊢
      rw [ih st' (by omega) (by omega) (fun r hr => hni r (by simp [hr]))]
    | _ => rfl

/-- **Re-polling = waiting frame layer.**  The documented pattern with every call polled again while
    it answers `Pending` is the one-poll-per-call pattern over the frame layer that waits out the
    `Pending` answers — provided the loop bounds of the latter run suffice (no `invalid` in its body). -/
theorem documentedR_eq (L : PendLaws S len) (role : Role) (H : Hdr) (N K fuel : Nat) (st : St σ)
    (hK : len st.src < K) (hN : fuel ≤ N)
    (hni : ∀ r ∈ (documented role (skipSrc S len) H fuel st).body, r ≠ .invalid) :
    documentedR role S len H N K fuel st = documented role (skipSrc S len) H fuel st := by
  have hlen1 := pollHead_len (len := len) (skip_next_len L) role H st
  unfold documentedR documented at *
  rw [retry_pollHead L role H K st (by omega)]
  rcases hq : pollHead role (skipSrc S len) H st with ⟨h, st1⟩
  rw [hq] at hni hlen1
  simp only at hlen1
  cases h with
  | head b =>
    simp only [bodyRunR, bodyRun] at hni ⊢
    have hni' : ∀ r ∈ (drain (skipSrc S len) fuel st1).1, r ≠ .invalid := by
      intro r hr
      apply hni r
      split <;> exact hr
    have hlen2 := drain_len (len := len) (skip_next_len L) (skip_data_len L) fuel st1
    rw [drainR_eq L N K fuel st1 (by omega) hN hni']
    rcases hd : drain (skipSrc S len) fuel st1 with ⟨rs, st2⟩
    rw [hd] at hlen2
    simp only at hlen2 ⊢
    rw [retry_pollRecvTrailers L H K st2 (by omega)]
  | _ => rfl

end Generic
end H3.ReqRecv
