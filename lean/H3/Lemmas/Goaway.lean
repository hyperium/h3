import H3.Model.Goaway
import H3.Spec.Goaway
import H3.Lemmas.StreamId
/-! `H3.Goaway.step` against the observable history of `H3.Spec.Goaway`, for `H3.Props.C08`.  Server: carried
by the closed form of the identifier `shutdown` announces and by the case principle `step_cases` (most
branches of `step` are quiet).  Client: the model's control loop against the oracle's fold (`absClient`).
Then when `acceptLoop` answers `None`, and `ongoing` against the oracle's `inProgress`.
`H3.Props.C08.arrivals` stands at the end, under its own name: the property file states its theorems with
it, and `H3.Lemmas.GoawayQueue` (which imports this file, not the property file) needs it first. -/
namespace H3.Lemmas.Goaway
open H3.Goaway H3.Spec.Goaway H3.StreamId

def pushAll (h : Hist) (os : List Obs) : Hist := os.foldl Hist.push h

theorem pushAll_append (h : Hist) (a b : List Obs) : pushAll h (a ++ b) = pushAll (pushAll h a) b := by
  simp [pushAll, List.foldl_append]

theorem valid_append (strict : Bool) (a b : List Obs) : ∀ h : Hist,
    valid strict h (a ++ b) = (valid strict h a && valid strict (pushAll h a) b) := by
  induction a with
  | nil => intro h; simp [valid, pushAll]
  | cons o r ih => intro h; simp [valid, pushAll, ih, Bool.and_assoc]

theorem outcomes_append (a b : List Obs) : outcomes (a ++ b) = outcomes a ++ outcomes b := by
  induction a with
  | nil => rfl
  | cons o r ih => cases o <;> simp only [List.cons_append, outcomes, ih]

theorem surfacedIn_append (a b : List Obs) : surfacedIn (a ++ b) = surfacedIn a ++ surfacedIn b := by
  induction a with
  | nil => rfl
  | cons o r ih => cases o <;> simp only [List.cons_append, surfacedIn, ih]

theorem min_add_min (a b : Nat) {U V : Nat} (h : V ≤ U) : min (a + min b U) V = min (a + b) V := by
  rcases Nat.le_total b U with hb | hb
  · rw [Nat.min_eq_left hb]
  · rw [Nat.min_eq_right hb, Nat.min_eq_right (Nat.le_trans h (Nat.le_add_left U a)),
      Nat.min_eq_right (Nat.le_trans h (Nat.le_trans hb (Nat.le_add_left b a)))]

/-- the `usize` saturation of `n + 1` lies beyond the saturation of the index: one `min` is left. -/
theorem shutdownId_eq (l : Option Nat) (n : Nat) :
    shutdownId l n = match l with
      | some L => 4 * min (L / 4 + n + 1) (2^60 - 1) + L % 4
      | none => 4 * min n (2^60 - 1) := by
  cases l with
  | none => simp only [shutdownId, add_eq, FIRST_REQUEST, Nat.zero_div, Nat.zero_add, Nat.zero_mod, Nat.add_zero]
  | some L => simp only [shutdownId, add_eq, succSat, U64MAX, min_add_min _ _ (by decide : 2^60 - 1 ≤ 2^64 - 1), Nat.add_assoc]

theorem shutdownId_valid (l : Option Nat) (n : Nat) (hl : ∀ L, l = some L → L % 4 = 0) :
    clientBidi (shutdownId l n) = true := by
  have key : ∀ m, clientBidi (4 * min m (2^60 - 1)) = true := fun m => by
    simp only [clientBidi, Bool.and_eq_true, beq_iff_eq, decide_eq_true_eq]
    exact ⟨Nat.mul_mod_right 4 _, Nat.lt_of_le_of_lt (Nat.mul_le_mul_left 4 (Nat.min_le_right _ _)) (by decide)⟩
  rw [shutdownId_eq]
  cases l with
  | none => exact key n
  | some L => simp only [hl L rfl, Nat.add_zero]; exact key _

theorem shutdownId_none (n : Nat) (hb : n ≤ 2^60 - 1) : shutdownId none n = 4 * n := by
  rw [shutdownId_eq]; simp only [Nat.min_eq_left hb]

structure Same (s' s : State) : Prop where
  sent : s'.sentClosing = s.sentClosing
  largest : s'.largest = s.largest
  incoming : s'.incoming = s.incoming
  ongoing : s'.ongoing = s.ongoing

theorem Same.refl (s : State) : Same s s := ⟨rfl, rfl, rfl, rfl⟩

theorem Same.trans {a b c : State} (h1 : Same a b) (h2 : Same b c) : Same a c :=
  ⟨h1.sent.trans h2.sent, h1.largest.trans h2.largest, h1.incoming.trans h2.incoming, h1.ongoing.trans h2.ongoing⟩

theorem processGoaway_same (s : State) (id : Nat) : Same (processGoaway s id) s := by
  unfold processGoaway
  split <;> exact ⟨rfl, rfl, rfl, rfl⟩

theorem procCtlServer_same (l : List Nat) : ∀ s : State, Same (procCtlServer s l) s := by
  induction l with
  | nil => intro s; exact ⟨rfl, rfl, rfl, rfl⟩
  | cons id rest ih =>
    intro s
    simp only [procCtlServer]
    split
    · have h := processGoaway_same s id; exact ⟨h.sent, h.largest, h.incoming, h.ongoing⟩
    · exact (ih _).trans (processGoaway_same s id)

theorem procCtlClient_same (l : List Nat) : ∀ s : State, Same (procCtlClient s l) s := by
  induction l with
  | nil => intro s; exact ⟨rfl, rfl, rfl, rfl⟩
  | cons id rest ih =>
    intro s
    simp only [procCtlClient]
    split
    · split
      · have h := processGoaway_same s id; exact ⟨h.sent, h.largest, h.incoming, h.ongoing⟩
      · exact (ih _).trans (processGoaway_same s id)
    · exact ⟨rfl, rfl, rfl, rfl⟩

theorem shutdown_eq (s : State) (n : Nat) :
    (shutdown s n = (s, []) ∧ ∃ g, s.sentClosing = some g ∧ g ≤ shutdownId s.largest n) ∨
    (shutdown s n = ({ s with sentClosing := some (shutdownId s.largest n), closing := true },
        [.goaway (shutdownId s.largest n)]) ∧ ∀ g, s.sentClosing = some g → shutdownId s.largest n < g) := by
  unfold shutdown keepsPrevious
  cases s.sentClosing with
  | none => exact .inr ⟨rfl, fun g hg => by cases hg⟩
  | some g =>
    by_cases hle : g ≤ shutdownId s.largest n
    · exact .inl ⟨by simp only [hle, decide_true, if_true], g, rfl, hle⟩
    · refine .inr ⟨by simp only [hle, decide_false, Bool.false_eq_true, if_false], fun g' hg' => ?_⟩
      cases hg'; exact Nat.lt_of_not_le hle

def quiet : Obs → Bool
  | .acceptErr | .shutdownErr | .idError | .drvPending | .opened _ | .remoteClosing | .unused _ | .served _
  | .acceptPending => true
  | _ => false

theorem quiet_obs {os : List Obs} (hq : os.all quiet = true) (b : Bool) (h : Hist) :
    pushAll h os = h ∧ valid b h os = true ∧ validQ h os = true ∧ outcomes os = [] ∧ surfacedIn os = [] ∧
    Obs.acceptNone ∉ os := by
  induction os with
  | nil => exact ⟨rfl, rfl, rfl, rfl, rfl, List.not_mem_nil⟩
  | cons o r ih =>
    rw [List.all_cons, Bool.and_eq_true] at hq
    obtain ⟨i1, i2, i3, i4, i5, i6⟩ := ih hq.2
    have ho := hq.1
    have one : h.push o = h ∧ okObs b h o = true ∧ okQueue h o = true ∧ outcomes (o :: r) = outcomes r ∧
        surfacedIn (o :: r) = surfacedIn r ∧ o ≠ .acceptNone := by
      cases o <;> first | exact absurd ho Bool.false_ne_true | exact ⟨rfl, rfl, rfl, rfl, rfl, nofun⟩
    obtain ⟨o1, o2, o3, o4, o5, o6⟩ := one
    refine ⟨?_, ?_, ?_, o4.trans i4, o5.trans i5, ?_⟩
    · rw [pushAll, List.foldl_cons, o1]; exact i1
    · rw [valid, o1, o2, i2]; rfl
    · rw [validQ, o1, o3, i3]; rfl
    · intro hm
      rcases List.mem_cons.mp hm with rfl | hm
      · exact o6 rfl
      · exact i6 hm

-- the events that can end in the branch `other` of `step_cases` (`accept` only through its error exit)
def passive : Ev → Bool
  | .arrive _ | .complete _ | .shutdown _ => false
  | _ => true

theorem accept_cases {s : State} {C : State × List Obs → Prop}
    (err : ∀ s', Same s' s → C (s', [.acceptErr]))
    (loop : ∀ s1, Same s1 s → C (acceptLoop false s1 s1.incoming)) : C (accept s) := by
  simp only [accept]
  split
  · exact err s (Same.refl s)
  · split
    · exact err _ (procCtlServer_same _ _)
    · exact loop _ (procCtlServer_same _ _)

/-- `other`: `accept` reporting the connection error, and everything the client side does. -/
theorem step_cases {s : State} {C : Ev → State × List Obs → Prop}
    (arrive : ∀ id, C (.arrive id) ({ s with incoming := s.incoming ++ [id] }, []))
    (complete : ∀ id, C (.complete id) ({ s with ongoing := s.ongoing.filter (· != id) }, []))
    (accept : ∀ s1, Same s1 s → C .accept (acceptLoop false s1 s1.incoming))
    (shutdown : ∀ n, C (.shutdown n) ((shutdown s n).1, (shutdown s n).2 ++ [.shutdownOk]))
    (shutdownErr : ∀ n, C (.shutdown n) (s, [.shutdownErr]))
    (other : ∀ e s' os, passive e = true → Same s' s → os.all quiet = true → C e (s', os))
    (e : Ev) : C e (step s e) := by
  have sm := Same.refl s
  cases e with
  | arrive id => exact arrive id
  | complete id => exact complete id
  | shutdown n =>
    simp only [step]
    split
    · exact shutdownErr n
    · exact shutdown n
  | accept => exact accept_cases (fun s' e => other _ _ _ rfl e rfl) accept
  | recvGoaway id => exact other _ _ _ rfl ⟨rfl, rfl, rfl, rfl⟩ rfl
  | pollClose =>
    simp only [step, pollClose]
    split
    · exact other _ _ _ rfl sm rfl
    · split <;> exact other _ _ _ rfl (procCtlClient_same _ _) rfl
  | sendCall =>
    simp only [step, sendCall]
    split
    · exact other _ _ _ rfl sm rfl
    · exact other _ _ _ rfl ⟨rfl, rfl, rfl, rfl⟩ rfl
  | sendOpened =>
    simp only [step, sendOpened]
    split
    · exact other _ _ _ rfl sm rfl
    · split <;> exact other _ _ _ rfl ⟨rfl, rfl, rfl, rfl⟩ rfl
  | resolve id =>
    simp only [step]
    split <;> exact other _ _ _ rfl sm rfl

/-- state against observable history; `P` is what is known of every stream ID the transport
    delivers. -/
structure GInv (P : Nat → Prop) (s : State) (h : Hist) : Prop where
  sent_eq : h.sent.head? = s.sentClosing
  sent_min : ∀ g, s.sentClosing = some g → ∀ p ∈ h.sent, g ≤ p
  surf_le : ∀ i ∈ h.surfaced, ∃ L, s.largest = some L ∧ i ≤ L
  largest_ok : ∀ L, s.largest = some L → P L
  incoming_ok : ∀ id ∈ s.incoming, P id

theorem ginv_init (P : Nat → Prop) : GInv P {} {} := by
  constructor <;> simp

theorem mustReject_eq (h : Hist) (i : Nat) : mustReject h i = rejects (lastSent h) i := by
  unfold mustReject rejects
  cases lastSent h <;> rfl

/-- `P` is what is known of every arriving stream ID, `Q` of every `shutdown` count.  `above` is the one
    clause that fails where the identifier space saturates: it is asked for only in the strict reading
    (for `noRetract`). -/
structure Hyp (strict : Bool) (P Q : Nat → Prop) : Prop where
  req : ∀ id, P id → id % 4 = 0
  zero : Q 0
  above : strict = true → ∀ L n, P L → Q n → L < shutdownId (some L) n

theorem maxOpt_cases (l : Option Nat) (id : Nat) : maxOpt l id = id ∨ l = some (maxOpt l id) := by
  cases l with
  | none => exact .inl rfl
  | some L =>
    rcases Nat.le_total L id with h | h
    · exact .inl (Nat.max_eq_right h)
    · exact .inr (congrArg some (Nat.max_eq_left h).symm)

theorem GInv.same {P : Nat → Prop} {s s' : State} {h : Hist} (hi : GInv P s h) (e : Same s' s) : GInv P s' h :=
  ⟨by rw [e.sent]; exact hi.sent_eq, by rw [e.sent]; exact hi.sent_min, by rw [e.largest]; exact hi.surf_le,
    by rw [e.largest]; exact hi.largest_ok, by rw [e.incoming]; exact hi.incoming_ok⟩

theorem shutdown_frame (s : State) (n : Nat) :
    (shutdown s n).1.largest = s.largest ∧ (shutdown s n).1.incoming = s.incoming ∧
    (shutdown s n).1.ongoing = s.ongoing ∧ outcomes (shutdown s n).2 = [] ∧ surfacedIn (shutdown s n).2 = [] ∧
    Obs.acceptNone ∉ (shutdown s n).2 := by
  rcases shutdown_eq s n with ⟨h, _⟩ | ⟨h, _⟩ <;> rw [h] <;> simp [outcomes, surfacedIn]

theorem acceptNone_frame (s : State) :
    (acceptNone s).1.incoming = s.incoming ∧ (acceptNone s).1.ongoing = s.ongoing ∧
    outcomes (acceptNone s).2 = [] ∧ surfacedIn (acceptNone s).2 = [] ∧ Obs.acceptNone ∈ (acceptNone s).2 := by
  obtain ⟨_, h2, h3, h4, h5, _⟩ := shutdown_frame s 0
  refine ⟨h2, h3, ?_, ?_, by simp [acceptNone]⟩
  · rw [acceptNone, outcomes_append, h4]; rfl
  · rw [acceptNone, surfacedIn_append, h5]; rfl

section
variable {strict : Bool} {P Q : Nat → Prop} (H : Hyp strict P Q)
include H

theorem shutdown_ok (s : State) (h : Hist) (n : Nat) (hn : Q n) (hi : GInv P s h) :
    valid strict h (shutdown s n).2 = true ∧ GInv P (shutdown s n).1 (pushAll h (shutdown s n).2) := by
  rcases shutdown_eq s n with ⟨e, _⟩ | ⟨e, hlt⟩
  · rw [e]; exact ⟨rfl, hi⟩
  · rw [e]
    have hle : ∀ p ∈ h.sent, shutdownId s.largest n ≤ p := by
      intro p hp
      cases hs : s.sentClosing with
      | none =>
        have := hi.sent_eq
        rw [hs, List.head?_eq_none_iff] at this
        rw [this] at hp; cases hp
      | some g => exact Nat.le_trans (Nat.le_of_lt (hlt g hs)) (hi.sent_min g hs p hp)
    refine ⟨?_, ⟨rfl, ?_, hi.surf_le, hi.largest_ok, hi.incoming_ok⟩⟩
    · have hvalid : clientBidi (shutdownId s.largest n) = true :=
        shutdownId_valid _ _ (fun L hL => H.req L (hi.largest_ok L hL))
      simp only [valid, okObs, okGoaway, Bool.and_true, Bool.and_eq_true, hvalid, true_and]
      refine ⟨by simpa using hle, ?_⟩
      cases hst : strict with
      | false => rfl
      | true =>
        simp only [Bool.not_true, Bool.false_or, noRetract, List.all_eq_true, decide_eq_true_eq]
        intro i hi'
        obtain ⟨L, hL, hiL⟩ := hi.surf_le i hi'
        have := H.above hst L n (hi.largest_ok L hL) hn
        rw [hL]
        omega
    · intro g hg p hp
      cases hg
      rcases List.mem_cons.mp hp with rfl | hp
      · exact Nat.le_refl _
      · exact hle p hp

theorem acceptLoop_ok (refused : Bool) (s : State) (l : List Nat) : ∀ (h : Hist), GInv P s h → (∀ id ∈ l, P id) →
    valid strict h (acceptLoop refused s l).2 = true ∧
    GInv P (acceptLoop refused s l).1 (pushAll h (acceptLoop refused s l).2) ∧
    outcomes (acceptLoop refused s l).2 ++ (acceptLoop refused s l).1.incoming = l := by
  -- the cases of `acceptLoop`: 1 queue empty and drained (`None`), 2 queue empty (pending), 3 head refused, 4 head shown
  fun_induction acceptLoop refused s l with
  | case1 refused s0 _ =>
    intro h hi _
    have hi0 : GInv P s0 h := ⟨hi.sent_eq, hi.sent_min, hi.surf_le, hi.largest_ok, by simp [s0]⟩
    obtain ⟨h1, h2⟩ := shutdown_ok H s0 h 0 H.zero hi0
    obtain ⟨f1, _, f3, _⟩ := acceptNone_frame s0
    exact ⟨by rw [acceptNone, valid_append, h1]; rfl, by rw [acceptNone, pushAll_append]; exact h2, by rw [f1, f3]; rfl⟩
  | case2 refused s0 _ =>
    intro h hi _
    exact ⟨rfl, ⟨hi.sent_eq, hi.sent_min, hi.surf_le, hi.largest_ok, by simp [s0]⟩, rfl⟩
  | case3 refused id rest hrj r ih =>
    intro h hi hl
    have hok : okObs strict h (.rejected id) = true := by
      simp only [okObs, mustReject_eq, lastSent, hi.sent_eq, hrj]
    -- `GInv` does not read the refusals
    obtain ⟨h1, h2, h3⟩ := ih (h.push (.rejected id))
      ⟨hi.sent_eq, hi.sent_min, hi.surf_le, hi.largest_ok, hi.incoming_ok⟩ (fun j hj => hl j (List.mem_cons_of_mem _ hj))
    exact ⟨by simp only [valid, hok, Bool.true_and]; exact h1, h2, congrArg (id :: ·) h3⟩
  | case4 refused id rest hrj =>
    intro h hi hl
    have hrj' : rejects s.sentClosing id = false := by simpa using hrj
    refine ⟨?_, ⟨hi.sent_eq, hi.sent_min, ?_, ?_, fun j hj => hl j (List.mem_cons_of_mem _ hj)⟩, rfl⟩
    · simp only [valid, okObs, mustReject_eq, lastSent, hi.sent_eq, hrj', Bool.not_false, Bool.and_self]
    · intro i hi'
      refine ⟨maxOpt s.largest id, rfl, ?_⟩
      rcases List.mem_cons.mp hi' with rfl | hi'
      · unfold maxOpt; cases s.largest <;> simp <;> omega
      · obtain ⟨L, hL, hiL⟩ := hi.surf_le i hi'
        simp only [maxOpt, hL]
        omega
    · intro L hL
      cases hL
      rcases maxOpt_cases s.largest id with h | h
      · rw [h]; exact hl id List.mem_cons_self
      · exact hi.largest_ok _ h

end

def absClient (s : State) : Client := ⟨s.recvClosing, s.failed, s.closing⟩

theorem clientStep_cases (c : Client) (id : Nat) (hc : c.err = false) :
    (clientBad c.prev id = true ∧ clientStep c id = { c with err := true }) ∨
    (clientBad c.prev id = false ∧ clientStep c id = { c with prev := some id, stopped := true }) := by
  unfold clientStep
  rw [hc]
  cases clientBad c.prev id
  · exact .inr ⟨rfl, rfl⟩
  · exact .inl ⟨rfl, rfl⟩

theorem clientStep_err (l : List Nat) : ∀ c : Client, c.err = true → l.foldl clientStep c = c := by
  induction l with
  | nil => intro c _; rfl
  | cons id r ih =>
    intro c h
    have : clientStep c id = c := by simp [clientStep, h]
    simp only [List.foldl, this]
    exact ih c h

theorem clientStep_stopped (l : List Nat) : ∀ c : Client, c.stopped = true → (l.foldl clientStep c).stopped = true := by
  induction l with
  | nil => intro c h; exact h
  | cons id r ih =>
    intro c h
    simp only [List.foldl]
    apply ih
    unfold clientStep
    split
    · exact h
    · split <;> simp [h]

theorem clientBidi_eq {id : Nat} (hid : id < 2^62) : clientBidi id = isRequest id := by
  rw [Bool.eq_iff_iff, isRequest_iff]
  simp [clientBidi, hid]

theorem procCtlClient_abs (l : List Nat) : ∀ s : State, s.failed = false → (∀ id ∈ l, id < 2^62) →
    absClient (procCtlClient s l) = l.foldl clientStep (absClient s) ∧
    ((procCtlClient s l).failed = false → (procCtlClient s l).ctl = []) := by
  induction l with
  | nil => intro s _ _; exact ⟨rfl, fun _ => rfl⟩
  | cons id rest ih =>
    intro s hf hl
    have hid : id < 2^62 := hl id List.mem_cons_self
    have hbad : clientBad (absClient s).prev id = (!isRequest id || largerThanBefore s.recvClosing id) := by
      unfold clientBad; rw [clientBidi_eq hid]; rfl
    -- an error: the oracle's fold stops where the model's loop does
    have stop : ∀ u : State, absClient u = { absClient s with err := true } → u.failed = true →
        clientStep (absClient s) id = { absClient s with err := true } →
        absClient u = (id :: rest).foldl clientStep (absClient s) ∧ (u.failed = false → u.ctl = []) :=
      fun u hu huf hs => ⟨by rw [List.foldl_cons, hs, clientStep_err rest _ rfl, hu], fun h => by rw [huf] at h; cases h⟩
    simp only [procCtlClient]
    rcases clientStep_cases (absClient s) id hf with ⟨hb, hs⟩ | ⟨hb, hs⟩ <;> rw [hbad] at hb
    · by_cases hr : isRequest id = true
      · have hlb : largerThanBefore s.recvClosing id = true := by simpa [hr] using hb
        simp only [hr, if_true, processGoaway, hlb]
        exact stop _ rfl rfl hs
      · simp only [hr, Bool.false_eq_true, if_false]
        exact stop _ rfl rfl hs
    · rw [Bool.or_eq_false_iff, Bool.not_eq_false'] at hb
      have hp : processGoaway s id = { s with recvClosing := some id, closing := true } := by
        simp only [processGoaway, hb.2, Bool.false_eq_true, if_false]
      have hpf : (processGoaway s id).failed = false := by rw [hp]; exact hf
      simp only [hb.1, if_true, hpf, Bool.false_eq_true, if_false, List.foldl_cons, hs]
      rw [hp]
      exact ih _ hf (fun j hj => hl j (List.mem_cons_of_mem _ hj))

theorem clientBad_eq_false (prev : Option Nat) (id : Nat) :
    clientBad prev id = false ↔ clientBidi id = true ∧ ∀ p, prev = some p → id ≤ p := by
  cases prev <;> simp [clientBad]

theorem clientFold_ok (ids : List Nat) : ∀ c : Client, c.err = false →
    ((ids.foldl clientStep c).err = false ↔
      (∀ id ∈ ids, clientBidi id = true) ∧ ids.Pairwise (fun a b => b ≤ a) ∧
      (∀ p, c.prev = some p → ∀ id ∈ ids, id ≤ p)) := by
  induction ids with
  | nil => intro c hc; simp [hc]
  | cons id r ih =>
    intro c hc
    have hbad := clientBad_eq_false c.prev id
    simp only [List.foldl, List.mem_cons, forall_eq_or_imp, List.pairwise_cons]
    rcases clientStep_cases c id hc with ⟨hb, hs⟩ | ⟨hb, hs⟩
    · -- `id` is refused and the error stays; the right side would make `id` acceptable
      rw [hs, clientStep_err r _ rfl]
      refine iff_of_false (by simp) (fun ⟨h1, _, h3⟩ => ?_)
      rw [hbad.mpr ⟨h1.1, fun p hp => (h3 p hp).1⟩] at hb
      cases hb
    · -- `id` is accepted and becomes `prev`: the rest is below `id`, and `id` below the old `prev`
      obtain ⟨hbidi, hprev⟩ := hbad.mp hb
      rw [hs, ih { c with prev := some id, stopped := true } hc]
      simp only [Option.some.injEq, forall_eq']
      constructor
      · rintro ⟨h1, h2, h3⟩
        exact ⟨⟨hbidi, h1⟩, ⟨h3, h2⟩, fun p hp => ⟨hprev p hp, fun x hx => Nat.le_trans (h3 x hx) (hprev p hp)⟩⟩
      · rintro ⟨⟨_, h1⟩, ⟨h3, h2⟩, _⟩
        exact ⟨h1, h2, h3⟩

theorem feed_prefix (more : List Ev) : ∀ st : List Nat × List Nat, ∃ y, (more.foldl feed st).1 = st.1 ++ y := by
  induction more with
  | nil => intro st; exact ⟨[], by simp⟩
  | cons e r ih =>
    intro st
    obtain ⟨y, hy⟩ := ih (feed st e)
    simp only [List.foldl]
    cases e with
    | pollClose => exact ⟨st.2 ++ y, by rw [hy]; simp [feed]⟩
    | _ => exact ⟨y, by rw [hy]; simp [feed]⟩

theorem acceptLoop_ongoing (q : List Nat) : ∀ (refused : Bool) (s : State),
    (acceptLoop refused s q).1.ongoing = surfacedIn (acceptLoop refused s q).2 ++ s.ongoing := by
  intro refused s
  fun_induction acceptLoop refused s q with
  | case1 refused s0 _ =>
    obtain ⟨_, h2, _, h4, _⟩ := acceptNone_frame s0
    rw [h2, h4]; rfl
  | case2 => rfl
  | case3 refused id rest _ r ih => exact ih
  | case4 => rfl

theorem drained_iff (refused : Bool) (s : State) :
    drained refused s = true ↔ s.ongoing = [] ∧ (refused = true ∨ s.recvClosing.isSome = true) := by
  simp only [drained, Bool.and_eq_true, Bool.or_eq_true, List.isEmpty_iff, and_comm]

theorem acceptLoop_none_iff (q : List Nat) : ∀ (refused : Bool) (s : State),
    Obs.acceptNone ∈ (acceptLoop refused s q).2 ↔
      s.ongoing = [] ∧ (∀ id ∈ q, rejects s.sentClosing id = true) ∧
      (refused = true ∨ q ≠ [] ∨ s.recvClosing.isSome = true) := by
  intro refused s
  fun_induction acceptLoop refused s q with
  | case1 refused s0 hd =>
    obtain ⟨h1, h2⟩ := (drained_iff refused s0).mp hd
    exact iff_of_true (acceptNone_frame s0).2.2.2.2 ⟨h1, nofun, h2.imp_right .inr⟩
  | case2 refused s0 hd =>
    refine iff_of_false (by simp) fun ⟨h1, _, h2⟩ => hd ((drained_iff refused s0).mpr ⟨h1, h2.imp_right ?_⟩)
    exact fun h => h.resolve_left (· rfl)
  | case3 refused id rest hr r ih =>
    -- the head is refused: the rest runs with `refused` set, and the queue was not empty
    simp only [List.mem_cons, reduceCtorEq, false_or]
    rw [ih]
    simp only [forall_eq_or_imp, hr, true_and, true_or, and_true, ne_eq, reduceCtorEq, not_false_eq_true, or_true]
  | case4 refused id rest hr =>
    exact iff_of_false (by simp) fun ⟨_, h2, _⟩ => hr (h2 id List.mem_cons_self)

theorem acceptLoop_none (refused : Bool) (s : State) (q : List Nat) (hn : Obs.acceptNone ∈ (acceptLoop refused s q).2) :
    surfacedIn (acceptLoop refused s q).2 = [] ∧ (acceptLoop refused s q).1.incoming = [] ∧
    outcomes (acceptLoop refused s q).2 = q := by
  fun_induction acceptLoop refused s q with
  | case1 refused s0 _ => exact ⟨(acceptNone_frame s0).2.2.2.1, (acceptNone_frame s0).1, (acceptNone_frame s0).2.2.1⟩
  | case2 => simp at hn
  | case3 refused id rest _ r ih =>
    obtain ⟨h1, h2, h3⟩ := ih (by simpa using hn)
    exact ⟨h1, h2, congrArg (id :: ·) h3⟩
  | case4 => simp at hn

theorem acceptLoop_none_quiet (q : List Nat) : ∀ (refused : Bool) (s : State),
    Obs.acceptNone ∈ (acceptLoop refused s q).2 → surfacedIn (acceptLoop refused s q).2 = [] :=
  fun refused s hn => (acceptLoop_none refused s q hn).1

theorem progressStep_passive {e : Ev} (he : passive e = true) (live : List Nat) (os : List Obs) :
    progressStep live (e, os) = surfacedIn os ++ live := by
  cases e <;> first | rfl | cases he

theorem step_progress (s : State) (e : Ev) :
    (step s e).1.ongoing = progressStep s.ongoing (e, (step s e).2) ∧
    (Obs.acceptNone ∈ (step s e).2 → e = .accept ∧ s.ongoing = [] ∧ (step s e).1.ongoing = []) := by
  refine step_cases (C := fun e r => r.1.ongoing = progressStep s.ongoing (e, r.2) ∧
      (Obs.acceptNone ∈ r.2 → e = .accept ∧ s.ongoing = [] ∧ r.1.ongoing = [])) ?_ ?_ ?_ ?_ ?_ ?_ e
  · intro id; exact ⟨rfl, fun hn => by cases hn⟩
  · intro id; exact ⟨rfl, fun hn => by cases hn⟩
  · intro s1 e1
    have h1 := acceptLoop_ongoing s1.incoming false s1
    rw [e1.ongoing] at h1
    refine ⟨h1, fun hn => ?_⟩
    have h2 := ((acceptLoop_none_iff _ _ _).mp hn).1
    rw [e1.ongoing] at h2
    exact ⟨rfl, h2, by rw [h1, h2, acceptLoop_none_quiet _ _ _ hn]; rfl⟩
  · intro n
    obtain ⟨_, _, h3, _, h5, h6⟩ := shutdown_frame s n
    refine ⟨by simp only [progressStep, surfacedIn_append, h3, h5]; rfl, fun hn => ?_⟩
    simp only [List.mem_append, List.mem_singleton, reduceCtorEq, or_false] at hn
    exact absurd hn h6
  · intro n; exact ⟨rfl, fun hn => by simp at hn⟩
  · intro e s' os he e1 hq
    obtain ⟨_, _, _, _, q5, q6⟩ := quiet_obs hq true {}
    exact ⟨by rw [progressStep_passive he, q5, e1.ongoing]; rfl, fun hn => absurd hn q6⟩

theorem inProgress_snoc (pre : List (Ev × List Obs)) (st : Ev × List Obs) :
    inProgress (pre ++ [st]) = progressStep (inProgress pre) st := by
  simp [inProgress, List.foldl_append]

theorem trace_progress (evs : List Ev) : ∀ (s : State) (pre : List (Ev × List Obs)),
    inProgress pre = s.ongoing →
    inProgress (pre ++ trace s evs) = (run s evs).1.ongoing ∧
    (∀ a st b, trace s evs = a ++ st :: b → Obs.acceptNone ∈ st.2 →
      st.1 = .accept ∧ inProgress (pre ++ a) = [] ∧ inProgress (pre ++ a ++ [st]) = []) := by
  induction evs with
  | nil =>
    intro s pre h
    exact ⟨by simpa [trace, run] using h, fun a st b hab => by simp [trace] at hab⟩
  | cons e es ih =>
    intro s pre h
    obtain ⟨p1, p2⟩ := step_progress s e
    have h' : inProgress (pre ++ [(e, (step s e).2)]) = (step s e).1.ongoing := by
      rw [inProgress_snoc, h, p1]
    obtain ⟨q1, q2⟩ := ih (step s e).1 (pre ++ [(e, (step s e).2)]) h'
    refine ⟨by simpa [trace, run, List.append_assoc] using q1, fun a st b hab hn => ?_⟩
    rcases List.cons_eq_append_iff.mp hab with ⟨rfl, hst⟩ | ⟨a', rfl, hrest⟩
    · cases hst
      obtain ⟨r1, r2, r3⟩ := p2 hn
      exact ⟨r1, by simpa [h] using r2, by rw [List.append_nil, h', r3]⟩
    · simpa [List.append_assoc] using q2 a' st b hrest hn

end H3.Lemmas.Goaway

namespace H3.Props.C08
open H3.Goaway

def arrivals : List Ev → List Nat
  | [] => []
  | .arrive id :: r => id :: arrivals r
  | _ :: r => arrivals r

theorem arrivals_cons (e : Ev) (es : List Ev) : arrivals (e :: es) = arrivals [e] ++ arrivals es := by
  cases e <;> rfl

theorem arrivals_passive {e : Ev} (he : H3.Lemmas.Goaway.passive e = true) : arrivals [e] = [] := by
  cases e <;> first | rfl | cases he

end H3.Props.C08
