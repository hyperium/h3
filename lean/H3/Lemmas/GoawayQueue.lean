import H3.Model.Goaway
import H3.Spec.Goaway
import H3.Lemmas.Goaway
/-! The queue rules of the GOAWAY oracle (`H3.Spec.Goaway.okQueue`, second audit: D-08b) on whole
histories of the model `H3.Goaway`: the history the judge sees is the model's observations with the
peer's `arrived`, the application's `completed` and `shutdownCalled` put in by the scenario
(`judged`).  The judged history determines the four fields of the state that accept / shutdown read
(`HRel`: every step keeps it, whatever the history); that the arrivals are distinct request streams
is a property of the history's `opened`, asked for only where a rule needs it.  Lemmas for
`H3.Props.C08.C08_server_queue`. -/
namespace H3.Lemmas.GoawayQueue
open H3.Goaway H3.Spec.Goaway H3.Lemmas.Goaway H3.Props.C08

/-- what the scenario adds to the observations of one step. -/
def judged (e : Ev) (os : List Obs) : List Obs :=
  match e with
  | .arrive id => .arrived id :: os
  | .complete id => .completed id :: os
  | .shutdown n => .shutdownCalled n :: os
  | _ => os

def runJ : State → List Ev → List Obs
  | _, [] => []
  | s, e :: es => judged e (step s e).2 ++ runJ (step s e).1 es

theorem validQ_append (a b : List Obs) : ∀ h : Hist,
    validQ h (a ++ b) = (validQ h a && validQ (pushAll h a) b) := by
  induction a with
  | nil => intro h; simp [validQ, pushAll]
  | cons o r ih => intro h; simp [validQ, pushAll, ih, Bool.and_assoc]

theorem disposed_iff (h : Hist) (i : Nat) : disposed h i = true ↔ i ∈ h.surfaced ∨ i ∈ h.rejected := by
  simp [disposed]

theorem disposed_false_iff (h : Hist) (i : Nat) : disposed h i = false ↔ ¬ (i ∈ h.surfaced ∨ i ∈ h.rejected) := by
  rw [← disposed_iff]; simp

private def fmax (m : Option Nat) (i : Nat) : Option Nat := some (match m with | some a => max a i | none => i)

theorem largestSurfaced_eq (h : Hist) : largestSurfaced h = h.surfaced.foldl fmax none := rfl

theorem foldl_fmax (l : List Nat) : ∀ a, l.foldl fmax (some a) = some (maxOpt (l.foldl fmax none) a) := by
  induction l with
  | nil => intro a; simp [maxOpt]
  | cons i l ih =>
    intro a
    simp only [List.foldl, fmax]
    rw [ih (max a i), ih i]
    cases l.foldl fmax none with
    | none => simp only [maxOpt, Nat.max_comm a i]
    | some x => simp only [maxOpt, Nat.max_comm a i, Nat.max_assoc]

theorem largestSurfaced_cons (h : Hist) (i : Nat) :
    largestSurfaced { h with surfaced := i :: h.surfaced } = some (maxOpt (largestSurfaced h) i) := by
  simp only [largestSurfaced_eq, List.foldl]
  exact foldl_fmax h.surfaced i

theorem foldl_fmax_mem (l : List Nat) : ∀ L, l.foldl fmax none = some L → L ∈ l := by
  induction l with
  | nil => intro L h; cases h
  | cons i l ih =>
    intro L h
    rw [List.foldl_cons, show fmax none i = some i from rfl, foldl_fmax] at h
    cases h
    rcases maxOpt_cases (l.foldl fmax none) i with h1 | h1
    · rw [h1]; exact List.mem_cons_self
    · exact List.mem_cons_of_mem _ (ih _ h1)

/-- `q` is the transport's queue as the accept loop sees it (`s.incoming` between steps, its tail inside
    the loop).  No clause speaks of the arrivals being distinct request streams: where a rule needs that
    it is asked of `h.opened` (`h.opened.Nodup`, `∀ i ∈ h.opened, i % 4 = 0`), so every history keeps `HRel`. -/
structure HRel (s : State) (h : Hist) (q : List Nat) : Prop where
  sent : h.sent.head? = s.sentClosing
  largest : largestSurfaced h = s.largest
  queue : h.opened.Perm (q ++ h.surfaced ++ h.rejected)
  live : ∀ i ∈ h.surfaced, i ∈ h.done ∨ i ∈ s.ongoing

theorem hrel_init : HRel {} {} [] := by
  constructor <;> simp [largestSurfaced]

theorem HRel.move {s s' : State} {h h' : Hist} {q : List Nat} (hi : HRel s h q)
    (e0 : h'.sent.head? = s'.sentClosing) (e1 : s'.largest = s.largest) (e2 : s'.ongoing = s.ongoing)
    (e3 : h'.surfaced = h.surfaced) (e4 : h'.rejected = h.rejected) (e5 : h'.opened = h.opened)
    (e6 : h'.done = h.done) : HRel s' h' q :=
  ⟨e0, by rw [largestSurfaced, e3, e1]; exact hi.largest, by rw [e3, e4, e5]; exact hi.queue,
    by rw [e3, e6, e2]; exact hi.live⟩

theorem HRel.fresh {s : State} {h : Hist} {id : Nat} {rest : List Nat} (hi : HRel s h (id :: rest))
    (hn : h.opened.Nodup) : disposed h id = false := by
  have := hi.queue.nodup_iff.mp hn
  simp only [List.cons_append, List.nodup_cons, List.mem_append, not_or] at this
  rw [disposed_false_iff]
  exact fun hd => hd.elim this.1.1.2 this.1.2

/-- the largest stream shown is one of the streams the peer opened. -/
theorem HRel.largest_ok {s : State} {h : Hist} {q : List Nat} (hi : HRel s h q) (ht : ∀ i ∈ h.opened, i % 4 = 0)
    (L : Nat) (hL : s.largest = some L) : L % 4 = 0 := by
  rw [← hi.largest, largestSurfaced_eq] at hL
  have hm := foldl_fmax_mem _ L hL
  exact ht L (hi.queue.mem_iff.mpr (by simp [hm]))

theorem shutdown_hrel (s : State) (h : Hist) (q : List Nat) (n : Nat) (hi : HRel s h q) :
    HRel (shutdown s n).1 (pushAll h (shutdown s n).2) q ∧ validQ h (shutdown s n).2 = true ∧
    (pushAll h (shutdown s n).2).opened = h.opened ∧ (pushAll h (shutdown s n).2).call = h.call ∧
    ∃ g, (shutdown s n).1.sentClosing = some g ∧ g ≤ shutdownId s.largest n := by
  rcases shutdown_eq s n with ⟨e, hg⟩ | ⟨e, _⟩ <;> rw [e]
  · exact ⟨hi, rfl, rfl, rfl, hg⟩
  · exact ⟨hi.move rfl rfl rfl rfl rfl rfl rfl, rfl, rfl, rfl, _, rfl, Nat.le_refl _⟩

theorem acceptLoop_hrel (refused : Bool) (s : State) (q : List Nat) : ∀ (h : Hist), HRel s h q →
    HRel (acceptLoop refused s q).1 (pushAll h (acceptLoop refused s q).2) (acceptLoop refused s q).1.incoming ∧
    (pushAll h (acceptLoop refused s q).2).opened = h.opened ∧
    (h.opened.Nodup → validQ h (acceptLoop refused s q).2 = true) := by
  fun_induction acceptLoop refused s q with
  | case1 refused s0 hd =>
    intro h hi
    have ho : s0.ongoing = [] := ((drained_iff _ _).mp hd).1
    have hi0 : HRel s0 h [] := hi.move hi.sent rfl rfl rfl rfl rfl rfl
    obtain ⟨h2, v2, o2, _⟩ := shutdown_hrel s0 h [] 0 hi0
    rw [(acceptNone_frame s0).1]
    unfold acceptNone
    rw [pushAll_append, validQ_append, v2]
    refine ⟨h2.move h2.sent rfl rfl rfl rfl rfl rfl, o2, fun _ => ?_⟩
    -- `None`: every stream opened has its outcome (the queue is empty), every request shown is done
    simp only [validQ, okQueue, Bool.and_true, Bool.true_and, Bool.and_eq_true, List.all_eq_true]
    refine ⟨fun i hi' => ?_, fun i hi' => ?_⟩
    · rw [disposed_iff]
      simpa using h2.queue.mem_iff.mp hi'
    · rcases h2.live i hi' with hd' | hq
      · simpa using hd'
      · rw [(shutdown_frame s0 0).2.2.1, ho] at hq; cases hq
  | case2 refused s0 _ =>
    intro h hi
    exact ⟨hi.move hi.sent rfl rfl rfl rfl rfl rfl, rfl, fun _ => rfl⟩
  | case3 refused id rest hrj r ih =>
    intro h hi
    -- the refused stream moves from the queue to the history's `rejected`
    have hp := (List.perm_middle (a := id) (l₁ := rest ++ h.surfaced) (l₂ := h.rejected)).symm
    obtain ⟨i1, i2, i3⟩ := ih (h.push (.rejected id)) ⟨hi.sent, hi.largest, hi.queue.trans hp, hi.live⟩
    refine ⟨i1, i2, fun hn => ?_⟩
    simp only [validQ, okQueue, hi.fresh hn, Bool.not_false, Bool.true_and]
    exact i3 hn
  | case4 refused id rest hrj =>
    intro h hi
    -- the stream moves from the queue to the history's `surfaced` and to `ongoing_streams`
    have hp := (List.perm_middle (a := id) (l₁ := rest) (l₂ := h.surfaced)).symm.append_right h.rejected
    refine ⟨⟨hi.sent, (largestSurfaced_cons h id).trans (by rw [hi.largest]; rfl), hi.queue.trans hp,
      fun i his => ?_⟩, rfl, fun hn => ?_⟩
    · simp only [pushAll, List.foldl, Hist.push, surface, List.mem_cons] at his ⊢
      rcases his with rfl | his
      · exact Or.inr (Or.inl rfl)
      · exact (hi.live i his).imp_right Or.inr
    · simp only [validQ, okQueue, hi.fresh hn, Bool.not_false, Bool.and_self]

/-- the events of a server history as the transport and a 64-bit caller produce them. -/
def QEv : Ev → Prop
  | .arrive id => id % 4 = 0 ∧ id < 2^62
  | .shutdown n => n < 2^64
  | _ => True

theorem shutdownId_le_bound (s : State) (h : Hist) (n : Nat)
    (he : largestSurfaced h = s.largest) (hl : ∀ L, s.largest = some L → L % 4 = 0) :
    shutdownId s.largest n ≤ shutdownBound h n := by
  rw [shutdownBound, he, shutdownId_eq]
  -- four times a minimum is below four times either side; 4 * (2^60 − 1) is the last request ID
  have cap : ∀ m, 4 * min m (2^60 - 1) ≤ 2^62 - 4 := fun m =>
    Nat.le_trans (Nat.mul_le_mul_left 4 (Nat.min_le_right _ _)) (by decide)
  cases hL : s.largest with
  | none => exact Nat.le_min.mpr ⟨Nat.mul_le_mul_left 4 (Nat.min_le_left _ _), cap n⟩
  | some L =>
    simp only [hl L hL, Nat.add_zero]
    refine Nat.le_min.mpr ⟨Nat.le_trans (Nat.mul_le_mul_left 4 (Nat.min_le_left _ _)) ?_, cap _⟩
    have := Nat.div_add_mod L 4
    omega

theorem judged_passive {e : Ev} (he : passive e = true) (os : List Obs) : judged e os = os := by
  cases e <;> first | rfl | cases he

theorem step_hrel (s : State) (h : Hist) (e : Ev) (hi : HRel s h s.incoming) :
    HRel (step s e).1 (pushAll h (judged e (step s e).2)) (step s e).1.incoming ∧
    (pushAll h (judged e (step s e).2)).opened = arrivals [e] ++ h.opened ∧
    (h.opened.Nodup → (∀ i ∈ h.opened, i % 4 = 0) → validQ h (judged e (step s e).2) = true) := by
  refine step_cases (C := fun e r => HRel r.1 (pushAll h (judged e r.2)) r.1.incoming ∧
    (pushAll h (judged e r.2)).opened = arrivals [e] ++ h.opened ∧
    (h.opened.Nodup → (∀ i ∈ h.opened, i % 4 = 0) → validQ h (judged e r.2) = true)) ?_ ?_ ?_ ?_ ?_ ?_ e
  · -- a new stream enters the queue
    intro id
    have hp := ((List.perm_append_singleton id s.incoming).append_right h.surfaced).append_right h.rejected
    exact ⟨⟨hi.sent, hi.largest, (hi.queue.cons id).trans hp.symm, hi.live⟩, rfl, fun _ _ => rfl⟩
  · -- a request shown earlier is done
    intro id
    refine ⟨⟨hi.sent, hi.largest, hi.queue, fun i his => ?_⟩, rfl, fun _ _ => rfl⟩
    simp only [judged, pushAll, List.foldl, Hist.push, List.mem_cons, List.mem_filter, bne_iff_ne, ne_eq]
    by_cases hid : i = id
    · exact Or.inl (Or.inl hid)
    · exact (hi.live i his).imp Or.inr fun ho => ⟨ho, hid⟩
  · intro s1 e1
    obtain ⟨a1, a2, a3⟩ := acceptLoop_hrel false s1 s1.incoming h
      (e1.incoming ▸ hi.move (e1.sent ▸ hi.sent) e1.largest e1.ongoing rfl rfl rfl rfl)
    exact ⟨a1, a2, fun hn _ => a3 hn⟩
  · -- `shutdown(n)` answers `Ok`: the identifier in force is within the bound of the call
    intro n
    have hi0 : HRel s (h.push (.shutdownCalled n)) s.incoming := hi.move hi.sent rfl rfl rfl rfl rfl rfl
    obtain ⟨h2, v2, o2, c2, g, hg, hgle⟩ := shutdown_hrel s (h.push (.shutdownCalled n)) s.incoming n hi0
    have hf := shutdown_frame s n
    simp only [judged, validQ, okQueue, Bool.true_and, pushAll, List.foldl_cons]
    rw [validQ_append, v2, List.foldl_append]
    refine ⟨by rw [hf.2.1]; exact h2.move h2.sent rfl rfl rfl rfl rfl rfl, o2, fun _ ht => ?_⟩
    have hb := shutdownId_le_bound s (pushAll (h.push (.shutdownCalled n)) (shutdown s n).2) n
      (by rw [h2.largest, hf.1]) (hi.largest_ok ht)
    simp only [validQ, okQueue, lastSent, Bool.and_true, Bool.true_and]
    rw [h2.sent, hg, c2]
    exact decide_eq_true (Nat.le_trans hgle hb)
  · intro n
    exact ⟨hi.move hi.sent rfl rfl rfl rfl rfl rfl, rfl, fun _ _ => rfl⟩
  · intro e s' os hp e1 hq
    obtain ⟨q1, _, q3, _⟩ := quiet_obs hq true h
    rw [judged_passive hp, q1, q3, arrivals_passive hp, e1.incoming]
    exact ⟨hi.move (e1.sent ▸ hi.sent) e1.largest e1.ongoing rfl rfl rfl rfl, rfl, fun _ _ => rfl⟩

theorem run_q (evs : List Ev) : ∀ (s : State) (h : Hist), HRel s h s.incoming →
    (∀ e ∈ evs, QEv e) → (arrivals evs ++ h.opened).Nodup → (∀ i ∈ h.opened, i % 4 = 0) →
    validQ h (runJ s evs) = true := by
  induction evs with
  | nil => intro s h _ _ _ _; rfl
  | cons e es ih =>
    intro s h hi he hnd ht
    rw [arrivals_cons, List.append_assoc] at hnd
    obtain ⟨a1, a2, a3⟩ := step_hrel s h e hi
    simp only [runJ]
    -- `h.opened.Nodup` out of `(arrivals [e] ++ (arrivals es ++ h.opened)).Nodup`
    rw [validQ_append, a3 (List.nodup_append.mp (List.nodup_append.mp hnd).2.1).2.1 ht, Bool.true_and]
    refine ih _ _ a1 (fun e' he' => he e' (List.mem_cons_of_mem _ he')) ?_ ?_
    · rw [a2]
      exact (List.perm_append_comm_assoc (arrivals es) (arrivals [e]) h.opened).nodup_iff.mpr hnd
    · intro i hi'
      rw [a2] at hi'
      rcases List.mem_append.mp hi' with hm | hm
      · have hqe := he e List.mem_cons_self
        cases e with
        | arrive id =>
          rw [List.mem_singleton.mp hm]
          exact hqe.1
        | _ => cases hm
      · exact ht i hm

end H3.Lemmas.GoawayQueue
