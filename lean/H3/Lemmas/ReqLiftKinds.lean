import H3.Lemmas.ReqLiftToks
/-! The recogniser's input (`List K`) read directly off the token list of the reference automaton
    (`kindsOf`), and: the frame sequence `decompile items t` has exactly these kinds.  This is what
    makes the outcome of the documented pattern a function of the bytes where the frame-layer
    tokens are (FIN on a frame boundary, still-open streams). -/
namespace H3.ReqRecv
open H3.Frame
open H3.Spec.ReqSeq hiding Bytes

def leadBytes : List RefTok → Bytes
  | .byte b :: r => b :: leadBytes r
  | _ => []

/-- a frame token by meaning; `payload` = the byte tokens behind it -/
def refKind (f : Frame) (payload : Bytes) : K :=
  match f with
  | .data n => if payload.length < n then .Dpart payload else .D payload
  | .headers b => .H b
  | .pushPromise _ _ => .P
  -- not used: excluded by `NoRaw`
  | .webTransport _ => .U
  | _ => .X

def errKind : FrameErr → K
  | .unsupported _ => .R
  | .malformed => .M
  | .settings _ => .S

/-- the recogniser's input read off the reference automaton's tokens (frames of unknown type
    leave no token: the recogniser skips `U` anyway) -/
def kindsOf : List RefTok → List K
  | [] => []
  | .byte _ :: r => kindsOf r
  | .frame f :: r => refKind f (leadBytes r) :: kindsOf r
  | .errProto e :: r => errKind e :: kindsOf r

/-- the token a protocol-error ending adds -/
def protoToks : Term → List RefTok
  | .proto e => [.errProto e]
  | _ => []

theorem leadBytes_bytes_append (d : Bytes) (x : List RefTok) :
    leadBytes (d.map .byte ++ x) = d ++ leadBytes x := by
  induction d with
  | nil => rfl
  | cons b d ih => simp [leadBytes, ih]

theorem kindsOf_bytes_append (d : Bytes) (x : List RefTok) : kindsOf (d.map .byte ++ x) = kindsOf x := by
  induction d with
  | nil => rfl
  | cons b d ih => simpa [kindsOf] using ih

theorem leadBytes_items (t : Term) : ∀ items : List Item,
    leadBytes (itemToks items ++ protoToks t) = (leadPieces items).flatten := by
  intro items
  induction items with
  | nil => cases t <;> rfl
  | cons it r ih =>
    cases it with
    | frame f => rfl
    | piece d =>
      simp only [itemToks, leadPieces, List.flatten_cons, List.append_assoc]
      rw [leadBytes_bytes_append, ih]

theorem kind_frameTok (f : Frame) (ps : List Bytes) : kind (frameTok f ps) = refKind f ps.flatten := by
  cases f <;> rfl

theorem decompile_kinds (t : Term) : ∀ items : List Item,
    (decompile items t).1.map kind = kindsOf (itemToks items ++ protoToks t) := by
  intro items
  induction items with
  | nil =>
    cases t with
    | proto e => cases e <;> rfl
    | _ => rfl
  | cons it r ih =>
    cases it with
    | piece d =>
      simp only [decompile, itemToks, List.append_assoc]
      rw [kindsOf_bytes_append]
      exact ih
    | frame f =>
      simp only [decompile, itemToks, List.map_cons, List.cons_append, kindsOf]
      rw [kind_frameTok, leadBytes_items, ih]

theorem headers_of_kindsOf {b : Bytes} : ∀ {x : List RefTok}, K.H b ∈ kindsOf x → FS.Tok.frame (.headers b) ∈ x := by
  intro x
  induction x with
  | nil => intro h; cases h
  | cons tok r ih =>
    intro h
    cases tok with
    | byte _ => exact List.mem_cons_of_mem _ (ih h)
    | errProto e =>
      rcases List.mem_cons.mp h with h | h
      · cases e <;> cases h
      · exact List.mem_cons_of_mem _ (ih h)
    | frame f =>
      rcases List.mem_cons.mp h with h | h
      · cases f with
        | headers b' => cases h; exact List.mem_cons_self
        | data n => simp only [refKind] at h; split at h <;> cases h
        | _ => cases h
      · exact List.mem_cons_of_mem _ (ih h)

theorem hdrBlocks_refKind (f : Frame) (x y : Bytes) : hdrBlocks [refKind f x] = hdrBlocks [refKind f y] := by
  cases f with
  | data n => simp only [refKind]; split <;> split <;> rfl
  | _ => rfl

theorem hdrBlocks_cons (k : K) (r : List K) : hdrBlocks (k :: r) = hdrBlocks [k] ++ hdrBlocks r :=
  hdrBlocks_append [k] r

theorem hdrBlocks_kindsOf_append : ∀ a b : List RefTok,
    hdrBlocks (kindsOf (a ++ b)) = hdrBlocks (kindsOf a) ++ hdrBlocks (kindsOf b) := by
  intro a
  induction a with
  | nil => intro b; simp [kindsOf, hdrBlocks]
  | cons t r ih =>
    intro b
    cases t with
    | byte x => simpa [kindsOf] using ih b
    | frame f =>
      simp only [List.cons_append, kindsOf]
      rw [hdrBlocks_cons (refKind f (leadBytes (r ++ b))) (kindsOf (r ++ b)),
        hdrBlocks_cons (refKind f (leadBytes r)) (kindsOf r), ih b,
        hdrBlocks_refKind f (leadBytes (r ++ b)) (leadBytes r), List.append_assoc]
    | errProto e =>
      simp only [List.cons_append, kindsOf]
      rw [hdrBlocks_cons (errKind e) (kindsOf (r ++ b)), hdrBlocks_cons (errKind e) (kindsOf r), ih b,
        List.append_assoc]

theorem hdrBlocks_protoToks (t : Term) : hdrBlocks (kindsOf (protoToks t)) = [] := by
  cases t with
  | proto e => cases e <;> rfl
  | _ => rfl

/-- if the blocks found by the reference automaton in the wire bytes are acceptable in their
    positions, so are those of any frame sequence whose answers are a prefix of its tokens -/
theorem hdrsOk_of_ref (H : Hdr) {toks : List Tok} {all more : List RefTok} {t : Term} {ref : List RefTok}
    (hk : toks.map kind = kindsOf (all ++ protoToks t)) (hp : ref = all ++ more)
    (h : HdrsOkK H .head (kindsOf ref)) : HdrsOk H toks := by
  unfold HdrsOk
  rw [hdrsOkK_iff] at h ⊢
  rw [hk, hdrBlocks_kindsOf_append, hdrBlocks_protoToks, List.append_nil]
  rw [hp, hdrBlocks_kindsOf_append] at h
  exact blocksOk_prefix H _ _ _ h

theorem compile_snd (e : Ending) : ∀ toks : List Tok,
    (compile toks e).2 = e.term ∨ ∃ err, (compile toks e).2 = .proto err := by
  intro toks
  induction toks with
  | nil => exact Or.inl rfl
  | cons tok r ih =>
    cases tok with
    | bad err => exact Or.inr ⟨err, rfl⟩
    | data n ps =>
      by_cases hlt : ps.flatten.length < n
      · rw [compile_data_part hlt]; exact Or.inl rfl
      · rw [compile_data_full hlt]; exact ih
    | _ => simpa [compile] using ih

/-- `compile` reports the given ending unless a refused frame ends the sequence -/
theorem ending_of_term {e e' : Ending} {toks : List Tok} (h : (compile toks e).2 = e'.term) : e = e' := by
  rcases compile_snd e toks with hs | ⟨err, hs⟩
  · rw [hs] at h
    cases e <;> cases e' <;> simp [Ending.term] at h ⊢
    exact h
  · rw [hs] at h
    cases e' <;> cases h

end H3.ReqRecv
