import H3.Lemmas.FrameStreamReach
/-! The documented reader loop (`poll_next`; after a frame with payload `poll_data` until it is used up; repeat),
    generic in the decoder (`readerG`), and the vocabulary in which the C01/C02/C03 statements say what it hands out
    and how it ends, as a function of the bytes of the script and the kind of ending only (`wOf`, `finOf`, `FinalOK`,
    `ReaderPost`; the statement itself, `readerG_spec`, is in `FrameStreamPoll`).  `inv_progress`, `inv_rem_bound`:
    why every reader terminates and never enters raw mode on bytes without a WebTransport header. -/
namespace H3.FS
variable {F E : Type}

/-- `readerLoop` of the model, for any decoder -/
def readerG (D : Dec F E) : Nat → St → List Ev → List (Out F E)
  | 0, _, _ => []
  | fuel+1, s, script =>
    if s.remaining ≠ 0 then
      let (o, s', r) := pollData (F := F) (E := E) s script
      match o with
      | .data _ => o :: readerG D fuel s' r
      | .pending => if script.isEmpty then [o] else readerG D fuel s' r
      | _ => [o]
    else
      let (o, s', r) := pollNext D s script
      match o with
      | .frame _ => o :: readerG D fuel s' r
      | .pending => if script.isEmpty then [o] else readerG D fuel s' r
      | _ => [o]

theorem readerLoop_eq (fuel : Nat) (s : St) (script : List Ev) :
    readerLoop fuel s script = readerG frameDec fuel s script := by
  induction fuel generalizing s script with
  | zero => rfl
  | succ fuel ih =>
    rw [readerLoop, readerG]
    split
    · generalize pollData (F := H3.Frame.Frame) (E := H3.Frame.FrameErr) s script = res
      obtain ⟨o, s', r⟩ := res
      cases o <;> simp [ih]
    · generalize pollNext frameDec s script = res
      obtain ⟨o, s', r⟩ := res
      cases o <;> simp [ih]

def NoReset (sc : List Ev) : Prop := ∀ c, Ev.reset c ∉ sc

/-- the events before the first `fin` -/
def upToFin (sc : List Ev) : List Ev := sc.takeWhile (fun e => e != .fin)

def hasFin (sc : List Ev) : Bool := sc.contains .fin

/-- all bytes the reader can ever see: those taken so far plus, if the end has not been
    reached, those of the script up to its first `fin` -/
def wOf (seen : Bytes) (eos : Bool) (script : List Ev) : Bytes :=
  seen ++ (if eos then [] else evBytes (upToFin script))

def finOf (eos : Bool) (script : List Ev) : Bool := eos || hasFin script

theorem upToFin_append_of_not_mem (a b : List Ev) (h : Ev.fin ∉ a) :
    upToFin (a ++ b) = a ++ upToFin b := by
  induction a with
  | nil => rfl
  | cons e r ih =>
    have he : e ≠ .fin := fun hc => h (by simp [hc])
    have hr : Ev.fin ∉ r := fun hc => h (by simp [hc])
    simp only [upToFin, List.cons_append] at ih ⊢
    rw [List.takeWhile_cons_of_pos (by simpa using he), ih hr]

theorem upToFin_fin (a b : List Ev) (h : Ev.fin ∉ a) : upToFin (a ++ .fin :: b) = a := by
  rw [upToFin_append_of_not_mem a _ h]
  simp [upToFin]

theorem upToFin_of_not_mem {sc : List Ev} (h : Ev.fin ∉ sc) : upToFin sc = sc := by
  simpa [upToFin] using upToFin_append_of_not_mem sc [] h

theorem hasFin_append_of_not_mem (a b : List Ev) (h : Ev.fin ∉ a) : hasFin (a ++ b) = hasFin b := by
  simp only [hasFin, List.contains_eq_mem, List.mem_append, h, false_or]

theorem w_step (seen : Bytes) (eos eos' : Bool) (taken script' : List Ev)
    (htk : TakenOK eos eos' taken) :
    wOf (seen ++ evBytes taken) eos' script' = wOf seen eos (taken ++ script') ∧
    finOf eos' script' = finOf eos (taken ++ script') := by
  cases eos with
  | true =>
    simp only [TakenOK, if_true] at htk
    obtain ⟨_, rfl, rfl⟩ := htk
    simp [wOf, finOf, evBytes]
  | false =>
    simp only [TakenOK, Bool.false_eq_true, if_false] at htk
    cases eos' with
    | true =>
      simp only [if_true] at htk
      obtain ⟨pre, rfl, hpre⟩ := htk.2
      have h1 : upToFin ((pre ++ [Ev.fin]) ++ script') = pre := by
        rw [List.append_assoc]; exact upToFin_fin pre script' hpre
      simp only [wOf, finOf, if_true, Bool.false_eq_true, if_false, h1, evBytes_append, evBytes,
        List.append_nil, Bool.true_or, Bool.false_or]
      refine ⟨trivial, ?_⟩
      simp [hasFin]
    | false =>
      simp only [Bool.false_eq_true, if_false] at htk
      simp only [wOf, finOf, Bool.false_eq_true, if_false, Bool.false_or,
        upToFin_append_of_not_mem taken script' htk.2, evBytes_append, List.append_assoc,
        hasFin_append_of_not_mem taken script' htk.2, and_self]

theorem wire_taken {sc taken rest : List Ev} {eos : Bool} (hs : sc = taken ++ rest) (htk : TakenOK false eos taken) :
    evBytes (upToFin sc) = wOf (evBytes taken) eos rest ∧ hasFin sc = finOf eos rest := by
  obtain ⟨hw, hf⟩ := w_step [] false eos taken rest htk
  rw [hs]
  exact ⟨hw.symm, hf.symm⟩

/-- why every reader terminates: a call that hands out tokens shortens buffer plus bytes to come (by this `C06.mu` falls
    in `pollNext_step` / `pollData_step`) -/
theorem inv_progress (D : Dec F E) {seen x : Bytes} {toks t : List (Tok F E)} {s s' : St}
    (hI : Inv D seen toks s) (hI' : Inv D (seen ++ x) (toks ++ t) s') (ht : t ≠ []) :
    s'.flat.length < s.flat.length + x.length := by
  obtain ⟨c1, h1, r1⟩ := hI.split
  obtain ⟨c2, h2, r2⟩ := hI'.split
  rw [h1, List.append_assoc] at h2
  rcases List.append_eq_append_iff.mp h2 with ⟨a', hc, hf⟩ | ⟨c', hc, hf⟩
  · rw [hc, run_append, r1] at r2
    simp only [Prod.mk.injEq, List.append_cancel_left_eq] at r2
    have ha : a' ≠ [] := by
      intro h0; subst h0
      exact ht r2.2.symm
    have hl := congrArg List.length hf
    simp only [List.length_append] at hl
    have : 0 < a'.length := List.length_pos_iff.mpr ha
    omega
  · -- the consumed prefix cannot have got shorter: `toks` would properly extend `toks ++ t`
    rw [hc, run_append, r2] at r1
    simp only [Prod.mk.injEq] at r1
    have hl := congrArg List.length r1.2
    simp only [List.length_append] at hl
    have : 0 < t.length := List.length_pos_iff.mpr ht
    omega

theorem PSt.ofRem_eq_data {n r : Nat} (h : PSt.ofRem n = .data r) : n = r := by
  unfold PSt.ofRem at h
  split at h <;> cases h
  rfl

/-- the `rem` a run ends with is that of a frame token it emitted, or the one it started with -/
theorem run_rem_bound (D : Dec F E) {M : Nat} (x : Bytes) : ∀ {p : PSt}, (∀ r, p = .data r → r < M) →
    (∀ f, Tok.frame f ∈ (run D p x).2 → (D.kind f).rem < M) → ∀ r, (run D p x).1 = .data r → r < M := by
  induction x with
  | nil => exact fun hp _ => hp
  | cons b x ih =>
    intro p hp hf
    simp only [run, List.mem_append] at hf ⊢
    -- one byte: a frame header sets `rem` to that of the frame token it emits, a payload byte lowers it
    refine ih (fun r hr => ?_) fun f hm => hf f (.inr hm)
    cases p with
    | hdr acc =>
      simp only [feed] at hr hf
      cases hd : D.dec (acc ++ [b]) with
      | frame f n =>
        rw [hd] at hr hf
        rw [← PSt.ofRem_eq_data hr]
        exact hf f (.inl (by simp))
      | unknown n => rw [hd] at hr; cases hr
      | incomplete m => rw [hd] at hr; cases hr
      | error e => rw [hd] at hr; cases hr
    | data r1 =>
      have := hp r1 rfl
      have := PSt.ofRem_eq_data hr
      omega
    | dead => cases hr

theorem inv_rem_bound (D : Dec F E) (M : Nat) {seen : Bytes} {toks : List (Tok F E)} {s : St}
    (hI : Inv D seen toks s) (hf : ∀ f, Tok.frame f ∈ toks → (D.kind f).rem < M) (hM : 0 < M) :
    s.remaining < M := by
  obtain ⟨c, _, hr⟩ := hI.split
  by_cases h0 : s.remaining = 0
  · omega
  · rw [PSt.ofRem_pos h0] at hr
    exact run_rem_bound D c (p := .hdr []) nofun (by rw [hr]; exact hf) _ (by rw [hr])

theorem inv_run_rest (D : Dec F E) {seen : Bytes} {toks : List (Tok F E)} {s : St}
    (hI : Inv D seen toks s) (rest : Bytes) :
    run D (.hdr []) (seen ++ rest) =
      ((run D (PSt.ofRem s.remaining) (s.flat ++ rest)).1,
        toks ++ (run D (PSt.ofRem s.remaining) (s.flat ++ rest)).2) := by
  obtain ⟨c, hs, hr⟩ := hI.split
  rw [hs, List.append_assoc, run_append, hr]

theorem inv_toks_prefix (D : Dec F E) {seen : Bytes} {toks : List (Tok F E)} {s : St}
    (hI : Inv D seen toks s) (rest : Bytes) :
    ∃ more, (run D (.hdr []) (seen ++ rest)).2 = toks ++ more :=
  ⟨_, congrArg Prod.snd (inv_run_rest D hI rest)⟩

/-- how a reader loop may end, given the result `R` of the reference automaton over all the
    bytes, whether the stream was finished (`fin`), and the tokens `all` handed out -/
def FinalOK (R : PSt × List (Tok F E)) (fin : Bool) (all : List (Tok F E)) : Out F E → Prop
  | .errProto e => R.1 = .dead ∧ R.2 = all ++ [.errProto e]
  | .none => fin = true ∧ R.1 = .hdr [] ∧ R.2 = all
  | .pending => fin = false ∧ R.2 = all ∧ R.1 ≠ .dead
  | .errEnd => fin = true ∧ ((∃ acc, acc ≠ [] ∧ R.1 = .hdr acc ∧ R.2 = all) ∨
      (∃ (rem : Nat) (bs : Bytes), rem ≠ 0 ∧ R.1 = .data rem ∧ R.2 = all ++ bs.map .byte))
  | _ => False

/-- the answers of a reader loop: frames and data pieces, then exactly one final answer -/
def ReaderPost (R : PSt × List (Tok F E)) (fin : Bool) (toks : List (Tok F E))
    (outs : List (Out F E)) : Prop :=
  ∃ body last, outs = body ++ [last] ∧
    (∀ o ∈ body, (∃ f, o = .frame f) ∨ (∃ d, o = .data d)) ∧
    FinalOK R fin (toks ++ body.flatMap Out.toks) last

theorem readerPost_cons {R : PSt × List (Tok F E)} {fin : Bool} {toks : List (Tok F E)}
    {o : Out F E} {rest : List (Out F E)} (ho : (∃ f, o = .frame f) ∨ (∃ d, o = .data d))
    (h : ReaderPost R fin (toks ++ o.toks) rest) : ReaderPost R fin toks (o :: rest) := by
  obtain ⟨body, last, rfl, hb, hf⟩ := h
  refine ⟨o :: body, last, by simp, ?_, ?_⟩
  · intro x hx
    simp only [List.mem_cons] at hx
    rcases hx with rfl | hx
    · exact ho
    · exact hb x hx
  · simpa [List.flatMap_cons, List.append_assoc] using hf

theorem readerPost_single {R : PSt × List (Tok F E)} {fin : Bool} {toks : List (Tok F E)}
    {o : Out F E} (h : FinalOK R fin toks o) : ReaderPost R fin toks [o] :=
  ⟨[], o, rfl, by simp, by simpa using h⟩

end H3.FS
