import H3.Lemmas.E2EWire
import H3.Lemmas.E2ESend
import H3.Lemmas.E2ERecv
import H3.Lemmas.E2EHeaders
/-! The composition: a well-formed message, what its awaited calls hand the transport (`sendAll_wellFormed`,
    `sent_in_any_run`), and what `recvPattern` / `deliver` make of any transport script carrying those
    bytes (`recvPattern_streamBytes`, `deliver_streamBytes`). -/
namespace H3.E2E
open H3.Varint H3.WriteBuf H3.SendSide H3.Headers H3.FS H3.ReqRecv H3.Gen.WriteBuf
open H3.Spec.Framing (isKnown)
open H3.Spec.Output (reserved_ne reserved_not_mem)

/-- a well-formed message; `h` = the `Header` that `Header::request` / `Header::response` makes of
    its head and fields -/
structure WellFormed (m : Message) (h : Header) : Prop where
  /-- the sender accepts it (`Header::request` wants an authority — URI or `Host` — and no
      contradiction between the two) -/
  header : headerOf m = .ok h
  /-- field names are non-empty lower-case tokens, values legal field-value bytes (RFC 9110) -/
  regular : ∀ f ∈ m.headers, RegularOk f
  trailersRegular : ∀ t, m.trailers = some t → ∀ f ∈ t, RegularOk f
  /-- the application can hold the fields in an `http::HeaderMap` at all: none of its `append`s
      finds 24576 distinct names in the map already (any number of values per name) -/
  holdable : Holdable m.headers
  trailersHoldable : ∀ t, m.trailers = some t → Holdable t
  /-- octets; Huffman codings that fit a `Vec` (C11's domain) -/
  encodable : FieldsEncodable h.wireFields
  trailersEncodable : ∀ t, m.trailers = some t → FieldsEncodable (Header.trailer (mapOf t)).wireFields
  /-- body pieces are octet strings; every length fits a QUIC varint (C14's domain) -/
  pieces : ∀ p ∈ m.pieces, p.length < 2^62 ∧ WF p
  blockLen : (fieldSection h).length < 2^62
  trailerLen : ∀ t, m.trailers = some t → (trailerSection t).length < 2^62

/-- what the receiver's configuration allows -/
structure Fits (m : Message) (h : Header) (L : Nat) : Prop where
  /-- RFC 9114 §4.2.2 size of the field sections within `max_field_section_size = L` (C10) -/
  size : sectionSize h.wireFields ≤ L
  trailerSize : ∀ t, m.trailers = some t → sectionSize (Header.trailer (mapOf t)).wireFields ≤ L

/-- The head of the message survives the trip, and `out` is what the receiving application is
    handed.  Requests (received by the server): the method is a token; `:scheme`, `:authority`,
    `:path`, `:protocol` values are printed and parsed back unchanged by the `http` crate
    (`PseudoBack`: `parseX v = some v`, for the values the sender's crate printed); the receiver's
    `Uri::builder` builds `u` from these three parts; the `Host` values the application submitted
    (if any) are all the same value — `Header::request` compares only the first one with the URI's
    authority, the receiving h3 refuses a request whose `Host` values differ (D-12e); several
    identical `Host` values survive.  Responses (received by the client): the
    status is 100…999. -/
inductive HeadOk (H : Http) : Role → Message → HeadOut → Prop where
  | request (m : Message) (method : Bytes) (uri : UriParts) (ext : Option Bytes) (u : Uri) :
      m.head = .request method uri ext → PseudoBack H (Pseudo.request method uri ext) →
      H.uriBuild (Pseudo.request method uri ext).scheme
        (effAuthority uri.authority (hmGet (mapOf m.headers) nHost))
        (Pseudo.request method uri ext).path = some u →
      allFirst (hmGroup (mapOf m.headers) nHost) = true →
      HeadOk H .server m (.request (RequestParts.mk method u
        (Pseudo.request method uri ext).protocol (mapOf m.headers)))
  | response (m : Message) (status : Nat) :
      m.head = .response status → 100 ≤ status → status ≤ 999 →
      HeadOk H .client m (.response status (mapOf m.headers))

/-- what the receiving application must have in hand -/
def expected (m : Message) (out : HeadOut) : Delivered :=
  { head := some out, body := m.pieces.flatten, cleanEnd := true, ends := 1,
    trailers := some (m.trailers.map mapOf), env := {} }

theorem Fits.mono {m : Message} {h : Header} {L L' : Nat} (f : Fits m h L) (hL : L ≤ L') : Fits m h L' :=
  ⟨Nat.le_trans f.size hL, fun t ht => Nat.le_trans (f.trailerSize t ht) hL⟩

/-- `WellFormed` and `Fits` as one conjunction of statements that are closed, hence decided by
    evaluation, for a concrete message (`∀ t, m.trailers = some t → …` read as `∀ t ∈ m.trailers, …`) -/
theorem wellFormed_fits_of_checks {m : Message} {h : Header} {L : Nat}
    (c : headerOf m = .ok h ∧ (∀ f ∈ m.headers, RegularOk f) ∧ Holdable m.headers ∧
      FieldsEncodable h.wireFields ∧ (∀ p ∈ m.pieces, p.length < 2^62 ∧ ∀ b ∈ p, b < 256) ∧
      (fieldSection h).length < 2^62 ∧ sectionSize h.wireFields ≤ L ∧
      ∀ t ∈ m.trailers, (∀ f ∈ t, RegularOk f) ∧ Holdable t ∧
        FieldsEncodable (Header.trailer (mapOf t)).wireFields ∧ (trailerSection t).length < 2^62 ∧
        sectionSize (Header.trailer (mapOf t)).wireFields ≤ L) :
    WellFormed m h ∧ Fits m h L := by
  obtain ⟨hd, reg, hold, enc, pcs, len, sz, tr⟩ := c
  exact ⟨⟨hd, reg, fun t ht => (tr t ht).1, hold, fun t ht => (tr t ht).2.1, enc, fun t ht => (tr t ht).2.2.1,
    pcs, len, fun t ht => (tr t ht).2.2.2.1⟩, ⟨sz, fun t ht => (tr t ht).2.2.2.2⟩⟩

def greaseFrames : Option Nat → List SFrame
  | none => []
  | some n => [.grease (greaseId n)]

theorem greaseBytes_eq (g : Option Nat) : greaseBytes g = wireOf (greaseFrames g) := by
  cases g <;> simp [greaseBytes, greaseFrames, wireOf]

theorem wire_eq (m : Message) (h : Header) (hh : headerOf m = .ok h) : wire m = wireOf (framesOf m h) := by
  unfold wire; rw [hh]

theorem streamBytes_eq (m : Message) (h : Header) (hh : headerOf m = .ok h) (g : Option Nat) :
    streamBytes m g = wireOf (framesOf m h ++ greaseFrames g) := by
  rw [streamBytes, wire_eq m h hh, greaseBytes_eq, wireOf_append]

theorem grease_plain (n : Nat) (hn : n < GREASE_RANGE_END) : Plain (.grease (greaseId n)) := by
  have hr := greaseId_reserved n
  refine ⟨greaseId_lt n hn, ?_, reserved_ne hr (by decide), reserved_ne hr (by decide)⟩
  rw [isKnown, reserved_not_mem hr _ (by decide), reserved_not_mem hr _ (by decide)]
  rfl

theorem frames_ok (m : Message) (h : Header) (hwf : WellFormed m h) :
    ∀ f ∈ framesOf m h, Plain f ∧ Sendable f := by
  intro f hf
  simp only [framesOf, List.mem_cons, List.mem_append, List.mem_map] at hf
  rcases hf with rfl | ⟨p, hp, rfl⟩ | hf
  · exact ⟨⟨hwf.blockLen, fieldSection_wf h hwf.encodable⟩, hwf.blockLen⟩
  · exact ⟨hwf.pieces p hp, (hwf.pieces p hp).1⟩
  · cases ht : m.trailers with
    | none => rw [ht] at hf; cases hf
    | some t =>
      rw [ht, List.mem_singleton] at hf
      subst hf
      exact ⟨⟨hwf.trailerLen t ht, fieldSection_wf _ (hwf.trailersEncodable t ht)⟩, hwf.trailerLen t ht⟩

theorem all_plain (m : Message) (h : Header) (hwf : WellFormed m h) (g : Option Nat)
    (hg : ∀ n, g = some n → n < GREASE_RANGE_END) :
    ∀ f ∈ framesOf m h ++ greaseFrames g, Plain f := by
  intro f hf
  rcases List.mem_append.mp hf with hf | hf
  · exact (frames_ok m h hwf f hf).1
  · cases g with
    | none => simp [greaseFrames] at hf
    | some n =>
      simp only [greaseFrames, List.mem_singleton] at hf
      subst hf
      exact grease_plain n (hg n rfl)

theorem runToks_data (ps : List Bytes) (r : List SFrame) :
    runToks (ps.map .data ++ r) = bodyToks ps ++ runToks r := by
  induction ps with
  | nil => rfl
  | cons p ps ih => simp [runToks, bodyToks, ih]

theorem runToks_frames (m : Message) (h : Header) (g : Option Nat) :
    runToks (framesOf m h ++ greaseFrames g) =
      msgToks (fieldSection h) m.pieces (m.trailers.map trailerSection) := by
  have hg : runToks (greaseFrames g) = [] := by cases g <;> rfl
  simp only [framesOf, List.cons_append, List.append_assoc, runToks, msgToks, runToks_data]
  cases m.trailers with
  | none => simp [hg, trToks]
  | some t => simp [runToks, hg, trToks]

theorem run_streamBytes (m : Message) (h : Header) (hwf : WellFormed m h) (g : Option Nat)
    (hg : ∀ n, g = some n → n < GREASE_RANGE_END) :
    run frameDec (.hdr []) (streamBytes m g) =
      (.hdr [], msgToks (fieldSection h) m.pieces (m.trailers.map trailerSection)) := by
  rw [streamBytes_eq m h hwf.header g, run_wireOf _ (all_plain m h hwf g hg), runToks_frames]

theorem bodyOf_data (ds : List Bytes) : bodyOf (ds.map Res.data ++ [Res.end_]) = ds.flatten := by
  induction ds with
  | nil => rfl
  | cons d r ih => simp [bodyOf, ih]

theorem endsOf_data (ds : List Bytes) : endsOf (ds.map Res.data ++ [Res.end_]) = 1 := by
  induction ds with
  | nil => rfl
  | cons d r ih =>
    have : (Res.data d == Res.end_) = false := rfl
    rw [List.map_cons, List.cons_append, endsOf, List.filter_cons, this]
    exact ih

theorem head_block (H : Http) (role : Role) (m : Message) (h : Header) (out : HeadOut) (L : Nat)
    (hwf : WellFormed m h) (hfit : Fits m h L) (hhead : HeadOk H role m out) :
    (hdrOf H role L).head (fieldSection h) = .ok ∧ decodeHead H role L (fieldSection h) = some out := by
  cases hhead with
  | request m method uri ext u hm hp hb hhosts =>
    have hreq : Header.request method uri (mapOf m.headers) ext = .ok h := by
      have := hwf.header; unfold headerOf at this; rw [hm] at this; exact this
    have hr := recvRequest_sent H method uri ext m.headers u h hreq ⟨hp, hwf.regular, hb, hhosts⟩ hwf.holdable
    obtain ⟨a, b⟩ := decodeWith_fieldSection (recvRequest H) h hwf.encodable L hfit.size
    simp only [hdrOf, decodeHead, a, b, hr, classOf, optOf, Option.map_some, and_self]
  | response m status hm h1 h2 =>
    have hresp : h = Header.response status (mapOf m.headers) := by
      have := hwf.header; unfold headerOf at this; rw [hm] at this; cases this; rfl
    subst hresp
    have hr := recvResponse_sent H status m.headers h1 h2 hwf.regular hwf.holdable
    obtain ⟨a, b⟩ := decodeWith_fieldSection (recvResponse H) _ hwf.encodable L hfit.size
    simp only [hdrOf, decodeHead, a, b, hr, classOf, optOf, Option.map_some, and_self]

theorem trailer_block (H : Http) (role : Role) (m : Message) (h : Header) (L : Nat)
    (hwf : WellFormed m h) (hfit : Fits m h L) (t : List FieldLine) (ht : m.trailers = some t) :
    (hdrOf H role L).trailer (trailerSection t) = .ok ∧
    decodeWith L (recvTrailers H) (trailerSection t) = some (mapOf t) := by
  have hr := recvTrailers_sent H t (hwf.trailersRegular t ht) (hwf.trailersHoldable t ht)
  obtain ⟨a, b⟩ := decodeWith_fieldSection (recvTrailers H) _ (hwf.trailersEncodable t ht) L
    (hfit.trailerSize t ht)
  unfold trailerSection
  simp only [hdrOf, a, b, hr, classOf, optOf, and_self]

theorem trailer_ok (H : Http) (role : Role) (m : Message) (h : Header) (L : Nat)
    (hwf : WellFormed m h) (hfit : Fits m h L) :
    ∀ t, m.trailers.map trailerSection = some t → (hdrOf H role L).trailer t = .ok := by
  intro t ht
  obtain ⟨t', hm, rfl⟩ := Option.map_eq_some_iff.mp ht
  exact (trailer_block H role m h L hwf hfit t' hm).1

def goodTrace (hb : Bytes) (ds : List Bytes) (tr : Option Bytes) : Trace :=
  { head := .head hb, body := ds.map .data ++ [.end_], trailers := some (trailersAns tr), env := {} }

theorem recvPattern_streamBytes (H : Http) (role : Role) (m : Message) (h : Header) (out : HeadOut)
    (L : Nat) (hwf : WellFormed m h) (hfit : Fits m h L) (hhead : HeadOk H role m out)
    (g : Option Nat) (hg : ∀ n, g = some n → n < GREASE_RANGE_END)
    (script : List Ev) (hsc : ScriptOK script) (hnr : NoReset script) (hfin : hasFin script = true)
    (hbytes : evBytes (upToFin script) = streamBytes m g) :
    ∃ ds : List Bytes, recvPattern role (hdrOf H role L) script =
        goodTrace (fieldSection h) ds (m.trailers.map trailerSection) ∧
      ds.flatten = m.pieces.flatten := by
  obtain ⟨ds, hpat, hflat, _⟩ := recvPattern_valid role (hdrOf H role L) _ _ _ _ (run_streamBytes m h hwf g hg)
    (head_block H role m h out L hwf hfit hhead).1 (trailer_ok H role m h L hwf hfit) script hsc hnr hfin hbytes
  exact ⟨ds, hpat, hflat⟩

theorem deliverOf_goodTrace (H : Http) (role : Role) (m : Message) (h : Header) (out : HeadOut)
    (L : Nat) (hwf : WellFormed m h) (hfit : Fits m h L) (hhead : HeadOk H role m out) (ds : List Bytes)
    (hflat : ds.flatten = m.pieces.flatten) :
    deliverOf H role L (goodTrace (fieldSection h) ds (m.trailers.map trailerSection)) = expected m out := by
  have hlast : ((ds.map Res.data ++ [Res.end_]).getLast? == some Res.end_) = true := by simp
  simp only [deliverOf, goodTrace, expected, (head_block H role m h out L hwf hfit hhead).2, bodyOf_data,
    endsOf_data, hflat, hlast]
  cases hm : m.trailers with
  | none => rfl
  | some t =>
    simp only [Option.map_some, trailersAns]
    rw [(trailer_block H role m h L hwf hfit t hm).2]
    rfl

/-- **every chunking of the stream bytes of a well-formed message is delivered exactly** -/
theorem deliver_streamBytes (H : Http) (role : Role) (m : Message) (h : Header) (out : HeadOut)
    (L : Nat) (hwf : WellFormed m h) (hfit : Fits m h L) (hhead : HeadOk H role m out)
    (g : Option Nat) (hg : ∀ n, g = some n → n < GREASE_RANGE_END)
    (script : List Ev) (hsc : ScriptOK script) (hnr : NoReset script) (hfin : hasFin script = true)
    (hbytes : evBytes (upToFin script) = streamBytes m g) :
    deliver H role L script = expected m out := by
  obtain ⟨ds, hpat, hflat⟩ := recvPattern_streamBytes H role m h out L hwf hfit hhead g hg script hsc hnr hfin hbytes
  rw [deliver, hpat]
  exact deliverOf_goodTrace H role m h out L hwf hfit hhead ds hflat

/-- the steps of a program of awaited calls -/
def opsOf (calls : List (SOp × List Nat)) : List SOp :=
  calls.flatMap (fun c => c.1 :: c.2.map .poll)

theorem runS_append (s : Stream) (a b : List SOp) : runS s (a ++ b) = runS (runS s a) b := by
  simp [runS, List.foldl_append]

theorem sendAll_eq_runS (calls : List (SOp × List Nat)) : ∀ s, sendAll s calls = runS s (opsOf calls) := by
  induction calls with
  | nil => intro s; rfl
  | cons c r ih =>
    intro s
    rw [sendAll_cons, ih]
    simp only [opsOf, List.flatMap_cons]
    rw [runS_append]
    rfl

theorem draw_ok (g : Bool) (gN : Nat) (hg : gN < GREASE_RANGE_END) :
    ∀ n, (if g then some gN else none) = some n → n < GREASE_RANGE_END := by
  intro n hn
  cases g with
  | false => cases hn
  | true => cases hn; exact hg

theorem sendAll_wellFormed (m : Message) (h : Header) (hwf : WellFormed m h) (g : Bool) (gN : Nat)
    (hg : gN < GREASE_RANGE_END) (scripts : List (List Nat))
    (haw : Awaited (freshStream g) (callsOf (framesOf m h) gN scripts)) :
    (sendAll (freshStream g) (callsOf (framesOf m h) gN scripts)).log =
      streamBytes m (if g then some gN else none) ∧
    (sendAll (freshStream g) (callsOf (framesOf m h) gN scripts)).fin = true ∧
    (sendAll (freshStream g) (callsOf (framesOf m h) gN scripts)).cur = none := by
  obtain ⟨a, b, c⟩ := sendAll_message (framesOf m h) (fun f hf => (frames_ok m h hwf f hf).2) g gN hg scripts haw
  exact ⟨by rw [a, streamBytes, wire_eq m h hwf.header], b, c⟩

theorem sent_in_any_run (m : Message) (h : Header) (hwf : WellFormed m h) (g : Bool)
    (gN : Nat) (hg : gN < GREASE_RANGE_END) (scripts : List (List Nat))
    (haw : Awaited (freshStream g) (callsOf (framesOf m h) gN scripts))
    (st : State) (sid : Nat) (hsid : sid % 4 = 0)
    (hfresh : getStream st.streams sid = some (freshStream g)) (steps : List Step)
    (hproj : steps.filterMap (proj sid) = opsOf (callsOf (framesOf m h) gN scripts)) :
    ∃ s, getStream (run st steps).streams sid = some s ∧
      s.log = streamBytes m (if g then some gN else none) ∧ s.fin = true := by
  obtain ⟨a, b, _⟩ := sendAll_wellFormed m h hwf g gN hg scripts haw
  refine ⟨_, getStream_run steps st sid _ hsid hfresh, ?_, ?_⟩
  · rw [hproj, ← sendAll_eq_runS, a]
  · rw [hproj, ← sendAll_eq_runS, b]

theorem chunksOf_spec (k : Nat) : ∀ (fuel : Nat) (w : Bytes), w.length ≤ fuel →
    evBytes (chunksOf k fuel w) = w ∧ (∀ e ∈ chunksOf k fuel w, ∃ b, e = Ev.chunk b ∧ b ≠ []) := by
  intro fuel
  induction fuel with
  | zero =>
    intro w hw
    cases w with
    | nil => exact ⟨rfl, by simp [chunksOf]⟩
    | cons b r => cases hw
  | succ fuel ih =>
    intro w hw
    cases w with
    | nil => exact ⟨rfl, by simp [chunksOf]⟩
    | cons b r =>
      -- `max k 1 = n + 1`: the chunk is not empty, and less is left
      obtain ⟨n, hn⟩ : ∃ n, max k 1 = n + 1 := ⟨max k 1 - 1, by omega⟩
      obtain ⟨h1, h2⟩ := ih ((b :: r).drop (max k 1)) (by
        simp only [List.length_drop, List.length_cons] at hw ⊢; omega)
      simp only [chunksOf]
      refine ⟨by simp only [evBytes, h1, List.take_append_drop], fun e he => ?_⟩
      rcases List.mem_cons.mp he with rfl | he
      · exact ⟨_, rfl, by rw [hn]; exact List.cons_ne_nil _ _⟩
      · exact h2 e he

theorem chunked_spec (k : Nat) (w : Bytes) :
    ScriptOK (chunked k w) ∧ NoReset (chunked k w) ∧ hasFin (chunked k w) = true ∧
    evBytes (upToFin (chunked k w)) = w := by
  obtain ⟨h1, h2⟩ := chunksOf_spec k w.length w (Nat.le_refl _)
  have hnf : Ev.fin ∉ chunksOf k w.length w := by
    intro h; obtain ⟨b, hb, _⟩ := h2 _ h; cases hb
  refine ⟨fun b hb => ?_, fun c hc => ?_, by simp [chunked, hasFin], by
    unfold chunked; rw [upToFin_fin _ [] hnf, h1]⟩
  · rcases List.mem_append.mp hb with hb | hb
    · obtain ⟨b', hb', hne⟩ := h2 _ hb
      cases hb'; exact hne
    · cases List.mem_singleton.mp hb
  · rcases List.mem_append.mp hc with hc | hc
    · obtain ⟨_, hb', _⟩ := h2 _ hc
      cases hb'
    · cases List.mem_singleton.mp hc

end H3.E2E
