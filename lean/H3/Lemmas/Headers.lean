import H3.Model.Headers
import H3.Spec.Headers
/-! The vocabulary of the C12 statements (`ParseOk`, `Inv`, `lastVal`, `pseudoList`, `hmWF`) and the
    lemmas under them: the validators against the RFC classes, `Field::parse`, the loop of
    `Header::try_from` with its invariant, the capacity of the map, `HeaderIter`. -/
namespace H3.Headers
open H3.Spec.Headers

/-- the two classes on the bytes below DEL, by evaluation (above, both are empty) -/
theorem isLowerTok_low : ∀ b, b < 127 →
    isLowerTok b = (decide (tchar b) && !decide (0x41 ≤ b ∧ b ≤ 0x5a)) := by decide +kernel

theorem isLowerTok_iff (b : Nat) : isLowerTok b = true ↔ (tchar b ∧ ¬ UPPER b) := by
  by_cases hb : b < 127
  · rw [isLowerTok_low b hb]
    simp only [UPPER, Bool.and_eq_true, decide_eq_true_eq, Bool.not_eq_true', decide_eq_false_iff_not]
  · have h1 : isLowerTok b = false := by
      simp only [isLowerTok, Bool.or_eq_false_iff, Bool.and_eq_false_iff, decide_eq_false_iff_not,
        beq_eq_false_iff_ne]
      omega
    have h2 : ¬ tchar b := by
      simp only [tchar, tcharSpecials, DIGIT, UPPER, LOWER, List.mem_cons, List.not_mem_nil, or_false]
      omega
    simp [h1, h2]

theorem isTchar_iff (b : Nat) : isTchar b = true ↔ tchar b := by
  have hu : (65 ≤ b && b ≤ 90) = true ↔ UPPER b := by simp [UPPER]
  rw [isTchar, Bool.or_eq_true, isLowerTok_iff, hu]
  constructor
  · rintro (h | h)
    · exact h.1
    · exact .inr (.inr (.inl h))
  · intro h
    by_cases hu : UPPER b
    · exact .inr hu
    · exact .inl ⟨h, hu⟩

theorem validValue_iff (v : Bytes) : validValue v = true ↔ LegalValue v := by
  simp only [validValue, LegalValue, FieldValueByte, List.all_eq_true, Bool.or_eq_true, Bool.and_eq_true,
    decide_eq_true_eq, beq_iff_eq, bne_iff_ne]
  constructor <;> intro h b hb <;> have := h b hb <;> omega

theorem validMethod_iff (m : Bytes) : validMethod m = true ↔ MethodToken m := by
  simp only [validMethod, MethodToken, Bool.and_eq_true, Bool.not_eq_true', List.isEmpty_eq_false_iff,
    List.all_eq_true, isTchar_iff]

theorem validStatus_iff (v : Bytes) : validStatus v = true ↔ StatusCode v := by
  match v with
  | [] | [_] | [_, _] | _ :: _ :: _ :: _ :: _ => simp [validStatus, StatusCode]
  | [a, b, c] =>
    simp only [validStatus, StatusCode, isDigit, DIGIT, Bool.and_eq_true, decide_eq_true_eq, List.length_cons,
      List.length_nil, List.mem_cons, List.not_mem_nil, or_false, forall_eq_or_imp, forall_eq, List.head?_cons,
      ne_eq, Option.some.injEq, true_and]
    omega

theorem validStatus_shape {v : Bytes} (h : validStatus v = true) :
    ∃ a b c, v = [a, b, c] ∧ 49 ≤ a ∧ a ≤ 57 ∧ 48 ≤ b ∧ b ≤ 57 ∧ 48 ≤ c ∧ c ≤ 57 := by
  match v, h with
  | [a, b, c], h =>
    simp only [validStatus, isDigit, Bool.and_eq_true, decide_eq_true_eq] at h
    exact ⟨a, b, c, rfl, by omega⟩

theorem statusVal_range (v : Bytes) (h : validStatus v = true) : 100 ≤ statusVal v ∧ statusVal v ≤ 999 := by
  obtain ⟨a, b, c, rfl, h⟩ := validStatus_shape h
  simp only [statusVal]
  omega

theorem statusDigits_statusVal (v : Bytes) (h : validStatus v = true) : statusDigits (statusVal v) = v := by
  obtain ⟨a, b, c, rfl, h⟩ := validStatus_shape h
  simp only [statusVal, statusDigits, List.cons.injEq, and_true]
  omega

theorem status_digits (st : Nat) (h1 : 100 ≤ st) (h2 : st ≤ 999) :
    validStatus (statusDigits st) = true ∧ statusVal (statusDigits st) = st := by
  simp only [statusDigits, validStatus, statusVal, isDigit, Bool.and_eq_true, decide_eq_true_eq]
  omega

theorem isPseudo_iff (n : Bytes) : IsPseudo n ↔ isPseudoName n = true := by
  simp [IsPseudo, isPseudoName, colon]

theorem not_isPseudo_iff (n : Bytes) : ¬ IsPseudo n ↔ isPseudoName n = false := by
  rw [isPseudo_iff]; simp

theorem fromLowercase_not_pseudo (n : Bytes) (h : fromLowercase n = true) : ¬ IsPseudo n := by
  intro hp
  unfold IsPseudo at hp
  cases n with
  | nil => simp at hp
  | cons b r =>
    simp only [List.head?_cons, Option.some.injEq] at hp
    subst hp
    simp [fromLowercase, isH2NameByte, isLowerTok] at h

theorem nameAccepted_facts {n : Bytes} (h : nameAccepted n = true) :
    n.isEmpty = false ∧ isPseudoName n = false := by
  have hf : fromLowercase n = true := by
    simp only [nameAccepted, Bool.and_eq_true] at h; exact h.2
  refine ⟨?_, (not_isPseudo_iff n).mp (fromLowercase_not_pseudo n hf)⟩
  simp only [fromLowercase, Bool.and_eq_true, Bool.not_eq_true'] at hf
  exact hf.1.1

/-- `hq` is the `"` fix: `HeaderName::from_lowercase` alone admits `"`, which is no token byte -/
theorem nameAccepted_lowerToken (hq : H3.Gen.Headers.nameRejectsDquote = true) (n : Bytes)
    (h : nameAccepted n = true) : LowerToken n := by
  simp only [nameAccepted, hq, Bool.not_true, Bool.false_or, fromLowercase, Bool.and_eq_true, Bool.not_eq_true',
    List.isEmpty_eq_false_iff, decide_eq_true_eq, List.all_eq_true, List.contains_eq_mem, decide_eq_false_iff_not] at h
  obtain ⟨hq34, ⟨hne, _⟩, hall⟩ := h
  refine ⟨hne, fun b hb => ?_⟩
  have hb2 := hall b hb
  have : b ≠ 34 := fun e => hq34 (e ▸ hb)
  rw [← isLowerTok_iff]
  simpa [isH2NameByte, this] using hb2

theorem Res.bind_eq_ok {α β : Type} {r : Res α} {f : α → Res β} {b : β} (h : r.bind f = .ok b) :
    ∃ a, r = .ok a ∧ f a = .ok b := by
  cases r with
  | ok a => exact ⟨a, rfl, h⟩
  | err e | panic => cases h

theorem Res.bind_ne_panic {α β : Type} {r : Res α} {f : α → Res β} (hr : r ≠ .panic) (hf : ∀ a, f a ≠ .panic) :
    r.bind f ≠ .panic := by
  cases r with
  | ok a => exact hf a
  | err e => intro h; cases h
  | panic => exact absurd rfl hr

inductive ParseOk (H : Http) (n v : Bytes) : Field → Prop
  | header : n ≠ [] → isPseudoName n = false → nameAccepted n = true → validValue v = true → ParseOk H n v (.header n v)
  | scheme (s : Bytes) : n = nScheme → H.parseScheme v = some s → ParseOk H n v (.scheme s)
  | authority (a : Bytes) : n = nAuthority → H.parseAuthority v = some a → ParseOk H n v (.authority a)
  | path (p : Bytes) : n = nPath → H.parsePath v = some p → ParseOk H n v (.path p)
  | method : n = nMethod → validMethod v = true → ParseOk H n v (.method v)
  | status : n = nStatus → validStatus v = true → ParseOk H n v (.status (statusVal v))
  | protocol : n = nProtocol → v ∈ H3.Gen.Headers.protocols → ParseOk H n v (.protocol v)

/-- the `Protocol` table the translator reads from `h3/src/ext.rs` is the list of IANA tokens the
    specification writes out (a `Protocol` constant added to or removed from h3 fails here) -/
theorem protocols_gen_eq_spec : H3.Gen.Headers.protocols = protocolTokens := by decide

theorem parseProtocol_some {v p : Bytes} (h : parseProtocol v = some p) : p = v ∧ v ∈ H3.Gen.Headers.protocols := by
  unfold parseProtocol at h
  split at h
  · rename_i hc; cases h; exact ⟨rfl, by simpa using hc⟩
  · cases h

/-- `r` is no panic, and what it accepts satisfies `Q`.  The answers of a chain of tests are `.err`, `.ok` or a
    further function's, put together by `if`: a lemma for each, so that such a chain is read off test by test. -/
def Res.Post {α : Type} (Q : α → Prop) (r : Res α) : Prop := (∃ e, r = .err e) ∨ ∃ a, r = .ok a ∧ Q a

section
variable {α : Type} {Q : α → Prop} {r s : Res α}

theorem Res.Post.err {e : HeaderError} : Res.Post Q (.err e) := .inl ⟨e, rfl⟩

theorem Res.Post.ok {a : α} (h : Q a) : Res.Post Q (.ok a) := .inr ⟨a, rfl, h⟩

theorem Res.Post.ite {c : Prop} [Decidable c] (hr : c → r.Post Q) (hs : ¬c → s.Post Q) :
    (if c then r else s).Post Q := by
  split
  · exact hr ‹c›
  · exact hs ‹¬c›

theorem Res.Post.of_ok {a : α} (h : r.Post Q) (e : r = .ok a) : Q a := by
  rcases h with ⟨_, he⟩ | ⟨_, hb, hq⟩
  · cases he.symm.trans e
  · cases hb.symm.trans e; exact hq

theorem Res.Post.ne_panic (h : r.Post Q) : r ≠ .panic := by
  rcases h with ⟨_, he⟩ | ⟨_, hb, _⟩
  · rw [he]; intro h; cases h
  · rw [hb]; intro h; cases h

end

theorem tryValue_post {Q : Field → Prop} {parse : Bytes → Option Bytes} {mk : Bytes → Field} {v : Bytes}
    (h : ∀ x, parse v = some x → Q (mk x)) : (tryValue parse mk v).Post Q := by
  unfold tryValue
  cases hx : parse v with
  | none => exact .err
  | some x => exact .ok (h x hx)

/-- the chain of tests of `Field::parse`, a line for each test: what the arm that passes it answers, and on with
    the arm that does not -/
theorem parse_cases (H : Http) (n v : Bytes) :
    (Field.parse H n v).Post fun f => ParseOk H n v f ∧
      (isPseudoName n = true → (H3.Gen.Headers.pseudoSyntaxChecked && !pseudoValueSyntax n v) = false) := by
  unfold Field.parse
  refine .ite (fun _ => .err) fun h0 => ?_
  refine .ite (fun hp => ?_) fun hp => ?_
  · refine .ite (fun _ => .err) fun hn => ?_
    refine .ite (fun _ => .err) fun hv => ?_
    exact .ok ⟨.header (by simpa using h0) (by simpa using hp) (by simpa using hn) (by simpa using hv),
      fun h => by simp [h] at hp⟩
  refine .ite (fun _ => .err) fun hs => ?_
  have hs' : isPseudoName n = true → (H3.Gen.Headers.pseudoSyntaxChecked && !pseudoValueSyntax n v) = false :=
    fun _ => by simpa using hs
  refine .ite (fun e => tryValue_post fun x hx => ⟨.scheme x e hx, hs'⟩) fun _ => ?_
  refine .ite (fun e => tryValue_post fun x hx => ⟨.authority x e hx, hs'⟩) fun _ => ?_
  refine .ite (fun e => tryValue_post fun x hx => ⟨.path x e hx, hs'⟩) fun _ => ?_
  refine .ite (fun e => .ite (fun hm => .ok ⟨.method e hm, hs'⟩) fun _ => .err) fun _ => ?_
  refine .ite (fun e => .ite (fun hm => .ok ⟨.status e hm, hs'⟩) fun _ => .err) fun _ => ?_
  refine .ite (fun e => tryValue_post fun x hx => ?_) fun _ => .err
  obtain ⟨rfl, hm⟩ := parseProtocol_some hx
  exact ⟨.protocol e hm, hs'⟩

theorem parse_ok {H : Http} {n v : Bytes} {f : Field} (h : Field.parse H n v = .ok f) : ParseOk H n v f :=
  ((parse_cases H n v).of_ok h).1

theorem parse_ne_panic (H : Http) (n v : Bytes) : Field.parse H n v ≠ .panic := (parse_cases H n v).ne_panic

theorem isAlpha_iff (b : Nat) : isAlpha b = true ↔ ALPHA b := by
  simp only [isAlpha, ALPHA, UPPER, LOWER, Bool.or_eq_true, Bool.and_eq_true, decide_eq_true_eq]

theorem isDigit_iff (b : Nat) : isDigit b = true ↔ DIGIT b := by
  simp only [isDigit, DIGIT, Bool.and_eq_true, decide_eq_true_eq]

/-- the `:scheme` arm is the whole grammar of RFC 3986 §3.1 -/
theorem schemeSyntax_iff (v : Bytes) : schemeSyntax v = true ↔ SchemeSyntax v := by
  have hfirst : firstIsAlpha v = true ↔ StartsAlpha v := by
    cases v with
    | nil => simp [firstIsAlpha, StartsAlpha]
    | cons b r => simp only [firstIsAlpha, StartsAlpha, isAlpha_iff]
  simp only [schemeSyntax, SchemeSyntax, Bool.and_eq_true, hfirst, List.all_eq_true, isSchemeByte,
    Bool.or_eq_true, isAlpha_iff, isDigit_iff, beq_iff_eq, or_assoc]

theorem hostPortOf_eq (v : Bytes) : hostPortOf v = hostPort v := by
  unfold hostPortOf hostPort
  congr 2
  funext b
  by_cases hb : b = 64 <;> simp [hb]

/-- the `:authority` arm is the two necessary conditions of RFC 3986 §3.2 the specification asks -/
theorem authoritySyntax_iff (v : Bytes) : authoritySyntax v = true ↔ AuthoritySyntax v := by
  have hf : (v.filter (· == 64)) = (v.filter (fun b => decide (b = 0x40))) := by
    congr 1
  have hd : ((hostPort v).dropWhile (· != 58)) = ((hostPort v).dropWhile (fun b => decide (b ≠ 0x3a))) := by
    congr 1; funext b; by_cases hb : b = 58 <;> simp [hb]
  unfold authoritySyntax AuthoritySyntax
  rw [hostPortOf_eq, hf, hd]
  by_cases hc : (v.filter (fun b => decide (b = 0x40))).length > 1
  · rw [if_pos hc]
    constructor
    · intro h; cases h
    · intro h; omega
  · rw [if_neg hc]
    simp only [Bool.or_eq_true, beq_iff_eq, List.all_eq_true, isDigit_iff]
    constructor
    · intro h; exact ⟨by omega, h⟩
    · intro h; exact h.2

theorem pathSyntax_iff (v : Bytes) : pathSyntax v = true ↔ PathSyntax v := by
  simp [pathSyntax, PathSyntax]

theorem pseudoValueSyntax_spec {n v : Bytes} (h : pseudoValueSyntax n v = true) : PseudoSyntax n v := by
  unfold pseudoValueSyntax at h
  refine ⟨?_, ?_, ?_⟩
  · intro e
    rw [if_pos e] at h
    exact (schemeSyntax_iff v).mp h
  · intro e
    have e1 : ¬ n = nScheme := by rw [e]; decide
    rw [if_neg e1, if_pos e] at h
    exact (authoritySyntax_iff v).mp h
  · intro e
    have e1 : ¬ n = nScheme := by rw [e]; decide
    have e2 : ¬ n = nAuthority := by rw [e]; decide
    rw [if_neg e1, if_neg e2, if_pos e] at h
    exact (pathSyntax_iff v).mp h

/-- with the D-12g fix a pseudo-header field `Field::parse` accepts has passed `pseudo_value_syntax`;
    a regular field has nothing to pass (its name is none of the three) -/
theorem parse_ok_syntax (hc : H3.Gen.Headers.pseudoSyntaxChecked = true) {H : Http} {n v : Bytes} {f : Field}
    (h : Field.parse H n v = .ok f) : PseudoSyntax n v := by
  by_cases hp : isPseudoName n = true
  · exact pseudoValueSyntax_spec (by simpa [hc] using ((parse_cases H n v).of_ok h).2 hp)
  · have hp' : isPseudoName n = false := by simpa using hp
    exact ⟨fun e => absurd (e ▸ hp') (by decide), fun e => absurd (e ▸ hp') (by decide),
      fun e => absurd (e ▸ hp') (by decide)⟩

def hmWF (m : HeaderMap) : Prop := (m.map (·.1)).Nodup

theorem hmAppend_keys (m : HeaderMap) (n v : Bytes) :
    (hmAppend m n v).map (·.1) = if n ∈ m.map (·.1) then m.map (·.1) else m.map (·.1) ++ [n] := by
  induction m with
  | nil => simp [hmAppend]
  | cons g r ih =>
    obtain ⟨k, vs⟩ := g
    by_cases hk : k = n
    · simp [hmAppend, hk]
    · have hk' : ¬ n = k := fun e => hk e.symm
      simp only [hmAppend, if_neg hk, List.map_cons, ih, List.mem_cons, hk', false_or]
      split <;> simp

theorem hmWF_append (m : HeaderMap) (n v : Bytes) (h : hmWF m) : hmWF (hmAppend m n v) := by
  unfold hmWF at *
  rw [hmAppend_keys]
  split
  · exact h
  · rename_i hn
    rw [List.nodup_append]
    refine ⟨h, by simp, ?_⟩
    intro a ha b hb
    simp only [List.mem_singleton] at hb
    subst hb
    intro e; subst e; exact hn ha

theorem hmGroup_append (m : HeaderMap) (n v k : Bytes) :
    hmGroup (hmAppend m n v) k = hmGroup m k ++ (if n = k then [v] else []) := by
  induction m with
  | nil => simp [hmAppend, hmGroup]
  | cons g r ih =>
    obtain ⟨k', vs⟩ := g
    by_cases h1 : k' = n
    · subst h1; by_cases h2 : k' = k <;> simp [hmAppend, hmGroup, h2]
    · by_cases h2 : k' = k
      · subst h2; simp [hmAppend, hmGroup, h1, Ne.symm h1]
      · simp [hmAppend, hmGroup, h1, h2, ih]

theorem hmGroup_nil_of_not_mem (m : HeaderMap) (n : Bytes) (h : n ∉ m.map (·.1)) : hmGroup m n = [] := by
  induction m with
  | nil => rfl
  | cons g r ih =>
    obtain ⟨k, vs⟩ := g
    simp only [List.map_cons, List.mem_cons, not_or] at h
    have hkn : ¬ k = n := fun e => h.1 e.symm
    simp [hmGroup, hkn, ih h.2]

theorem hmIter_filter (m : HeaderMap) (h : hmWF m) (n : Bytes) :
    (hmIter m).filter (fun f => f.1 = n) = (hmGroup m n).map (fun v => (n, v)) := by
  induction m with
  | nil => simp [hmIter, hmGroup]
  | cons g r ih =>
    obtain ⟨k, vs⟩ := g
    obtain ⟨hk, hr⟩ := List.nodup_cons.mp h
    simp only [hmIter, List.filter_append, ih hr, hmGroup, List.filter_map, Function.comp_def]
    by_cases e : k = n
    · subst e
      simp [hmGroup_nil_of_not_mem r k hk, List.filter_eq_self.mpr (fun (_ : Bytes) _ => rfl)]
    · simp [e]

def lastVal (n : Bytes) (fs : List FieldLine) : Option Bytes := (valuesOf n fs).getLast?

theorem valuesOf_snoc (n : Bytes) (fs : List FieldLine) (k v : Bytes) :
    valuesOf n (fs ++ [(k, v)]) = valuesOf n fs ++ (if k = n then [v] else []) := by
  unfold valuesOf
  by_cases h : k = n <;> simp [List.filter_append, h]

theorem mem_valuesOf {n v : Bytes} {fs : List FieldLine} : v ∈ valuesOf n fs ↔ (n, v) ∈ fs := by
  unfold valuesOf
  simp only [List.mem_map, List.mem_filter, decide_eq_true_eq]
  constructor
  · rintro ⟨⟨a, b⟩, ⟨hm, rfl⟩, rfl⟩; exact hm
  · intro h; exact ⟨(n, v), ⟨h, rfl⟩, rfl⟩

theorem lastVal_mem {n v : Bytes} {fs : List FieldLine} (h : lastVal n fs = some v) : (n, v) ∈ fs :=
  mem_valuesOf.mp (List.mem_of_getLast? h)

theorem regular_snoc (fs : List FieldLine) (k v : Bytes) :
    regular (fs ++ [(k, v)]) = regular fs ++ (if isPseudoName k = true then [] else [(k, v)]) := by
  unfold regular
  by_cases h : isPseudoName k = true
  · simp [List.filter_append, isPseudo_iff, h]
  · simp [List.filter_append, isPseudo_iff, h]

theorem valuesOf_regular_of_not_pseudo (n : Bytes) (hn : isPseudoName n = false) (fs : List FieldLine) :
    valuesOf n (regular fs) = valuesOf n fs := by
  unfold valuesOf regular
  rw [List.filter_filter]
  congr 1
  apply List.filter_congr
  intro f _
  by_cases e : f.1 = n
  · simp [e, isPseudo_iff, hn]
  · simp [e]

theorem lastVal_snoc (n : Bytes) (fs : List FieldLine) (k v : Bytes) :
    lastVal n (fs ++ [(k, v)]) = if k = n then some v else lastVal n fs := by
  unfold lastVal
  rw [valuesOf_snoc]
  by_cases h : k = n <;> simp [h]

theorem ne_of_not_pseudo {n p : Bytes} (hn : isPseudoName n = false) (hp : isPseudoName p = true) : n ≠ p := by
  intro e; subst e; simp [hn] at hp

/-- what is known of the `Header` after the loop has taken the fields `fs` (starting empty) -/
structure Inv (H : Http) (fs : List FieldLine) (h : Header) : Prop where
  accepted : ∀ f ∈ fs, ∃ fld, ParseOk H f.1 f.2 fld
  method : h.pseudo.method = lastVal nMethod fs
  scheme : h.pseudo.scheme = (lastVal nScheme fs).bind H.parseScheme
  authority : h.pseudo.authority = (lastVal nAuthority fs).bind H.parseAuthority
  path : h.pseudo.path = (lastVal nPath fs).bind H.parsePath
  status : h.pseudo.status = (lastVal nStatus fs).map statusVal
  protocol : h.pseudo.protocol = lastVal nProtocol fs
  len : h.pseudo.len = (fs.filter (fun f => isPseudoName f.1)).length
  wf : hmWF h.fields
  group : ∀ n, hmGroup h.fields n = valuesOf n (regular fs)

theorem inv_nil (H : Http) : Inv H [] {} := by
  refine ⟨by simp, ?_, ?_, ?_, ?_, ?_, ?_, ?_, ?_, ?_⟩ <;>
    simp [lastVal, valuesOf, regular, hmWF, hmGroup]

theorem inv_step {H : Http} {fs : List FieldLine} {h : Header} {n v : Bytes} {f : Field}
    (hi : Inv H fs h) (hp : ParseOk H n v f) : Inv H (fs ++ [(n, v)]) (h.add f) := by
  have hacc : ∀ g ∈ fs ++ [(n, v)], ∃ fld, ParseOk H g.1 g.2 fld := by
    intro g hg
    rcases List.mem_append.mp hg with hg | hg
    · exact hi.accepted g hg
    · simp only [List.mem_singleton] at hg; subst hg; exact ⟨f, hp⟩
  obtain ⟨_, h1, h2, h3, h4, h5, h6, h7, h8, h9⟩ := hi
  cases hp with
  | header hne hps hn hv =>
    have e1 := ne_of_not_pseudo hps (by decide : isPseudoName nMethod = true)
    have e2 := ne_of_not_pseudo hps (by decide : isPseudoName nScheme = true)
    have e3 := ne_of_not_pseudo hps (by decide : isPseudoName nAuthority = true)
    have e4 := ne_of_not_pseudo hps (by decide : isPseudoName nPath = true)
    have e5 := ne_of_not_pseudo hps (by decide : isPseudoName nStatus = true)
    have e6 := ne_of_not_pseudo hps (by decide : isPseudoName nProtocol = true)
    refine ⟨hacc, ?_, ?_, ?_, ?_, ?_, ?_, ?_, hmWF_append _ _ _ h8, ?_⟩
    · simp [Header.add, lastVal_snoc, e1, h1]
    · simp [Header.add, lastVal_snoc, e2, h2]
    · simp [Header.add, lastVal_snoc, e3, h3]
    · simp [Header.add, lastVal_snoc, e4, h4]
    · simp [Header.add, lastVal_snoc, e5, h5]
    · simp [Header.add, lastVal_snoc, e6, h6]
    · simp [Header.add, List.filter_append, hps, h7]
    · intro k
      simp only [Header.add, hmGroup_append, h9, regular_snoc, hps]
      simp [valuesOf_snoc]
  -- a pseudo-header field: `add` sets the one field of its name, `lastVal_snoc` says the same of the
  -- list; the names are told apart by evaluation
  | scheme s e hs | authority s e hs | path s e hs =>
    subst e
    refine ⟨hacc, ?_, ?_, ?_, ?_, ?_, ?_, ?_, h8, fun k => ?_⟩ <;>
      simp +decide [Header.add, lastVal_snoc, List.filter_append, regular_snoc, h1, h2, h3, h4, h5, h6, h7, h9, hs]
  | method e hs | status e hs | protocol e hs =>
    subst e
    refine ⟨hacc, ?_, ?_, ?_, ?_, ?_, ?_, ?_, h8, fun k => ?_⟩ <;>
      simp +decide [Header.add, lastVal_snoc, List.filter_append, regular_snoc, h1, h2, h3, h4, h5, h6, h7, h9]

theorem loop_cons_ok {H : Http} {h0 h : Header} {n v : Bytes} {r : List FieldLine}
    (hl : tryFromLoop H h0 ((n, v) :: r) = .ok h) :
    ∃ f, Field.parse H n v = .ok f ∧ h0.full f = false ∧ tryFromLoop H (h0.add f) r = .ok h := by
  simp only [tryFromLoop] at hl
  split at hl
  · rename_i f hf
    split at hl
    · unfold mapFull at hl; split at hl <;> cases hl
    · rename_i hfull; exact ⟨f, hf, by simpa using hfull, hl⟩
  · cases hl
  · cases hl

theorem loop_inv (H : Http) (fs : List FieldLine) :
    ∀ (pre : List FieldLine) (h0 h : Header), Inv H pre h0 → tryFromLoop H h0 fs = .ok h → Inv H (pre ++ fs) h := by
  induction fs with
  | nil => intro pre h0 h hi hl; simp only [tryFromLoop] at hl; cases hl; simpa using hi
  | cons g r ih =>
    intro pre h0 h hi hl
    obtain ⟨f, hf, _, hl⟩ := loop_cons_ok hl
    simpa using ih (pre ++ [g]) (h0.add f) h (inv_step hi (parse_ok hf)) hl

theorem mapFull_ne_panic : mapFull ≠ .panic := by
  have hm : H3.Gen.Headers.mapFallible = true := rfl
  simp [mapFull, hm]

theorem loop_ne_panic (H : Http) (fs : List FieldLine) : ∀ h0, tryFromLoop H h0 fs ≠ .panic := by
  induction fs with
  | nil => intro h0; simp [tryFromLoop]
  | cons g r ih =>
    intro h0
    obtain ⟨n, v⟩ := g
    simp only [tryFromLoop]
    split
    · split
      · exact mapFull_ne_panic
      · exact ih _
    · simp
    · rename_i hp; exact absurd hp (parse_ne_panic H n v)

/-- the decision of the D-01 fix: a map that cannot be pre-sized does not end the conversion.
    Needs `H3.Gen.Headers.mapPresizeRefuses = false`: the proof evaluates the generated constant. -/
theorem tryFrom_eq_loop (H : Http) (fs : List FieldLine) : tryFrom H fs = tryFromLoop H {} fs := by
  have hp : H3.Gen.Headers.mapPresizeRefuses = false := rfl
  simp [tryFrom, hp]

theorem tryFrom_ok {H : Http} {fs : List FieldLine} {h : Header} (e : tryFrom H fs = .ok h) : Inv H fs h := by
  rw [tryFrom_eq_loop] at e
  simpa using loop_inv H fs [] {} h (inv_nil H) e

-- `Inv.accepted` yields `ParseOk` only, which does not carry the `pseudo_value_syntax` check: `tryFrom_syntax`
-- needs the successful `Field.parse` itself
theorem loop_parsed (H : Http) (fs : List FieldLine) :
    ∀ (h0 h : Header), tryFromLoop H h0 fs = .ok h → ∀ g ∈ fs, ∃ f, Field.parse H g.1 g.2 = .ok f := by
  induction fs with
  | nil => intro _ _ _ g hg; cases hg
  | cons g r ih =>
    intro h0 h hl g' hg'
    obtain ⟨f, hf, _, hl⟩ := loop_cons_ok hl
    rcases List.mem_cons.mp hg' with e | hm
    · subst e; exact ⟨f, hf⟩
    · exact ih _ _ hl g' hm

/-- **the D-12g fix**: every `:scheme` / `:authority` / `:path` value of a section `Header::try_from`
    accepts has passed h3's own check (`pseudo_value_syntax`), whatever the `http` parsers answer.
    Needs `H3.Gen.Headers.pseudoSyntaxChecked = true`: the proof evaluates the generated constant. -/
theorem tryFrom_syntax {H : Http} {fs : List FieldLine} {h : Header} (e : tryFrom H fs = .ok h) :
    ∀ f ∈ fs, PseudoSyntax f.1 f.2 := by
  have hc : H3.Gen.Headers.pseudoSyntaxChecked = true := rfl
  rw [tryFrom_eq_loop] at e
  intro g hg
  obtain ⟨f, hf⟩ := loop_parsed H fs _ _ e g hg
  exact parse_ok_syntax hc hf

/-- needs `H3.Gen.Headers.mapFallible = true` (the fallible `HeaderMap` constructors; evaluated in
    `mapFull_ne_panic`) and `mapPresizeRefuses = false` (evaluated in `tryFrom_eq_loop`). -/
theorem tryFrom_ne_panic (H : Http) (fs : List FieldLine) : tryFrom H fs ≠ .panic := by
  rw [tryFrom_eq_loop]
  exact loop_ne_panic H fs _

theorem hmAppend_length (m : HeaderMap) (n v : Bytes) :
    (hmAppend m n v).length = if n ∈ m.map (·.1) then m.length else m.length + 1 := by
  have := congrArg List.length (hmAppend_keys m n v)
  simp only [List.length_map] at this
  rw [this]
  split <;> simp

theorem hmAppend_length_le (m : HeaderMap) (n v : Bytes) : (hmAppend m n v).length ≤ m.length + 1 := by
  rw [hmAppend_length]; split <;> omega

theorem add_length_le (h : Header) (f : Field) (hc : h.fields.length ≤ hmMaxEntries)
    (hf : h.full f = false) : (h.add f).fields.length ≤ hmMaxEntries := by
  cases f with
  | header n v =>
    simp only [Header.full, decide_eq_false_iff_not] at hf
    have := hmAppend_length_le h.fields n v
    simp only [Header.add]
    omega
  | method _ | scheme _ | authority _ | path _ | status _ | protocol _ => exact hc

theorem loop_cap (H : Http) (fs : List FieldLine) : ∀ (h0 h : Header),
    h0.fields.length ≤ hmMaxEntries → tryFromLoop H h0 fs = .ok h → h.fields.length ≤ hmMaxEntries := by
  induction fs with
  | nil => intro h0 h hc hl; simp only [tryFromLoop] at hl; cases hl; exact hc
  | cons g r ih =>
    intro h0 h hc hl
    obtain ⟨f, _, hfull, hl⟩ := loop_cons_ok hl
    exact ih _ h (add_length_le h0 f hc hfull) hl

theorem tryFrom_cap {H : Http} {fs : List FieldLine} {h : Header} (e : tryFrom H fs = .ok h) :
    h.fields.length ≤ hmMaxEntries := by
  rw [tryFrom_eq_loop] at e
  exact loop_cap H fs {} h (by simp) e

theorem nodup_subset_length {α : Type} [DecidableEq α] : ∀ (ns ks : List α), ns.Nodup →
    (∀ n ∈ ns, n ∈ ks) → ns.length ≤ ks.length :=
  fun _ _ hnd hsub => hnd.length_le_of_subset hsub

/-- a map whose groups are the values of `l` has a key for every name that occurs in `l` -/
theorem names_le_of_group {m : HeaderMap} {l : List FieldLine} (hg : ∀ n, hmGroup m n = valuesOf n l)
    (ns : List Bytes) (hnd : ns.Nodup) (hocc : ∀ n ∈ ns, ∃ v, (n, v) ∈ l) : ns.length ≤ m.length := by
  have := nodup_subset_length ns (m.map (·.1)) hnd fun n hn => by
    obtain ⟨v, hv⟩ := hocc n hn
    apply Classical.byContradiction
    intro hnot
    have hm := mem_valuesOf.mpr hv
    rw [← hg n, hmGroup_nil_of_not_mem _ _ hnot] at hm
    cases hm
  simpa using this

theorem tryFrom_too_many_names {H : Http} {fs : List FieldLine} (ns : List Bytes) (hnd : ns.Nodup)
    (hlen : hmMaxEntries < ns.length) (hocc : ∀ n ∈ ns, ¬ IsPseudo n ∧ ∃ v, (n, v) ∈ fs) :
    ∃ e, tryFrom H fs = .err e := by
  cases e : tryFrom H fs with
  | err x => exact ⟨x, rfl⟩
  | panic => exact absurd e (tryFrom_ne_panic H fs)
  | ok h =>
    exfalso
    have := names_le_of_group (tryFrom_ok e).group ns hnd fun n hn => by
      obtain ⟨hp, v, hv⟩ := hocc n hn
      exact ⟨v, List.mem_filter.mpr ⟨hv, by simpa using hp⟩⟩
    have hc := tryFrom_cap e
    omega

/-- the pseudo-header fields still present, in the order `next` hands them out -/
def pseudoList (p : Pseudo) : List FieldLine :=
  optField nMethod p.method ++ optField nScheme p.scheme ++ optField nAuthority p.authority ++
  optField nPath p.path ++ optField nStatus (p.status.map statusDigits) ++ optField nProtocol p.protocol

/-- what the field loop of `next` yields over the rest of the map iterator -/
def fieldsFrom : Option Bytes → List (Option Bytes × Bytes) → List FieldLine
  | _, [] => []
  | last, (nn, v) :: r =>
    match (match nn with | some n => some n | none => last) with
    | some n => (n, v) :: fieldsFrom (some n) r
    | none => fieldsFrom none r

theorem fieldsFrom_group (k : Bytes) (vs : List Bytes) (rest : List (Option Bytes × Bytes)) :
    fieldsFrom (some k) (vs.map (fun w => (none, w)) ++ rest) = vs.map (fun w => (k, w)) ++ fieldsFrom (some k) rest := by
  induction vs with
  | nil => simp
  | cons w ws ih => simp [fieldsFrom, ih]

/-- the map iterator names every entry: whatever name was remembered before is irrelevant -/
theorem fieldsFrom_intoIter (m : HeaderMap) : ∀ last, fieldsFrom last (hmIntoIter m) = hmIter m := by
  induction m with
  | nil => intro last; simp [hmIntoIter, hmIter, fieldsFrom]
  | cons g r ih =>
    intro last
    obtain ⟨k, vs⟩ := g
    cases vs with
    | nil => simp [hmIntoIter, hmIter, ih]
    | cons v ws => simp [hmIntoIter, hmIter, fieldsFrom, fieldsFrom_group, ih]

theorem nextPseudo_spec (p : Pseudo) :
    match nextPseudo p with
    | none => pseudoList p = []
    | some (f, p') => pseudoList p = f :: pseudoList p' := by
  obtain ⟨m, s, a, pa, st, pr, len⟩ := p
  cases m with | some => simp [nextPseudo, pseudoList, optField] | none =>
  cases s with | some => simp [nextPseudo, pseudoList, optField] | none =>
  cases a with | some => simp [nextPseudo, pseudoList, optField] | none =>
  cases pa with | some => simp [nextPseudo, pseudoList, optField] | none =>
  cases st with | some => simp [nextPseudo, pseudoList, optField] | none =>
  cases pr <;> simp [nextPseudo, pseudoList, optField]

theorem nextField_spec (last : Option Bytes) (l : List (Option Bytes × Bytes)) :
    match nextField last l with
    | none => fieldsFrom last l = []
    | some (f, last', rest) => fieldsFrom last l = f :: fieldsFrom last' rest := by
  induction l generalizing last with
  | nil => rfl
  | cons g r ih =>
    obtain ⟨nn, v⟩ := g
    cases nn with
    | some n => simp [nextField, fieldsFrom]
    | none =>
      cases last with
      | some n => simp [nextField, fieldsFrom]
      -- an entry without a name while none is remembered is skipped by both
      | none => exact ih none

/-- everything the iterator still has to yield -/
def Iter.out (it : Iter) : List FieldLine :=
  (match it.pseudo with | some p => pseudoList p | none => []) ++ fieldsFrom it.last it.fields

theorem next_spec (it : Iter) :
    match it.next with
    | none => Iter.out it = []
    | some (f, it') => Iter.out it = f :: Iter.out it' := by
  obtain ⟨ps, last, l⟩ := it
  have hfield : match Iter.next { pseudo := none, last := last, fields := l } with
      | none => fieldsFrom last l = []
      | some (f, it') => fieldsFrom last l = f :: Iter.out it' := by
    have hs := nextField_spec last l
    simp only [Iter.next, Option.bind_none]
    cases hnf : nextField last l with
    | none => rw [hnf] at hs; exact hs
    | some x =>
      obtain ⟨f, last', rest⟩ := x
      rw [hnf] at hs
      simpa [Iter.out] using hs
  cases ps with
  | none => simpa [Iter.out] using hfield
  | some p =>
    have hs := nextPseudo_spec p
    cases h : nextPseudo p with
    | none =>
      rw [h] at hs
      have e : Iter.next { pseudo := some p, last := last, fields := l } =
          Iter.next { pseudo := none, last := last, fields := l } := by simp [Iter.next, h]
      rw [e]
      simpa [Iter.out, hs] using hfield
    | some x =>
      obtain ⟨f, p'⟩ := x
      rw [h] at hs
      simp only at hs
      simp [Iter.next, h, Iter.out, hs]

theorem drain_eq : ∀ (fuel : Nat) (it : Iter), Iter.drain fuel it = (Iter.out it).take fuel := by
  intro fuel
  induction fuel with
  | zero => intro it; rfl
  | succ fuel ih =>
    intro it
    have hs := next_spec it
    rw [Iter.drain]
    cases hn : it.next with
    | none => rw [hn] at hs; rw [hs]; rfl
    | some x =>
      obtain ⟨f, it'⟩ := x
      rw [hn] at hs
      simp only
      rw [ih it', hs, List.take_succ_cons]

theorem optField_names (n : Bytes) (o : Option Bytes) : ((optField n o).map (·.1)).Sublist [n] := by
  cases o <;> simp [optField]

theorem pseudoList_names_sublist (p : Pseudo) :
    ((pseudoList p).map (·.1)).Sublist [nMethod, nScheme, nAuthority, nPath, nStatus, nProtocol] := by
  simp only [pseudoList, List.map_append]
  exact (((((optField_names _ _).append (optField_names _ _)).append (optField_names _ _)).append
    (optField_names _ _)).append (optField_names _ _)).append (optField_names _ _)

theorem pseudoList_length_le (p : Pseudo) : (pseudoList p).length ≤ 6 := by
  simpa using (pseudoList_names_sublist p).length_le

theorem hmIntoIter_length (m : HeaderMap) : (hmIntoIter m).length = (hmIter m).length := by
  induction m with
  | nil => rfl
  | cons g r ih =>
    obtain ⟨k, vs⟩ := g
    cases vs with
    | nil | cons v ws => simp [hmIntoIter, hmIter, ih]

theorem wireFields_eq (h : Header) : h.wireFields = pseudoList h.pseudo ++ hmIter h.fields := by
  unfold Header.wireFields Iter.collect Header.intoIter
  rw [drain_eq]
  simp only [Iter.out, fieldsFrom_intoIter]
  -- at most six pseudo-header fields, and the map iterator has one item per entry: the fuel suffices
  have := pseudoList_length_le h.pseudo
  exact List.take_of_length_le (by rw [List.length_append, hmIntoIter_length]; omega)

/-- needs `H3.Gen.Headers.nameRejectsDquote = true`: the proof evaluates the generated constant. -/
theorem parseOk_fieldOk {H : Http} {n v : Bytes} {fld : Field} (hp : ParseOk H n v fld) : FieldOk H (n, v) := by
  have hq : H3.Gen.Headers.nameRejectsDquote = true := rfl
  show n ≠ [] ∧ (if IsPseudo n then PseudoOk H n v else LowerToken n ∧ LegalValue v)
  cases hp with
  | header hne hps hn hv =>
    refine ⟨hne, ?_⟩
    rw [if_neg ((not_isPseudo_iff n).mpr hps)]
    exact ⟨nameAccepted_lowerToken hq n hn, (validValue_iff v).mp hv⟩
  | scheme s e hs =>
    subst e; refine ⟨(by decide : nScheme ≠ []), ?_⟩
    rw [if_pos (by decide : IsPseudo nScheme)]; exact Or.inr (Or.inl ⟨rfl, by simp [hs]⟩)
  | authority a e ha =>
    subst e; refine ⟨(by decide : nAuthority ≠ []), ?_⟩
    rw [if_pos (by decide : IsPseudo nAuthority)]; exact Or.inr (Or.inr (Or.inl ⟨rfl, by simp [ha]⟩))
  | path p e hpp =>
    subst e; refine ⟨(by decide : nPath ≠ []), ?_⟩
    rw [if_pos (by decide : IsPseudo nPath)]; exact Or.inr (Or.inr (Or.inr (Or.inl ⟨rfl, by simp [hpp]⟩)))
  | method e hm =>
    subst e; refine ⟨(by decide : nMethod ≠ []), ?_⟩
    rw [if_pos (by decide : IsPseudo nMethod)]; exact Or.inl ⟨rfl, (validMethod_iff v).mp hm⟩
  | status e hs =>
    subst e; refine ⟨(by decide : nStatus ≠ []), ?_⟩
    rw [if_pos (by decide : IsPseudo nStatus)]; exact Or.inr (Or.inr (Or.inr (Or.inr (Or.inl ⟨rfl, (validStatus_iff v).mp hs⟩))))
  | protocol e hm =>
    subst e; refine ⟨(by decide : nProtocol ≠ []), ?_⟩
    rw [if_pos (by decide : IsPseudo nProtocol)]; exact Or.inr (Or.inr (Or.inr (Or.inr (Or.inr ⟨rfl, protocols_gen_eq_spec ▸ hm⟩))))

theorem inv_fieldOk {H : Http} {fs : List FieldLine} {h : Header} (hi : Inv H fs h) : ∀ f ∈ fs, FieldOk H f := by
  intro f hf
  obtain ⟨fld, hp⟩ := hi.accepted f hf
  exact parseOk_fieldOk hp

/-- `FieldOk` at a known name: the six names are told apart by evaluation -/
theorem fieldOk_scheme {H : Http} {v : Bytes} (h : FieldOk H (nScheme, v)) : (H.parseScheme v).isSome = true := by
  simpa +decide [FieldOk, PseudoOk] using h

theorem fieldOk_authority {H : Http} {v : Bytes} (h : FieldOk H (nAuthority, v)) :
    (H.parseAuthority v).isSome = true := by
  simpa +decide [FieldOk, PseudoOk] using h

theorem fieldOk_path {H : Http} {v : Bytes} (h : FieldOk H (nPath, v)) : (H.parsePath v).isSome = true := by
  simpa +decide [FieldOk, PseudoOk] using h

theorem fieldOk_status {H : Http} {v : Bytes} (h : FieldOk H (nStatus, v)) : StatusCode v := by
  simpa +decide [FieldOk, PseudoOk] using h

theorem lastVal_none {n : Bytes} {fs : List FieldLine} (h : lastVal n fs = none) : ∀ f ∈ fs, f.1 ≠ n := by
  intro f hf e
  have hnil : valuesOf n fs = [] := by simpa [lastVal] using h
  have : f.2 ∈ valuesOf n fs := mem_valuesOf.mpr (by rw [← e]; exact hf)
  rw [hnil] at this
  cases this

theorem inv_no_status {H : Http} {fs : List FieldLine} {h : Header} (hi : Inv H fs h)
    (hs : h.pseudo.status = none) : ∀ f ∈ fs, f.1 ≠ nStatus :=
  lastVal_none (Option.map_eq_none_iff.mp (hi.status ▸ hs))

/-- a pseudo-header field whose parsed value the `Header` does not hold does not occur: an accepted
    occurrence would have parsed -/
theorem lastVal_none_of_bind {fs : List FieldLine} {n : Bytes} {P : Bytes → Option Bytes}
    (hacc : ∀ v, (n, v) ∈ fs → (P v).isSome = true) (hb : (lastVal n fs).bind P = none) :
    lastVal n fs = none := by
  cases e : lastVal n fs with
  | none => rfl
  | some v =>
    have := hacc v (lastVal_mem e)
    rw [e, Option.bind_some] at hb
    rw [hb] at this; cases this

theorem inv_no_request_field {H : Http} {fs : List FieldLine} {h : Header} (hi : Inv H fs h)
    (hr : h.pseudo.hasRequestField = false) :
    ∀ f ∈ fs, f.1 ≠ nMethod ∧ f.1 ≠ nScheme ∧ f.1 ≠ nAuthority ∧ f.1 ≠ nPath ∧ f.1 ≠ nProtocol := by
  simp only [Pseudo.hasRequestField, Bool.or_eq_false_iff, Option.isSome_eq_false_iff, Option.isNone_iff_eq_none] at hr
  obtain ⟨⟨⟨⟨hm, hs⟩, ha⟩, hp⟩, hpr⟩ := hr
  have h1 : lastVal nMethod fs = none := by rw [← hi.method]; exact hm
  have h5 : lastVal nProtocol fs = none := by rw [← hi.protocol]; exact hpr
  have h2 : lastVal nScheme fs = none :=
    lastVal_none_of_bind (fun v hv => fieldOk_scheme (inv_fieldOk hi _ hv)) (hi.scheme ▸ hs)
  have h3 : lastVal nAuthority fs = none :=
    lastVal_none_of_bind (fun v hv => fieldOk_authority (inv_fieldOk hi _ hv)) (hi.authority ▸ ha)
  have h4 : lastVal nPath fs = none :=
    lastVal_none_of_bind (fun v hv => fieldOk_path (inv_fieldOk hi _ hv)) (hi.path ▸ hp)
  intro f hf
  exact ⟨lastVal_none h1 f hf, lastVal_none h2 f hf, lastVal_none h3 f hf, lastVal_none h4 f hf, lastVal_none h5 f hf⟩

theorem fieldOk_pseudo_name {H : Http} {f : FieldLine} (hok : FieldOk H f) (hp : IsPseudo f.1) :
    f.1 = nMethod ∨ f.1 = nScheme ∨ f.1 = nAuthority ∨ f.1 = nPath ∨ f.1 = nStatus ∨ f.1 = nProtocol := by
  have h2 := hok.2
  rw [if_pos hp] at h2
  rcases h2 with h | h | h | h | h | h
  · exact Or.inl h.1
  · exact Or.inr (Or.inl h.1)
  · exact Or.inr (Or.inr (Or.inl h.1))
  · exact Or.inr (Or.inr (Or.inr (Or.inl h.1)))
  · exact Or.inr (Or.inr (Or.inr (Or.inr (Or.inl h.1))))
  · exact Or.inr (Or.inr (Or.inr (Or.inr (Or.inr h.1))))

theorem definedFor_request {H : Http} {fs : List FieldLine} (hok : ∀ f ∈ fs, FieldOk H f)
    (hno : ∀ f ∈ fs, f.1 ≠ nStatus) : DefinedFor requestPseudoNames fs := by
  intro f hf hp
  have hn := hno f hf
  rcases fieldOk_pseudo_name (hok f hf) hp with h | h | h | h | h | h
  · rw [h]; decide
  · rw [h]; decide
  · rw [h]; decide
  · rw [h]; decide
  · exact absurd h hn
  · rw [h]; decide

theorem definedFor_response {H : Http} {fs : List FieldLine} (hok : ∀ f ∈ fs, FieldOk H f)
    (hno : ∀ f ∈ fs, f.1 ≠ nMethod ∧ f.1 ≠ nScheme ∧ f.1 ≠ nAuthority ∧ f.1 ≠ nPath ∧ f.1 ≠ nProtocol) :
    DefinedFor responsePseudoNames fs := by
  intro f hf hp
  obtain ⟨n1, n2, n3, n4, n5⟩ := hno f hf
  rcases fieldOk_pseudo_name (hok f hf) hp with h | h | h | h | h | h
  · exact absurd h n1
  · exact absurd h n2
  · exact absurd h n3
  · exact absurd h n4
  · rw [h]; decide
  · exact absurd h n5

theorem inv_authority {H : Http} (L : HttpLaws H) {fs : List FieldLine} {h : Header} (hi : Inv H fs h) :
    h.pseudo.authority = lastVal nAuthority fs := by
  rw [hi.authority]
  cases e : lastVal nAuthority fs with
  | none => rfl
  | some v =>
    obtain ⟨a, ha⟩ := Option.isSome_iff_exists.mp (fieldOk_authority (inv_fieldOk hi _ (lastVal_mem e)))
    rw [Option.bind_some, ha, L.authority_as_str v a ha]

theorem map_name_snd (n : Bytes) : ∀ l : List FieldLine, (∀ f ∈ l, f.1 = n) →
    l.map ((fun v => (n, v)) ∘ fun f => f.2) = l
  | [], _ => rfl
  | (a1, a2) :: l, hl => by
    obtain rfl : a1 = n := hl (a1, a2) (by simp)
    simp only [List.map_cons, Function.comp]
    rw [map_name_snd a1 l (fun f hf => hl f (by simp [hf]))]

theorem hmIter_filter_of_group {m : HeaderMap} (hw : hmWF m) {l : List FieldLine} {n : Bytes}
    (hg : hmGroup m n = valuesOf n l) :
    (hmIter m).filter (fun f => f.1 = n) = l.filter (fun f => f.1 = n) := by
  rw [hmIter_filter _ hw, hg]
  unfold valuesOf
  rw [List.map_map]
  exact map_name_snd n _ (fun f hf => by simpa using (List.mem_filter.mp hf).2)

theorem inv_carries {H : Http} {fs : List FieldLine} {h : Header} (hi : Inv H fs h) :
    CarriesRegular (hmIter h.fields) fs :=
  fun n => hmIter_filter_of_group hi.wf (hi.group n)

theorem chooseAuthority_ok {a h : Option Bytes} {x : Bytes} (e : chooseAuthority a h = .ok x) :
    (a = some x ∨ h = some x) ∧ (∀ y, a = some y → y = x) ∧ (∀ y, h = some y → y = x) := by
  cases a <;> cases h <;> simp only [chooseAuthority] at e
  · cases e
  · cases e; exact ⟨.inr rfl, nofun, fun _ hy => (Option.some.inj hy).symm⟩
  · cases e; exact ⟨.inl rfl, fun _ hy => (Option.some.inj hy).symm, nofun⟩
  · split at e
    · rename_i hab; cases e
      exact ⟨.inr rfl, fun _ hy => (Option.some.inj hy).symm.trans hab, fun _ hy => (Option.some.inj hy).symm⟩
    · cases e

theorem allFirst_iff (l : List Bytes) : allFirst l = true ↔ ∀ v ∈ l, l.head? = some v := by
  cases l with
  | nil => simp [allFirst]
  | cons a r =>
    simp only [allFirst, List.all_eq_true, beq_iff_eq, List.head?_cons, Option.some.injEq, List.mem_cons,
      forall_eq_or_imp, true_and]
    constructor
    · intro h v hv; exact (h v hv).symm
    · intro h v hv; exact (h v hv).symm

theorem inv_hosts {H : Http} {fs : List FieldLine} {h : Header} (hi : Inv H fs h) :
    hmGroup h.fields nHost = valuesOf nHost fs := by
  rw [hi.group nHost, valuesOf_regular_of_not_pseudo nHost (by decide)]

theorem inv_host {H : Http} {fs : List FieldLine} {h : Header} (hi : Inv H fs h) :
    hmGet h.fields nHost = (valuesOf nHost fs).head? := by
  rw [hmGet, inv_hosts hi]

/-- needs `H3.Gen.Headers.hostEveryValue = true` (the D-12e fix: every `Host` value is looked at) and
    `H3.Gen.Headers.otherKindRefused = true` (the D-12f fix: a parsed `:status` is refused): the
    proof evaluates the generated constants. -/
theorem intoRequestParts_ok {H : Http} {h : Header} {r : RequestParts} (e : h.intoRequestParts H = .ok r) :
    h.pseudo.status = none ∧
    allFirst (hmGroup h.fields nHost) = true ∧
    ∃ auth m, chooseAuthority h.pseudo.authority (hmGet h.fields nHost) = .ok auth ∧ h.pseudo.method = some m ∧
      H.uriBuild h.pseudo.scheme auth h.pseudo.path = some r.uri ∧
      r.method = m ∧ r.protocol = h.pseudo.protocol ∧ r.headers = h.fields := by
  have hv : H3.Gen.Headers.hostEveryValue = true := rfl
  have hk : H3.Gen.Headers.otherKindRefused = true := rfl
  unfold Header.intoRequestParts at e
  rw [hv, hk] at e
  simp only [Bool.true_and] at e
  split at e
  · cases e
  rename_i hst
  refine ⟨by simpa using hst, ?_⟩
  split at e
  · cases e
  rename_i hall
  refine ⟨by simpa using hall, ?_⟩
  split at e
  · cases e
  · cases e
  · rename_i auth hc
    split at e
    · cases e
    · rename_i m hm
      split at e
      · cases e
      · rename_i u hu
        cases e
        exact ⟨auth, m, hc, hm, hu, rfl, rfl, rfl⟩

/-- needs `H3.Gen.Headers.otherKindRefused = true` (the D-12f fix: a parsed request pseudo-header
    field is refused): the proof evaluates the generated constant. -/
theorem intoResponseParts_ok {h : Header} {st : Nat} {m : HeaderMap} (e : h.intoResponseParts = .ok (st, m)) :
    h.pseudo.hasRequestField = false ∧ h.pseudo.status = some st ∧ m = h.fields := by
  have hk : H3.Gen.Headers.otherKindRefused = true := rfl
  unfold Header.intoResponseParts at e
  rw [hk] at e
  simp only [Bool.true_and] at e
  split at e
  · cases e
  rename_i hr
  refine ⟨by simpa using hr, ?_⟩
  split at e
  · cases e
  · rename_i s hs
    cases e
    exact ⟨hs, rfl⟩

/-- needs `H3.Gen.Headers.trailersRefusePseudo = true` (`into_trailers` refuses a section in which a pseudo-header
    field was parsed): the proof evaluates the generated constant. -/
theorem intoTrailers_ok {h : Header} {m : HeaderMap} (e : h.intoTrailers = .ok m) :
    h.pseudo.len = 0 ∧ m = h.fields := by
  have ht : H3.Gen.Headers.trailersRefusePseudo = true := rfl
  unfold Header.intoTrailers at e
  rw [ht] at e
  simp only [Bool.true_and, decide_eq_true_eq] at e
  split at e
  · cases e
  · cases e; exact ⟨by omega, rfl⟩

theorem request_cases (method : Bytes) (uri : UriParts) (fields : HeaderMap) (ext : Option Bytes) :
    Header.request method uri fields ext = .ok { pseudo := Pseudo.request method uri ext, fields := fields } ∨
    (Header.request method uri fields ext = .err .missingAuthority ∧
      uri.authority = none ∧ hmGet fields nHost = none) ∨
    (Header.request method uri fields ext = .err .contradictedAuthority ∧
      ∃ a hv, uri.authority = some a ∧ hmGet fields nHost = some hv ∧ a ≠ hv) := by
  unfold Header.request
  split
  · rename_i h1 h2; exact .inr (.inl ⟨rfl, h1, h2⟩)
  · rename_i a hv h1 h2
    split
    · rename_i hne; exact .inr (.inr ⟨rfl, a, hv, h1, h2, hne⟩)
    · exact .inl rfl
  · exact .inl rfl

theorem request_ok {method : Bytes} {uri : UriParts} {fields : HeaderMap} {ext : Option Bytes} {h : Header}
    (hh : Header.request method uri fields ext = .ok h) :
    h = { pseudo := Pseudo.request method uri ext, fields := fields } := by
  rcases request_cases method uri fields ext with e | ⟨e, _⟩ | ⟨e, _⟩ <;> rw [e] at hh <;> cases hh
  rfl

theorem intoResponseParts_ne_panic (h : Header) : h.intoResponseParts ≠ .panic := by
  unfold Header.intoResponseParts
  split
  · simp
  · split <;> simp

theorem chooseAuthority_ne_panic (a h : Option Bytes) : chooseAuthority a h ≠ .panic := by
  cases a <;> cases h <;> simp only [chooseAuthority] <;> first | (intro e; cases e) | (split <;> intro e <;> cases e)

theorem intoRequestParts_ne_panic (H : Http) (h : Header) : h.intoRequestParts H ≠ .panic := by
  unfold Header.intoRequestParts
  split
  · simp
  split
  · simp
  split
  · simp
  · rename_i hc; exact absurd hc (chooseAuthority_ne_panic _ _)
  · split
    · simp
    · split <;> simp

theorem intoTrailers_ne_panic (h : Header) : h.intoTrailers ≠ .panic := by
  unfold Header.intoTrailers; split <;> simp
end H3.Headers
