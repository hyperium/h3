import H3.Model.Settings
import H3.Model.WriteBuf
import H3.Lemmas.Output
import H3.Lemmas.VarintSpec
/-! `Settings::encode` is modelled twice, as `H3.Settings.encode?` (C13) and as
    `H3.WriteBuf.settingsEncode` (C14), and the bytes of the pairs are named twice (`encPairs`,
    `pairsWire`).  The encoder is characterised once, for `encode?`, and the second model shown to be
    the same function; the output specification accepts such a payload when the entries are
    `SettingsFine`, which is what `SendSide.CtlHeader` rests on. -/
namespace H3.Settings
open H3.Varint H3.Gen.Consts

def encPairs : List (Nat × Nat) → Bytes
  | [] => []
  | (id, v) :: r => Varint.encode id ++ Varint.encode v ++ encPairs r

def Fits (ps : List (Nat × Nat)) : Prop := ∀ p ∈ ps, p.1 < 2^62 ∧ p.2 < 2^62

theorem fits_cons {p : Nat × Nat} {ps : List (Nat × Nat)} :
    Fits (p :: ps) ↔ (p.1 < 2^62 ∧ p.2 < 2^62) ∧ Fits ps := by
  simp [Fits]

theorem fits_nil : Fits [] := by simp [Fits]

theorem fits_append {a b : List (Nat × Nat)} : Fits (a ++ b) ↔ Fits a ∧ Fits b := by
  simp only [Fits, List.mem_append]
  constructor
  · intro h; exact ⟨fun p hp => h p (Or.inl hp), fun p hp => h p (Or.inr hp)⟩
  · rintro ⟨h1, h2⟩ p (hp | hp)
    · exact h1 p hp
    · exact h2 p hp

def sizePairs : List (Nat × Nat) → Nat
  | [] => 0
  | (id, v) :: r => size id + size v + sizePairs r

theorem encPairs_length (ps : List (Nat × Nat)) (h : Fits ps) :
    (encPairs ps).length = sizePairs ps := by
  induction ps with
  | nil => rfl
  | cons p r ih =>
    obtain ⟨id, v⟩ := p
    obtain ⟨⟨h1, h2⟩, hr⟩ := fits_cons.mp h
    simp only [encPairs, sizePairs, List.length_append, encode_length_eq_size, h1, h2, ih hr]

theorem sizePairs_ge (ps : List (Nat × Nat)) : 2 * ps.length ≤ sizePairs ps := by
  induction ps with
  | nil => simp [sizePairs]
  | cons p r ih =>
    obtain ⟨id, v⟩ := p
    have := size_pos id; have := size_pos v
    simp only [sizePairs, List.length_cons]; omega

theorem sizePairs_le (ps : List (Nat × Nat)) : sizePairs ps ≤ 16 * ps.length := by
  induction ps with
  | nil => simp [sizePairs]
  | cons p r ih =>
    obtain ⟨id, v⟩ := p
    have := size_le_8 id; have := size_le_8 v
    simp only [sizePairs, List.length_cons]; omega

theorem payload_eq (ps : List (Nat × Nat)) (h : Fits ps) :
    payload? ps = some (encPairs ps) ∧ payloadLen? ps = some (sizePairs ps) := by
  induction ps with
  | nil => exact ⟨rfl, rfl⟩
  | cons p r ih =>
    obtain ⟨id, v⟩ := p
    obtain ⟨⟨h1, h2⟩, hr⟩ := fits_cons.mp h
    obtain ⟨i1, i2⟩ := ih hr
    constructor
    · simp [payload?, writeVar_eq, h1, h2, i1, encPairs]
    · simp [payloadLen?, sizeOf_eq, h1, h2, i2, sizePairs]

theorem payloadLen_panic (ps : List (Nat × Nat)) (h : ¬ Fits ps) : payloadLen? ps = none := by
  induction ps with
  | nil => exact absurd fits_nil h
  | cons p r ih =>
    obtain ⟨id, v⟩ := p
    by_cases h1 : id < 2^62
    · by_cases h2 : v < 2^62
      · have hr : ¬ Fits r := fun hr => h (fits_cons.mpr ⟨⟨h1, h2⟩, hr⟩)
        simp [payloadLen?, ih hr]
      · simp [payloadLen?, fromU64, h2]
    · simp [payloadLen?, fromU64, h1]

theorem writeVar_settings : writeVar FRAME_SETTINGS = some [FRAME_SETTINGS] := by decide

theorem encode?_eq (s : Settings) (h : Fits s.entries) (hl : sizePairs s.entries < 2^62) :
    encode? s = some ([FRAME_SETTINGS] ++ Varint.encode (sizePairs s.entries) ++ encPairs s.entries) := by
  obtain ⟨h1, h2⟩ := payload_eq s.entries h
  simp [encode?, writeVar_settings, h1, h2, writeVar_eq _ hl]

/-- `unwrap` on an entry that does not fit, `write_var` on a length that does not -/
theorem encode?_panic (s : Settings) (h : ¬ (Fits s.entries ∧ sizePairs s.entries < 2^62)) :
    encode? s = none := by
  by_cases hf : Fits s.entries
  · have hl : ¬ sizePairs s.entries < 2^62 := fun hl => h ⟨hf, hl⟩
    simp [encode?, writeVar_settings, (payload_eq _ hf).2, writeVar_none _ hl]
  · simp [encode?, writeVar_settings, payloadLen_panic _ hf]

end H3.Settings

namespace H3.Spec.Output
open H3.Varint

def pairsWire : List (Nat × Nat) → Bytes
  | [] => []
  | (id, v) :: r => encode id ++ encode v ++ pairsWire r

end H3.Spec.Output

namespace H3.WriteBuf
open H3.Varint H3.Settings H3.Spec.Output

theorem pairsWire_eq : ∀ es, pairsWire es = encPairs es
  | [] => rfl
  | (_, _) :: r => by simp only [pairsWire, encPairs, pairsWire_eq r]

theorem settingsPairs?_eq : ∀ es, settingsPairs? es = payload? es
  | [] => rfl
  | (_, _) :: r => by simp only [settingsPairs?, payload?, settingsPairs?_eq r]

theorem settingsLen?_eq : ∀ es, settingsLen? es = payloadLen? es
  | [] => rfl
  | (_, _) :: r => by simp only [settingsLen?, payloadLen?, sizeOf?, settingsLen?_eq r]

theorem settingsEncode_eq (es : List (Nat × Nat)) : settingsEncode es = H3.Settings.encode? ⟨es⟩ := by
  simp only [settingsEncode, H3.Settings.encode?, settingsLen?_eq, settingsPairs?_eq]

theorem wire_settings (es : List (Nat × Nat)) (h : Fits es) :
    wire 4 (pairsWire es) = [4] ++ encode (sizePairs es) ++ encPairs es := by
  rw [wire, pairsWire_eq, encPairs_length es h]; rfl

theorem settingsEncode_some {es : List (Nat × Nat)} {b : Bytes} (h : settingsEncode es = some b) :
    (∀ e ∈ es, e.1 < 2^62 ∧ e.2 < 2^62) ∧ (pairsWire es).length < 2^62 ∧
    b = wire 4 (pairsWire es) := by
  rw [settingsEncode_eq] at h
  by_cases hf : Fits es ∧ sizePairs es < 2^62
  · rw [encode?_eq ⟨es⟩ hf.1 hf.2] at h
    refine ⟨hf.1, by rw [pairsWire_eq, encPairs_length es hf.1]; exact hf.2, ?_⟩
    rw [wire_settings es hf.1]; exact (Option.some.inj h).symm
  · rw [encode?_panic ⟨es⟩ hf] at h; cases h

theorem settingsEncode_of_fine {es : List (Nat × Nat)}
    (hb : ∀ e ∈ es, e.1 < 2^62 ∧ e.2 < 2^62) (hl : (pairsWire es).length < 2^62) :
    settingsEncode es = some (wire 4 (pairsWire es)) := by
  rw [pairsWire_eq, encPairs_length es hb] at hl
  rw [settingsEncode_eq, encode?_eq ⟨es⟩ hb hl, wire_settings es hb]; rfl

end H3.WriteBuf

namespace H3.Spec.Output
open H3.Varint H3.Spec.Framing H3.Settings

theorem pairsWire_length (es : List (Nat × Nat)) (h : ∀ e ∈ es, e.1 < 2^62 ∧ e.2 < 2^62) :
    2 * es.length ≤ (pairsWire es).length := by
  rw [WriteBuf.pairsWire_eq, encPairs_length es h]; exact sizePairs_ge es

theorem pairs_pairsWire (es : List (Nat × Nat)) (h : ∀ e ∈ es, e.1 < 2^62 ∧ e.2 < 2^62)
    (fuel : Nat) (hf : es.length < fuel) : pairs fuel (pairsWire es) = some es := by
  induction es generalizing fuel with
  | nil =>
    cases fuel with
    | zero => omega
    | succ n => simp [pairs, pairsWire]
  | cons e r ih =>
    obtain ⟨id, v⟩ := e
    cases fuel with
    | zero => omega
    | succ n =>
      have h0 := h (id, v) (by simp)
      have hne : pairsWire ((id, v) :: r) ≠ [] := by
        intro hh
        have hh' := congrArg List.length hh
        simp only [pairsWire, List.length_append, List.length_nil] at hh'
        have := encode_length_pos id h0.1
        omega
      unfold pairs
      rw [if_neg hne]
      simp only [pairsWire, List.append_assoc]
      rw [rfcDecode_encode id h0.1]
      simp only
      rw [rfcDecode_encode v h0.2]
      simp only
      rw [ih (fun e he => h e (by simp [he])) n (by simp at hf; omega)]
      rfl

def SettingsFine (es : List (Nat × Nat)) : Prop :=
  (∀ e ∈ es, e.1 < 2^62 ∧ e.2 < 2^62) ∧
  (∀ e ∈ es, h2Settings.contains e.1 = false) ∧
  (∀ e ∈ es, (definedSettings.contains e.1 || isReserved e.1) = true) ∧
  (es.map (·.1)).Nodup

theorem settingsOk_pairsWire (es : List (Nat × Nat)) (h : SettingsFine es) :
    settingsOk (pairsWire es) = none := by
  obtain ⟨hb, hh2, hdef, hnd⟩ := h
  unfold settingsOk
  have hl := pairsWire_length es hb
  rw [pairs_pairsWire es hb _ (by omega)]
  simp only
  have f1 : es.find? (fun e => h2Settings.contains e.1) = none := by
    rw [List.find?_eq_none]
    intro e he
    show ¬ h2Settings.contains e.1 = true
    rw [hh2 e he]; exact Bool.false_ne_true
  rw [f1]
  simp only
  have f2 : es.find? (fun e => !(definedSettings.contains e.1 || isReserved e.1)) = none := by
    rw [List.find?_eq_none]
    intro e he
    show ¬ (!(definedSettings.contains e.1 || isReserved e.1)) = true
    rw [hdef e he]; exact Bool.false_ne_true
  rw [f2]
  simp only
  rw [if_pos hnd]

end H3.Spec.Output
