import H3.Lemmas.IsoPolled
/-! C07, whole histories: a stream whose INPUT is of the kind the property quantifies over (`DelivR`: a prefix
    of a validly framed message, then nothing, FIN at its end, or RESET anywhere; any oracle answer but a QPACK
    failure; the documented calls, none after an error — `obeys`, reading R-07; send calls anywhere) never makes
    a call answer a connection-level error: `robust_run`, by induction over the events with the invariant `RInvR`
    of the phase, one lemma per call over `src_next` / `src_data`, `recvData_step`, `drain_step`. -/
namespace H3.Iso
open H3.ReqRecv H3.Frame

theorem delivR_prefix {w : FS.Bytes} {a b : List FS.Ev} (h : DelivR w (a ++ b)) : DelivR w a := by
  rcases h with h | ⟨c, cs, hne, heq, hp⟩
  · exact Or.inl (deliv_prefix h)
  · rcases List.prefix_concat_iff.mp ⟨b, heq⟩ with rfl | hpre
    · exact Or.inr ⟨c, cs, hne, rfl, hp⟩
    · exact Or.inl (deliv_chunks_prefix hne hp hpre)

/-- `poll_next`: a frame, `Pending`, `None` (everything handed out, the stream at its clean end), or
    the peer's RESET — never `UnexpectedEnd`, never a frame error -/
theorem robust_next {w : FS.Bytes} {T : List RefTok} (hw : Wire w T) {D : List FS.Ev} {out : List RefTok}
    {s : FS.St} {sc : List FS.Ev} (hI : RHInv w D out (s, sc)) (h0 : s.remaining = 0) :
    ∃ o s' sc', FS.pollNext FS.frameDec s sc = (o, s', sc') ∧
      ((∃ f, o = .frame f ∧ RHInv w D (out ++ [.frame f]) (s', sc') ∧ s'.remaining = (FS.frameDec.kind f).rem) ∨
       (o = .pending ∧ RHInv w D out (s', sc') ∧ s'.remaining = 0) ∨
       (o = .none ∧ RHInv w D out (s', sc') ∧ s'.remaining = 0 ∧ out = T ∧ s'.eos = true ∧ s'.flat = []) ∨
       (∃ c, o = .errQuic c)) := by
  obtain ⟨o, c', hres, hc⟩ := src_next hw hI h0
  refine ⟨o, c'.1, c'.2, fs_of_src hres, ?_⟩
  rcases hc with hc | ⟨rfl, hI', hr, _⟩ | hc | ⟨c, rfl, _⟩
  · exact Or.inl hc
  · exact Or.inr (Or.inl ⟨rfl, hI', hr⟩)
  · exact Or.inr (Or.inr (Or.inl hc))
  · exact Or.inr (Or.inr (Or.inr ⟨c, rfl⟩))

/-- `poll_data`: a non-empty piece of the payload, `Pending`, or the peer's RESET -/
theorem robust_data {w : FS.Bytes} {T : List RefTok} (hw : Wire w T) {D : List FS.Ev} {out : List RefTok}
    {s : FS.St} {sc : List FS.Ev} (hI : RHInv w D out (s, sc)) (h0 : s.remaining ≠ 0) :
    ∃ o s' sc', FS.pollData (F := Frame) (E := FrameErr) s sc = (o, s', sc') ∧
      ((∃ d, o = .data d ∧ RHInv w D (out ++ d.map .byte) (s', sc')) ∨
       (o = .pending ∧ RHInv w D out (s', sc') ∧ s'.remaining = s.remaining) ∨
       (∃ c, o = .errQuic c)) := by
  obtain ⟨o, c', hres, hc⟩ := src_data hw hI h0
  refine ⟨o, c'.1, c'.2, fs_of_src hres, ?_⟩
  rcases hc with ⟨d, rfl, _, hI', _⟩ | ⟨rfl, hI', hr, _⟩ | ⟨c, rfl, _⟩
  · exact Or.inl ⟨d, rfl, hI'⟩
  · exact Or.inr (Or.inl ⟨rfl, hI', hr⟩)
  · exact Or.inr (Or.inr ⟨c, rfl⟩)

section Eqs
variable {σ : Type}

theorem headOut_malformed (role : Role) (H : ReqRecv.Hdr) (st' : St σ) (enc : ReqRecv.Bytes)
    (hm : H.head enc = .malformed) :
    ∃ st'', headOut role H st' (.frame (.headers enc)) = (.errStream H3.Gen.Consts.CODE_H3_MESSAGE_ERROR, st'') := by
  cases role <;>
    exact ⟨_, by simp only [headOut, pollHead, pollResolve, pollRecvResponse, oneSrc, hm]; rfl⟩

theorem headOut_none (role : Role) (H : ReqRecv.Hdr) (st' : St σ) :
    ∃ c st'', headOut role H st' .none = (.errStream c, st'') := by
  cases role <;> exact ⟨_, _, rfl⟩

theorem headOut_quic (role : Role) (H : ReqRecv.Hdr) (st' : St σ) (c : Nat) :
    headOut role H st' (.errQuic c) = (.errReset c, st') := by
  cases role <;> rfl

theorem decodeTrailers_notConn (H : ReqRecv.Hdr) (st : St σ) (enc : ReqRecv.Bytes) (hq : H.trailer enc ≠ .qpack) :
    resConn (decodeTrailers H st enc).1 = false := by
  unfold decodeTrailers
  cases h : H.trailer enc with
  | ok => rfl
  | malformed => rfl
  | qpack => exact absurd h hq

end Eqs

section Robust
variable {w : FS.Bytes} {T : List RefTok} {h : ReqRecv.Bytes} {ds : List ReqRecv.Bytes} {tr : Option ReqRecv.Bytes}

/-- `resolve_request` / `recv_response`, one poll: the head, `Pending`, or a stream-level error (the
    message is malformed; the stream ended before any HEADERS; the peer's RESET) -/
theorem robust_head (hw : Wire w T) (hfirst : ∀ f, [FS.Tok.frame f] <+: T → f = .headers h)
    (role : Role) (H : ReqRecv.Hdr) (hH : H.head h ≠ .qpack) (D : List FS.Ev) (st : RSt) (hst : HeadStR w D st) :
    ∃ r st', pollHead role fsSrc H st = (r, st') ∧ resConn r = false ∧
      (r = .pending → HeadStR w D st') ∧
      (∀ enc, r = .head enc → enc = h ∧ T ≠ [] ∧ BodyStR w h D [FS.Tok.frame (Frame.headers h)] st') := by
  obtain ⟨hI, htr, h0⟩ := hst
  obtain ⟨o, c', hn, hcase⟩ := src_next hw hI h0
  rw [pollHead_eq, hn]
  rcases hcase with ⟨f, rfl, hI', hrem⟩ | ⟨rfl, hI', hrem, _⟩ | ⟨rfl, _⟩ | ⟨c, rfl, _⟩
  · have hpre := rhinv_prefix hw hI'
    have hf := hfirst f hpre
    subst hf
    have hTne : T ≠ [] := by
      intro hT; rw [hT] at hpre; simpa using hpre.length_le
    cases hh : H.head h with
    | ok =>
      refine ⟨_, _, headOut_ok role H _ h hh, rfl, nofun, ?_⟩
      intro enc he
      simp only [Res.head.injEq] at he
      subst he
      exact ⟨rfl, hTne, hI', htr, [], rfl, fun tok htok => by cases htok⟩
    | malformed =>
      obtain ⟨st', he⟩ := headOut_malformed role H _ h hh
      exact ⟨_, _, he, rfl, nofun, nofun⟩
    | qpack => exact absurd hh hH
  · exact ⟨_, _, headOut_pending role H _ .pending rfl, rfl, fun _ => ⟨hI', htr, hrem⟩, nofun⟩
  · obtain ⟨c, st', he⟩ := headOut_none role H { st with src := c' }
    exact ⟨_, _, he, rfl, nofun, nofun⟩
  · exact ⟨_, _, headOut_quic role H _ c, rfl, nofun, nofun⟩

/-- `recv_data`, one poll (any loop bound): a piece, `Pending`, the end of the body, or the peer's RESET
    (`invalid`: the model's loop bound ran out — not an answer of the code, and not a connection error) -/
theorem robust_recvData (hw : Wire w (msgToks h ds tr)) : ∀ (fuel : Nat) (st : RSt) (D : List FS.Ev)
    (out : List RefTok), BodyStR w h D out st →
    ∃ r st', pollRecvData fsSrc fuel st = (r, st') ∧ resConn r = false ∧
      ((r = .pending ∨ ∃ d, r = .data d) → ∃ out', BodyStR w h D out' st') ∧
      (r = .end_ → EndStR w h ds tr D st') := by
  intro fuel st D out hst
  obtain ⟨r, st', out', he, _, hc⟩ := recvData_step hw fuel st D out out hst (Nat.le_refl _) rfl
  refine ⟨r, st', he, ?_⟩
  have no : ∀ {r : Res}, r ≠ .pending → (∀ d, r ≠ .data d) → ¬ (r = .pending ∨ ∃ d, r = .data d) :=
    fun h1 h2 hc => hc.elim h1 (fun ⟨d, hd⟩ => h2 d hd)
  rcases hc with ⟨d, rfl, hb, _⟩ | ⟨rfl, hb, _⟩ | ⟨rfl, hend, _⟩ | ⟨c, rfl, _⟩ | ⟨rfl, _⟩
  · exact ⟨rfl, fun _ => ⟨out', hb⟩, nofun⟩
  · exact ⟨rfl, fun _ => ⟨out', hb⟩, nofun⟩
  · exact ⟨rfl, fun hc => absurd hc (no nofun nofun), fun _ => hend⟩
  · exact ⟨rfl, fun hc => absurd hc (no nofun nofun), nofun⟩
  · exact ⟨rfl, fun hc => absurd hc (no nofun nofun), nofun⟩

/-- the `recv_data` loop of one `body` poll -/
theorem robust_drain (hw : Wire w (msgToks h ds tr)) : ∀ (fuel : Nat) (st : RSt) (D : List FS.Ev)
    (out : List RefTok), BodyStR w h D out st →
    ∃ rs st', drain fsSrc fuel st = (rs, st') ∧ (∀ r ∈ rs, resConn r = false) ∧
      (rs.getLast? = some .pending → ∃ out', BodyStR w h D out' st') ∧
      (rs.getLast? = some .end_ → EndStR w h ds tr D st') := by
  intro fuel st D out hst
  obtain ⟨pieces, last, st', hd, _, hc⟩ := drain_step hw fuel st D out hst
  have hall : resConn last = false → ∀ r ∈ pieces.map Res.data ++ [last], resConn r = false := by
    intro hl r hr
    rcases List.mem_append.mp hr with hr | hr
    · obtain ⟨d, _, rfl⟩ := List.mem_map.mp hr; rfl
    · rw [List.mem_singleton.mp hr]; exact hl
  refine ⟨_, st', hd, ?_⟩
  rw [List.getLast?_concat]
  rcases hc with ⟨rfl, ⟨out', hb, _⟩, _⟩ | ⟨rfl, hend, _⟩ | ⟨c, rfl, _⟩ | ⟨rfl, _⟩
  · exact ⟨hall rfl, fun _ => ⟨out', hb⟩, nofun⟩
  · exact ⟨hall rfl, nofun, fun _ => hend⟩
  · exact ⟨hall rfl, nofun, nofun⟩
  · exact ⟨hall rfl, nofun, nofun⟩

/-- `recv_trailers`, one poll, after the end of the body has been reported -/
theorem robust_trailers (hw : Wire w (msgToks h ds tr)) (H : ReqRecv.Hdr) (hH : ∀ t, tr = some t → H.trailer t ≠ .qpack)
    (D : List FS.Ev) (st : RSt) (hst : EndStR w h ds tr D st) :
    ∃ r st', pollRecvTrailers fsSrc H st = (r, st') ∧ resConn r = false ∧
      (r = .pending → EndStR w h ds tr D st') := by
  obtain ⟨hI, h0, hcase⟩ := hst
  rcases hcase with ⟨t, rfl, htrl⟩ | ⟨rfl, htrl, heos, hfl⟩
  · have hdec : ∀ st'' : RSt, ∃ r st', decodeTrailers H st'' t = (r, st') ∧ resConn r = false ∧
        (r = .pending → EndStR w h ds (some t) D st') := fun st'' =>
      ⟨_, _, rfl, decodeTrailers_notConn H _ t (hH t rfl), fun hc => absurd hc (decodeTrailers_ne_pending H _ t)⟩
    rw [pollRecvTrailers_some fsSrc H st t htrl]
    by_cases he : fsSrc.isEos st.src = true
    · rw [if_pos he]; exact hdec _
    · obtain ⟨o, c', hn, hc⟩ := src_next hw hI h0
      rw [if_neg he, hn]
      rcases hc with ⟨fr, rfl, hI', _⟩ | ⟨rfl, hI', hrem, _⟩ | ⟨rfl, _⟩ | ⟨c, rfl, _⟩
      · exact absurd (rhinv_prefix hw hI') (not_prefix_longer _ _)
      · exact ⟨_, _, rfl, rfl, fun _ => ⟨hI', hrem, Or.inl ⟨t, rfl, rfl⟩⟩⟩
      · exact hdec _
      · exact ⟨_, _, rfl, rfl, nofun⟩
  · obtain ⟨c', hn⟩ := src_next_at_end st.src h0 heos hfl
    exact ⟨_, _, pollRecvTrailers_none_none fsSrc H st c' htrl hn, rfl, nofun⟩

end Robust

/-- the calls of the send half: `send_response` / the request head, `send_data`, `send_trailers`, `finish` -/
def isSend : Call → Bool
  | .sendHead _ | .sendData _ | .sendTrailers _ | .finish => true
  | _ => false

/-- where the documented receive pattern stands after the call `c` of phase `ph` has answered `o`, as the
    application can tell from the answer: `Pending` = poll the same call again; a value = go on; an
    error (or anything else) ENDS the pattern — R-07 -/
def nextPh : DPhase → Call → Obs → DPhase
  | .head, .head, .ans (.res (.head _)) => .body
  | .head, .head, .ans (.res .pending) => .head
  | .body, .body _, .body rs none => if rs.getLast? = some .pending then .body else .done
  | .body, .body _, .body _ (some a) => if a = .res .pending then .trailers else .done
  | .body, .data, .ans (.res (.data _)) => .body
  | .body, .data, .ans (.res .pending) => .body
  | .body, .data, .ans (.res .end_) => .trailers
  | .trailers, .body _, .body _ (some a) => if a = .res .pending then .trailers else .done
  | .trailers, .trailers, .ans a => if a = .res .pending then .trailers else .done
  | _, _, _ => .done

/-- the receive calls the documented pattern makes in a phase: `resolve_request` / `recv_response`; then
    `recv_data` — call by call (`data`) or as the body task (`body`) — until it answers something else than
    data; after a clean end `recv_trailers` — by the body task if that is what read the body, else
    called directly -/
def allowed (ph : DPhase) (r : Req) (c : Call) : Bool :=
  match ph, c with
  | .head, .head => true
  | .body, .body _ => true
  | .body, .data => true
  | .trailers, .body _ => r.atTrailers
  | .trailers, .trailers => !r.atTrailers
  | _, _ => false

/-- `obeys cfg ph cell r evs`: in the run of `evs` from request state `r`, every receive call is one the
    documented pattern makes at that point (`allowed`), none comes after the pattern has ended (R-07: a
    receive call that answered an error was the last one); send calls and peer events anywhere -/
def obeys (cfg : Cfg) : DPhase → Option Nat → Req → List StreamEv → Bool
  | _, _, _, [] => true
  | ph, cell, r, .peer p :: evs => obeys cfg ph cell (r.deliver p) evs
  | ph, cell, r, .call c :: evs =>
    if isSend c then
      obeys cfg ph (Req.step cfg cell r (.call c)).2.1 (Req.step cfg cell r (.call c)).1 evs
    else
      allowed ph r c &&
      obeys cfg (nextPh ph c (Req.step cfg cell r (.call c)).2.2) (Req.step cfg cell r (.call c)).2.1
        (Req.step cfg cell r (.call c)).1 evs

theorem flush_notConn (wc : Option Nat) (s : Send) (b : Bytes) : (s.flush wc b).2.isConn = false := by
  unfold Send.flush
  split
  · rfl
  · split <;> rfl

theorem write_notConn (wc : Option Nat) (s : Send) (f : H3.WriteBuf.SFrame) : (s.write wc f).2.isConn = false := by
  unfold Send.write
  split
  · rfl
  · split
    · rfl
    · split
      · exact flush_notConn _ _ _
      · split
        · rfl
        · exact flush_notConn _ _ _

theorem finish_notConn (b : Bool) (s : Send) : (s.finish b).2.isConn = false := by
  unfold Send.finish
  split
  · rfl
  · split
    · split <;> rfl
    · rfl

theorem write_none_cases (s : Send) (f : H3.WriteBuf.SFrame) :
    (s.write none f).2 = .noHandle ∨ (∃ c, (s.write none f).2 = .ans (.res (.errReset c))) ∨
    (s.write none f).2 = .ans (.res .panic) ∨ (s.write none f).2 = .ok := by
  unfold Send.write
  split
  · exact Or.inl rfl
  · split
    · exact Or.inr (Or.inl ⟨_, rfl⟩)
    · split
      · exact Or.inr (Or.inr (Or.inr rfl))
      · split
        · exact Or.inr (Or.inr (Or.inl rfl))
        · exact Or.inr (Or.inr (Or.inr rfl))

theorem tooBigServer_obs (cfg : Cfg) (r : Req) :
    (tooBigServer cfg r).2.isConn = false ∧ nextPh .head .head (tooBigServer cfg r).2 = .done := by
  unfold tooBigServer
  split
  · exact ⟨rfl, rfl⟩
  · simp only
    split
    · exact ⟨rfl, rfl⟩
    · rcases write_none_cases r.snd (.headers _) with h | ⟨c, h⟩ | h | h <;> rw [h] <;> exact ⟨rfl, rfl⟩

/-- a send call: the cell, the receive half and the life cycle of the handle are untouched, the answer is
    not a connection-level error -/
theorem send_step (cfg : Cfg) (cell : Option Nat) (r : Req) (c : Call) (hs : isSend c = true) :
    (Req.step cfg cell r (.call c)).2.1 = cell ∧ (Req.step cfg cell r (.call c)).2.2.isConn = false ∧
    (Req.step cfg cell r (.call c)).1.rx = r.rx ∧ (Req.step cfg cell r (.call c)).1.gone = r.gone ∧
    (Req.step cfg cell r (.call c)).1.resolved = r.resolved ∧
    (Req.step cfg cell r (.call c)).1.atTrailers = r.atTrailers := by
  by_cases hg : (r.gone || !accepts cfg.role r c) = true
  · rw [Req.step_refused cfg cell r c hg]
    exact ⟨rfl, rfl, rfl, rfl, rfl, rfl⟩
  · have hl : live cfg r c := by simpa [live] using hg
    rw [Req.step_live cfg cell r c hl]
    cases c with
    | sendHead fs => exact ⟨rfl, write_notConn _ _ _, rfl, rfl, rfl, rfl⟩
    | sendData b => exact ⟨rfl, write_notConn _ _ _, rfl, rfl, rfl, rfl⟩
    | sendTrailers fs => exact ⟨rfl, write_notConn _ _ _, rfl, rfl, rfl, rfl⟩
    | finish => exact ⟨rfl, finish_notConn _ _, rfl, rfl, rfl, rfl⟩
    | _ => cases hs

section Run
variable {w : FS.Bytes} {T : List RefTok} {h : ReqRecv.Bytes} {ds : List ReqRecv.Bytes} {tr : Option ReqRecv.Bytes}

/-- `done`: the pattern has ended (completed, or a call answered an error): nothing is claimed of the
    receive half any more — no receive call will be made -/
def RInvR (w : FS.Bytes) (T : List RefTok) (h : ReqRecv.Bytes) (ds : List ReqRecv.Bytes) (tr : Option ReqRecv.Bytes) :
    DPhase → List FS.Ev → Req → Prop
  | .head, D, r => r.gone = false ∧ r.resolved = false ∧ r.atTrailers = false ∧ HeadStR w D r.rx
  | .body, D, r => T = msgToks h ds tr ∧ r.gone = false ∧ r.resolved = true ∧ r.atTrailers = false ∧
      ∃ out, BodyStR w h D out r.rx
  | .trailers, D, r => T = msgToks h ds tr ∧ r.gone = false ∧ r.resolved = true ∧ EndStR w h ds tr D r.rx
  | .done, _, _ => True

theorem rinvR_init (w : FS.Bytes) (T : List RefTok) (h : ReqRecv.Bytes) (ds : List ReqRecv.Bytes)
    (tr : Option ReqRecv.Bytes) : RInvR w T h ds tr .head [] {} :=
  ⟨rfl, rfl, rfl, (hinv_init w).toR, rfl, rfl⟩

theorem rinvR_congr {ph : DPhase} {D : List FS.Ev} {r r' : Req} (hr : RInvR w T h ds tr ph D r)
    (h1 : r'.rx = r.rx) (h2 : r'.gone = r.gone) (h3 : r'.resolved = r.resolved) (h4 : r'.atTrailers = r.atTrailers) :
    RInvR w T h ds tr ph D r' := by
  cases ph with
  | head => simp only [RInvR] at hr ⊢; rw [h1, h2, h3, h4]; exact hr
  | body => simp only [RInvR] at hr ⊢; rw [h1, h2, h3, h4]; exact hr
  | trailers => simp only [RInvR] at hr ⊢; rw [h1, h2, h3]; exact hr
  | done => trivial

theorem rinvR_deliver {ph : DPhase} {D : List FS.Ev} {r : Req} (p : Peer)
    (hr : RInvR w T h ds tr ph D r) (hD : DelivR w (D ++ fsOf p)) :
    RInvR w T h ds tr ph (D ++ fsOf p) (r.deliver p) := by
  cases ph with
  | head =>
    obtain ⟨h1, h2, h3, hst⟩ := hr
    exact ⟨by rw [deliver_gone]; exact h1, by rw [deliver_resolved]; exact h2, by rw [deliver_atTrailers]; exact h3,
      by rw [deliver_rx]; exact hst.arrive _ hD⟩
  | body =>
    obtain ⟨h0, h1, h2, h3, out, hst⟩ := hr
    exact ⟨h0, by rw [deliver_gone]; exact h1, by rw [deliver_resolved]; exact h2,
      by rw [deliver_atTrailers]; exact h3, out, by rw [deliver_rx]; exact hst.arrive _ hD⟩
  | trailers =>
    obtain ⟨h0, h1, h2, hst⟩ := hr
    exact ⟨h0, by rw [deliver_gone]; exact h1, by rw [deliver_resolved]; exact h2,
      by rw [deliver_rx]; exact hst.arrive _ hD⟩
  | done => trivial

/-- `trailersPoll` (the size limit put back) after the end of the body -/
theorem robust_trailersPoll (hw : Wire w (msgToks h ds tr)) (cfg : Cfg)
    (hT : ∀ t, tr = some t → cfg.hdr.trailer t ≠ .qpack) (D : List FS.Ev) (st : RSt) (hst : EndStR w h ds tr D st) :
    ∃ a st', trailersPoll cfg st = (a, st') ∧ a.isConn = false ∧ (a = .res .pending → EndStR w h ds tr D st') := by
  obtain ⟨res, st', hp, hnc, hpend⟩ := robust_trailers hw cfg.hdr.base
    (fun t ht => base_ne_qpack (hT t ht)) D st hst
  rcases trailersPoll_cases hp with he | ⟨ha, _, _⟩
  · exact ⟨_, _, he, hnc, fun hc => hpend (Ans.res.inj hc)⟩
  · exact ⟨(trailersPoll cfg st).1, (trailersPoll cfg st).2, rfl, by rw [ha]; rfl, fun hc => by rw [ha] at hc; cases hc⟩

theorem rinvR_afterTrailers (hTm : T = msgToks h ds tr) {D : List FS.Ev} {r' : Req} {a : Ans} (hg : r'.gone = false)
    (hres : r'.resolved = true) (hpend : a = .res .pending → EndStR w h ds tr D r'.rx) :
    RInvR w T h ds tr (if a = .res .pending then .trailers else .done) D r' := by
  by_cases hap : a = .res .pending
  · rw [if_pos hap]; exact ⟨hTm, hg, hres, hpend hap⟩
  · rw [if_neg hap]; trivial

variable (hw : Wire w T) (hfirst : ∀ f, [FS.Tok.frame f] <+: T → f = .headers h)
  (hbody : T ≠ [] → T = msgToks h ds tr) (cfg : Cfg) (hh : cfg.hdr.head h ≠ .qpack)
  (hT : ∀ t, tr = some t → cfg.hdr.trailer t ≠ .qpack)

include hw hfirst hbody hh in
/-- one poll of `resolve_request` / `recv_response` -/
theorem robust_step_head {D : List FS.Ev} {r : Req} (hr : RInvR w T h ds tr .head D r) :
    (Req.step cfg none r (.call .head)).2.2.isConn = false ∧
    RInvR w T h ds tr (nextPh .head .head (Req.step cfg none r (.call .head)).2.2) D
      (Req.step cfg none r (.call .head)).1 := by
  obtain ⟨hg, hres, hat, hst⟩ := hr
  have hs : Req.step cfg none r (.call .head) = stepHead cfg none r :=
    Req.step_live cfg none r .head (live_head hg hres)
  -- `load` and `unload` change `env.cell` only, which the states of the phases do not read
  obtain ⟨res, st', hp, hnc, hpend, hhead⟩ := robust_head hw hfirst cfg.role cfg.hdr.base
    (base_ne_qpack hh) D (load none r.rx) hst
  rw [hs]
  unfold stepHead
  rw [hp]
  cases res with
  | head enc =>
    obtain ⟨rfl, hTne, hb⟩ := hhead enc rfl
    simp only
    split
    · exact ⟨(tooBigServer_obs cfg _).1, by rw [(tooBigServer_obs cfg _).2]; trivial⟩
    · exact ⟨rfl, trivial⟩
    · exact ⟨rfl, hbody hTne, hg, rfl, hat, _, ⟨hb.inv, hb.tr, hb.shape⟩⟩
  | pending => exact ⟨rfl, hg, hres, hat, hpend rfl⟩
  | errConn c => cases hnc
  | _ => exact ⟨rfl, trivial⟩

include hw hT in
/-- one poll of a call of the body / trailers phases -/
theorem robust_step_rest {ph : DPhase} (hph : ph = .body ∨ ph = .trailers) {D : List FS.Ev} {r : Req} (c : Call)
    (ha : allowed ph r c = true) (hr : RInvR w T h ds tr ph D r) :
    (Req.step cfg none r (.call c)).2.2.isConn = false ∧
    RInvR w T h ds tr (nextPh ph c (Req.step cfg none r (.call c)).2.2) D (Req.step cfg none r (.call c)).1 := by
  rcases hph with rfl | rfl
  · -- reading the body
    obtain ⟨hTm, hg, hres, hat, out, hst⟩ := hr
    have hw' : Wire w (msgToks h ds tr) := hTm ▸ hw
    -- as in `robust_step_head`: the states of the phases do not read what `load none` changes
    have hst0 : BodyStR w h D out (load none r.rx) := ⟨hst.inv, hst.tr, hst.shape⟩
    cases c with
    | body f =>
      have hs : Req.step cfg none r (.call (.body f)) = stepBody cfg f none r :=
        Req.step_live cfg none r (.body f) (live_of_resolved hg hres nofun)
      rw [hs, stepBody, if_neg (by simp [hat])]
      obtain ⟨rs, st2, hd, hall, hp, hen⟩ := robust_drain hw' f (load none r.rx) D out hst0
      rw [hd]
      have hany : rs.any resConn = false := List.any_eq_false.mpr (fun x hx => by simp [hall x hx])
      by_cases he : rs.getLast? = some .end_
      · simp only [if_pos he]
        obtain ⟨a, st3, hp3, hnc3, hpend3⟩ := robust_trailersPoll hw' cfg hT D st2 (hen he)
        rw [hp3]
        exact ⟨by simp [Obs.isConn, hany, optConn, hnc3], rinvR_afterTrailers hTm hg hres hpend3⟩
      · simp only [if_neg he]
        refine ⟨by simp [Obs.isConn, hany, optConn], ?_⟩
        show RInvR w T h ds tr (if rs.getLast? = some .pending then .body else .done) D _
        by_cases hpe : rs.getLast? = some .pending
        · rw [if_pos hpe]
          obtain ⟨out', hst'⟩ := hp hpe
          exact ⟨hTm, hg, hres, hat, out', ⟨hst'.inv, hst'.tr, hst'.shape⟩⟩
        · rw [if_neg hpe]; trivial
    | data =>
      have hs : Req.step cfg none r (.call .data) = stepData none r :=
        Req.step_live cfg none r .data (live_of_resolved hg hres nofun)
      rw [hs, stepData]
      obtain ⟨res, st', hp, hnc, hcont, hend⟩ := robust_recvData hw' (fsFuel r.rx.src) (load none r.rx) D out hst0
      rw [hp]
      cases res with
      | data d =>
        obtain ⟨out', hst'⟩ := hcont (Or.inr ⟨d, rfl⟩)
        exact ⟨rfl, hTm, hg, hres, hat, out', ⟨hst'.inv, hst'.tr, hst'.shape⟩⟩
      | pending =>
        obtain ⟨out', hst'⟩ := hcont (Or.inl rfl)
        exact ⟨rfl, hTm, hg, hres, hat, out', ⟨hst'.inv, hst'.tr, hst'.shape⟩⟩
      | end_ => exact ⟨rfl, hTm, hg, hres, hend rfl⟩
      | errConn c => cases hnc
      | _ => exact ⟨rfl, trivial⟩
    | _ => cases ha
  · -- after the end of the body
    obtain ⟨hTm, hg, hres, hst⟩ := hr
    have hw' : Wire w (msgToks h ds tr) := hTm ▸ hw
    obtain ⟨a, st', hp, hnc, hpend⟩ := robust_trailersPoll hw' cfg hT D (load none r.rx) hst
    cases c with
    | body f =>
      have hs : Req.step cfg none r (.call (.body f)) = stepBody cfg f none r :=
        Req.step_live cfg none r (.body f) (live_of_resolved hg hres nofun)
      have hat : r.atTrailers = true := ha
      rw [hs, stepBody, if_pos hat, hp]
      exact ⟨by simp [Obs.isConn, optConn, hnc], rinvR_afterTrailers hTm hg hres hpend⟩
    | trailers =>
      have hs : Req.step cfg none r (.call .trailers) = stepTrailers cfg none r :=
        Req.step_live cfg none r .trailers (live_of_resolved hg hres nofun)
      rw [hs, stepTrailers, hp]
      exact ⟨hnc, rinvR_afterTrailers hTm hg hres hpend⟩
    | _ => cases ha

include hw hfirst hbody hh hT in
/-- **Every schedule of a stream of the property's quantifier.**  From a state of the pattern, whatever
    peer events (more bytes, FIN at the end of the message, RESET anywhere, STOP_SENDING, credit) and
    documented calls follow: no call answers a connection-level error. -/
theorem robust_run : ∀ (evs : List StreamEv) (ph : DPhase) (D : List FS.Ev) (r : Req),
    RInvR w T h ds tr ph D r → DelivR w (D ++ fsScript (peersOf evs)) → obeys cfg ph none r evs = true →
    ∀ o ∈ (Req.run cfg none r evs).2.2, o.isConn = false := by
  intro evs
  induction evs with
  | nil => intro ph D r _ _ _ o ho; cases ho
  | cons ev rest ih =>
    intro ph D r hr hD hf o ho
    rw [Req.run_cons] at ho
    cases ev with
    | peer p =>
      have hpeers : D ++ fsScript (peersOf (.peer p :: rest)) = (D ++ fsOf p) ++ fsScript (peersOf rest) := by
        simp only [peersOf, fsScript_cons, List.append_assoc]
      rw [hpeers] at hD
      rcases List.mem_cons.mp ho with rfl | ho
      · rfl
      · exact ih ph (D ++ fsOf p) (r.deliver p) (rinvR_deliver p hr (delivR_prefix hD)) hD hf o ho
    | call c =>
      by_cases hs : isSend c = true
      · obtain ⟨h1, h2, h3, h4, h5, h6⟩ := send_step cfg none r c hs
        rw [obeys, if_pos hs, h1] at hf
        rw [h1] at ho
        rcases List.mem_cons.mp ho with rfl | ho
        · exact h2
        · exact ih ph D _ (rinvR_congr hr h3 h4 h5 h6) hD hf o ho
      · rw [obeys, if_neg hs, Bool.and_eq_true] at hf
        obtain ⟨ha, hf'⟩ := hf
        have hstep : (Req.step cfg none r (.call c)).2.2.isConn = false ∧
            RInvR w T h ds tr (nextPh ph c (Req.step cfg none r (.call c)).2.2) D (Req.step cfg none r (.call c)).1 := by
          cases ph with
          | head =>
            cases c with
            | head => exact robust_step_head hw hfirst hbody cfg hh hr
            | _ => cases ha
          | body => exact robust_step_rest hw cfg hT (Or.inl rfl) c ha hr
          | trailers => exact robust_step_rest hw cfg hT (Or.inr rfl) c ha hr
          | done => cases c <;> cases ha
        have hcell := Req.step_cell_ok cfg none r (.call c) hstep.1
        rw [hcell] at hf' ho
        rcases List.mem_cons.mp ho with rfl | ho
        · exact hstep.1
        · exact ih _ D _ hstep.2 hD hf' o ho

end Run

end H3.Iso
