import H3.Lemmas.DynBasic
import H3.Lemmas.StaticTable
/-! The two lookup `match`es of `StaticTable` agree with the table itself. -/
namespace H3.Dyn
open H3.Gen

theorem findTbl_sound : ∀ p ∈ QStatic.findTbl, QStatic.table[p.2]? = some p.1 := by
  rw [QStatic.findTbl_eq, QStatic.table_same]; exact StaticTable.findArms_ok

theorem findNameTbl_sound : ∀ p ∈ QStatic.findNameTbl, (QStatic.table[p.2]?).map (·.1) = some p.1 := by
  rw [QStatic.findNameTbl_eq, QStatic.table_same]; exact StaticTable.findNameArms_ok

theorem staticFind_sound {f : Field} {i : Nat} (h : staticFind f = some i) : staticGet i = some f := by
  have := findTbl_sound _ (aget_mem h)
  simp [staticGet, this]

theorem staticFindName_sound {n : Bytes} {i : Nat} (h : staticFindName n = some i) :
    ∃ f, staticGet i = some f ∧ f.name = n := by
  have := findNameTbl_sound _ (aget_mem h)
  cases hg : H3.Gen.QStatic.table[i]? with
  | none => rw [hg] at this; simp at this
  | some p =>
    rw [hg] at this; simp at this
    exact ⟨⟨p.1, p.2⟩, by simp [staticGet, hg], this⟩

end H3.Dyn
