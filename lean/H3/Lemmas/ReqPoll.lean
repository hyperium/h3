import H3.Lemmas.ReqRetry
import H3.Lemmas.ReqLift
import H3.Lemmas.FrameStreamPend
/-! Re-polling over the `FrameStream` model.  A transport script with `pend` events anywhere IS a
    schedule of deliveries and polls: each `pend` is a poll of the transport that found nothing new,
    and the next poll finds what was delivered meanwhile; `documentedPolledChunks` polls every call
    again while it answers `Pending` and events are left.  `Pending` answers of the model are inert
    (`fsLaws`), so `documentedR_eq` of `ReqRetry` turns this into the one-poll-per-call pattern over `waitSrc`
    (the step is taken in `C03_polled_lifted_closed`, not here).  `FutS`, `LiftRS`,
    `TiedS` are the instances `w = true` of `FutW`, `LiftW`, `TiedW` of `ReqLift*.lean`; there the ending
    `open_` means that the script is used up. -/
namespace H3.ReqRecv
open H3.Frame

/-- what is still to come: the events left in the transport script -/
def flen (c : FSt) : Nat := c.2.length

theorem fsLaws : PendLaws fsSrc flen := fsLawsW true

/-- the `FrameStream` model whose `poll_next` / `poll_data` wait out the `Pending` answers while the
    script has events left -/
def waitSrc : Src FSt := skipSrc fsSrc flen

/-- both layers composed, with re-polling: every call of the documented pattern is polled again
    while it answers `Pending` and the script has events left -/
def documentedPolledChunks (role : Role) (H : Hdr) (script : List FS.Ev) : Trace :=
  documentedR role fsSrc flen H (fsFuel ({}, script)) (script.length + 1) (fsFuel ({}, script))
    { src := ({}, script) }

inductive FutS : FS.St → List FS.Ev → List Item → Term → Prop
  | frame {s sc f s' sc' items t} (h0 : s.remaining = 0)
      (hc : FS.pollNext FS.frameDec s sc = (.frame f, s', sc')) (hr : FutS s' sc' items t) :
      FutS s sc (.frame f :: items) t
  | piece {s sc d s' sc' items t} (h0 : s.remaining ≠ 0)
      (hc : FS.pollData (F := Frame) (E := FrameErr) s sc = (.data d, s', sc'))
      (hr : FutS s' sc' items t) : FutS s sc (.piece d :: items) t
  /-- `Pending` with events left: the call is repeated -/
  | skipN {s sc s' sc' items t} (h0 : s.remaining = 0)
      (hc : FS.pollNext FS.frameDec s sc = (.pending, s', sc')) (hne : sc' ≠ [])
      (hr : FutS s' sc' items t) : FutS s sc items t
  | skipD {s sc s' sc' items t} (h0 : s.remaining ≠ 0)
      (hc : FS.pollData (F := Frame) (E := FrameErr) s sc = (.pending, s', sc')) (hne : sc' ≠ [])
      (hr : FutS s' sc' items t) : FutS s sc items t
  | nextEnd {s sc t} (h0 : s.remaining = 0)
      (hc : (FS.pollNext FS.frameDec s sc).1 = t.next)
      (hfin : t = .open_ → (FS.pollNext FS.frameDec s sc).2.2 = []) : FutS s sc [] t
  | dataEnd {s sc t} (h0 : s.remaining ≠ 0)
      (hc : (FS.pollData (F := Frame) (E := FrameErr) s sc).1 = t.data)
      (hfin : t = .open_ → (FS.pollData (F := Frame) (E := FrameErr) s sc).2.2 = []) : FutS s sc [] t

theorem futW_true_iff {s : FS.St} {sc : List FS.Ev} {items : List Item} {t : Term} :
    FutW true s sc items t ↔ FutS s sc items t := by
  constructor
  · intro h
    induction h with
    | frame h0 hc _ ih => exact FutS.frame h0 hc ih
    | piece h0 hc _ ih => exact FutS.piece h0 hc ih
    | skipN _ h0 hc hne _ ih => exact FutS.skipN h0 hc hne ih
    | skipD _ h0 hc hne _ ih => exact FutS.skipD h0 hc hne ih
    | nextEnd h0 hc hfin => exact FutS.nextEnd h0 hc (hfin rfl)
    | dataEnd h0 hc hfin => exact FutS.dataEnd h0 hc (hfin rfl)
  · intro h
    induction h with
    | frame h0 hc _ ih => exact FutW.frame h0 hc ih
    | piece h0 hc _ ih => exact FutW.piece h0 hc ih
    | skipN h0 hc hne _ ih => exact FutW.skipN rfl h0 hc hne ih
    | skipD h0 hc hne _ ih => exact FutW.skipD rfl h0 hc hne ih
    | nextEnd h0 hc hfin => exact FutW.nextEnd h0 hc (fun _ => hfin)
    | dataEnd h0 hc hfin => exact FutW.dataEnd h0 hc (fun _ => hfin)

open H3.C06 (mu)

theorem futS_exists (sc0 : List FS.Ev) (hsc0 : FS.ScriptOK sc0)
    (hraw : ∀ f, FS.Tok.frame f ∈ (FS.run FS.frameDec (.hdr []) (FS.evBytes (FS.upToFin sc0))).2 →
      (FS.frameDec.kind f).rem < FS.USIZE_MAX) :
    ∀ (n : Nat) (s : FS.St) (script : List FS.Ev) (toks : List RefTok),
      FS.CInv FS.frameDec sc0 toks s script → mu s script < n →
      ∃ items t, FutS s script items t ∧ Run s.remaining items t ∧
        items.length ≤ mu s script ∧
        ∃ takenF restF eosF, sc0 = takenF ++ restF ∧ FS.TakenOK false eosF takenF ∧
          TermOK (FS.run FS.frameDec (.hdr []) (FS.evBytes takenF)) (toks ++ itemToks items)
            eosF takenF restF t ∧ (t = .open_ → restF = []) := by
  intro n s script toks hC hn
  obtain ⟨items, t, hF, hR, hlen, _, tF, rF, eF, h1, h2, h3, h4⟩ :=
    futW_exists true sc0 hsc0 hraw n s script toks hC hn
  exact ⟨items, t, futW_true_iff.1 hF, hR, hlen, tF, rF, eF, h1, h2, h3, h4 rfl⟩

/-- the configuration `c` satisfies the C02 invariant and the token source `a` holds the answers the
    WAITING model is going to give the canonical reader from `c` -/
def LiftRS (c : FSt) (a : TS) : Prop :=
  FutS c.1 c.2 a.items a.term ∧ a.rem = c.1.remaining ∧
    ∃ seen toks, FS.Inv FS.frameDec seen toks c.1 ∧ FS.ScriptOK c.2

theorem liftRS_eq : LiftRS = LiftW true :=
  funext fun _ => funext fun _ => propext (and_congr futW_true_iff.symm Iff.rfl)

/-- the WAITING `FrameStream` model over any transport script answers like the token source holding
    its future answers, as long as the documented pattern goes on -/
theorem liftRS_sim : FrameSimP waitSrc tokSrc LiftRS := liftRS_eq ▸ liftW_sim true


/-- as `Tied`, and the ending `open_` means that the script is used up (every `Pending` before was
    waited out) -/
def TiedS (sc : List FS.Ev) (toks : List Tok) (e : Ending) : Prop :=
  (∃ taken rest eos, sc = taken ++ rest ∧ FS.TakenOK false eos taken ∧
    TermOK (FS.run FS.frameDec (.hdr []) (FS.evBytes taken)) (itemToks (compile toks e).1) eos taken
      rest (compile toks e).2 ∧ ((compile toks e).2 = .open_ → rest = [])) ∧
  toks.map kind = kindsOf (itemToks (compile toks e).1 ++ protoToks (compile toks e).2)

theorem TiedS.tied {sc : List FS.Ev} {toks : List Tok} {e : Ending} (h : TiedS sc toks e) : Tied sc toks e := by
  obtain ⟨⟨taken, rest, eos, h1, h2, h3, _⟩, hk⟩ := h
  exact ⟨⟨taken, rest, eos, h1, h2, h3⟩, hk⟩

theorem liftS_exists (sc : List FS.Ev) (hsc : FS.ScriptOK sc)
    (hraw : NoRaw (FS.evBytes (FS.upToFin sc))) :
    ∃ toks e, LiftRS ({}, sc) (TS.ofToks toks e) ∧ (∀ tok ∈ toks, TokWF tok) ∧
      (compile toks e).1.length + 2 ≤ fsFuel ({}, sc) ∧ TiedS sc toks e := by
  obtain ⟨toks, e, hR, hwf, hfuel, ⟨taken, rest, eos, h1, h2, h3, h4⟩, hk⟩ := liftW_exists true sc hsc hraw
  exact ⟨toks, e, liftRS_eq ▸ hR, hwf, hfuel, ⟨taken, rest, eos, h1, h2, h3, h4 rfl⟩, hk⟩

/-- chunks and `Pending`s only: no FIN, no RESET -/
def NoEnd (l : List FS.Ev) : Prop := ∀ ev ∈ l, (∃ b, ev = FS.Ev.chunk b) ∨ ev = FS.Ev.pend

def noEndB (sc : List FS.Ev) : Bool :=
  sc.all fun ev => match ev with | .chunk _ => true | .pend => true | _ => false

theorem noEnd_iff (sc : List FS.Ev) : NoEnd sc ↔ noEndB sc = true := by
  unfold NoEnd noEndB
  rw [List.all_eq_true]
  constructor
  · intro h ev hev
    rcases h ev hev with ⟨b, rfl⟩ | rfl <;> rfl
  · intro h ev hev
    have := h ev hev
    cases ev with
    | chunk b => exact Or.inl ⟨b, rfl⟩
    | pend => exact Or.inr rfl
    | _ => simp at this

instance (sc : List FS.Ev) : Decidable (NoEnd sc) := decidable_of_iff _ (noEnd_iff sc).symm

theorem noEnd_fin {l : List FS.Ev} (h : NoEnd l) : FS.Ev.fin ∉ l := fun hm => by
  rcases h _ hm with ⟨b, hb⟩ | hb <;> cases hb

theorem noEnd_reset {l : List FS.Ev} (h : NoEnd l) (c : Nat) : FS.Ev.reset c ∉ l := fun hm => by
  rcases h _ hm with ⟨b, hb⟩ | hb <;> cases hb

/-- FIN behind chunks and `Pending`s in any order, the bytes ending on a frame boundary or inside a
    frame header / a payload other than DATA: the ending is the one the reference automaton's final
    state dictates, and the recogniser's input is read off its tokens over the bytes — the same for
    every cutting and every schedule -/
theorem tiedS_fin_exact {pre post : List FS.Ev} {toks : List Tok} {e : Ending} {acc : FS.Bytes}
    (hpre : NoEnd pre) (h : TiedS (pre ++ .fin :: post) toks e)
    (hc : (FS.run FS.frameDec (.hdr []) (FS.evBytes pre)).1 = .hdr acc) :
    e = (if acc = [] then .fin else .truncated) ∧
    toks.map kind = kindsOf (FS.run FS.frameDec (.hdr []) (FS.evBytes pre)).2 := by
  obtain ⟨⟨taken, rest, eos, hsplit, htk, hT, hopen⟩, hk⟩ := h
  obtain ⟨hall, ⟨ht, ha⟩ | ⟨ht, hne⟩⟩ :=
    termOK_fin (noEnd_fin hpre) (noEnd_reset hpre) hsplit htk hT (fun ho => .inl (hopen ho)) hc
  · refine ⟨by rw [if_pos ha]; exact ending_of_term (e' := .fin) ht, ?_⟩
    rw [hk, hall, ht]
    simp [protoToks]
  · refine ⟨by rw [if_neg hne]; exact ending_of_term (e' := .truncated) ht, ?_⟩
    rw [hk, hall, ht]
    simp [protoToks]

/-- chunks and `Pending`s in any order, nothing else (the stream is still open), no protocol error in
    the bytes: the ending is `open_` — reached only when the script is used up, every `Pending`
    before waited out — and the recogniser's input is read off the automaton's tokens over ALL
    the bytes -/
theorem tiedS_open_exact {sc : List FS.Ev} {toks : List Tok} {e : Ending} (hsc : NoEnd sc)
    (h : TiedS sc toks e) (hc : (FS.run FS.frameDec (.hdr []) (FS.evBytes sc)).1 ≠ .dead) :
    e = .open_ ∧ toks.map kind = kindsOf (FS.run FS.frameDec (.hdr []) (FS.evBytes sc)).2 := by
  obtain ⟨⟨taken, rest, eos, hsplit, htk, hT, hopen⟩, hk⟩ := h
  obtain ⟨ht, hall⟩ :=
    termOK_open (noEnd_fin hsc) (noEnd_reset hsc) hsplit htk hT (fun ho => .inl (hopen ho)) hc
  refine ⟨ending_of_term (e' := .open_) ht, ?_⟩
  rw [hk, hall, ht]
  simp [protoToks]

theorem documentedFrames_no_invalid (role : Role) (H : Hdr) (fuel : Nat) (toks : List Tok) (e : Ending)
    (h : (compile toks e).1.length + 2 ≤ fuel) :
    ∀ r ∈ (documentedFrames role H fuel toks e).body, r ≠ .invalid := by
  unfold documentedFrames documented
  have hlen : (pollHead role tokSrc H { src := TS.ofToks toks e }).2.src.items.length ≤ (compile toks e).1.length := by
    rw [pollHead_eq, (headOut_keeps _ _ _ _).1]
    exact tok_next_items _
  rcases hq : pollHead role tokSrc H { src := TS.ofToks toks e } with ⟨hd, st1⟩
  rw [hq] at hlen
  simp only at hlen
  cases hd with
  | head b =>
    simp only [bodyRun]
    intro r hr
    have : r ∈ (drain tokSrc fuel st1).1 := by
      revert hr
      split <;> exact id
    exact tok_drain_no_invalid fuel st1 (by omega) r this
  | _ => intro r hr; simp at hr


end H3.ReqRecv
