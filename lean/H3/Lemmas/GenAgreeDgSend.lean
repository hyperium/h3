import H3.Model.Datagram
import H3.Gen.DgSendArms
/-! Agreement of the datagram sender's error model (`H3.Datagram.handleSendError`, `convertOrigin`; C18, C19, C05)
    with what the translator reads, on every run, in `DatagramSender::handle_send_datagram_error`
    (h3-datagram/src/datagram_handler.rs) and in the two functions of h3 its `ConnectionError` arm goes through
    (`CloseStream::handle_quic_stream_error`, `convert_to_connection_error`): `H3.Gen.DgSendArms`, `tools/extract.py`
    `dg_send_arms`.

    The generated arms are *run* (`genHandle`, `genConvert`: the first matching arm of `convert_to_connection_error`)
    and proved equal to the model's functions on every input.  With the shape of the arm before the repair of
    D-05g / D-18b (`connArm = .ownRemote`: the transport's own error wrapped in `Remote`, the cell's winner dropped)
    there is no such equality (`ownRemote_differs`), and this file does not build. -/
namespace H3.GenAgree.DgSend
open H3.Datagram
open H3.Gen.DgSendArms

def toArm : H3.Gen.DgSendArms.ConnArm → H3.Datagram.ConnArm
  | .cellWinner => .cellWinner
  | .ownRemote => .ownRemote

def patMatches : OriginPat → Origin → Bool
  | .internal, .internal _ => true
  | .quicTimeout, .quic .timeout => true
  | .quicAny, .quic _ => true
  | _, _ => false

def build : Conv → Origin → Option ConnErr
  | .localApplication, .internal c => some (.local_ c)
  | .timeout, _ => some .timeout
  | .remote, .quic e => some (.remote e)
  | _, _ => none

/-- a `match`: the first arm whose pattern matches (`none` = no arm, or an arm that builds from a field the
    pattern does not bind) -/
def runConvert : List (OriginPat × Conv) → Origin → Option ConnErr
  | [], _ => none
  | (p, c) :: rest, o => if patMatches p o then build c o else runConvert rest o

def genConvert (o : Origin) : Option ConnErr := runConvert convertArms o

def plainOut : Plain → SendErr
  | .notAvailable => .notAvailable
  | .tooLarge => .tooLarge

/-- the generated `match error { .. }` of `handle_send_datagram_error`, the `ConnectionError` arm through the
    generated conversion -/
def genHandle (cell : Option Origin) : SendIn → Option (SendErr × Option CE)
  | .notAvailable => (plainArms[0]?).map (fun p => (plainOut p, none))
  | .tooLarge => (plainArms[1]?).map (fun p => (plainOut p, none))
  | .conn e =>
    match H3.Gen.DgSendArms.connArm with
    | .cellWinner => (genConvert (cellAfter cell (.quic e))).map (fun c => (.conn c, some e))
    | .ownRemote => some (.conn (.remote e), some e)

/-- `convert_to_connection_error` as read from the tree is the model's `convertOrigin` -/
theorem convert_agrees (o : Origin) : genConvert o = some (convertOrigin o) := by
  cases o with
  | internal c => rfl
  | quic e => cases e <;> rfl

/-- the arm the model follows is the arm of the tree -/
theorem connArm_agrees : toArm H3.Gen.DgSendArms.connArm = H3.Datagram.connArm := rfl

/-- **`handle_send_datagram_error` as read from the tree is the model**, for every state of the cell and every
    answer of the transport -/
theorem handle_agrees (cell : Option Origin) (a : SendIn) : genHandle cell a = some (handleSendError cell a) := by
  cases a with
  | notAvailable | tooLarge => rfl
  | conn e =>
    have h : genHandle cell (.conn e)
        = (genConvert (cellAfter cell (.quic e))).map (fun c => (SendErr.conn c, some e)) := rfl
    rw [h, convert_agrees]; rfl

theorem handleBy_agrees (cell : Option Origin) (a : SendIn) :
    handleSendErrorBy (toArm H3.Gen.DgSendArms.connArm) cell a = handleSendError cell a := by
  cases a <;> rfl

/-- the former shape is a different function: an idle timeout that is the connection's first error (D-18b), and a
    transport error behind an error h3 detected itself (D-05g) -/
theorem ownRemote_differs :
    handleSendErrorBy .ownRemote none (.conn .timeout) ≠ handleSendError none (.conn .timeout) ∧
    handleSendErrorBy .ownRemote (some (.internal 0x105)) (.conn .timeout)
      ≠ handleSendError (some (.internal 0x105)) (.conn .timeout) := by decide

end H3.GenAgree.DgSend
