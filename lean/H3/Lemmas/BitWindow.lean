import H3.Model.Huffman
/-! `BitWindow::forwards` (`bitwin.rs`): the window that follows, in closed form, and the checked version. -/
namespace H3.Huffman

theorem forwards_eq (w : BitWindow) (k : Nat) : w.forwards k = ⟨w.endPos / 8, w.endPos % 8, k⟩ := by
  simp only [BitWindow.forwards, BitWindow.endPos, BitWindow.mk.injEq]
  refine ⟨by omega, by omega, trivial⟩

theorem forwards_start (w : BitWindow) (k : Nat) :
    8 * (w.forwards k).byte + (w.forwards k).bit = w.endPos ∧ (w.forwards k).bit < 8 ∧
    (w.forwards k).count = k := by
  rw [forwards_eq]
  exact ⟨by dsimp only; omega, Nat.mod_lt _ (by decide), rfl⟩

theorem forwardsC_eq (w : BitWindow) (k : Nat) :
    w.forwardsC k =
      if w.bit + w.count < 2 ^ 32 ∧ w.byte + (w.bit + w.count) / 8 < 2 ^ 32 then some (w.forwards k) else none := by
  unfold BitWindow.forwardsC add32
  by_cases h1 : w.bit + w.count < 2 ^ 32
  · by_cases h2 : w.byte + (w.bit + w.count) / 8 < 2 ^ 32
    · rw [if_pos h1, if_pos ⟨h1, h2⟩]; simp only [if_pos h2]; rfl
    · rw [if_pos h1, if_neg (fun h => h2 h.2)]; simp only [if_neg h2]
  · rw [if_neg h1, if_neg (fun h => h1 h.1)]

theorem forwardsC_some {w w' : BitWindow} {k : Nat} (h : w.forwardsC k = some w') : w' = w.forwards k := by
  rw [forwardsC_eq] at h
  split at h
  · exact (Option.some.inj h).symm
  · cases h

end H3.Huffman
