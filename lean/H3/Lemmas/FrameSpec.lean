import H3.Spec.Framing
import H3.Spec.FrameAgree
import H3.Lemmas.Frame
/-! The payload arms of `Frame.decode` against the RFC 9114 §7.2 oracle `classify` of `H3.Spec.Framing`, for
    well-formed byte strings: one-varint payloads, SETTINGS payloads (`settings_agrees`), all arms together
    (`typed_classify`, `typed_unknown`).  With `decode_rfc` of Lemmas/Frame.lean this is what FrameRefSpec and C02 build on.
    At the head `rfc_len`, how many bytes `rfcDecode` consumes, which only C02 uses. -/
namespace H3.Frame
open H3.Varint H3.Gen.Consts H3.Spec.Framing

theorem WF_append {a b : Bytes} (h : WF (a ++ b)) : WF a ∧ WF b := WF_append_iff.1 h

theorem rfc_len {b r : Bytes} {v : Nat} (h : rfcDecode b = some (v, r)) :
    b.length - r.length = rfcLen (b.headD 0) ∧ r.length ≤ b.length := by
  obtain ⟨b0, t, rfl, hl, _, rfl⟩ := rfcDecode_iff.mp h
  simp only [List.length_drop, List.headD_cons]
  omega

theorem oneVarint_eq (p : Bytes) (hwf : WF p) : oneVarint p = exactlyOneVarint p := by
  unfold oneVarint exactlyOneVarint
  rw [decode_of_rfc p hwf]
  cases rfcDecode p with
  | none => rfl
  | some q =>
    obtain ⟨v, r⟩ := q
    cases r with
    | nil => rfl
    | cons _ _ => rfl

theorem supported_iff (id : Nat) : settingSupported id = definedSettings.contains id := by
  simp only [settingSupported, definedSettings, SETTING_MAX_HEADER_LIST_SIZE,
    SETTING_QPACK_MAX_TABLE_CAPACITY, SETTING_QPACK_MAX_BLOCKED_STREAMS,
    SETTING_ENABLE_CONNECT_PROTOCOL, SETTING_ENABLE_WEBTRANSPORT,
    SETTING_WEBTRANSPORT_MAX_SESSIONS, SETTING_H3_DATAGRAM, List.contains_cons, List.contains_nil,
    Bool.or_false]
  ac_rfl

theorem forbidden_iff (id : Nat) : settingForbidden id = h2Settings.contains id := by
  simp only [settingForbidden, h2Settings, List.contains_cons, List.contains_nil, Bool.or_false,
    Bool.or_assoc]

def idsOf (es : List (Nat × Nat)) : List Nat := es.map (·.1)

/-- the entries collected so far: distinct supported identifiers -/
def EsOK (es : List (Nat × Nat)) : Prop :=
  (idsOf es).Nodup ∧ ∀ id ∈ idsOf es, settingSupported id = true

theorem esOK_length {es : List (Nat × Nat)} (h : EsOK es) : es.length ≤ 7 := by
  have hsub : idsOf es ⊆ definedSettings := by
    intro id hid
    have := h.2 id hid
    rw [supported_iff] at this
    simpa using this
  have := List.Nodup.length_le_of_subset h.1 hsub
  simpa [idsOf, definedSettings] using this

/-- repeated defined identifier, given the identifiers `seen` before this point -/
def Gb (seen : List Nat) (ps : List (Nat × Nat)) : Bool :=
  ps.any (fun e => definedSettings.contains e.1 && seen.contains e.1) || hasRepeatedDefined ps

/-- the specification's verdict on a SETTINGS payload, with identifiers `seen` before it -/
def specBad (seen : List Nat) : Option (List (Nat × Nat)) → Bool
  | none => true
  | some ps => ps.any (fun e => h2Settings.contains e.1) || Gb seen ps || hasBadBool ps

/-- the identifiers `Settings::decode` tests for a value above 1 (read from the source by the translator) are the two
    the RFCs restrict to 0 / 1 (on a source without the test — before the repair of D-13b — this does not prove) -/
theorem boolean_iff (id : Nat) : settingBoolean id = boolSettings.contains id := by
  simp only [settingBoolean, H3.Gen.Settings.booleanIds, boolSettings]

theorem bool_defined (id : Nat) (h : definedSettings.contains id = false) : boolSettings.contains id = false := by
  cases hb : boolSettings.contains id with
  | false => rfl
  | true =>
    simp only [boolSettings, List.contains_eq_mem, List.mem_cons, List.not_mem_nil, or_false,
      decide_eq_true_eq] at hb
    rcases hb with rfl | rfl <;> simp [definedSettings] at h

def isError : Except SettingsErr (List (Nat × Nat)) → Bool
  | .error _ => true
  | .ok _ => false

theorem specBad_forbidden (seen : List Nat) (id v : Nat) (o : Option (List (Nat × Nat)))
    (hf : h2Settings.contains id = true) : specBad seen (o.map ((id, v) :: ·)) = true := by
  cases o with
  | none => rfl
  | some ps => simp only [Option.map_some, specBad, List.any_cons, hf, Bool.true_or]

theorem specBad_badbool (seen : List Nat) (id v : Nat) (o : Option (List (Nat × Nat)))
    (hb : (boolSettings.contains id && decide (1 < v)) = true) : specBad seen (o.map ((id, v) :: ·)) = true := by
  cases o with
  | none => rfl
  | some ps => simp only [Option.map_some, specBad, hasBadBool, List.any_cons, hb, Bool.true_or, Bool.or_true]

theorem specBad_repeated (seen : List Nat) (id v : Nat) (o : Option (List (Nat × Nat)))
    (hd : definedSettings.contains id = true) (hs : seen.contains id = true) :
    specBad seen (o.map ((id, v) :: ·)) = true := by
  cases o with
  | none => rfl
  | some ps =>
    simp only [Option.map_some, specBad, Gb, List.any_cons, hd, hs, Bool.and_self, Bool.true_or,
      Bool.or_true]

theorem specBad_skip (seen : List Nat) (id v : Nat) (o : Option (List (Nat × Nat)))
    (hf : h2Settings.contains id = false) (hd : definedSettings.contains id = false) :
    specBad seen (o.map ((id, v) :: ·)) = specBad seen o := by
  cases o with
  | none => rfl
  | some ps =>
    simp only [Option.map_some, specBad, Gb, hasBadBool, List.any_cons, hasRepeatedDefined, hf, hd,
      bool_defined id hd, Bool.false_and, Bool.false_or]

theorem contains_snoc (seen : List Nat) (id x : Nat) :
    (seen ++ [id]).contains x = (seen.contains x || x == id) := by
  rw [Bool.eq_iff_iff]; simp

theorem bool_snoc (d s q A B : Bool) (h : q = true → d = true) :
    (d && (s || q) || (A || B)) = ((d && s || A) || (q || B)) := by
  cases d <;> cases s <;> cases q <;> cases A <;> cases B <;> simp_all

theorem any_seen_snoc (seen : List Nat) (id : Nat) (ps : List (Nat × Nat))
    (hd : definedSettings.contains id = true) :
    ps.any (fun e => definedSettings.contains e.1 && (seen ++ [id]).contains e.1) =
      (ps.any (fun e => definedSettings.contains e.1 && seen.contains e.1) ||
        ps.any (fun e => e.1 == id)) := by
  induction ps with
  | nil => rfl
  | cons e r ih =>
    simp only [List.any_cons]
    rw [ih, contains_snoc]
    exact bool_snoc _ _ _ _ _ (by intro hq; rw [beq_iff_eq.mp hq]; exact hd)

theorem specBad_insert (seen : List Nat) (id v : Nat) (o : Option (List (Nat × Nat)))
    (hf : h2Settings.contains id = false) (hd : definedSettings.contains id = true)
    (hs : seen.contains id = false) (hb : (boolSettings.contains id && decide (1 < v)) = false) :
    specBad seen (o.map ((id, v) :: ·)) = specBad (seen ++ [id]) o := by
  cases o with
  | none => rfl
  | some ps =>
    simp only [Option.map_some, specBad, Gb, hasBadBool, List.any_cons, hasRepeatedDefined, hf, hd, hs, hb,
      Bool.false_or, Bool.and_false, Bool.true_and]
    rw [any_seen_snoc seen id ps hd]
    simp only [Bool.or_assoc]

theorem any_fst (es : List (Nat × Nat)) (id : Nat) :
    es.any (fun e => e.1 == id) = (idsOf es).contains id := by
  induction es with
  | nil => rfl
  | cons e r ih => rw [List.any_cons, ih, BEq.comm]; rfl

theorem settingsAux_agrees : ∀ (fuel : Nat) (bs : Bytes) (es : List (Nat × Nat)), WF bs →
    bs.length < fuel → EsOK es →
    isError (settingsDecodeAux fuel bs es) = specBad (idsOf es) (pairs fuel bs) := by
  intro fuel
  induction fuel with
  | zero => intro bs es _ h; omega
  | succ fuel ih =>
    intro bs es hwf hlen hes
    unfold settingsDecodeAux pairs
    by_cases hnil : bs = []
    · rw [if_pos hnil, if_pos hnil]; rfl
    · rw [if_neg hnil, if_neg hnil]
      rw [decode_of_rfc bs hwf]
      cases hr1 : rfcDecode bs with
      | none =>
        simp only
        split <;> rfl
      | some p1 =>
        obtain ⟨id, r1⟩ := p1
        have hwf1 : WF r1 := rfcDecode_wf hr1 hwf
        simp only
        rw [decode_of_rfc r1 hwf1]
        cases hr2 : rfcDecode r1 with
        | none =>
          simp only
          split <;> rfl
        | some p2 =>
          obtain ⟨v, r2⟩ := p2
          obtain ⟨_, _, hwf2, hl2, _⟩ := rfc2_facts hwf (rfc2_some hr1 hr2)
          have hlen2 : r2.length < fuel := by omega
          have h2 : ¬ bs.length < 2 := by omega
          rw [if_neg h2]
          simp only
          by_cases hforb : settingForbidden id = true
          · rw [if_pos hforb]
            rw [specBad_forbidden _ _ _ _ (by rw [← forbidden_iff]; exact hforb)]
            rfl
          · rw [if_neg hforb]
            have hforb' : h2Settings.contains id = false := by
              rw [← forbidden_iff]; simpa using hforb
            by_cases hsup : settingSupported id = true
            · rw [if_pos hsup]
              have hdef : definedSettings.contains id = true := by rw [← supported_iff]; exact hsup
              by_cases hbad : (settingBoolean id && decide (1 < v)) = true
              · rw [if_pos hbad]
                rw [specBad_badbool _ _ _ _ (by rw [← boolean_iff]; exact hbad)]
                rfl
              rw [if_neg hbad]
              have hbad' : (boolSettings.contains id && decide (1 < v)) = false := by
                rw [← boolean_iff]; simpa using hbad
              unfold settingsInsert
              -- only 7 identifiers are supported and entries are distinct, so the capacity arm of
              -- `Settings::insert` is never reached: the specification has no such rule
              have h8 : ¬ es.length ≥ 8 := by have := esOK_length hes; omega
              rw [if_neg h8]
              rw [any_fst]
              by_cases hs : (idsOf es).contains id = true
              · rw [if_pos hs, specBad_repeated _ _ _ _ hdef hs]
                rfl
              · rw [if_neg hs]
                have hs : (idsOf es).contains id = false := by simpa using hs
                simp only
                have hes' : EsOK (es ++ [(id, v)]) := by
                  constructor
                  · simp only [idsOf, List.map_append, List.map_cons, List.map_nil]
                    rw [List.nodup_append]
                    refine ⟨hes.1, by simp, ?_⟩
                    intro a ha b hb
                    simp only [List.mem_singleton] at hb
                    subst hb
                    intro hab; subst hab
                    have : (idsOf es).contains a = true := by simpa [idsOf] using ha
                    rw [hs] at this; cases this
                  · intro x hx
                    simp only [idsOf, List.map_append, List.map_cons, List.map_nil,
                      List.mem_append, List.mem_singleton] at hx
                    rcases hx with hx | rfl
                    · exact hes.2 x hx
                    · exact hsup
                rw [ih r2 _ hwf2 hlen2 hes', specBad_insert _ _ _ _ hforb' hdef hs hbad']
                simp [idsOf]
            · rw [if_neg hsup]
              have hdef : definedSettings.contains id = false := by
                rw [← supported_iff]; simpa using hsup
              rw [ih r2 es hwf2 hlen2 hes, specBad_skip _ _ _ _ hforb' hdef]

/-- SETTINGS: the model reports an error exactly when the specification says `badSettings` -/
theorem settings_agrees (p : Bytes) (hwf : WF p) :
    isError (settingsDecode p) = (classify 4 p == .badSettings) := by
  unfold settingsDecode
  rw [settingsAux_agrees (p.length + 1) p [] hwf (by omega) ⟨by simp [idsOf], by simp [idsOf]⟩]
  unfold classify
  rw [if_neg (by decide), if_neg (by decide), if_pos rfl]
  cases pairs (p.length + 1) p with
  | none => rfl
  | some ps =>
    have hany : ps.any (fun e => definedSettings.contains e.1 && ([] : List Nat).contains e.1) = false := by
      induction ps with
      | nil => rfl
      | cons e r ih => rw [List.any_cons, ih]; simp
    simp only [specBad, Gb, idsOf, List.map_nil, hany, Bool.false_or]
    cases (ps.any (fun e => h2Settings.contains e.1) || hasRepeatedDefined ps || hasBadBool ps) <;> rfl

theorem classify4_cases (p : Bytes) : classify 4 p = .badSettings ∨ classify 4 p = .okSettings := by
  unfold classify
  rw [if_neg (by decide), if_neg (by decide), if_pos rfl]
  cases pairs (p.length + 1) p with
  | none => exact Or.inl rfl
  | some ps =>
    simp only
    split
    · exact Or.inl rfl
    · exact Or.inr rfl

theorem isKnown_cases {ty : Nat} (h : isKnown ty = true) :
    ty = 1 ∨ ty = 3 ∨ ty = 4 ∨ ty = 5 ∨ ty = 7 ∨ ty = 13 ∨ ty = 2 ∨ ty = 6 ∨ ty = 8 ∨ ty = 9 := by
  simpa only [isKnown, h2Types, List.contains_cons, List.contains_nil, Bool.or_false, Bool.or_eq_true,
    beq_iff_eq, or_assoc] using h

theorem typed_unknown (ty : Nat) (p : Bytes) (n : Nat) (h : isKnown ty = false) :
    typed ty p n = .unknown n := by
  simp only [isKnown, h2Types, List.contains_cons, List.contains_nil, Bool.or_false,
    Bool.or_eq_false_iff, beq_eq_false_iff_ne, ne_eq] at h
  obtain ⟨⟨h1, h3, h4, h5, h7, h13⟩, h2, h6, h8, h9⟩ := h
  have hh : isH2 ty = false := by
    simp only [isH2, FRAME_H2_PRIORITY, FRAME_H2_PING, FRAME_H2_WINDOW_UPDATE, FRAME_H2_CONTINUATION,
      Bool.or_eq_false_iff, beq_eq_false_iff_ne, ne_eq]
    exact ⟨⟨⟨h2, h6⟩, h8⟩, h9⟩
  rw [typed, if_neg (show ¬ ty = FRAME_HEADERS from h1), if_neg (show ¬ ty = FRAME_SETTINGS from h4),
    if_neg (show ¬ ty = FRAME_CANCEL_PUSH from h3), if_neg (show ¬ ty = FRAME_PUSH_PROMISE from h5),
    if_neg (show ¬ ty = FRAME_GOAWAY from h7), if_neg (show ¬ ty = FRAME_MAX_PUSH_ID from h13), hh]
  rfl

theorem typed_3 (p : Bytes) (n : Nat) : typed 3 p n =
    match oneVarint p with
    | none => .error .malformed
    | some v => .frame (.cancelPush v) n := rfl

theorem typed_4 (p : Bytes) (n : Nat) : typed 4 p n =
    match settingsDecode p with
    | .error e => .error (.settings e)
    | .ok es => .frame (.settings es) n := rfl

theorem typed_5 (p : Bytes) (n : Nat) : typed 5 p n =
    match Varint.decode p with
    | .endOf _ => .error .malformed
    | .ok id rest => .frame (.pushPromise id rest) n := rfl

theorem typed_7 (p : Bytes) (n : Nat) : typed 7 p n =
    match oneVarint p with
    | none => .error .malformed
    | some v => .frame (.goaway v) n := rfl

theorem typed_13 (p : Bytes) (n : Nat) : typed 13 p n =
    match oneVarint p with
    | none => .error .malformed
    | some v => .frame (.maxPushId v) n := rfl

theorem classify_3 (p : Bytes) : classify 3 p =
    match exactlyOneVarint p with | some v => .frame (.cancelPush v) | none => .malformed := rfl

theorem classify_5 (p : Bytes) : classify 5 p =
    match rfcDecode p with | some (id, rest) => .frame (.pushPromise id rest) | none => .malformed := rfl

theorem classify_7 (p : Bytes) : classify 7 p =
    match exactlyOneVarint p with | some v => .frame (.goaway v) | none => .malformed := rfl

theorem classify_13 (p : Bytes) : classify 13 p =
    match exactlyOneVarint p with | some v => .frame (.maxPushId v) | none => .malformed := rfl

/-- how the model's answer on a complete frame of a known type corresponds to the
    specification's classification of its payload -/
inductive TypedAgrees (n : Nat) : DecRes → Tok → Prop
  | frame (f : Frame) : plainFrame f = true → TypedAgrees n (.frame f n) (.frame f)
  | okSettings (es : List (Nat × Nat)) : TypedAgrees n (.frame (.settings es) n) .okSettings
  | badSettings (e : SettingsErr) : TypedAgrees n (.error (.settings e)) .badSettings
  | malformed : TypedAgrees n (.error .malformed) .malformed
  | h2 (t : Nat) : TypedAgrees n (.error (.unsupported t)) (.h2 t)

theorem typed_classify (ty : Nat) (p : Bytes) (n : Nat) (hwf : WF p) (h : isKnown ty = true) :
    TypedAgrees n (typed ty p n) (classify ty p) := by
  rcases isKnown_cases h with rfl | rfl | rfl | rfl | rfl | rfl | rfl | rfl | rfl | rfl
  · exact .frame _ rfl
  · rw [typed_3, classify_3, oneVarint_eq p hwf]
    cases exactlyOneVarint p
    · exact .malformed
    · exact .frame _ rfl
  · have hs := settings_agrees p hwf
    rw [typed_4]
    cases hd : settingsDecode p with
    | error e =>
      rw [hd] at hs
      rw [show classify 4 p = .badSettings by simpa [isError] using hs.symm]
      exact .badSettings e
    | ok es =>
      rw [hd] at hs
      rcases classify4_cases p with hc | hc
      · rw [hc] at hs; cases hs
      · rw [hc]; exact .okSettings es
  · rw [typed_5, classify_5, decode_of_rfc p hwf]
    cases rfcDecode p with
    | none => exact .malformed
    | some q => exact .frame _ rfl
  · rw [typed_7, classify_7, oneVarint_eq p hwf]
    cases exactlyOneVarint p
    · exact .malformed
    · exact .frame _ rfl
  · rw [typed_13, classify_13, oneVarint_eq p hwf]
    cases exactlyOneVarint p
    · exact .malformed
    · exact .frame _ rfl
  all_goals exact .h2 _

end H3.Frame
