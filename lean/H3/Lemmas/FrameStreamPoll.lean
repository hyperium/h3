import H3.Lemmas.FrameStreamReader
import H3.Model.ReqRecv
/-! ONE call of the frame layer, from a state that satisfies the C02 invariant, said once for all its users:
    `Step` lists what `poll_next` / `poll_data` can answer, each answer with what it means for the reference run
    over the bytes taken so far (`FinalOK`), for the invariant, for `remaining_data` and for the measure `mu`
    (`pollNext_step`, `pollData_step`).  `FinalOK.on_wire`: on bytes that lie on a wire of whole frames only
    `Pending` and (at its end) `None` are left.  `readerG_spec`: the documented reader loop, call after call.
    At the head of the file, for the users of `Step` downstream: the measure `C06.mu` with `C06.Good`, and
    `fs_pollNext` / `fs_pollData` (a call of the source `fsSrc` of `Model/ReqRecv` is the call of the model). -/
namespace H3.C06
open H3.FS
variable {F E : Type}

/-- the termination measure of every reader: events and bytes still to come, plus the bytes buffered -/
def mu (s : St) (script : List Ev) : Nat := script.length + (evBytes script).length + s.flat.length

/-- the state satisfies the C02 invariant for some history, and the chunks to come are non-empty -/
def Good (D : Dec F E) (s : St) (script : List Ev) : Prop :=
  (∃ seen toks, Inv D seen toks s) ∧ ScriptOK script

theorem good_init (D : Dec F E) (script : List Ev) (h : ScriptOK script) : Good D {} script :=
  ⟨⟨[], [], inv_init D⟩, h⟩

theorem mu_split (s s' : St) (taken r : List Ev)
    (h : s'.flat.length ≤ s.flat.length + (evBytes taken).length) :
    mu s' r + taken.length ≤ mu s (taken ++ r) := by
  simp only [mu, List.length_append, evBytes_append]
  omega

theorem live_pending {s s' : St} {taken r : List Ev}
    (hlen : s'.flat.length ≤ s.flat.length + (evBytes taken).length) (hne : taken ++ r ≠ [] → taken ≠ []) :
    mu s' r ≤ mu s (taken ++ r) ∧ (taken ++ r ≠ [] → mu s' r < mu s (taken ++ r)) := by
  have hm := mu_split s s' taken r hlen
  refine ⟨by omega, fun hne' => ?_⟩
  have : 0 < taken.length := List.length_pos_iff.mpr (hne hne')
  omega

end H3.C06

namespace H3.ReqRecv
open H3.Frame

theorem fs_pollNext (s : FS.St) (sc : List FS.Ev) (o : FOut) (s' : FS.St) (sc' : List FS.Ev)
    (h : FS.pollNext FS.frameDec s sc = (o, s', sc')) : fsSrc.pollNext (s, sc) = (o, (s', sc')) := by
  simp only [fsSrc, h]

theorem fs_pollData (s : FS.St) (sc : List FS.Ev) (o : FOut) (s' : FS.St) (sc' : List FS.Ev)
    (h : FS.pollData (F := Frame) (E := FrameErr) s sc = (o, s', sc')) :
    fsSrc.pollData (s, sc) = (o, (s', sc')) := by
  simp only [fsSrc, h]

end H3.ReqRecv

namespace H3.FS
open H3.C06 (mu)
variable {F E : Type}

theorem scriptBytes_eq (sc : List Ev) : ReqRecv.scriptBytes sc = (evBytes sc).length := by
  induction sc with
  | nil => rfl
  | cons e r ih => cases e <;> simp [ReqRecv.scriptBytes, evBytes, ih]

theorem fsFuel_mu (s : St) (sc : List Ev) : ReqRecv.fsFuel (s, sc) = mu s sc + 4 := by
  simp only [ReqRecv.fsFuel, mu, scriptBytes_eq]; omega

theorem Inv.run_stuck {D : Dec F E} (L : Laws D) {seen : Bytes} {toks : List (Tok F E)} {s : St}
    (hI : Inv D seen toks s) (h0 : s.remaining = 0) (hst : Stuck D s) :
    run D (.hdr []) seen = (.hdr s.flat, toks) := by
  obtain ⟨c, hseen, hrun⟩ := hI.split
  rw [h0, PSt.ofRem_zero] at hrun
  rw [hseen, run_append, hrun, run_incomplete D L s.flat hst]
  simp

/-- `Step D seen toks s sc tk s' sc' c o`: the call `c` answered `o`, took `tk` from the script `sc = tk ++ sc'`
    and left the state `s'` -/
inductive Step (D : Dec F E) (seen : Bytes) (toks : List (Tok F E)) (s : St) (sc tk : List Ev) (s' : St)
    (sc' : List Ev) : Call → Out F E → Prop
  | frame (f : F) (hI : Inv D (seen ++ evBytes tk) (toks ++ [.frame f]) s')
      (hrem : s'.remaining = (D.kind f).rem) (hmu : mu s' sc' < mu s sc) : Step D seen toks s sc tk s' sc' .next (.frame f)
  | data (d : Bytes) (hd : d ≠ []) (hle : d.length ≤ s.remaining) (hrem : s'.remaining = s.remaining - d.length)
      (hI : Inv D (seen ++ evBytes tk) (toks ++ d.map .byte) s') (hmu : mu s' sc' < mu s sc) :
      Step D seen toks s sc tk s' sc' .data (.data d)
  | wait {c : Call} (hI : Inv D (seen ++ evBytes tk) toks s') (hrem : s'.remaining = s.remaining) (heos : s.eos = false)
      (heos' : s'.eos = false) (hwhy : sc' = [] ∨ Ev.pend ∈ tk) (hmu : sc ≠ [] → mu s' sc' < mu s sc) (hle : mu s' sc' ≤ mu s sc)
      (hR : FinalOK (run D (.hdr []) (seen ++ evBytes tk)) s'.eos toks .pending) :
      Step D seen toks s sc tk s' sc' c .pending
  | none (hI : Inv D (seen ++ evBytes tk) toks s') (hrem : s'.remaining = 0) (hfl : s'.flat = [])
      (heos' : s'.eos = true) (hR : FinalOK (run D (.hdr []) (seen ++ evBytes tk)) s'.eos toks .none)
      (hle : mu s' sc' ≤ mu s sc) : Step D seen toks s sc tk s' sc' .next .none
  | errEnd {c : Call} (hR : FinalOK (run D (.hdr []) (seen ++ evBytes tk)) s'.eos toks .errEnd) :
      Step D seen toks s sc tk s' sc' c .errEnd
  | errProto (e : E) (hR : FinalOK (run D (.hdr []) (seen ++ evBytes tk)) s'.eos toks (.errProto e)) :
      Step D seen toks s sc tk s' sc' .next (.errProto e)
  /-- `poll_data` in raw mode (after a WebTransport header) at the end of the stream -/
  | rawEnd (hmax : s.remaining = USIZE_MAX) (heos' : s'.eos = true)
      (hR : run D (.hdr []) (seen ++ evBytes tk) = (.data USIZE_MAX, toks)) (hI : Inv D (seen ++ evBytes tk) toks s')
      (hle : mu s' sc' ≤ mu s sc) : Step D seen toks s sc tk s' sc' .data .none
  | errQuic {c : Call} (e : Nat) (heos' : s'.eos = false) (hr : ∃ r, sc' = .reset e :: r)
      (hR : ∃ more, (run D (.hdr []) (seen ++ evBytes tk)).2 = toks ++ more) :
      Step D seen toks s sc tk s' sc' c (.errQuic e)

theorem pollNext_step (D : Dec F E) (L : Laws D) {seen : Bytes} {toks : List (Tok F E)} {s : St} {sc : List Ev}
    (hI : Inv D seen toks s) (hsc : ScriptOK sc) (h0 : s.remaining = 0) {o : Out F E} {s' : St} {sc' : List Ev}
    (h : pollNext D s sc = (o, s', sc')) :
    ∃ tk, sc = tk ++ sc' ∧ TakenOK s.eos s'.eos tk ∧ Step D seen toks s sc tk s' sc' .next o := by
  have hp := (pollNext_preserves D L seen toks s sc hI hsc).elim (fun x => absurd h0 x.1) (fun x => x.2)
  rw [h] at hp
  obtain ⟨tk, rfl, htk, hout⟩ := hp
  refine ⟨tk, rfl, htk, ?_⟩
  rw [pollNext, if_neg (by simp [h0])] at h
  obtain ⟨tk2, ht2, hlen, hfr, hpend⟩ := pollNextLoop_shape D h
  obtain rfl : tk2 = tk := (List.append_cancel_right ht2).symm
  have hsplit := H3.C06.mu_split s s' tk2 sc' hlen
  cases o with
  | frame f =>
    have := inv_progress D hI (show Inv D _ (toks ++ [.frame f]) s' from hout) (by simp)
    refine .frame f hout (hfr f rfl) ?_
    simp only [mu, List.length_append, evBytes_append]; omega
  | pending =>
    obtain ⟨hI', hstuck, heos', hrem⟩ := hout
    obtain ⟨heos, _, _, hwhy, hne⟩ := hpend rfl
    obtain ⟨hle, hlt⟩ := H3.C06.live_pending (r := sc') hlen hne
    refine .wait hI' (hrem.trans h0.symm) heos heos' hwhy hlt hle ⟨heos', ?_⟩
    rw [hI'.run_stuck L hrem hstuck]
    exact ⟨rfl, by intro hc; cases hc⟩
  | none =>
    obtain ⟨hI', hfl, heos', hrem⟩ := hout
    refine .none hI' hrem hfl heos' ⟨heos', ?_⟩ (by omega)
    rw [hI'.run_stuck L hrem (.inl hfl), hfl]
    exact ⟨rfl, rfl⟩
  | errEnd =>
    obtain ⟨hI', hne, hinc, heos', hrem⟩ := hout
    refine .errEnd ⟨heos', .inl ⟨s'.flat, hne, ?_⟩⟩
    rw [hI'.run_stuck L hrem (.inr hinc)]
    exact ⟨rfl, rfl⟩
  | errProto e =>
    obtain ⟨c, k, hseen, hrun, _, _, hrunE⟩ := hout
    refine .errProto e ?_
    rw [hseen, ← List.take_append_drop k s'.flat, run_append, hrun, run_append, hrunE, run_dead]
    exact ⟨rfl, by simp⟩
  | errQuic c =>
    obtain ⟨_, hr, heos'⟩ := hout
    exact .errQuic c heos' hr (inv_toks_prefix D hI _)
  | data _ => exact absurd hout id
  | panic => exact absurd hout id

theorem pollData_step (D : Dec F E) {seen : Bytes} {toks : List (Tok F E)} {s : St} {sc : List Ev}
    (hI : Inv D seen toks s) (hsc : ScriptOK sc) (h0 : s.remaining ≠ 0)
    {o : Out F E} {s' : St} {sc' : List Ev} (h : pollData (F := F) (E := E) s sc = (o, s', sc')) :
    ∃ tk, sc = tk ++ sc' ∧ TakenOK s.eos s'.eos tk ∧ Step D seen toks s sc tk s' sc' .data o := by
  have hp := pollData_spec D seen toks s sc hI hsc
  rw [h] at hp
  obtain ⟨tk, rfl, htk, hout⟩ := hp
  refine ⟨tk, rfl, htk, ?_⟩
  cases o with
  | data d =>
    obtain ⟨hd, hle, hrem, hI'⟩ := hout
    have := inv_progress D hI hI' (by simpa using hd)
    refine .data d hd hle hrem hI' ?_
    simp only [mu, List.length_append, evBytes_append]; omega
  | pending =>
    obtain ⟨hI', hfl, heos', hrem⟩ := hout
    obtain ⟨_, _, _, tk2, hs2, hwhy, hne⟩ := pollData_pending_inv h
    obtain rfl : tk2 = tk := List.append_cancel_right hs2.symm
    obtain ⟨hle, hlt⟩ := H3.C06.live_pending (s := s) (r := sc') (by rw [hfl]; simp) hne
    refine .wait hI' hrem (htk.eos_false heos') heos' hwhy hlt hle ⟨heos', ?_⟩
    obtain ⟨c, hseen, hrun⟩ := hI'.split
    rw [hfl, List.append_nil] at hseen
    rw [hrem, PSt.ofRem_pos h0] at hrun
    rw [hseen, hrun]
    exact ⟨rfl, by intro hc; cases hc⟩
  | errEnd =>
    obtain ⟨heos', _, c, rest, hseen, hrun, hlt⟩ := hout
    refine .errEnd ⟨heos', .inr ⟨s.remaining - rest.length, rest, by omega, ?_⟩⟩
    rw [hseen, run_append, hrun, run_data_short D _ rest hlt]
    exact ⟨rfl, rfl⟩
  | errQuic c =>
    obtain ⟨rfl, hr, heos⟩ := hout
    exact .errQuic c heos hr (inv_toks_prefix D hI _)
  | none =>
    obtain ⟨hI', ⟨hz, _⟩ | ⟨hmax, hmax', heos', hfl⟩⟩ := hout
    · exact absurd hz h0
    · obtain ⟨c, hseen, hrun⟩ := hI'.split
      rw [hfl, List.append_nil] at hseen
      rw [hmax', PSt.ofRem_pos (by decide)] at hrun
      have := H3.C06.mu_split s s' tk sc' (by rw [hfl]; simp)
      exact .rawEnd hmax heos' (hseen ▸ hrun) hI' (by omega)
  | frame _ => exact absurd hout id
  | errProto _ => exact absurd hout id
  | panic => exact absurd hout id

theorem FinalOK.on_wire {D : Dec F E} {w x : Bytes} {T toks : List (Tok F E)} {fin : Bool} {o : Out F E}
    (hW : run D (.hdr []) w = (.hdr [], T)) (hx : x <+: w) (hfull : fin = true → x = w)
    (h : FinalOK (run D (.hdr []) x) fin toks o) :
    o ≠ .errEnd ∧ (∀ e, o ≠ .errProto e) ∧ (o = .none → toks = T) := by
  refine ⟨?_, ?_, ?_⟩
  · rintro rfl
    obtain ⟨hfin, h⟩ := h
    rw [hfull hfin, hW] at h
    rcases h with ⟨acc, hne, h1, _⟩ | ⟨rem, bs, _, h1, _⟩
    · cases h1; exact absurd rfl hne
    · cases h1
  · rintro e rfl
    obtain ⟨y, rfl⟩ := hx
    rw [run_append, h.1, run_dead] at hW
    cases hW
  · rintro rfl
    obtain ⟨hfin, _, h2⟩ := h
    rw [hfull hfin, hW] at h2
    exact h2.symm

/-- the automaton stays dead -/
theorem FinalOK.extend {D : Dec F E} {x y : Bytes} {fin fin' : Bool} {toks : List (Tok F E)} {e : E}
    (h : FinalOK (run D (.hdr []) x) fin toks (.errProto e)) :
    FinalOK (run D (.hdr []) (x ++ y)) fin' toks (.errProto e) := by
  obtain ⟨h1, h2⟩ := h
  rw [run_append, h1, run_dead]
  exact ⟨rfl, by simp [h2]⟩

theorem FinalOK.of_taken {D : Dec F E} {seen : Bytes} {eos : Bool} {script' : List Ev} {toks : List (Tok F E)}
    {o : Out F E} (h : FinalOK (run D (.hdr []) seen) eos toks o) (hp : o = .pending → script' = []) :
    FinalOK (run D (.hdr []) (wOf seen eos script')) (finOf eos script') toks o := by
  cases o with
  | errProto e => exact h.extend
  | pending =>
    obtain rfl := hp rfl
    obtain rfl := h.1
    simpa [wOf, finOf, upToFin, evBytes, hasFin] using h
  | none =>
    obtain rfl := h.1
    simpa [wOf, finOf] using h
  | errEnd =>
    obtain rfl := h.1
    simpa [wOf, finOf] using h
  | frame _ => exact absurd h id
  | data _ => exact absurd h id
  | errQuic _ => exact absurd h id
  | panic => exact absurd h id

theorem readerG_spec (D : Dec F E) (L : Laws D) (w : Bytes) (fin : Bool)
    (hraw : ∀ f, Tok.frame f ∈ (run D (.hdr []) w).2 → (D.kind f).rem < USIZE_MAX) :
    ∀ (fuel : Nat) (s : St) (script : List Ev) (seen : Bytes) (toks : List (Tok F E)),
      Inv D seen toks s → ScriptOK script → NoReset script →
      wOf seen s.eos script = w → finOf s.eos script = fin →
      script.length + (evBytes script).length + s.flat.length < fuel →
      ReaderPost (run D (.hdr []) w) fin toks (readerG D fuel s script) := by
  intro fuel
  induction fuel with
  | zero => intro s script seen toks _ _ _ _ _ h; omega
  | succ fuel ih =>
    intro s script seen toks hI hsc hnr hw hfin hmu
    -- after a call that took `tk`: the loop goes on by `ih` (`go`), or the call's verdict is the verdict about `w`
    have next : ∀ {tk script' : List Ev} {s' : St}, script = tk ++ script' → TakenOK s.eos s'.eos tk →
        (∀ t, Inv D (seen ++ evBytes tk) (toks ++ t) s' → mu s' script' < mu s script →
          ReaderPost (run D (.hdr []) w) fin (toks ++ t) (readerG D fuel s' script')) ∧
        (∀ o, FinalOK (run D (.hdr []) (seen ++ evBytes tk)) s'.eos toks o → (o = .pending → script' = []) →
          ReaderPost (run D (.hdr []) w) fin toks [o]) ∧ NoReset script' := by
      intro tk script' s' hs htk
      subst hs
      obtain ⟨hw', hfin'⟩ := w_step seen s.eos s'.eos tk script' htk
      rw [hw] at hw'
      rw [hfin] at hfin'
      have hnr' : NoReset script' := fun c hc => hnr c (List.mem_append_right _ hc)
      refine ⟨fun t hI' hlt => ih s' script' _ _ hI' (scriptOK_suffix hsc) hnr' hw' hfin' ?_, ?_, hnr'⟩
      · simp only [mu] at hlt; omega
      · intro o hF hp
        rw [← hw', ← hfin']
        exact readerPost_single (hF.of_taken hp)
    have hbound : s.remaining < USIZE_MAX :=
      inv_rem_bound D USIZE_MAX hI (fun f hf => hraw f (by
        rw [← hw, wOf, inv_run_rest D hI]; exact List.mem_append_left _ hf)) usize_pos
    -- a `Pending`: the last word on an exhausted script, otherwise the call is repeated
    have pend : ∀ {tk script' : List Ev} {s' : St}, script = tk ++ script' → TakenOK s.eos s'.eos tk →
        Inv D (seen ++ evBytes tk) toks s' → (script ≠ [] → mu s' script' < mu s script) →
        FinalOK (run D (.hdr []) (seen ++ evBytes tk)) s'.eos toks .pending →
        ReaderPost (run D (.hdr []) w) fin toks
          (if script.isEmpty = true then [Out.pending] else readerG D fuel s' script') := by
      intro tk script' s' hs htk hI' hlt hR
      obtain ⟨go, stop, _⟩ := next hs htk
      by_cases hemp : script.isEmpty = true
      · rw [if_pos hemp]
        have hnil : script = [] := by simpa using hemp
        rw [hnil] at hs
        exact stop _ hR (fun _ => (List.append_eq_nil_iff.mp hs.symm).2)
      · rw [if_neg hemp]
        simpa using go [] (by simpa using hI') (hlt (by simpa using hemp))
    rw [readerG]
    by_cases h0 : s.remaining ≠ 0
    · rw [if_pos h0]
      rcases hres : pollData (F := F) (E := E) s script with ⟨o, s', script'⟩
      obtain ⟨tk, hs, htk, hst⟩ := pollData_step D hI hsc h0 hres
      obtain ⟨go, stop, hnr'⟩ := next hs htk
      cases hst with
      | data d _ _ _ hI' hlt => exact readerPost_cons (.inr ⟨d, rfl⟩) (go _ hI' hlt)
      | wait hI' _ _ _ _ hlt _ hR => exact pend hs htk hI' hlt hR
      | errEnd hR => exact stop _ hR nofun
      | errQuic c _ hr =>
        obtain ⟨r, rfl⟩ := hr
        exact absurd (by simp) (hnr' c)
      | rawEnd hmax => omega
    · have h0' : s.remaining = 0 := by simpa using h0
      rw [if_neg h0]
      rcases hres : pollNext D s script with ⟨o, s', script'⟩
      obtain ⟨tk, hs, htk, hst⟩ := pollNext_step D L hI hsc h0' hres
      obtain ⟨go, stop, hnr'⟩ := next hs htk
      cases hst with
      | frame f hI' _ hlt => exact readerPost_cons (.inl ⟨f, rfl⟩) (go _ hI' hlt)
      | wait hI' _ _ _ _ hlt _ hR => exact pend hs htk hI' hlt hR
      | none _ _ _ _ hR => exact stop _ hR nofun
      | errEnd hR => exact stop _ hR nofun
      | errProto e hR => exact stop _ hR nofun
      | errQuic c _ hr =>
        obtain ⟨r, rfl⟩ := hr
        exact absurd (by simp) (hnr' c)

end H3.FS
