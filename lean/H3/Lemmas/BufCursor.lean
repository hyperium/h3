/-! `WriteBuf` (`h3/src/stream.rs`, also as h3-quinn sees it) and `EncodedDatagram`
    (`h3-datagram/src/datagram.rs`) are the same `Buf`: a cursor `pos` in a header `h`, then a payload `p`; what
    is left is `h.drop pos ++ p`.  Here is the `Buf` contract on lists: `chunk` is a front part of what is left,
    empty only when nothing is left, `advance` drops from the front. -/
namespace H3
variable {α : Type}

/-- `Buf::chunk`: the rest of the header while there is one, then the payload -/
def curChunk (h p : List α) (pos : Nat) : List α := if h.length - pos > 0 then h.drop pos else p

theorem cur_done {h : List α} {pos : Nat} (hd : ¬ h.length - pos > 0) : h.drop pos = [] :=
  List.drop_eq_nil_of_le (by omega)

theorem cur_prefix (h p : List α) (pos : Nat) : ∃ t, h.drop pos ++ p = curChunk h p pos ++ t := by
  unfold curChunk
  split
  · exact ⟨p, rfl⟩
  · rename_i hd
    exact ⟨[], by rw [cur_done hd, List.nil_append, List.append_nil]⟩

theorem cur_ne (h p : List α) (pos : Nat) (hv : h.drop pos ++ p ≠ []) : curChunk h p pos ≠ [] := by
  unfold curChunk
  split
  · rename_i hd
    exact fun hc => by have := congrArg List.length hc; simp at this; omega
  · rename_i hd
    rwa [cur_done hd, List.nil_append] at hv

/-- `Buf::advance`: the header cursor moves by what the header still has, the payload by the rest -/
theorem cur_drop (h p : List α) (pos n : Nat) :
    (h.drop pos ++ p).drop n =
      h.drop (pos + min n (h.length - pos)) ++ p.drop (n - min n (h.length - pos)) := by
  rw [List.drop_append, List.drop_drop, List.length_drop]
  by_cases hk : n ≤ h.length - pos
  · rw [Nat.min_eq_left hk, Nat.sub_self, Nat.sub_eq_zero_of_le hk]
  · -- beyond the header both cursors are at its end
    rw [Nat.min_eq_right (by omega), List.drop_eq_nil_of_le (by omega : h.length ≤ pos + n),
      List.drop_eq_nil_of_le (by omega : h.length ≤ pos + (h.length - pos))]

theorem take_chunk (c t : List α) {n : Nat} (hn : n ≤ c.length) : c.take n ++ (c ++ t).drop n = c ++ t := by
  rw [List.drop_append_of_le_length hn, ← List.append_assoc, List.take_append_drop]

end H3
