import H3.Lemmas.WriteBuf
/-! For `C06_send_completion`: the send-side calls (`WriteBuf.callE`) against a transport whose answers
    include errors (STOP_SENDING, connection close, timeout).  Per stage what each outcome says about
    the script and how it changes when more answers arrive; then the composition over the stages. -/
namespace H3.WriteBuf
open H3.Varint

def NoErr (sc : List Acc) : Prop := ∀ e, Acc.err e ∉ sc

theorem noErr_nil : NoErr [] := fun _ h => by cases h

theorem noErr_cons_take {k : Nat} {sc : List Acc} (h : NoErr sc) : NoErr (.take k :: sc) := by
  intro e he
  rcases List.mem_cons.mp he with h1 | h1
  · cases h1
  · exact h e h1

theorem noErr_append {a b : List Acc} (ha : NoErr a) (hb : NoErr b) : NoErr (a ++ b) := by
  intro e he
  rcases List.mem_append.mp he with h | h
  · exact ha e h
  · exact hb e h

theorem posTakes_append (a b : List Acc) : posTakes (a ++ b) = posTakes a + posTakes b := by
  induction a with
  | nil => simp [posTakes]
  | cons x r ih =>
    cases x with
    | err e => simpa [posTakes] using ih
    | take k =>
      cases k with
      | zero => simpa [posTakes] using ih
      | succ n => simp only [List.cons_append, posTakes, ih]; omega

theorem drainE_zero (w : WB) (out : Bytes) (sc : List Acc) (h : w.remaining = 0) :
    w.drainE out sc = .ready out sc := by
  cases sc with
  | nil => simp [WB.drainE, h]
  | cons a r => cases a <;> simp [WB.drainE, h]

theorem drainE_nil {w : WB} (out : Bytes) (h : w.remaining ≠ 0) : w.drainE out [] = .pending out w := by
  simp only [WB.drainE, h, if_false]

theorem drainE_err {w : WB} (out : Bytes) (e : WErr) (r : List Acc) (h : w.remaining ≠ 0) :
    w.drainE out (.err e :: r) = .failed out e := by
  simp only [WB.drainE, h, if_false]

theorem drainE_take {w w1 : WB} {k : Nat} {o : Bytes} (out : Bytes) (r : List Acc)
    (h : w.remaining ≠ 0) (hs : w.step k = some (o, w1)) :
    w.drainE out (.take k :: r) = w1.drainE (out ++ o) r := by
  simp only [WB.drainE, h, if_false, hs]

/-- what an outcome of the write loop says about the script and about the bytes -/
def DrainOK (w : WB) (out : Bytes) (sc : List Acc) : WriteResE → Prop
  | .ready out' rest => out' = out ++ w.view ∧
      ∃ used, sc = used ++ rest ∧ NoErr used ∧ posTakes used ≤ w.remaining
  | .failed out' e => ∃ pre post t, sc = pre ++ .err e :: post ∧ NoErr pre ∧ out' ++ t = out ++ w.view
  | .pending out' left => NoErr sc ∧ posTakes sc < w.remaining ∧ left.WF ∧ left.remaining ≠ 0 ∧
      out' ++ left.view = out ++ w.view
  | .panic => False

theorem drainE_ok (w : WB) (hwf : w.WF) (out : Bytes) (sc : List Acc) :
    DrainOK w out sc (w.drainE out sc) := by
  by_cases h : w.remaining = 0
  · rw [drainE_zero w out sc h, DrainOK, (remaining_eq_zero w hwf).mp h, List.append_nil]
    exact ⟨rfl, [], rfl, noErr_nil, Nat.zero_le _⟩
  induction sc generalizing w out with
  | nil =>
    rw [drainE_nil out h]
    exact ⟨noErr_nil, Nat.pos_of_ne_zero h, hwf, h, rfl⟩
  | cons a r ih =>
    cases a with
    | err e =>
      rw [drainE_err out e r h]
      exact ⟨[], r, w.view, rfl, noErr_nil, rfl⟩
    | take k =>
      obtain ⟨o, w1, hs, hwf1, hv1, _, hprog⟩ := step_spec w hwf k
      have hrem : w.remaining = o.length + w1.remaining := by
        rw [remaining_eq_view w hwf, remaining_eq_view w1 hwf1, ← hv1, List.length_append]
      -- a positive answer takes at least one byte
      have hpos : ∀ u : List Acc, posTakes (.take k :: u) ≤ posTakes u + o.length := by
        intro u
        cases k with
        | zero => exact Nat.le_add_right _ _
        | succ n =>
          have := List.length_pos_iff.mpr
            (hprog (Nat.succ_pos n) (mt (remaining_eq_zero w hwf).mpr h))
          simp only [posTakes]; omega
      rw [drainE_take out r h hs]
      have ih1 : DrainOK w1 (out ++ o) r (w1.drainE (out ++ o) r) := by
        by_cases h1 : w1.remaining = 0
        · rw [drainE_zero w1 _ r h1, DrainOK, (remaining_eq_zero w1 hwf1).mp h1, List.append_nil]
          exact ⟨rfl, [], rfl, noErr_nil, Nat.zero_le _⟩
        · exact ih w1 hwf1 (out ++ o) h1
      generalize w1.drainE (out ++ o) r = res at ih1
      cases res with
      | ready out' rest =>
        obtain ⟨h1, used, h2, h3, h4⟩ := ih1
        refine ⟨by rw [h1, List.append_assoc, hv1], .take k :: used, by rw [h2]; rfl,
          noErr_cons_take h3, ?_⟩
        have := hpos used
        omega
      | failed out' e =>
        obtain ⟨pre, post, t, h1, h2, h3⟩ := ih1
        exact ⟨.take k :: pre, post, t, by rw [h1]; rfl, noErr_cons_take h2,
          by rw [h3, List.append_assoc, hv1]⟩
      | pending out' left =>
        obtain ⟨h1, h2, h3, h4, h5⟩ := ih1
        refine ⟨noErr_cons_take h1, ?_, h3, h4, by rw [h5, List.append_assoc, hv1]⟩
        have := hpos r
        omega
      | panic => exact ih1

theorem drainE_append (w : WB) (out : Bytes) (sc more : List Acc) :
    w.drainE out (sc ++ more) =
      match w.drainE out sc with
      | .ready out' rest => .ready out' (rest ++ more)
      | .failed out' e => .failed out' e
      | .pending out' left => left.drainE out' more
      | .panic => .panic := by
  by_cases h : w.remaining = 0
  · rw [drainE_zero w out _ h, drainE_zero w out _ h]
  induction sc generalizing w out with
  | nil => rw [drainE_nil out h]; rfl
  | cons a r ih =>
    cases a with
    | err e => rw [List.cons_append, drainE_err out e _ h, drainE_err out e _ h]
    | take k =>
      cases hs : w.step k with
      | none => simp only [List.cons_append, WB.drainE, h, if_false, hs]
      | some p =>
        obtain ⟨o, w1⟩ := p
        rw [List.cons_append, drainE_take out _ h hs, drainE_take out _ h hs]
        by_cases h1 : w1.remaining = 0
        · rw [drainE_zero w1 _ _ h1, drainE_zero w1 _ _ h1]
        · exact ih w1 (out ++ o) h1

def Stage.WF : Stage → Prop
  | .wait => True
  | .write w => w.WF

/-- what an outcome of a stage says about the script and the bytes, and what more answers make of it (`CallOK`
    below is the same for a list of stages) -/
def StageOK (s : Stage) (out : Bytes) (sc : List Acc) : StageRes → Prop
  | .done out' rest => out' = out ++ s.content ∧
      (∃ used, sc = used ++ rest ∧ NoErr used ∧ posTakes used ≤ s.need) ∧
      ∀ more, s.run out (sc ++ more) = .done out' (rest ++ more)
  | .failed out' e => (∃ pre post, sc = pre ++ .err e :: post ∧ NoErr pre) ∧
      (∃ t, out' ++ t = out ++ s.content) ∧ ∀ more, s.run out (sc ++ more) = .failed out' e
  | .pending out' => NoErr sc ∧ posTakes sc < s.need ∧ (∃ t, out' ++ t = out ++ s.content) ∧
      ∀ e more, s.run out (sc ++ .err e :: more) = .failed out' e
  | .panic => False

theorem waitE_ok (out : Bytes) (sc : List Acc) : StageOK .wait out sc (waitE out sc) := by
  induction sc with
  | nil => exact ⟨noErr_nil, Nat.zero_lt_one, ⟨[], rfl⟩, fun e more => rfl⟩
  | cons a r ih =>
    cases a with
    | err e => exact ⟨⟨[], r, rfl, noErr_nil⟩, ⟨[], rfl⟩, fun more => rfl⟩
    | take k =>
      cases k with
      | succ n =>
        exact ⟨(List.append_nil _).symm, ⟨[.take (n + 1)], rfl, noErr_cons_take noErr_nil, Nat.le_refl _⟩,
          fun more => rfl⟩
      | zero =>
        -- `Pending`: the wait goes on with the rest of the script, and so it does after more answers
        rw [waitE]
        generalize waitE out r = res at ih
        cases res with
        | done out' rest =>
          obtain ⟨h1, ⟨used, h2, h3, h4⟩, h5⟩ := ih
          exact ⟨h1, ⟨.take 0 :: used, by rw [h2]; rfl, noErr_cons_take h3, h4⟩, h5⟩
        | failed out' e =>
          obtain ⟨⟨pre, post, h1, h2⟩, h3, h4⟩ := ih
          exact ⟨⟨.take 0 :: pre, post, by rw [h1]; rfl, noErr_cons_take h2⟩, h3, h4⟩
        | pending out' =>
          obtain ⟨h1, h2, h3, h4⟩ := ih
          exact ⟨noErr_cons_take h1, h2, h3, h4⟩
        | panic => exact ih

theorem stage_ok (s : Stage) (hwf : s.WF) (out : Bytes) (sc : List Acc) :
    StageOK s out sc (s.run out sc) := by
  cases s with
  | wait => exact waitE_ok out sc
  | write w =>
    have hok := drainE_ok w hwf out sc
    have hap := drainE_append w out sc
    simp only [Stage.run] at hap ⊢
    generalize w.drainE out sc = res at hok hap
    cases res with
    | ready out' rest => exact ⟨hok.1, hok.2, fun more => by rw [Stage.run, hap]; rfl⟩
    | failed out' e =>
      obtain ⟨pre, post, t, h1, h2, h3⟩ := hok
      exact ⟨⟨pre, post, h1, h2⟩, ⟨t, h3⟩, fun more => by rw [Stage.run, hap]; rfl⟩
    | pending out' left =>
      refine ⟨hok.1, hok.2.1, ⟨left.view, hok.2.2.2.2⟩, fun e more => ?_⟩
      rw [Stage.run, hap]
      show (left.drainE out' (.err e :: more)).stage = _
      rw [drainE_err out' e more hok.2.2.2.1]; rfl
    | panic => exact hok

-- `SendCall.need` and `SendCall.content` over any list of stages (`c.need = need c.stages` by
-- definition): the induction over the stages needs them for the tail of the list
def need (ss : List Stage) : Nat := (ss.map Stage.need).sum
def content (ss : List Stage) : Bytes := (ss.map Stage.content).flatten

def CallOK (ss : List Stage) (out : Bytes) (sc : List Acc) : CallRes → Prop
  | .ok out' => out' = out ++ content ss
  | .failed out' e => (∃ pre post, sc = pre ++ .err e :: post ∧ NoErr pre) ∧
      (∃ t, out' ++ t = out ++ content ss) ∧ ∀ more, stagesE ss out (sc ++ more) = .failed out' e
  | .pending out' => NoErr sc ∧ posTakes sc < need ss ∧ (∃ t, out' ++ t = out ++ content ss) ∧
      ∀ e more, stagesE ss out (sc ++ .err e :: more) = .failed out' e
  | .panic => False

theorem stagesE_ok (ss : List Stage) (hwf : ∀ s ∈ ss, s.WF) (out : Bytes) (sc : List Acc) :
    CallOK ss out sc (stagesE ss out sc) := by
  induction ss generalizing out sc with
  | nil => simp [stagesE, CallOK, content]
  | cons s ss ih =>
    have hs := stage_ok s (hwf s (by simp)) out sc
    have hc : content (s :: ss) = s.content ++ content ss := by simp [content]
    have hn : need (s :: ss) = s.need + need ss := by simp [need]
    rw [stagesE]
    generalize s.run out sc = res at hs
    cases res with
    | done out' rest =>
      obtain ⟨h1, ⟨used, h2, h3, h4⟩, he⟩ := hs
      have ih' := ih (fun t ht => hwf t (by simp [ht])) out' rest
      simp only
      generalize stagesE ss out' rest = res2 at ih'
      cases res2 with
      | ok o2 =>
        simp only [CallOK] at ih' ⊢
        rw [ih', h1, hc, List.append_assoc]
      | failed o2 e =>
        obtain ⟨⟨pre, post, hp1, hp2⟩, ⟨t, ht⟩, hx⟩ := ih'
        refine ⟨⟨used ++ pre, post, by rw [h2, hp1, List.append_assoc], noErr_append h3 hp2⟩,
          ⟨t, by rw [ht, h1, hc, List.append_assoc]⟩, fun more => ?_⟩
        rw [stagesE, he more]
        exact hx more
      | pending o2 =>
        obtain ⟨hp1, hp2, ⟨t, ht⟩, hx⟩ := ih'
        refine ⟨by rw [h2]; exact noErr_append h3 hp1, ?_, ⟨t, by rw [ht, h1, hc, List.append_assoc]⟩,
          fun e more => ?_⟩
        · rw [h2, posTakes_append, hn]; omega
        · rw [stagesE, he (.err e :: more)]
          exact hx e more
      | panic => exact ih'
    | failed out' e =>
      obtain ⟨h1, ⟨t, h3⟩, he⟩ := hs
      refine ⟨h1, ⟨t ++ content ss, by rw [← List.append_assoc, h3, hc, List.append_assoc]⟩,
        fun more => ?_⟩
      rw [stagesE, he more]
    | pending out' =>
      obtain ⟨h1, h2, ⟨t, h3⟩, he⟩ := hs
      refine ⟨h1, by rw [hn]; omega, ⟨t ++ content ss, by rw [← List.append_assoc, h3, hc, List.append_assoc]⟩,
        fun e more => ?_⟩
      rw [stagesE, he e more]
    | panic => exact hs

theorem stages_wf (c : SendCall) (hwf : ∀ w ∈ c.writes, w.WF) : ∀ s ∈ c.stages, s.WF := by
  intro s hs
  simp only [SendCall.stages, List.mem_append, List.mem_map] at hs
  rcases hs with (hs | ⟨w, hw, rfl⟩) | hs
  · split at hs
    · simp only [List.mem_cons, List.not_mem_nil, or_false] at hs; subst hs; trivial
    · cases hs
  · exact hwf w hw
  · split at hs
    · simp only [List.mem_cons, List.not_mem_nil, or_false] at hs; subst hs; trivial
    · cases hs

/-- `content c.stages`, `need c.stages`, `stagesE c.stages []` are `c.content`, `c.need`, `callE c` by definition: the
    cases of `CallOK` are then the clauses of `C06_send_completion` as they stand -/
theorem callE_ok (c : SendCall) (hwf : ∀ w ∈ c.writes, w.WF) (script : List Acc) :
    CallOK c.stages [] script (callE c script) :=
  stagesE_ok c.stages (stages_wf c hwf) [] script

end H3.WriteBuf
