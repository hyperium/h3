import H3.Model.Varint
import H3.Lemmas.Varint
/-! The RFC 9000 §16 reading `rfcDecode` against the encoder model: an encoding is read back whatever follows it
    and wherever the bytes are cut; the length of an encoding, `write_var` and `VarInt::size` on checked values; and
    `wire type payload`, the bytes of a frame with a length field, which sender and receiver both speak of. -/
namespace H3.Varint

theorem rfcDecode_encode (x : Nat) (hx : x < 2^62) (r : Bytes) :
    rfcDecode (encode x ++ r) = some (x, r) := by
  have h : rfcDecode (encode x) = some (x, []) := by
    have hv := vhead_encode x hx []
    rw [List.append_nil] at hv
    rw [rfcDecode_eq_vhead _ (decode_encode x hx []).2.2, hv, Option.map_some, List.drop_length]
  exact rfcDecode_append h r

theorem encode_length_eq_size (x : Nat) (hx : x < 2^62) : (encode x).length = size x :=
  (decode_encode x hx []).2.1

theorem size_le_8 (x : Nat) : size x ≤ 8 := by
  unfold size; repeat' split
  all_goals omega

theorem size_pos (x : Nat) : 0 < size x := by
  unfold size; repeat' split
  all_goals omega

theorem encode_length_pos (x : Nat) (hx : x < 2^62) : 0 < (encode x).length := by
  rw [encode_length_eq_size x hx]; exact size_pos x

theorem encode_length_le (x : Nat) (hx : x < 2^62) : (encode x).length ≤ 8 := by
  rw [encode_length_eq_size x hx]; exact size_le_8 x

theorem rfcDecode_encode_take (x : Nat) (hx : x < 2^62) (r : Bytes) (k : Nat) :
    rfcDecode ((encode x ++ r).take k) =
      if k < (encode x).length then none else some (x, r.take (k - (encode x).length)) := by
  rw [rfcDecode_take (rfcDecode_encode x hx r) k, List.length_append, Nat.add_sub_cancel]

theorem writeVar_eq (x : Nat) (hx : x < 2^62) : writeVar x = some (encode x) := by
  unfold writeVar fromU64
  rw [if_pos hx]; exact encode?_eq x hx

theorem writeVar_none (x : Nat) (hx : ¬ x < 2^62) : writeVar x = none := by
  unfold writeVar fromU64
  rw [if_neg hx]; rfl

/-- `VarInt::from_u64(x).unwrap().size()` -/
theorem sizeOf_eq (x : Nat) (hx : x < 2^62) : (fromU64 x).bind size? = some (size x) := by
  unfold fromU64; rw [if_pos hx]; exact size_eq_of_lt hx

theorem sizeOf_none (x : Nat) (hx : ¬ x < 2^62) : (fromU64 x).bind size? = none := by
  unfold fromU64; rw [if_neg hx]; rfl

theorem size_small (x : Nat) (h : x < 64) : size x = 1 := by
  unfold size; rw [if_pos (by omega)]

theorem encode_small (x : Nat) (hx : x < 64) : encode x = [x] := by
  unfold encode encode?
  rw [if_pos (by omega)]; rfl

theorem rfcDecode_byte (b : Nat) (hb : b < 64) (r : Bytes) : rfcDecode (b :: r) = some (b, r) := by
  have := rfcDecode_encode b (by omega) r
  rwa [encode_small b hb] at this

end H3.Varint

namespace H3.Spec.Output
open H3.Varint

def wire (ty : Nat) (p : Bytes) : Bytes := encode ty ++ encode p.length ++ p

end H3.Spec.Output
