import H3.Lemmas.E2ECompose
import H3.Lemmas.E2EIso
import H3.Model.Split
/-! `recvPattern` as a sequence of single polls: the link between the awaited pattern (every call polled
    again after `Pending`) and the schedules of `Conn.run` (`E2EIso`), whose steps are single polls.
    `patternCalls` lists the polls the pattern makes; `pollsRun_pattern` says polling them one by one answers,
    `Pending` dropped, what `recvPattern` answers. -/
namespace H3.E2E
open H3.FS H3.ReqRecv H3.Headers

theorem recvTail_eq (H : Hdr) (st : St FSt) :
    recvTail H st = ((recvTailFrom H st).1, (recvTailFrom H st).2.1, (recvTailFrom H st).2.2.env) := by
  simp only [recvTail, recvTailFrom]
  split <;> rfl

theorem recvPatternFrom_fresh (role : Role) (H : Hdr) (script : List H3.FS.Ev) :
    (recvPatternFrom role H { src := ({}, script) }).1 = recvPattern role H script := by
  simp only [recvPattern, recvPatternFrom, recvTail_eq]
  generalize awaitCall (pollHead role fsSrc H) { src := ({}, script) } = p
  cases p.1 <;> rfl

/-- how often `await` polls its call -/
def awaitCount (poll : St FSt → Res × St FSt) : Nat → St FSt → Nat
  | 0, _ => 0
  | fuel+1, st =>
    if (poll st).1 = .pending ∧ (poll st).2.src.2 ≠ [] then awaitCount poll fuel (poll st).2 + 1 else 1

/-- what is left of a list of answers when the `Pending` ones are dropped -/
def settled (rs : List Res) : List Res := rs.filter (fun r => r != .pending)

theorem settled_append (a b : List Res) : settled (a ++ b) = settled a ++ settled b := by
  simp [settled]

theorem settled_replicate_pending (n : Nat) : settled (List.replicate n Res.pending) = [] := by simp [settled]

theorem mem_settled_or_pending {rs : List Res} {a : Res} (h : a ∈ rs) : a = .pending ∨ a ∈ settled rs := by
  by_cases hp : a = .pending
  · exact Or.inl hp
  · exact Or.inr (List.mem_filter.mpr ⟨h, by simpa using hp⟩)

theorem pollsRun_append (H : Hdr) : ∀ (a b : List RCall) (st : St FSt),
    (pollsRun H st (a ++ b)).1 = (pollsRun H st a).1 ++ (pollsRun H (pollsRun H st a).2 b).1 ∧
    (pollsRun H st (a ++ b)).2 = (pollsRun H (pollsRun H st a).2 b).2 := by
  intro a
  induction a with
  | nil => intro b st; exact ⟨rfl, rfl⟩
  | cons c a ih =>
    intro b st
    obtain ⟨h1, h2⟩ := ih b (c.poll H st).2
    simp only [List.cons_append, pollsRun]
    exact ⟨by rw [h1], h2⟩

/-- one awaited call as single polls: `Pending` as often as it was polled in vain, then its answer -/
theorem pollsRun_await (H : Hdr) (c : RCall) : ∀ (fuel : Nat) (st : St FSt),
    (await (c.poll H) fuel st).1 ≠ .invalid →
    (∃ n, (pollsRun H st (List.replicate (awaitCount (c.poll H) fuel st) c)).1 =
      List.replicate n .pending ++ [(await (c.poll H) fuel st).1]) ∧
    (pollsRun H st (List.replicate (awaitCount (c.poll H) fuel st) c)).2 = (await (c.poll H) fuel st).2 := by
  intro fuel
  induction fuel with
  | zero => intro st h; exact absurd rfl h
  | succ fuel ih =>
    intro st h
    rw [await] at h ⊢
    rw [awaitCount]
    by_cases hc : (c.poll H st).1 = Res.pending ∧ (c.poll H st).2.src.2 ≠ []
    · simp only [if_pos hc] at h ⊢
      obtain ⟨⟨n, h1⟩, h2⟩ := ih (c.poll H st).2 h
      rw [List.replicate_succ]
      simp only [pollsRun]
      refine ⟨⟨n + 1, ?_⟩, h2⟩
      rw [h1, hc.1, List.replicate_succ]
      rfl
    · simp only [if_neg hc] at h ⊢
      exact ⟨⟨0, rfl⟩, rfl⟩

/-- the single polls of the body loop (`recvBody`) -/
def bodyCalls : Nat → St FSt → List RCall
  | 0, _ => []
  | fuel+1, st =>
    match (recvData st).1 with
    | .data _ =>
      List.replicate (awaitCount (fun x => pollRecvData fsSrc (fsFuel x.src) x) (fsFuel st.src) st) .data ++
        bodyCalls fuel (recvData st).2
    | _ => List.replicate (awaitCount (fun x => pollRecvData fsSrc (fsFuel x.src) x) (fsFuel st.src) st) .data

/-- the single polls of the documented pattern from `st` -/
def patternCalls (role : Role) (H : Hdr) (st : St FSt) : List RCall :=
  List.replicate (awaitCount (pollHead role fsSrc H) (fsFuel st.src) st) (.head role) ++
  match (awaitCall (pollHead role fsSrc H) st).1 with
  | .head _ =>
    bodyCalls (fsFuel (awaitCall (pollHead role fsSrc H) st).2.src) (awaitCall (pollHead role fsSrc H) st).2 ++
    (if (recvBody (fsFuel (awaitCall (pollHead role fsSrc H) st).2.src)
          (awaitCall (pollHead role fsSrc H) st).2).1.getLast? = some .end_ then
      List.replicate
        (awaitCount (pollRecvTrailers fsSrc H)
          (fsFuel (recvBody (fsFuel (awaitCall (pollHead role fsSrc H) st).2.src)
            (awaitCall (pollHead role fsSrc H) st).2).2.src)
          (recvBody (fsFuel (awaitCall (pollHead role fsSrc H) st).2.src)
            (awaitCall (pollHead role fsSrc H) st).2).2) .trailers
     else [])
  | _ => []

/-- the answers of a trace in call order -/
def traceAnswers (t : Trace) : List Res := t.head :: (t.body ++ t.trailers.toList)

theorem settled_pending_answer (n : Nat) (r : Res) :
    settled (List.replicate n Res.pending ++ [r]) = settled [r] := by
  rw [settled_append, settled_replicate_pending, List.nil_append]

theorem settled_pollsRun_append (H : Hdr) (a b : List RCall) (st : St FSt) :
    settled (pollsRun H st (a ++ b)).1 =
      settled (pollsRun H st a).1 ++ settled (pollsRun H (pollsRun H st a).2 b).1 := by
  rw [(pollsRun_append H a b st).1, settled_append]

theorem pollsRun_awaitCall (H : Hdr) (c : RCall) (st : St FSt) (h : (awaitCall (c.poll H) st).1 ≠ .invalid) :
    settled (pollsRun H st (List.replicate (awaitCount (c.poll H) (fsFuel st.src) st) c)).1 =
      settled [(awaitCall (c.poll H) st).1] ∧
    (pollsRun H st (List.replicate (awaitCount (c.poll H) (fsFuel st.src) st) c)).2 = (awaitCall (c.poll H) st).2 := by
  obtain ⟨⟨n, a1⟩, a2⟩ := pollsRun_await H c (fsFuel st.src) st h
  exact ⟨by rw [a1, settled_pending_answer]; rfl, a2⟩

theorem settled_traceAnswers (t : Trace) :
    settled (traceAnswers t) = settled [t.head] ++ (settled t.body ++ settled t.trailers.toList) := by
  rw [traceAnswers, ← settled_append, ← settled_append]
  rfl

theorem pollsRun_body (H : Hdr) : ∀ (fuel : Nat) (st : St FSt),
    Res.invalid ∉ (recvBody fuel st).1 →
    settled (pollsRun H st (bodyCalls fuel st)).1 = settled (recvBody fuel st).1 ∧
    (pollsRun H st (bodyCalls fuel st)).2 = (recvBody fuel st).2 := by
  intro fuel
  induction fuel with
  | zero => intro st h; exact absurd (by simp [recvBody]) h
  | succ fuel ih =>
    intro st h
    rw [recvBody] at h ⊢
    rw [bodyCalls]
    have a := pollsRun_awaitCall H .data st
    -- `RCall.data.poll` is the body of `recvData`
    simp only [RCall.poll, ← recvData.eq_1] at a
    obtain ⟨a1, a2⟩ := a (by intro hc; rw [hc] at h; exact h (List.mem_singleton.mpr rfl))
    cases hres : (recvData st).1 with
    | data d =>
      rw [hres] at h a1
      simp only at h ⊢
      obtain ⟨i1, i2⟩ := ih (recvData st).2 (fun hm => h (List.mem_cons_of_mem _ hm))
      rw [settled_pollsRun_append, (pollsRun_append H _ _ st).2, a1, a2, i1, i2]
      exact ⟨(settled_append [_] _).symm, rfl⟩
    | _ =>
      rw [hres] at a1
      exact ⟨a1, a2⟩

/-- **`recvPattern` is a sequence of single polls.**  Polling the calls `patternCalls role H st` one
    by one answers, the `Pending` answers dropped, what the awaited pattern answers, and ends in the
    same state (when no answer of the pattern is the model's fuel artefact `invalid`). -/
theorem pollsRun_pattern (role : Role) (H : Hdr) (st : St FSt)
    (hinv : Res.invalid ∉ traceAnswers (recvPatternFrom role H st).1) :
    settled (pollsRun H st (patternCalls role H st)).1 = settled (traceAnswers (recvPatternFrom role H st).1) ∧
    (pollsRun H st (patternCalls role H st)).2 = (recvPatternFrom role H st).2 := by
  have a := pollsRun_awaitCall H (.head role) st
  have t := pollsRun_awaitCall H .trailers
  simp only [RCall.poll] at a t
  simp only [recvPatternFrom, recvTailFrom, patternCalls, settled_pollsRun_append, (pollsRun_append H _ _ _).2,
    settled_traceAnswers] at hinv ⊢
  generalize awaitCall (pollHead role fsSrc H) st = p at hinv a ⊢
  -- `hinv` (no answer is the fuel artefact) feeds each awaited call in turn: here the head call
  obtain ⟨a1, a2⟩ := a (by intro hc; apply hinv; rw [hc]; simp [traceAnswers])
  rw [a1, a2]
  cases hp1 : p.1 with
  | head blk =>
    -- a head: the body loop follows (`hinv` for its answers, with or without trailers after them)
    rw [hp1] at hinv
    simp only at hinv ⊢
    generalize hq : recvBody (fsFuel p.2.src) p.2 = q at hinv ⊢
    obtain ⟨b1, b2⟩ := pollsRun_body H (fsFuel p.2.src) p.2 (by
      rw [hq]; intro hm; apply hinv; split <;> simp [traceAnswers, hm])
    rw [hq] at b1 b2
    by_cases hl : q.1.getLast? = some Res.end_
    · -- the body ended cleanly: `recv_trailers` is awaited (`hinv` for its answer)
      simp only [if_pos hl, settled_pollsRun_append, (pollsRun_append H _ _ _).2, b1, b2] at hinv ⊢
      obtain ⟨t1, t2⟩ := t q.2 (by intro hc; apply hinv; simp [traceAnswers, hc])
      rw [t1, t2]
      exact ⟨rfl, rfl⟩
    · -- the body ended otherwise: no further call
      simp only [if_neg hl, List.append_nil, b1, b2]
      exact ⟨congrArg _ (List.append_nil _).symm, trivial⟩
  | _ => exact ⟨rfl, rfl⟩  -- any other answer of the head call ends the pattern

theorem isolated_pollsRun (H : Hdr) : ∀ (calls : List RCall) (st : St FSt),
    (isolated H st.env.cell (Comp.ofSt st) calls).1 = (pollsRun H st calls).1 ∧
    (isolated H st.env.cell (Comp.ofSt st) calls).2.1 = (pollsRun H st calls).2.env.cell ∧
    (isolated H st.env.cell (Comp.ofSt st) calls).2.2 = Comp.ofSt (pollsRun H st calls).2 := by
  intro calls
  induction calls with
  | nil => intro st; exact ⟨rfl, rfl, rfl⟩
  | cons c r ih =>
    intro st
    have hst : (Comp.ofSt st).toSt st.env.cell = st := rfl
    obtain ⟨i1, i2, i3⟩ := ih (c.poll H st).2
    simp only [isolated, pollComp, pollsRun, hst]
    exact ⟨by rw [i1], i2, i3⟩

/-- stream `i` of the product carries the message `m`: its component is fresh, its transport script
    carries the stream bytes of `m` (any non-empty chunks, `pend` anywhere, FIN), and the calls
    scheduled for it are the single polls of the documented pattern -/
structure Carries (H : Http) (role : Role) (L : Nat) (k : Conn) (σ : List (Nat × RCall)) (i : Nat)
    (m : Message) (h : Header) (out : HeadOut) (g : Option Nat) (script : List Ev) : Prop where
  wf : WellFormed m h
  fits : Fits m h L
  head : HeadOk H role m out
  grease : ∀ n, g = some n → n < H3.Gen.WriteBuf.GREASE_RANGE_END
  scriptOK : ScriptOK script
  noReset : NoReset script
  fin : hasFin script = true
  bytes : evBytes (upToFin script) = streamBytes m g
  comp : k.comps i = { src := ({}, script) }
  calls : callsFor σ i = patternCalls role (hdrOf H role L) { src := ({}, script) }

theorem scriptOK_of_all (sc : List Ev)
    (h : sc.all (fun e => match e with | .chunk b => !b.isEmpty | _ => true) = true) : ScriptOK sc := by
  intro b hb hne
  subst hne
  have := List.all_eq_true.mp h _ hb
  simp at this

theorem noReset_of_all (sc : List Ev)
    (h : sc.all (fun e => match e with | .reset _ => false | _ => true) = true) : NoReset sc := by
  intro c hc
  have := List.all_eq_true.mp h _ hc
  simp at this

/-- the closed fields of `Carries`, decided by evaluation for a concrete stream and schedule (`ScriptOK` and
    `NoReset` as Boolean tests) -/
abbrev Carries.Checks (H : Http) (role : Role) (L : Nat) (σ : List (Nat × RCall)) (i : Nat) (m : Message)
    (g : Option Nat) (script : List Ev) : Prop :=
  (∀ n ∈ g, n < H3.Gen.WriteBuf.GREASE_RANGE_END) ∧
  script.all (fun e => match e with | .chunk b => !b.isEmpty | _ => true) = true ∧
  script.all (fun e => match e with | .reset _ => false | _ => true) = true ∧
  hasFin script = true ∧ evBytes (upToFin script) = streamBytes m g ∧
  callsFor σ i = patternCalls role (hdrOf H role L) { src := ({}, script) }

theorem Carries.of_checks {H : Http} {role : Role} {L : Nat} {k : Conn} {σ : List (Nat × RCall)} {i : Nat}
    {m : Message} {h : Header} {out : HeadOut} {g : Option Nat} {script : List Ev} (wf : WellFormed m h)
    (fits : Fits m h L) (head : HeadOk H role m out) (comp : k.comps i = { src := ({}, script) })
    (c : Carries.Checks H role L σ i m g script) : Carries H role L k σ i m h out g script :=
  ⟨wf, fits, head, c.1, scriptOK_of_all _ c.2.1, noReset_of_all _ c.2.2.1, c.2.2.2.1, c.2.2.2.2.1, comp,
    c.2.2.2.2.2⟩

section Carries
variable {H : Http} {role : Role} {L : Nat} {k : Conn} {σ : List (Nat × RCall)} {i : Nat}
  {m : Message} {h : Header} {out : HeadOut} {g : Option Nat} {script : List Ev}

theorem Carries.trace (c : Carries H role L k σ i m h out g script) :
    ∃ ds : List Bytes, recvPattern role (hdrOf H role L) script =
        goodTrace (fieldSection h) ds (m.trailers.map trailerSection) ∧
      ds.flatten = m.pieces.flatten :=
  recvPattern_streamBytes H role m h out L c.wf c.fits c.head g c.grease script c.scriptOK c.noReset c.fin c.bytes

theorem goodTrace_answers (ds : List Bytes) (hb : Bytes) (tr : Option Bytes) (a : Res)
    (ha : a ∈ traceAnswers (goodTrace hb ds tr)) : isErrConn a = false ∧ a ≠ .invalid ∧ a ≠ .pending := by
  simp only [traceAnswers, goodTrace, Option.toList, List.mem_cons, List.mem_append, List.mem_map,
    List.mem_nil_iff, or_false] at ha
  rcases ha with rfl | (⟨d, _, rfl⟩ | rfl) | rfl
  · exact ⟨rfl, nofun, nofun⟩
  · exact ⟨rfl, nofun, nofun⟩
  · exact ⟨rfl, nofun, nofun⟩
  · cases tr <;> exact ⟨rfl, nofun, nofun⟩

/-- alone, the stream's scheduled polls answer — `Pending` dropped — the trace of `recvPattern`,
    none of them a connection error -/
theorem Carries.isolated (c : Carries H role L k σ i m h out g script) (hcell : k.cell = none) :
    settled (isolated (hdrOf H role L) k.cell (k.comps i) (callsFor σ i)).1 =
      traceAnswers (recvPattern role (hdrOf H role L) script) ∧
    (∀ a ∈ (isolated (hdrOf H role L) k.cell (k.comps i) (callsFor σ i)).1, isErrConn a = false) := by
  obtain ⟨ds, hpat', _⟩ := c.trace
  have hfresh := recvPatternFrom_fresh role (hdrOf H role L) script
  have hinv : Res.invalid ∉ traceAnswers (recvPatternFrom role (hdrOf H role L) { src := ({}, script) }).1 := by
    rw [hfresh, hpat']
    intro hm
    exact (goodTrace_answers ds _ _ _ hm).2.1 rfl
  obtain ⟨p1, _⟩ := pollsRun_pattern role (hdrOf H role L) { src := ({}, script) } hinv
  have hiso := (isolated_pollsRun (hdrOf H role L) (callsFor σ i) { src := ({}, script) }).1
  have hcomp : k.comps i = Comp.ofSt { src := ({}, script) } := by rw [c.comp]; rfl
  have hc0 : k.cell = ({ src := ({}, script) } : St FSt).env.cell := by rw [hcell]
  rw [hcomp, hc0, hiso, c.calls]
  rw [hfresh] at p1
  have hset : settled (traceAnswers (recvPattern role (hdrOf H role L) script)) =
      traceAnswers (recvPattern role (hdrOf H role L) script) := by
    rw [settled, List.filter_eq_self]
    intro a ha
    rw [hpat'] at ha
    simpa using (goodTrace_answers ds _ _ _ ha).2.2
  refine ⟨by rw [p1, hset], ?_⟩
  intro a ha
  rcases mem_settled_or_pending ha with rfl | hs
  · rfl
  · rw [p1, hset, hpat'] at hs
    exact (goodTrace_answers ds _ _ _ hs).1

end Carries

end H3.E2E
