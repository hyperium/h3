import H3.Lemmas.E2EFrames
import H3.Lemmas.ReqRetry
/-! The request layer (`H3.ReqRecv` over the `FrameStream` model) reading a valid message:
    HEADERS, DATA*, optional trailing HEADERS (and frames of unknown type anywhere, which emit no
    token), then FIN — for every transport script carrying those bytes.  The chunk-level
    counterpart of `C03_valid_message_delivered`, proved directly from the C02 invariant. -/
namespace H3.E2E
open H3.FS H3.ReqRecv

/-- tokens of the DATA frames of a body -/
def bodyToks : List Bytes → List RTok'
  | [] => []
  | p :: r => .frame (.data p.length) :: (p.map .byte ++ bodyToks r)

def trToks : Option Bytes → List RTok'
  | none => []
  | some t => [.frame (.headers t)]

/-- tokens of a message: head block, body pieces, trailer block -/
def msgToks (hb : Bytes) (ps : List Bytes) (tr : Option Bytes) : List RTok' :=
  .frame (.headers hb) :: (bodyToks ps ++ trToks tr)

theorem lead_tail (ps : List Bytes) (tr : Option Bytes) : lead (bodyToks ps ++ trToks tr) = 0 := by
  cases ps with
  | nil => cases tr <;> simp [bodyToks, trToks, lead, isByte]
  | cons p r => simp [bodyToks, lead, isByte]

theorem map_byte_prefix : ∀ (b a : Bytes) {x y : List RTok'}, a.map Tok.byte ++ x = b.map .byte ++ y →
    b.length ≤ a.length → ∃ r, a = b ++ r ∧ y = r.map .byte ++ x := by
  intro b
  induction b with
  | nil => intro a x y h _; exact ⟨a, rfl, h.symm⟩
  | cons c b ih =>
    intro a x y h hl
    cases a with
    | nil => cases hl
    | cons c' a =>
      simp only [List.map_cons, List.cons_append, List.cons.injEq, Tok.byte.injEq] at h
      obtain ⟨r, rfl, hy⟩ := ih a h.2 (Nat.le_of_succ_le_succ hl)
      exact ⟨r, by rw [h.1]; rfl, hy⟩

section
variable {w : Bytes} {T : List RTok'} (hW : run frameDec (.hdr []) w = (.hdr [], T))
variable (H : Hdr) (tr : Option Bytes)

/-- in the body: `bs` = the rest of the current DATA payload, `ps` = the payloads of the DATA
    frames still to come -/
def BodyInv (w : Bytes) (T : List RTok') (tr : Option Bytes) (st : St FSt) (bs : Bytes)
    (ps : List Bytes) : Prop :=
  ∃ seen toks, Rdy w seen toks st.src ∧ T = toks ++ (bs.map .byte ++ (bodyToks ps ++ trToks tr)) ∧
    st.trailers = none ∧ st.env = {}

/-- after `recv_data` answered `None`: every token has been handed out; the trailers, if any,
    are remembered; without trailers the stream has ended -/
def PostBody (w : Bytes) (T : List RTok') (tr : Option Bytes) (st : St FSt) : Prop :=
  (∃ seen, Rdy w seen T st.src) ∧ st.env = {} ∧
    ((∃ t, tr = some t ∧ st.trailers = some t) ∨
     (tr = none ∧ st.trailers = none ∧ st.src.1.eos = true ∧ st.src.1.flat = []))

/-- one poll of `poll_recv_data` in the body (`N` bounds the measure afterwards, `B` = the body
    bytes still to be delivered) -/
def DataPost (w : Bytes) (T : List RTok') (tr : Option Bytes) (N : Nat) (B : Bytes)
    (r : Res × St FSt) : Prop :=
  (r.1 = .pending ∧ r.2.src.1.eos = false ∧
    (∃ bs' ps', BodyInv w T tr r.2 bs' ps' ∧ bs' ++ ps'.flatten = B) ∧ fsFuel r.2.src < N) ∨
  (∃ d, r.1 = .data d ∧ d ≠ [] ∧
    (∃ bs' ps', BodyInv w T tr r.2 bs' ps' ∧ d ++ (bs' ++ ps'.flatten) = B) ∧ fsFuel r.2.src < N) ∨
  (r.1 = .end_ ∧ B = [] ∧ PostBody w T tr r.2)

theorem DataPost.mono {N N' : Nat} {B : Bytes} {r : Res × St FSt} (h : DataPost w T tr N B r)
    (hN : N ≤ N') : DataPost w T tr N' B r := by
  rcases h with ⟨a, b, c, d⟩ | ⟨d, a, b, c, e⟩ | h
  · exact Or.inl ⟨a, b, c, by omega⟩
  · exact Or.inr (Or.inl ⟨d, a, b, c, by omega⟩)
  · exact Or.inr (Or.inr h)

include hW in
theorem pollRecvData_body : ∀ (fuel : Nat) (st : St FSt) (bs : Bytes) (ps : List Bytes),
    BodyInv w T tr st bs ps → fsFuel st.src ≤ fuel →
    DataPost w T tr (fsFuel st.src) (bs ++ ps.flatten) (pollRecvData fsSrc fuel st) := by
  intro fuel
  induction fuel with
  | zero => intro st bs ps _ hf; have := fsFuel_pos st.src; omega
  | succ fuel ih =>
    intro st bs ps ⟨seen, toks, hR, hT, htr, henv⟩ hf
    have hrem : st.src.1.remaining = bs.length := by
      rw [rdy_rem hW hR hT, lead_bytes, lead_tail]; omega
    rw [pollRecvData]
    by_cases hbs : bs = []
    · -- no payload outstanding: `poll_next`
      subst hbs
      rw [if_neg (by simp [fsSrc, hrem])]
      obtain ⟨seen', o, c', hres, hN⟩ := fs_next_rest hW hR hT (lead_tail ps tr)
      rw [hres]
      rcases hN with ⟨rfl, hR', _, heos', hfu⟩ | ⟨f, more, rfl, hcons, hR', hfu⟩ | ⟨rfl, rfl, hnil, hR', heos', hfl⟩
      · exact Or.inl ⟨rfl, heos', ⟨[], ps, ⟨seen', toks, hR', hT, htr, henv⟩, rfl⟩, hfu⟩
      · -- the next frame is what `T` says: DATA, or the trailers
        cases ps with
        | nil =>
          cases tr with
          | none => cases hcons
          | some t =>
            cases hcons
            exact Or.inr (Or.inr ⟨rfl, rfl, ⟨seen', by rw [hT]; exact hR'⟩, henv, Or.inl ⟨t, rfl, rfl⟩⟩)
        | cons p ps' =>
          cases hcons
          exact (ih { st with src := c' } p ps' ⟨seen', toks ++ [.frame (.data p.length)], hR',
            by rw [hT]; simp [bodyToks], htr, henv⟩ (by simp only; omega)).mono tr (by simp only; omega)
      · -- clean end of stream: `T` has nothing more
        cases ps with
        | cons p r => cases hnil
        | nil =>
          cases tr with
          | some t => cases hnil
          | none => exact Or.inr (Or.inr ⟨rfl, rfl, ⟨seen', hR'⟩, henv, Or.inr ⟨rfl, htr, heos', hfl⟩⟩)
    · -- payload outstanding: `poll_data` hands out a front piece of it
      have h0 : st.src.1.remaining ≠ 0 := by
        rw [hrem]; exact fun h => hbs (List.eq_nil_of_length_eq_zero h)
      rw [if_pos (by simp [fsSrc, h0])]
      obtain ⟨seen', hD⟩ := fs_data hW hR h0
      generalize fsSrc.pollData st.src = res at hD ⊢
      obtain ⟨o, c'⟩ := res
      simp only at hD
      rcases hD with ⟨rfl, hR', heos', hfu⟩ | ⟨d, rfl, hd, hdl, hR', hfu⟩
      · exact Or.inl ⟨rfl, heos', ⟨bs, ps, ⟨seen', toks, hR', hT, htr, henv⟩, rfl⟩, hfu⟩
      · obtain ⟨more, hcut⟩ := rdy_next hW hR' hT
        obtain ⟨r, rfl, hmore⟩ := map_byte_prefix d bs hcut (hrem ▸ hdl)
        exact Or.inr (Or.inl ⟨d, rfl, hd, ⟨r, ps, ⟨seen', _, hR', by rw [hT]; simp, htr, henv⟩,
          (List.append_assoc _ _ _).symm⟩, hfu⟩)

/-- the rule for `await`: a poll that answers `Pending` leaves the precondition intact, has events
    left and has made progress; any other answer satisfies the postcondition -/
theorem await_spec (poll : St FSt → Res × St FSt) (P : St FSt → Prop) (Q : Res × St FSt → Prop)
    (hstep : ∀ st, P st →
      ((poll st).1 = .pending ∧ (poll st).2.src.2 ≠ [] ∧ P (poll st).2 ∧
        fsFuel (poll st).2.src < fsFuel st.src) ∨
      ((poll st).1 ≠ .pending ∧ Q (poll st))) :
    ∀ fuel st, P st → fsFuel st.src ≤ fuel → Q (await poll fuel st) := by
  intro fuel
  induction fuel with
  | zero => intro st _ hf; have := fsFuel_pos st.src; omega
  | succ fuel ih =>
    intro st hP hf
    rw [await]
    rcases hstep st hP with ⟨h1, h2, h3, h4⟩ | ⟨h1, h2⟩
    · rw [if_pos ⟨h1, h2⟩]
      exact ih _ h3 (by omega)
    · rw [if_neg (fun h => h1 h.1)]
      exact h2

theorem bodyInv_script_ne {st : St FSt} {bs : Bytes} {ps : List Bytes} (h : BodyInv w T tr st bs ps)
    (he : st.src.1.eos = false) : st.src.2 ≠ [] := by
  obtain ⟨_, _, hR, _⟩ := h
  exact rdy_script_ne hR he

include hW in
/-- `recv_data().await` in the body -/
theorem recvData_body (st : St FSt) (bs : Bytes) (ps : List Bytes) (hB : BodyInv w T tr st bs ps) :
    (recvData st).1 ≠ .pending ∧ DataPost w T tr (fsFuel st.src) (bs ++ ps.flatten) (recvData st) := by
  unfold recvData awaitCall
  refine await_spec _
    (fun x => (∃ bs' ps', BodyInv w T tr x bs' ps' ∧ bs' ++ ps'.flatten = bs ++ ps.flatten) ∧
      fsFuel x.src ≤ fsFuel st.src)
    (fun r => r.1 ≠ .pending ∧ DataPost w T tr (fsFuel st.src) (bs ++ ps.flatten) r) ?_ _ st
    ⟨⟨bs, ps, hB, rfl⟩, Nat.le_refl _⟩ (Nat.le_refl _)
  intro x ⟨⟨bs', ps', hB', hflat⟩, hle⟩
  have hP := pollRecvData_body hW tr (fsFuel x.src) x bs' ps' hB' (Nat.le_refl _)
  rw [hflat] at hP
  by_cases hp : (pollRecvData fsSrc (fsFuel x.src) x).1 = .pending
  · rcases hP with ⟨_, b, ⟨bs2, ps2, hB2, h2⟩, d⟩ | ⟨_, a, _⟩ | ⟨a, _⟩
    · exact Or.inl ⟨hp, bodyInv_script_ne tr hB2 b, ⟨⟨bs2, ps2, hB2, h2⟩, by omega⟩, d⟩
    · rw [a] at hp; cases hp
    · rw [a] at hp; cases hp
  · exact Or.inr ⟨hp, hp, hP.mono tr hle⟩

include hW in
/-- `recv_data().await` until `None`: non-empty pieces whose concatenation is the rest of the body,
    then `None` -/
theorem recvBody_spec : ∀ (fuel : Nat) (st : St FSt) (bs : Bytes) (ps : List Bytes),
    BodyInv w T tr st bs ps → fsFuel st.src ≤ fuel →
    ∃ ds : List Bytes, (recvBody fuel st).1 = ds.map .data ++ [.end_] ∧ ds.flatten = bs ++ ps.flatten ∧
      (∀ d ∈ ds, d ≠ []) ∧ PostBody w T tr (recvBody fuel st).2 := by
  intro fuel
  induction fuel with
  | zero => intro st _ _ _ hf; have := fsFuel_pos st.src; omega
  | succ fuel ih =>
    intro st bs ps hB hf
    have hA := recvData_body hW tr st bs ps hB
    rw [recvBody]
    simp only
    generalize recvData st = r at hA ⊢
    obtain ⟨r1, r2⟩ := r
    rcases hA.2 with ⟨a, _⟩ | ⟨d, a, b, ⟨bs', ps', hB', hfl⟩, e⟩ | ⟨a, b, c⟩
    · exact absurd a hA.1
    · simp only at a e hB' ⊢
      subst a
      simp only
      obtain ⟨ds, h1, h2, h3, h4⟩ := ih r2 bs' ps' hB' (by omega)
      refine ⟨d :: ds, by simp [h1], by simp [h2, hfl], ?_, h4⟩
      intro x hx
      simp only [List.mem_cons] at hx
      rcases hx with rfl | hx
      · exact b
      · exact h3 x hx
    · simp only at a c ⊢
      subst a
      simp only
      exact ⟨[], by simp, by simp [b], by simp, c⟩

/-- the answer `recv_trailers` owes after this body -/
def trailersAns : Option Bytes → Res
  | some t => .trailers t
  | none => .noTrailers

include hW in
/-- `recv_trailers().await` after the body: the remembered trailers once the stream has ended
    (the look at the next frame may have to wait: `Pending ⇒ save the trailers, try again`), or
    `None` -/
theorem recvTrailers_spec (hTr : ∀ t, tr = some t → H.trailer t = .ok) (st : St FSt)
    (hP : PostBody w T tr st) :
    (awaitCall (pollRecvTrailers fsSrc H) st).1 = trailersAns tr ∧
    (awaitCall (pollRecvTrailers fsSrc H) st).2.env = {} := by
  unfold awaitCall
  refine await_spec _ (PostBody w T tr) (fun r => r.1 = trailersAns tr ∧ r.2.env = {}) ?_ _ st hP
    (Nat.le_refl _)
  intro x ⟨⟨seen, hR⟩, henv, hcase⟩
  -- every token of `T` has been handed out
  obtain ⟨seen', o, c', hres, hN⟩ := fs_next_rest (rest := []) hW hR (List.append_nil T).symm rfl
  rcases hcase with ⟨t, htr, hmemo⟩ | ⟨htr, hmemo, heos, hfl⟩
  · -- the trailers were met by `recv_data` and remembered
    subst htr
    have hok := hTr t rfl
    rw [pollRecvTrailers_some fsSrc H x t hmemo]
    by_cases he : fsSrc.isEos x.src = true
    · rw [if_pos he, decodeTrailers_of_ok H _ t hok]
      exact Or.inr ⟨nofun, rfl, henv⟩
    · rw [if_neg he, hres]
      rcases hN with ⟨ho, hR', _, heos', hfu⟩ | ⟨f, more, _, hcons, _⟩ | ⟨ho, _, _, hR', heos', hfl⟩
      · subst ho
        -- `checkOut` on `Pending` puts the trailers back
        exact Or.inl ⟨rfl, rdy_script_ne hR' heos', ⟨⟨seen', hR'⟩, henv, Or.inl ⟨t, rfl, rfl⟩⟩, hfu⟩
      · cases hcons
      · subst ho
        rw [show checkOut H _ t .none = decodeTrailers H _ t from rfl, decodeTrailers_of_ok H _ t hok]
        exact Or.inr ⟨nofun, rfl, henv⟩
  · -- no trailers: the stream has ended
    subst htr
    rcases hN with ⟨_, _, heos0, _, _⟩ | ⟨f, more, _, hcons, _⟩ | ⟨ho, _⟩
    · rw [heos] at heos0; cases heos0
    · cases hcons
    · subst ho
      rw [pollRecvTrailers_none_none fsSrc H x c' hmemo hres]
      exact Or.inr ⟨nofun, rfl, henv⟩

include hW in
/-- `resolve_request().await` / `recv_response().await` -/
theorem recvHead_spec (role : Role) (hb : Bytes) (ps : List Bytes) (hT : T = msgToks hb ps tr)
    (hH : H.head hb = .ok) (st : St FSt) (hR0 : ∃ seen, Rdy w seen [] st.src)
    (htr0 : st.trailers = none) (henv0 : st.env = {}) :
    (awaitCall (pollHead role fsSrc H) st).1 = .head hb ∧
    BodyInv w T tr (awaitCall (pollHead role fsSrc H) st).2 [] ps := by
  unfold awaitCall
  refine await_spec _ (fun x => (∃ seen, Rdy w seen [] x.src) ∧ x.trailers = none ∧ x.env = {})
    (fun r => r.1 = .head hb ∧ BodyInv w T tr r.2 [] ps) ?_ _ st ⟨hR0, htr0, henv0⟩ (Nat.le_refl _)
  intro x ⟨⟨seen, hR⟩, htr, henv⟩
  obtain ⟨seen', o, c', hres, hN⟩ := fs_next_rest (toks := []) hW hR hT rfl
  rw [pollHead_eq, hres]
  rcases hN with ⟨rfl, hR', _, heos', hfu⟩ | ⟨f, more, rfl, hcons, hR', hfu⟩ | ⟨_, _, hnil, _⟩
  · rw [headOut_pending role H _ .pending rfl]
    exact Or.inl ⟨rfl, rdy_script_ne hR' heos', ⟨⟨seen', hR'⟩, htr, henv⟩, hfu⟩
  · cases hcons
    rw [headOut_ok role H _ hb hH]
    exact Or.inr ⟨nofun, rfl, ⟨seen', _, hR', hT, htr, henv⟩⟩
  · cases hnil

end

/-- **The documented receive pattern over the `FrameStream` model, for every transport script.**
    Let `w` be a byte string that the reference automaton of the frame layer reads as: a HEADERS
    frame with block `hb`, DATA frames with payloads `ps` (empty ones included), optionally a
    HEADERS frame with block `t`, ending at a frame boundary (frames of unknown type may stand
    anywhere: they emit no token).  Then for EVERY script that carries exactly `w` before its first
    FIN — cut into non-empty chunks in any way, `pend` anywhere — the awaited calls answer: the head
    `hb`; non-empty pieces of data whose concatenation is the concatenation of `ps`; exactly one
    `None`; the trailers `t` (or `None`); no error, nothing reset, nothing stopped. -/
theorem recvPattern_valid (role : Role) (H : Hdr) (w hb : Bytes) (ps : List Bytes) (tr : Option Bytes)
    (hrun : run frameDec (.hdr []) w = (.hdr [], msgToks hb ps tr))
    (hH : H.head hb = .ok) (hTr : ∀ t, tr = some t → H.trailer t = .ok)
    (script : List Ev) (hsc : ScriptOK script) (hnr : NoReset script) (hfin : hasFin script = true)
    (hw : evBytes (upToFin script) = w) :
    ∃ ds : List Bytes, recvPattern role H script =
        { head := .head hb, body := ds.map .data ++ [.end_], trailers := some (trailersAns tr),
          env := {} } ∧
      ds.flatten = ps.flatten ∧ ∀ d ∈ ds, d ≠ [] := by
  subst hw
  have hR0 := rdy_init script hsc hnr hfin
  obtain ⟨hh, hB⟩ := recvHead_spec hrun H tr role hb ps rfl hH { src := ({}, script) } ⟨[], hR0⟩ rfl rfl
  unfold recvPattern
  generalize awaitCall (pollHead role fsSrc H) { src := ({}, script) } = p at hh hB ⊢
  obtain ⟨p1, p2⟩ := p
  simp only at hh hB ⊢
  subst hh
  simp only
  obtain ⟨ds, h1, h2, h3, h4⟩ := recvBody_spec hrun tr (fsFuel p2.src) p2 [] ps hB (Nat.le_refl _)
  obtain ⟨t1, t2⟩ := recvTrailers_spec hrun H tr hTr _ h4
  refine ⟨ds, ?_, by simpa using h2, h3⟩
  have hlast : (ds.map Res.data ++ [Res.end_]).getLast? = some .end_ := by simp
  unfold recvTail
  simp only [h1, t1, t2]
  rw [if_pos hlast]

end H3.E2E
