import H3.Model.Dyn
/-! Basic lemmas for the stateful-QPACK model: `Res`, association lists, reference counts. -/
namespace H3.Dyn

@[simp] theorem Res.bind_ok (a : α) (f : α → Res β) : (Res.ok a).bind f = f a := rfl
@[simp] theorem Res.bind_err (e : Err) (f : α → Res β) : (Res.err e : Res α).bind f = .err e := rfl
@[simp] theorem Res.bind_panic (s : Site) (f : α → Res β) : (Res.panic s : Res α).bind f = .panic s := rfl

theorem Res.bind_eq_ok {x : Res α} {f : α → Res β} {b : β} :
    x.bind f = .ok b ↔ ∃ a, x = .ok a ∧ f a = .ok b := by
  cases x <;> simp [Res.bind]

theorem Res.ok_inj {x : Res α} {a b : α} (h1 : x = .ok a) (h2 : x = .ok b) : a = b :=
  Res.ok.inj (h1.symm.trans h2)

theorem csub_ok {a b : Nat} {s : Site} (h : b ≤ a) : csub a b s = .ok (a - b) := by
  simp [csub, h]

theorem forall_mem_snoc {α : Type} {p : α → Prop} {l : List α} {a : α} (h : ∀ x ∈ l, p x) (ha : p a) :
    ∀ x ∈ l ++ [a], p x :=
  List.forall_mem_append.mpr ⟨h, List.forall_mem_singleton.mpr ha⟩

section AList
variable {κ ν : Type} [DecidableEq κ]

@[simp] theorem aget_nil (x : κ) : aget ([] : List (κ × ν)) x = none := rfl

theorem aget_cons (k : κ) (v : ν) (r : List (κ × ν)) (x : κ) :
    aget ((k, v) :: r) x = if k = x then some v else aget r x := rfl

theorem aget_aset (m : List (κ × ν)) (k x : κ) (v : ν) :
    aget (aset m k v) x = if k = x then some v else aget m x := by
  induction m with
  | nil => rfl
  | cons p r ih =>
    obtain ⟨k', v'⟩ := p
    by_cases h' : k' = k <;> by_cases hx : k = x <;> simp_all [aset, aget]

@[simp] theorem aget_aset_self (m : List (κ × ν)) (k : κ) (v : ν) : aget (aset m k v) k = some v := by
  rw [aget_aset, if_pos rfl]

theorem aget_aset_ne (m : List (κ × ν)) {k x : κ} (v : ν) (h : k ≠ x) : aget (aset m k v) x = aget m x := by
  rw [aget_aset, if_neg h]

theorem aset_aset (m : List (κ × ν)) (k : κ) (v w : ν) : aset (aset m k v) k w = aset m k w := by
  induction m with
  | nil => simp [aset]
  | cons p r ih =>
    obtain ⟨k', v'⟩ := p
    by_cases hk : k' = k <;> simp [aset, hk, ih]

theorem aget_aerase (m : List (κ × ν)) (k x : κ) :
    aget (aerase m k) x = if k = x then none else aget m x := by
  induction m with
  | nil => simp [aerase]
  | cons p r ih =>
    obtain ⟨k', v'⟩ := p
    unfold aerase at ih ⊢
    by_cases h' : k' = k <;> by_cases hx : k = x <;> simp_all [List.filter, aget]

@[simp] theorem aget_aerase_self (m : List (κ × ν)) (k : κ) : aget (aerase m k) k = none := by
  rw [aget_aerase, if_pos rfl]

theorem aget_aerase_ne (m : List (κ × ν)) {k x : κ} (h : k ≠ x) : aget (aerase m k) x = aget m x := by
  rw [aget_aerase, if_neg h]

theorem aget_mem {m : List (κ × ν)} {k : κ} {v : ν} (h : aget m k = some v) : (k, v) ∈ m := by
  induction m with
  | nil => simp at h
  | cons p r ih =>
    obtain ⟨k', v'⟩ := p
    rw [aget_cons] at h
    split at h
    · rename_i hk; subst hk; simp at h; subst h; simp
    · exact List.mem_cons_of_mem _ (ih h)

theorem mem_getD_aget {ν : Type} {m : List (κ × List ν)} {k : κ} {x : ν} (h : x ∈ (aget m k).getD []) :
    ∃ q, aget m k = some q ∧ x ∈ q := by
  cases hq : aget m k with
  | none => rw [hq] at h; cases h
  | some q => rw [hq] at h; exact ⟨q, rfl, h⟩

def keys (m : List (κ × ν)) : List κ := m.map (·.1)

theorem mem_aset {m : List (κ × ν)} {k : κ} {v : ν} {p : κ × ν}
    (h : p ∈ aset m k v) : p ∈ m ∨ p = (k, v) := by
  induction m with
  | nil => simp [aset] at h; exact Or.inr h
  | cons q r ih =>
    obtain ⟨k', v'⟩ := q
    by_cases hk : k' = k
    · simp [aset, hk] at h
      rcases h with h | h
      · exact Or.inr (by rw [h])
      · exact Or.inl (List.mem_cons_of_mem _ h)
    · simp [aset, hk] at h
      rcases h with h | h
      · exact Or.inl (by rw [h]; simp)
      · rcases ih h with h | h
        · exact Or.inl (List.mem_cons_of_mem _ h)
        · exact Or.inr h

theorem mem_aerase {m : List (κ × ν)} {k : κ} {p : κ × ν}
    (h : p ∈ aerase m k) : p ∈ m := (List.mem_filter.mp h).1

theorem nodup_keys_aset {m : List (κ × ν)} (k : κ) (v : ν) (h : (keys m).Nodup) : (keys (aset m k v)).Nodup := by
  induction m with
  | nil => simp [aset, keys]
  | cons p r ih =>
    obtain ⟨k', v'⟩ := p
    simp only [keys, List.map_cons, List.nodup_cons] at h
    by_cases hk : k' = k
    · simp only [aset, if_pos hk, keys, List.map_cons, List.nodup_cons]; exact h
    · simp only [aset, if_neg hk, keys, List.map_cons, List.nodup_cons]
      refine ⟨fun hm => ?_, ih h.2⟩
      obtain ⟨p, hp, e⟩ := List.mem_map.mp hm
      rcases mem_aset hp with hp | rfl
      · exact h.1 (List.mem_map.mpr ⟨p, hp, e⟩)
      · exact hk e.symm

theorem nodup_keys_aerase {m : List (κ × ν)} (k : κ) (h : (keys m).Nodup) : (keys (aerase m k)).Nodup := by
  unfold keys aerase at *
  exact (List.Nodup.sublist (List.Sublist.map _ List.filter_sublist) h)

end AList

@[simp] theorem cnt_nil (a : Nat) : cnt [] a = 0 := rfl

theorem cnt_aset (m : RefMap) (k a v : Nat) : cnt (aset m k v) a = if k = a then v else cnt m a := by
  unfold cnt; rw [aget_aset]; split <;> rfl

theorem cnt_aerase (m : RefMap) (k a : Nat) : cnt (aerase m k) a = if k = a then 0 else cnt m a := by
  unfold cnt; rw [aget_aerase]; split <;> rfl

theorem cnt_cons (a c : Nat) (r : RefMap) (x : Nat) : cnt ((a, c) :: r) x = if a = x then c else cnt r x := by
  unfold cnt; rw [aget_cons]; split <;> rfl

theorem cnt_eq_zero_of_not_mem {m : RefMap} {a : Nat} (h : a ∉ keys m) : cnt m a = 0 := by
  unfold cnt
  cases hg : aget m a with
  | none => rfl
  | some v => exact absurd (List.mem_map.mpr ⟨_, aget_mem hg, rfl⟩) h

theorem cnt_pos_of_mem_nodup {m : RefMap} (h : (keys m).Nodup) {a c : Nat} (hm : (a, c) ∈ m) : cnt m a = c := by
  induction m with
  | nil => simp at hm
  | cons p r ih =>
    obtain ⟨k', v'⟩ := p
    simp only [keys, List.map_cons, List.nodup_cons] at h
    unfold cnt
    rw [aget_cons]
    rcases List.mem_cons.mp hm with e | e
    · simp at e; obtain ⟨rfl, rfl⟩ := e; simp
    · have : k' ≠ a := by
        intro e'; subst e'
        exact h.1 (List.mem_map.mpr ⟨(k', c), e, rfl⟩)
      simp only [if_neg this]
      exact ih h.2 e

end H3.Dyn
