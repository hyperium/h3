import H3.Lemmas.HuffEnc
/-! The Huffman ENCODER's machine arithmetic (`u32` positions of `BitWindow`, the reservation
    `(7 * end_range.byte) / 4` in `u32`, `pos.byte + 1`): for a byte string whose coding has `L` bytes with
    `7·L < 2^32` the encoder with every operation checked (`H3.Huffman.hencodeC`) never answers `none` and is
    the model with positions in `Nat` (`hencode`), for both shapes of `put` and every growth policy of `Vec`
    (`hencodeC_eq`); the old shape overflows for every coding longer than `2^32` bytes (`hencodeC_overflow`) and
    at every reservation with `7·byte ≥ 2^32` (`ensureFreeSpaceC_mul_overflow`).  Collected in
    `C15_huffman_encoder_positions_fit`.

    One statement per checked function, from a state of the encoder invariant `Inv₀`: `none` only beyond a bound on
    the byte position, a refusal only in the repaired shape, and a run that gets through is the function with
    positions in `Nat`, with a position that fitted. -/
namespace H3.Huffman
open H3.Bits

/-- behind the three `debug_assert!`s of `write_bits` no subtraction goes below zero, every shift amount is
    below 8 (the width of `u8`) and every index into `PAD_LEFT` / `PAD_RIGHT` is at most 8 -/
theorem writeBits_ops_in_range : ∀ bit < 8, ∀ count < 9, 1 ≤ count →
    (bit + count ≤ 8 → bit ≤ 8 ∧ 8 - bit - count < 8 ∧ bit + count ≤ 8 ∧ 8 - bit ≤ 8 ∧ 8 - count - bit ≤ 8) ∧
    (8 < bit + count → 8 - bit ≤ count ∧ count - (8 - bit) < 8 ∧ count - (8 - bit) ≤ 8 ∧
      8 - (count - (8 - bit)) < 8 ∧ 8 - bit ≤ 8) := by
  intro bit hb count hc h1; omega

/-- `write_bits`: behind the `debug_assert!`s the one operation that can overflow is `pos.byte + 1`, computed in
    the two-byte arm only -/
theorem writeBitsC_eq (out : List Nat) (pos : BitWindow) (v : Nat) :
    writeBitsC out pos v =
      if pos.bit + pos.count ≤ 8 ∨ pos.byte + 1 < 2 ^ 32 then writeBits out pos v else none := by
  unfold writeBitsC
  by_cases hg : ¬ (pos.bit < 8 ∧ pos.count ≤ 8 ∧ pos.count > 0)
  · unfold writeBits; rw [if_pos hg, if_pos hg, ite_self]
  · rw [if_neg hg]
    have h1 : pos.bit + pos.count < 2 ^ 32 := by omega
    simp only [add32, if_pos h1]
    by_cases h8 : pos.bit + pos.count ≤ 8
    · rw [if_pos h8, if_pos (Or.inl h8)]
    · by_cases hb : pos.byte + 1 < 2 ^ 32
      · rw [if_neg h8, if_pos (Or.inr hb)]; simp only [if_pos hb]
      · rw [if_neg h8, if_neg (show ¬ (pos.bit + pos.count ≤ 8 ∨ pos.byte + 1 < 2 ^ 32) by omega)]
        simp only [if_neg hb]

theorem reserveC_eq_none (g : Bool) (grow : Nat → Nat → Nat) (cap len byte : Nat) :
    reserveC g grow cap len byte = none ↔ g = false ∧ cap ≤ byte ∧ 2 ^ 32 ≤ 7 * byte := by
  unfold reserveC mul32
  by_cases hc : cap ≤ byte
  · by_cases hm : 7 * byte < 2 ^ 32
    · cases g <;> simp [hc, hm]
    · cases g <;> simp [hc, hm] <;> omega
  · simp [hc]

theorem ensureFreeSpaceC_spec (g : Bool) (grow : Nat → Nat → Nat) (e : EncoderC) (cnt : Nat)
    (hb : e.pos.bit < 8) (hc : e.pos.count ≤ 8) (hcnt : cnt ≤ 30) :
    match ensureFreeSpaceC g grow e cnt with
    | none => 2 ^ 32 ≤ (e.pos.endPos + cnt) / 8 ∨ (g = false ∧ 2 ^ 32 ≤ 7 * ((e.pos.endPos + cnt) / 8))
    | some e' => e'.toE = ensureFreeSpace e.toE cnt ∧ e'.pos = e.pos ∧ (e.pos.endPos + cnt) / 8 < 2 ^ 32 := by
  have hE := endRange_byte e.pos cnt
  unfold ensureFreeSpaceC
  rw [forwardsC_eq]
  by_cases h1 : e.pos.bit + e.pos.count < 2 ^ 32 ∧ e.pos.byte + (e.pos.bit + e.pos.count) / 8 < 2 ^ 32
  · rw [if_pos h1]
    simp only []
    rw [forwardsC_eq]
    by_cases h2 : (e.pos.forwards cnt).bit + (e.pos.forwards cnt).count < 2 ^ 32 ∧
        (e.pos.forwards cnt).byte + ((e.pos.forwards cnt).bit + (e.pos.forwards cnt).count) / 8 < 2 ^ 32
    · have hfit : (e.pos.endPos + cnt) / 8 < 2 ^ 32 := by
        simp only [BitWindow.forwards, BitWindow.endPos] at h2 ⊢; omega
      rw [if_pos h2]
      unfold ensureFreeSpace EncoderC.toE
      simp only []
      by_cases hg : e.buffer.length > ((e.pos.forwards cnt).forwards 0).byte
      · rw [if_pos hg, if_pos hg]; exact ⟨rfl, rfl, hfit⟩
      · rw [if_neg hg, if_neg hg]
        cases hr : reserveC g grow e.cap e.buffer.length ((e.pos.forwards cnt).forwards 0).byte with
        | none => rw [hE] at hr; exact Or.inr ⟨((reserveC_eq_none ..).1 hr).1, ((reserveC_eq_none ..).1 hr).2.2⟩
        | some cap => exact ⟨rfl, rfl, hfit⟩
    · rw [if_neg h2]
      simp only [BitWindow.forwards, BitWindow.endPos] at h2 ⊢
      exact Or.inl (by omega)
  · rw [if_neg h1]
    simp only [BitWindow.endPos]
    exact Or.inl (by omega)

theorem ensureFreeSpaceC_mul_overflow (grow : Nat → Nat → Nat) (e : EncoderC) (cnt : Nat)
    (hlen : e.buffer.length ≤ (e.pos.endPos + cnt) / 8) (hcap : e.cap ≤ (e.pos.endPos + cnt) / 8)
    (hbig : 2 ^ 32 ≤ 7 * ((e.pos.endPos + cnt) / 8)) :
    ensureFreeSpaceC false grow e cnt = none := by
  unfold ensureFreeSpaceC
  cases h1 : e.pos.forwardsC cnt with
  | none => rfl
  | some w1 =>
    simp only []
    cases h2 : w1.forwardsC 0 with
    | none => rfl
    | some w2 =>
      obtain rfl := forwardsC_some h1
      obtain rfl := forwardsC_some h2
      simp only []
      rw [endRange_byte, if_neg (by omega), (reserveC_eq_none ..).2 ⟨rfl, hcap, hbig⟩]

/-- the "plus one" of the bound is `pos.byte + 1` in the two-byte arm of `write_bits` -/
theorem putPartsC_spec (ps : List Nat) : ∀ (rest : Nat) (e : EncoderC), e.pos.bit < 8 → e.pos.count ≤ 8 →
    match putPartsC ps rest e with
    | none => putParts ps rest e.toE = none ∨ 2 ^ 32 ≤ (e.pos.endPos + rest) / 8 + 1
    | some e' => putParts ps rest e.toE = some e'.toE := by
  induction ps with
  | nil => intro rest e _ _; rfl
  | cons p ps ih =>
    intro rest e hb hc
    generalize hk : (if rest < 8 then rest else 8) = k
    have hk8 : k ≤ 8 := by split at hk <;> omega
    have hkr : k ≤ rest := by split at hk <;> omega
    have hcnt : (e.pos.forwards k).count = k := rfl
    unfold putPartsC putParts
    simp only [hk, EncoderC.toE]
    rw [forwardsC_eq]
    by_cases h1 : e.pos.bit + e.pos.count < 2 ^ 32 ∧ e.pos.byte + (e.pos.bit + e.pos.count) / 8 < 2 ^ 32
    · rw [if_pos h1]
      simp only [hcnt, subU, if_pos hkr]
      rw [writeBitsC_eq]
      by_cases h2 : (e.pos.forwards k).bit + (e.pos.forwards k).count ≤ 8 ∨ (e.pos.forwards k).byte + 1 < 2 ^ 32
      · rw [if_pos h2]
        cases hw : writeBits e.buffer (e.pos.forwards k) p with
        | none => exact Or.inl rfl
        | some buf =>
          have := ih (rest - k) { e with pos := e.pos.forwards k, buffer := buf }
            (by simp only [BitWindow.forwards]; omega) (by simp only [BitWindow.forwards]; omega)
          have he : (e.pos.forwards k).endPos + (rest - k) = e.pos.endPos + rest := by
            simp only [BitWindow.forwards, BitWindow.endPos]; omega
          rw [he] at this
          exact this
      · rw [if_neg h2]
        simp only [BitWindow.forwards, BitWindow.endPos] at h2 ⊢
        exact Or.inr (by omega)
    · rw [if_neg h1]
      simp only [BitWindow.endPos]
      exact Or.inr (by omega)

theorem putC_spec (g : Bool) (grow : Nat → Nat → Nat) (ec : EncoderC) (bits : List Bool) (c : Nat)
    (hc : c < 256) (hI : Inv₀ ec.toE bits) :
    match putC g grow ec c with
    | none => g = false ∧ (2 ^ 32 ≤ 7 * ((bits.length + (codeT c).length) / 8) ∨
        2 ^ 32 ≤ (bits.length + (codeT c).length) / 8 + 1)
    | some none => g = true ∧ 2 ^ 32 - 9 < ec.pos.byte
    | some (some ec') => put ec.toE c = some ec'.toE ∧ Inv₀ ec'.toE (bits ++ codeT c) ∧
        (bits.length + (codeT c).length) / 8 < 2 ^ 32 := by
  obtain ⟨cnt, parts, hraw, _, _, hl, hcnt⟩ := raw_row c hc
  obtain ⟨e', hput, hI'⟩ := put_inv ec.toE bits c hc hI
  have hpos : 8 * ec.pos.byte + ec.pos.bit + ec.pos.count = bits.length := hI.pos
  have hbit : ec.pos.bit < 8 := hI.bit
  have hcount : ec.pos.count ≤ 8 := hI.cnt
  have hput' : putParts parts cnt (ensureFreeSpace ec.toE cnt) = some e' := by
    unfold put at hput; rw [hraw] at hput; exact hput
  rw [hl]
  unfold putC
  rw [hraw]
  simp only []
  by_cases hr : putRefuses g ec = true
  · rw [if_pos hr]
    simp only [putRefuses, Bool.and_eq_true, decide_eq_true_eq] at hr
    exact ⟨hr.1, by omega⟩
  · rw [if_neg hr]
    -- the repaired shape, once it has not refused, is far from the end of `u32`
    have hnr : g = true → ec.pos.byte ≤ 2 ^ 32 - 9 := by
      intro hg
      simp only [putRefuses, hg, Bool.true_and, decide_eq_true_eq] at hr
      omega
    have hgf : 2 ^ 32 ≤ (bits.length + cnt) / 8 + 1 → g = false := fun h => by
      cases g with
      | false => rfl
      | true => have := hnr rfl; omega
    have h1 := ensureFreeSpaceC_spec g grow ec cnt hbit hcount (Nat.le_of_lt_succ hcnt)
    simp only [BitWindow.endPos, hpos] at h1
    cases he : ensureFreeSpaceC g grow ec cnt with
    | none =>
      rw [he] at h1
      rcases h1 with h | ⟨hg, h⟩
      · exact ⟨hgf (by omega), Or.inr (by omega)⟩
      · exact ⟨hg, Or.inl h⟩
    | some e1 =>
      rw [he] at h1
      obtain ⟨h1e, h1p, hfit⟩ := h1
      have h2 := putPartsC_spec parts cnt e1 (h1p ▸ hbit) (h1p ▸ hcount)
      rw [h1e, hput', h1p] at h2
      simp only [BitWindow.endPos, hpos] at h2
      simp only []
      cases hq : putPartsC parts cnt e1 with
      | none =>
        rw [hq] at h2
        rcases h2 with h | h
        · cases h
        · exact ⟨hgf h, Or.inr h⟩
      | some ec' =>
        rw [hq] at h2
        obtain rfl : e' = ec'.toE := Option.some.inj h2
        exact ⟨hput, hI', hfit⟩

theorem putAllC_spec (g : Bool) (grow : Nat → Nat → Nat) : ∀ (s : List Nat) (ec : EncoderC) (bits : List Bool),
    (∀ b ∈ s, b < 256) → Inv₀ ec.toE bits →
    match putAllC g grow s ec with
    | none => g = false ∧ (2 ^ 32 ≤ 7 * ((bits.length + (encT s).length) / 8) ∨
        2 ^ 32 ≤ (bits.length + (encT s).length) / 8 + 1)
    | some .tooLong => g = true ∧ 2 ^ 32 - 9 < (bits.length + (encT s).length) / 8
    | some (.ok b) => (∃ e', putAll s ec.toE = some e' ∧ e'.buffer = b) ∧
        (s ≠ [] → (bits.length + (encT s).length) / 8 < 2 ^ 32)
  | [], ec, _, _, _ => ⟨⟨ec.toE, rfl, rfl⟩, fun h => absurd rfl h⟩
  | c :: s, ec, bits, hs, hI => by
    have h1 := putC_spec g grow ec bits c (hs c List.mem_cons_self) hI
    have hpos : 8 * ec.pos.byte + ec.pos.bit + ec.pos.count = bits.length := hI.pos
    unfold putAllC
    simp only [encT, List.length_append]
    cases hp : putC g grow ec c with
    | none => rw [hp] at h1; exact ⟨h1.1, by omega⟩
    | some r =>
      cases r with
      | none => rw [hp] at h1; exact ⟨h1.1, by omega⟩
      | some ec' =>
        rw [hp] at h1
        obtain ⟨hput, hI', hfit⟩ := h1
        have h2 := putAllC_spec g grow s ec' (bits ++ codeT c) (fun b hb => hs b (List.mem_cons_of_mem _ hb)) hI'
        simp only [List.length_append, Nat.add_assoc] at h2
        simp only []
        cases hq : putAllC g grow s ec' with
        | none => rw [hq] at h2; exact h2
        | some r =>
          rw [hq] at h2
          cases r with
          | tooLong => exact h2
          | ok b =>
            obtain ⟨⟨e', h3, h4⟩, hb⟩ := h2
            refine ⟨⟨e', by unfold putAll; rw [hput]; exact h3, h4⟩, fun _ => ?_⟩
            cases s with
            | nil => simpa [encT] using hfit
            | cons d s' => exact hb (by simp)

theorem length_hencode (s : List Nat) (hs : ∀ b ∈ s, b < 256) :
    (hencode s).length = ((encT s).length + 7) / 8 := by
  rw [hencode_eq s hs, length_pack]

theorem hencodeC_spec (g : Bool) (grow : Nat → Nat → Nat) (s : List Nat) (hs : ∀ b ∈ s, b < 256) :
    (hencodeC g grow s = none ∧ g = false ∧
      (2 ^ 32 ≤ 7 * ((encT s).length / 8) ∨ 2 ^ 32 ≤ (encT s).length / 8 + 1)) ∨
    (hencodeC g grow s = some .tooLong ∧ g = true ∧ 2 ^ 32 - 9 < (encT s).length / 8) ∨
    (hencodeC g grow s = some (.ok (hencode s)) ∧ (encT s).length / 8 < 2 ^ 32) := by
  have h := putAllC_spec g grow s ⟨⟨0, 0, 0⟩, [], 0⟩ [] hs Inv₀_init
  simp only [List.length_nil, Nat.zero_add] at h
  unfold hencodeC
  cases hq : putAllC g grow s ⟨⟨0, 0, 0⟩, [], 0⟩ with
  | none => rw [hq] at h; exact .inl ⟨rfl, h⟩
  | some r =>
    rw [hq] at h
    cases r with
    | tooLong => exact .inr (.inl ⟨rfl, h⟩)
    | ok b =>
      obtain ⟨⟨e', h1, rfl⟩, hb⟩ := h
      refine .inr (.inr ⟨?_, ?_⟩)
      · have : putAll s ⟨⟨0, 0, 0⟩, []⟩ = some e' := h1
        simp only [hencode, hencode?, this, Option.map_some, Option.getD_some]
      · cases s with
        | nil => simp [encT]
        | cons c s => exact hb (by simp)

theorem hencodeC_eq (g : Bool) (grow : Nat → Nat → Nat) (s : List Nat) (hs : ∀ b ∈ s, b < 256)
    (hfit : 7 * (hencode s).length < 2 ^ 32) : hencodeC g grow s = some (.ok (hencode s)) := by
  rw [length_hencode s hs] at hfit
  rcases hencodeC_spec g grow s hs with ⟨_, _, h⟩ | ⟨_, _, h⟩ | ⟨h, _⟩
  · omega
  · omega
  · exact h

theorem hencodeC_repaired (grow : Nat → Nat → Nat) (s : List Nat) (hs : ∀ b ∈ s, b < 256) :
    hencodeC true grow s = some .tooLong ∨ hencodeC true grow s = some (.ok (hencode s)) := by
  rcases hencodeC_spec true grow s hs with ⟨_, hg, _⟩ | ⟨h, _⟩ | ⟨h, _⟩
  · cases hg
  · exact .inl h
  · exact .inr h

theorem hencodeC_overflow (grow : Nat → Nat → Nat) (s : List Nat) (hs : ∀ b ∈ s, b < 256)
    (hbig : 2 ^ 32 < (hencode s).length) : hencodeC false grow s = none := by
  rw [length_hencode s hs] at hbig
  rcases hencodeC_spec false grow s hs with ⟨h, _⟩ | ⟨_, hg, _⟩ | ⟨_, h⟩
  · exact h
  · cases hg
  · omega

end H3.Huffman
