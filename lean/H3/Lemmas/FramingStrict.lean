import H3.Spec.FramingStrict
/-! Helper for `C02_strict_reading_differs_only_on_short_settings`: the strict reading of a SETTINGS
    payload (`entries`) and the lenient one (`pairs`) segment the payload alike. -/
namespace H3.Spec.Framing
open H3.Varint

theorem entries_pairs (fuel : Nat) (p : Varint.Bytes) :
    match pairs fuel p with
    | some ps => entries fuel p = (ps, .clean)
    | none => (entries fuel p).2 ≠ .clean := by
  induction fuel generalizing p with
  | zero => simp [pairs, entries]
  | succ n ih =>
    unfold pairs entries
    by_cases hp : p = []
    · simp [hp]
    · simp only [if_neg hp]
      cases h1 : rfcDecode p with
      | none => simp
      | some a =>
        obtain ⟨id, r1⟩ := a
        simp only
        cases h2 : rfcDecode r1 with
        | none => simp
        | some b =>
          obtain ⟨v, r2⟩ := b
          simp only
          have := ih r2
          cases hq : pairs n r2 with
          | none => rw [hq] at this; simpa using this
          | some ps =>
            rw [hq] at this
            simp [this]

end H3.Spec.Framing
