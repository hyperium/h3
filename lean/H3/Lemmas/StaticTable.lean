import H3.Model.Qpack
import H3.Spec.Qpack
import H3.Gen.StaticTable
import H3.Gen.QStatic
/-! The two lookup tables the translator reads out of `static_.rs` against `PREDEFINED_HEADERS`
    itself.  `H3.Gen.QStatic` (used by `H3.Dyn`) and `H3.Gen.StaticTable` (used by `H3.Qpack`) are
    two readings of the same source; the facts are evaluated once, on the second.  Then the table
    against Appendix A of the specification (`table_eq`), and `StaticTable::{get, find, find_name}` against it. -/
namespace H3.Gen.StaticTable

/-- `find` has one arm per table entry, in table order -/
theorem findArms_eq : findArms = table.zipIdx := rfl

theorem findArms_ok : ∀ p ∈ findArms, table[p.2]? = some p.1 :=
  fun _ hp => List.mem_zipIdx_iff_getElem?.mp (findArms_eq ▸ hp)

/-- every arm of `find_name` names the first entry with its name -/
theorem findNameArms_first : ∀ e ∈ findNameArms, table.findIdx? (fun p => p.1 == e.1) = some e.2 := by decide +kernel

theorem findNameArms_ok : ∀ p ∈ findNameArms, (table[p.2]?).map (·.1) = some p.1 := by
  intro e he
  obtain ⟨hlt, hp, _⟩ := List.findIdx?_eq_some_iff_getElem.mp (findNameArms_first e he)
  rw [List.getElem?_eq_getElem hlt]
  simpa using hp

theorem findNameArms_before {e : List Nat × Nat} (he : e ∈ findNameArms) {j : Nat} (hj : j < e.2)
    {p : List Nat × List Nat} (hp : table[j]? = some p) : p.1 ≠ e.1 := by
  obtain ⟨_, _, hb⟩ := List.findIdx?_eq_some_iff_getElem.mp (findNameArms_first e he)
  obtain ⟨_, rfl⟩ := List.getElem?_eq_some_iff.mp hp
  simpa using hb j hj

theorem table_length : table.length = 99 := by decide +kernel

end H3.Gen.StaticTable

namespace H3.Gen.QStatic

theorem table_same : table = StaticTable.table := rfl
theorem findTbl_eq : findTbl = StaticTable.findArms := rfl
theorem findNameTbl_eq : findNameTbl = StaticTable.findNameArms := rfl

end H3.Gen.QStatic

namespace H3.Qpack.Lemmas

def str (l : List Nat) : String := String.ofList (l.map Char.ofNat)

theorem octets_str (l : List Nat) (h : ∀ b ∈ l, b < 256) : H3.Spec.Qpack.octets (str l) = l := by
  simp only [H3.Spec.Qpack.octets, str, String.toList_ofList, List.map_map]
  conv => rhs; rw [← List.map_id l]
  refine List.map_congr_left fun b hb => ?_
  have hv : b.isValidChar := Or.inl (by have := h b hb; omega)
  simp only [Function.comp, id, Char.ofNat, dif_pos hv, Char.ofNatAux, Char.toNat]
  rfl

open H3.Gen.StaticTable (table) in
/-- Appendix A is compared with the strings made from the generated octets: a string literal unfolds to
    `String.ofList` of its characters, so this is an equation between lists of numbers, whereas running
    `String.toList` on 198 literals is slow to check. -/
theorem appendixA_eq : H3.Spec.Qpack.appendixA = table.map (fun p => (str p.1, str p.2)) := by rfl

open H3.Gen.StaticTable (table) in
theorem table_octets : ∀ p ∈ table, (∀ b ∈ p.1, b < 256) ∧ ∀ b ∈ p.2, b < 256 := by decide +kernel

theorem table_eq : H3.Gen.StaticTable.table = H3.Spec.Qpack.staticTable := by
  unfold H3.Spec.Qpack.staticTable
  rw [appendixA_eq, List.map_map]
  conv => lhs; rw [← List.map_id H3.Gen.StaticTable.table]
  refine List.map_congr_left fun p hp => ?_
  obtain ⟨h1, h2⟩ := table_octets p hp
  simp only [Function.comp, id, octets_str _ h1, octets_str _ h2]

theorem get_eq_some {i : Nat} {f : Field} :
    StaticTable.get i = some f ↔ H3.Gen.StaticTable.table[i]? = some (f.name, f.value) := by
  unfold StaticTable.get
  cases H3.Gen.StaticTable.table[i]? with
  | none => simp
  | some p =>
    simp only [Option.some.injEq]
    constructor
    · rintro rfl; rfl
    · intro h; rw [h]

theorem get_spec (i : Nat) (f : Field) (h : StaticTable.get i = some f) :
    H3.Spec.Qpack.staticTable[i]? = some (f.name, f.value) :=
  table_eq ▸ get_eq_some.mp h

theorem findGo_zipIdx (l : List (List Nat × List Nat)) (name value : List Nat) : ∀ (k i : Nat),
    StaticTable.findGo (l.zipIdx k) name value = some i →
    ∃ j, i = k + j ∧ l[j]? = some (name, value) ∧ ∀ j', j' < j → l[j']? ≠ some (name, value) := by
  induction l with
  | nil => intro k i h; simp [StaticTable.findGo] at h
  | cons a l ih =>
    intro k i h
    obtain ⟨n, v⟩ := a
    simp only [List.zipIdx_cons, StaticTable.findGo] at h
    split at h
    · rename_i hc
      obtain ⟨rfl, rfl⟩ := hc
      cases h
      exact ⟨0, rfl, rfl, fun _ h0 => absurd h0 (Nat.not_lt_zero _)⟩
    · rename_i hc
      obtain ⟨j, rfl, hj, hfirst⟩ := ih (k + 1) i h
      refine ⟨j + 1, by omega, hj, fun j' hj' => ?_⟩
      cases j' with
      | zero => simpa using fun e1 e2 => hc ⟨e1, e2⟩
      | succ j' => exact hfirst j' (by omega)

theorem find_first (f : Field) (i : Nat) (h : StaticTable.find f = some i) :
    H3.Gen.StaticTable.table[i]? = some (f.name, f.value) ∧
    ∀ j, j < i → H3.Gen.StaticTable.table[j]? ≠ some (f.name, f.value) := by
  unfold StaticTable.find at h
  rw [H3.Gen.StaticTable.findArms_eq] at h
  obtain ⟨j, rfl, hj, hfirst⟩ := findGo_zipIdx _ _ _ 0 i h
  simpa using And.intro hj hfirst

theorem find_sound (f : Field) (i : Nat) (h : StaticTable.find f = some i) :
    H3.Gen.StaticTable.table[i]? = some (f.name, f.value) := (find_first f i h).1

theorem findNameGo_mem : ∀ (arms : List (List Nat × Nat)) (name : List Nat) (i : Nat),
    StaticTable.findNameGo arms name = some i → (name, i) ∈ arms := by
  intro arms
  induction arms with
  | nil => intro name i h; simp [StaticTable.findNameGo] at h
  | cons a arms ih =>
    intro name i h
    unfold StaticTable.findNameGo at h
    split at h
    · rename_i hc
      injection h with h
      subst hc h
      simp
    · exact List.mem_cons_of_mem _ (ih _ _ h)

theorem findName_sound (name : List Nat) (i : Nat) (h : StaticTable.findName name = some i) :
    ∃ v, H3.Gen.StaticTable.table[i]? = some (name, v) := by
  have := H3.Gen.StaticTable.findNameArms_ok _ (findNameGo_mem _ _ _ h)
  cases ht : H3.Gen.StaticTable.table[i]? with
  | none => simp [ht] at this
  | some p =>
    obtain ⟨n, v⟩ := p
    simp only [ht, Option.map_some, Option.some.injEq] at this
    exact ⟨v, by rw [← this]⟩

theorem table_index_lt (i : Nat) (p : List Nat × List Nat) (h : H3.Gen.StaticTable.table[i]? = some p) :
    i < 99 := by
  have := (List.getElem?_eq_some_iff.mp h).1
  rw [H3.Gen.StaticTable.table_length] at this
  exact this

open H3.Gen.StaticTable (table) in
theorem table_sizes : table.all (fun p => decide (p.1.length ≤ 32) && decide (p.1.length + p.2.length + 32 ≤ 108)) = true := by
  decide +kernel

theorem get_size (i : Nat) (f : Field) (h : StaticTable.get i = some f) :
    f.name.length ≤ 32 ∧ f.memSize ≤ 108 := by
  have := List.all_eq_true.mp table_sizes _ (List.mem_of_getElem? (get_eq_some.mp h))
  simp only [Bool.and_eq_true, decide_eq_true_eq] at this
  simp only [Field.memSize, H3.Gen.Field.ESTIMATED_OVERHEAD_BYTES]
  omega

end H3.Qpack.Lemmas
