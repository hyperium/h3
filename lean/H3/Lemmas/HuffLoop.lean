import H3.Lemmas.HuffDec
import H3.Lemmas.HuffSpec
/-! The decode tree against the RFC's code (`root_pathsN`: its paths as numbers are `numCodes` without EOS), and on
    that the decoding loop of the model (`decodeAll`, `hdecodeX`): what it accepts is a code-word concatenation
    followed by a tail, and the ghost flag says whether that tail is a valid padding. -/
namespace H3.Huffman
open H3.Bits H3.Spec.Huffman
open H3.Gen.HuffDec (root)

/- keep the elaborator's `whnf` away from the closed term `codes` -/
attribute [local irreducible] codes

/-- the walk ran out of bits and `check_eof` accepts what was left (a Boolean, for `root_walk_ones`) -/
def isShortOK : WalkRes → Bool
  | .short q => eofOK q
  | _ => false

theorem root_wf : wfL root = true := by decide +kernel

theorem root_pathsN : (pathsNL root 0 0).all (fun t => t.1 < 256) = true ∧
    pathsNL root 0 0 ++ [(256, 30, 2 ^ 30 - 1)] = numCodes := by
  decide +kernel

theorem root_paths_word : pathsL root = (pathsNL root 0 0).map word := by
  have h := pathsNL_word root 0 0 root_wf
  simp only [bitsN, List.nil_append, List.map_id'] at h
  exact h.symm

theorem root_paths_eos : pathsL root ++ [(List.replicate 30 true, 256)] = codes := by
  rw [codes_eq_word, ← root_pathsN.2, List.map_append, root_paths_word]
  congr 1

theorem root_walk_ones : ∀ n < 8, isShortOK (walkL root (List.replicate n true)) = true := by
  decide +kernel

theorem root_paths_eq : pathsL root = codes.take 256 := by
  have hl : (pathsL root).length = 256 := by
    have := congrArg List.length root_paths_eos
    rw [codes_length, List.length_append, List.length_singleton] at this
    omega
  rw [← root_paths_eos, List.take_left' hl]

theorem root_path_mem (p : List Bool) (s : Nat) (h : (p, s) ∈ pathsL root) :
    s < 256 ∧ codeOf s = p := by
  refine ⟨?_, codeOf_of_mem (root_paths_eos ▸ List.mem_append_left _ h)⟩
  rw [root_paths_word] at h
  obtain ⟨t, ht, he⟩ := List.mem_map.1 h
  rw [← (Prod.mk.inj he).2]
  simpa using List.all_eq_true.1 root_pathsN.1 t ht

theorem root_walk_code (s : Nat) (hs : s < 256) : walkL root (codeOf s) = .sym s [] := by
  have hm : (codeOf s, s) ∈ codes := mem_codeOf (Nat.lt_succ_of_lt hs)
  rw [← root_paths_eos, List.mem_append, List.mem_singleton] at hm
  rcases hm with hm | hm
  · rw [← List.append_nil (codeOf s)]
    exact walkL_of_path root _ _ [] root_wf hm
  · have := (Prod.mk.inj hm).2; omega

theorem walk_pad (pad : List Bool) (hp : validPad pad = true) :
    ∃ q, walkL root pad = .short q ∧ eofOK q = true := by
  obtain ⟨hl, ha⟩ := (validPad_iff pad).1 hp
  have hones := root_walk_ones pad.length (by omega)
  rw [← List.eq_replicate_iff.2 ⟨rfl, ha⟩] at hones
  cases hw : walkL root pad with
  | short q => rw [hw] at hones; exact ⟨q, rfl, hones⟩
  | sym s rest => rw [hw] at hones; cases hones
  | unhandled => rw [hw] at hones; cases hones

/-- the converse of `bridgeL`: the level walk, read off the answer of `decode_next` -/
theorem walk_of_step (inp : List Nat) (hinp : WF inp) (w : BitWindow) (hpos : w.endPos ≤ 8 * inp.length) :
    match decodeNext root w inp with
    | (w', .sym x) => ∃ rest, walkL root ((bitsOf inp).drop w.endPos) = .sym x rest ∧
        w'.endPos + rest.length = 8 * inp.length
    | (w', .done) => ∃ q, walkL root ((bitsOf inp).drop w.endPos) = .short q ∧ eofOK q = true ∧
        8 * w'.byte + w'.bit + q.length = 8 * inp.length
    | (_, .err e) => e ≠ .fuel := by
  have hb := bridgeL inp hinp root w hpos
  generalize decodeNext root w inp = res at hb ⊢
  obtain ⟨w', st⟩ := res
  cases hw : walkL root ((bitsOf inp).drop w.endPos) with
  | sym s rest =>
    rw [hw] at hb
    obtain ⟨rfl, h2⟩ : st = .sym s ∧ _ := hb
    exact ⟨rest, rfl, h2⟩
  | short q =>
    rw [hw] at hb
    obtain ⟨h1, h2, h3⟩ := hb
    cases hq : eofOK q
    · obtain ⟨_, rfl⟩ : ∃ w'', st = .err (.missingBits w'') := h2 hq
      intro h; cases h
    · obtain rfl : st = .done := h1 hq
      exact ⟨q, rfl, hq, h3⟩
  | unhandled =>
    rw [hw] at hb
    obtain ⟨_, _, rfl⟩ : ∃ w'' v, st = .err (.unhandled w'' v) := hb
    intro h; cases h

theorem drop_of_split (bits p rest : List Bool) (n m : Nat) (h : bits.drop n = p ++ rest)
    (hm : m + rest.length = bits.length) (hn : n ≤ bits.length) : bits.drop m = rest := by
  have hl := congrArg List.length h
  rw [List.length_drop, List.length_append] at hl
  have hm' : m = n + p.length := by omega
  rw [hm', ← List.drop_drop, h, List.drop_left]

theorem step_sym (inp : List Nat) (hinp : WF inp) (w w' : BitWindow) (x : Nat)
    (hpos : w.endPos ≤ 8 * inp.length) (h : decodeNext root w inp = (w', .sym x)) :
    x < 256 ∧ w'.endPos ≤ 8 * inp.length ∧ w.endPos < w'.endPos ∧
    (bitsOf inp).drop w.endPos = codeOf x ++ (bitsOf inp).drop w'.endPos := by
  have hs := walk_of_step inp hinp w hpos
  rw [h] at hs
  obtain ⟨rest, hw, h2⟩ := hs
  obtain ⟨p, hp, ht⟩ := walkL_path root _ _ _ hw
  obtain ⟨hx, rfl⟩ := root_path_mem p x hp
  have hd := drop_of_split (bitsOf inp) _ rest w.endPos w'.endPos ht (by simpa using h2)
    (by simpa using hpos)
  have hpl := List.length_pos_iff.2 (codeOf_ne_nil (Nat.lt_succ_of_lt hx))
  have htl := congrArg List.length ht
  rw [List.length_drop, length_bitsOf, List.length_append] at htl
  exact ⟨hx, by omega, by omega, by rw [hd]; exact ht⟩

theorem step_code (inp : List Nat) (hinp : WF inp) (w : BitWindow) (x : Nat) (r : List Bool)
    (hpos : w.endPos ≤ 8 * inp.length) (hx : x < 256)
    (h : (bitsOf inp).drop w.endPos = codeOf x ++ r) :
    ∃ w', decodeNext root w inp = (w', .sym x) ∧ w'.endPos ≤ 8 * inp.length ∧
      (bitsOf inp).drop w'.endPos = r := by
  have hb := bridgeL inp hinp root w hpos
  have hw := walkL_append root _ x [] r (root_walk_code x hx)
  rw [h, hw] at hb
  obtain ⟨h1, h2⟩ := hb
  refine ⟨(decodeNext root w inp).1, ?_, by omega, ?_⟩
  · rw [← h1]
  · exact drop_of_split (bitsOf inp) (codeOf x) r w.endPos _ h (by simpa using h2)
      (by simpa using hpos)

theorem decodeAll_succ (fuel : Nat) (w : BitWindow) (inp : List Nat) :
    decodeAll root (fuel + 1) w inp =
      match decodeNext root w inp with
      | (w', .sym s) =>
        match decodeAll root fuel w' inp with
        | .ok (r, lax) => .ok (s :: r, lax)
        | .error e => .error e
      | (w', .done) => .ok ([], laxAt inp w.endPos w')
      | (_, .err e) => .error e := by
  rw [decodeAll]
  rcases decodeNext root w inp with ⟨w', st⟩
  cases st <;> rfl

theorem padOK_eq (inp : List Nat) (pos : Nat) : padOK inp pos = validPad ((bitsOf inp).drop pos) := rfl

/-- on an accepting run the flag computed from `check_eof`'s window is "the bits behind the last complete symbol
    are not a valid padding" -/
theorem laxAt_eq (inp : List Nat) (hinp : WF inp) (w w' : BitWindow) (hpos : w.endPos ≤ 8 * inp.length)
    (h : decodeNext root w inp = (w', .done)) : laxAt inp w.endPos w' = !padOK inp w.endPos := by
  have hs := walk_of_step inp hinp w hpos
  rw [h] at hs
  obtain ⟨q, hw, hq, h3⟩ := hs
  -- `c`: the bits the levels above have consumed; `q`: those `check_eof` judged
  obtain ⟨c, hc⟩ := walkL_short_suffix root _ q hw
  have hlen := congrArg List.length hc
  rw [List.length_drop, length_bitsOf, List.length_append] at hlen
  have hcl : c.length = 8 * w'.byte + w'.bit - w.endPos := by omega
  have hql : q.length = 8 * inp.length - (8 * w'.byte + w'.bit) := by omega
  have hqones : q.all (· == true) = true := by
    simp only [eofOK, Bool.or_eq_true, Bool.and_eq_true, List.isEmpty_iff] at hq
    rcases hq with rfl | ⟨_, h⟩
    · rfl
    · exact h
  unfold laxAt
  simp only []
  rw [padOK_eq, hc, ← hcl, List.take_left' rfl, ← hql, validPad, List.length_append, List.all_append, hqones,
    Bool.and_true]
  rw [any_false_eq, Bool.not_and, ← decide_not]
  simp only [Nat.not_le]

/-- both outcomes in one induction; for the loop bound: each symbol consumes at least one bit, so fuel for every bit
    left is enough -/
theorem decodeAll_run (inp : List Nat) (hinp : WF inp) : ∀ (fuel : Nat) (w : BitWindow),
    w.endPos ≤ 8 * inp.length →
    match decodeAll root fuel w inp with
    | .ok (s, lax) => (∀ x ∈ s, x < 256) ∧ ∃ tail q, (bitsOf inp).drop w.endPos = enc s ++ tail ∧
        walkL root tail = .short q ∧ eofOK q = true ∧ lax = !validPad tail
    | .error e => e = .fuel → fuel + w.endPos ≤ 8 * inp.length := by
  intro fuel
  induction fuel with
  | zero => intro w hpos _; simpa using hpos
  | succ fuel ih =>
    intro w hpos
    have hs := walk_of_step inp hinp w hpos
    rw [decodeAll_succ]
    rcases hres : decodeNext root w inp with ⟨w', st⟩
    rw [hres] at hs
    cases st with
    | sym x =>
      simp only
      obtain ⟨hx, hpos', hlt, hd⟩ := step_sym inp hinp w w' x hpos hres
      have := ih w' hpos'
      cases hrec : decodeAll root fuel w' inp with
      | error e => rw [hrec] at this; exact fun he => by have := this he; omega
      | ok v =>
        rw [hrec] at this
        obtain ⟨hr, tail, q, ht, hrest⟩ := this
        exact ⟨List.forall_mem_cons.2 ⟨hx, hr⟩, tail, q, by rw [hd, ht, enc, List.append_assoc], hrest⟩
    | done =>
      obtain ⟨q, hwq, hq, _⟩ := hs
      exact ⟨by simp, (bitsOf inp).drop w.endPos, q, by simp [enc], hwq, hq,
        by rw [laxAt_eq inp hinp w w' hpos hres, padOK_eq]⟩
    | err e => exact fun h => absurd h hs

theorem decodeAll_complete (inp : List Nat) (hinp : WF inp) : ∀ (s : List Nat) (fuel : Nat)
    (w : BitWindow) (tail q : List Bool), w.endPos ≤ 8 * inp.length → (∀ x ∈ s, x < 256) →
    s.length < fuel → (bitsOf inp).drop w.endPos = enc s ++ tail → walkL root tail = .short q →
    eofOK q = true → decodeAll root fuel w inp = .ok (s, !validPad tail) := by
  intro s
  induction s with
  | nil =>
    intro fuel w tail q hpos _ hf hd hwq hq
    obtain ⟨f, rfl⟩ : ∃ f, fuel = f + 1 := ⟨fuel - 1, by simp at hf; omega⟩
    simp only [enc, List.nil_append] at hd
    have hb := bridgeL inp hinp root w hpos
    rw [hd, hwq] at hb
    have hdone := hb.1 hq
    rw [decodeAll_succ]
    rcases hres : decodeNext root w inp with ⟨w', st⟩
    rw [hres] at hdone
    obtain rfl : st = .done := hdone
    simp only [laxAt_eq inp hinp w w' hpos hres, padOK_eq, hd]
  | cons x s ih =>
    intro fuel w tail q hpos hs hf hd hwq hq
    obtain ⟨f, rfl⟩ : ∃ f, fuel = f + 1 := ⟨fuel - 1, by simp at hf; omega⟩
    have hx : x < 256 := hs x (by simp)
    rw [enc, List.append_assoc] at hd
    obtain ⟨w', hres, hpos', hd'⟩ := step_code inp hinp w x _ hpos hx hd
    rw [decodeAll_succ, hres]
    simp only
    rw [ih f w' tail q hpos' (fun y hy => hs y (by simp [hy])) (by simp at hf; omega) hd' hwq hq]

theorem length_enc_ge (s : List Nat) (hs : ∀ x ∈ s, x < 256) : s.length ≤ (enc s).length := by
  induction s with
  | nil => simp
  | cons x s ih =>
    have := List.length_pos_iff.2 (codeOf_ne_nil (Nat.lt_succ_of_lt (hs x (by simp))))
    have := ih (fun y hy => hs y (by simp [hy]))
    simp [enc]; omega

/-- EVERYTHING the decoder accepts, with its flag: a concatenation of code words followed by a tail on which the
    walk runs out of bits at a level whose remaining bits `q` `check_eof` accepts (none: `Ordering::Greater`; at
    most eight ones: `Ordering::Equal`); the flag is "the tail is not a valid padding". -/
theorem hdecodeX_iff (b : List Nat) (hb : WF b) (s : List Nat) (l : Bool) :
    hdecodeX b = .ok (s, l) ↔
      (∀ x ∈ s, x < 256) ∧ ∃ tail q, bitsOf b = enc s ++ tail ∧ walkL root tail = .short q ∧
        eofOK q = true ∧ l = !validPad tail := by
  constructor
  · intro h
    have := decodeAll_run b hb (8 * b.length + 1) ⟨0, 0, 0⟩ (by simp [BitWindow.endPos])
    rw [show decodeAll root _ _ b = _ from h] at this
    simpa [BitWindow.endPos] using this
  · rintro ⟨hs, tail, q, ht, hwq, hq, rfl⟩
    apply decodeAll_complete b hb s _ ⟨0, 0, 0⟩ tail q (by simp [BitWindow.endPos]) hs
    · have h1 := length_enc_ge s hs
      have h2 := congrArg List.length ht
      simp at h2; omega
    · simpa [BitWindow.endPos] using ht
    · exact hwq
    · exact hq

theorem hdecodeX_false_iff (b : List Nat) (hb : WF b) (s : List Nat) :
    hdecodeX b = .ok (s, false) ↔ specDecode b = some s := by
  rw [specDecode_iff]
  constructor
  · intro h
    obtain ⟨hs, tail, _, ht, _, _, hl⟩ := (hdecodeX_iff b hb s false).1 h
    refine ⟨hs, tail, ht, ?_⟩
    cases hv : validPad tail
    · rw [hv] at hl; cases hl
    · rfl
  · -- a valid padding is a tail of `hdecodeX_iff`
    rintro ⟨hs, pad, h, hp⟩
    obtain ⟨q, hw, hq⟩ := walk_pad pad hp
    exact (hdecodeX_iff b hb s false).2 ⟨hs, pad, q, h, hw, hq, by rw [hp]; rfl⟩

theorem hdecodeX_ne_fuel (b : List Nat) (hb : WF b) : hdecodeX b ≠ .error .fuel := fun h => by
  have := decodeAll_run b hb (8 * b.length + 1) ⟨0, 0, 0⟩ (by simp [BitWindow.endPos])
  rw [show decodeAll root _ _ b = _ from h] at this
  have := this rfl
  omega

end H3.Huffman
