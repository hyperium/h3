import H3.Lemmas.DynTable
/-! Reference tracking: `track_map` is the sum of the per-block maps in `track_blocks`;
    blocked-stream accounting. -/
namespace H3.Dyn

def qsum (q : List RefMap) (a : Nat) : Nat := (q.map (cnt · a)).sum
def total (tb : List (Nat × List RefMap)) (a : Nat) : Nat := (tb.map fun p => qsum p.2 a).sum

def RefMapWF (m : RefMap) : Prop := (keys m).Nodup ∧ ∀ p ∈ m, 1 ≤ p.2

@[simp] theorem qsum_nil (a : Nat) : qsum [] a = 0 := rfl
@[simp] theorem qsum_cons (m : RefMap) (q : List RefMap) (a : Nat) : qsum (m :: q) a = cnt m a + qsum q a := by
  simp [qsum]
theorem qsum_append (q r : List RefMap) (a : Nat) : qsum (q ++ r) a = qsum q a + qsum r a := by
  simp [qsum]

@[simp] theorem total_nil (a : Nat) : total [] a = 0 := rfl
@[simp] theorem total_cons (p : Nat × List RefMap) (tb : List (Nat × List RefMap)) (a : Nat) :
    total (p :: tb) a = qsum p.2 a + total tb a := by simp [total]

theorem total_aset (tb : List (Nat × List RefMap)) (k : Nat) (q' : List RefMap) (a : Nat) :
    total (aset tb k q') a + qsum ((aget tb k).getD []) a = total tb a + qsum q' a := by
  induction tb with
  | nil => simp [aset]
  | cons p r ih =>
    obtain ⟨k', v'⟩ := p
    by_cases hk : k' = k
    · simp [aset, aget_cons, hk]; omega
    · simp [aset, aget_cons, hk]; omega

variable {tb : List (Nat × List RefMap)} {k : Nat} {q : List RefMap}

theorem total_aerase (a : Nat)
    (hn : (keys tb).Nodup) (h : aget tb k = some q) : total (aerase tb k) a + qsum q a = total tb a := by
  induction tb with
  | nil => simp at h
  | cons p r ih =>
    obtain ⟨k', v'⟩ := p
    simp only [keys, List.map_cons, List.nodup_cons] at hn
    rw [aget_cons] at h
    by_cases hk : k' = k
    · rw [if_pos hk] at h; simp at h; subst h; subst hk
      have : aerase ((k', v') :: r) k' = r := by
        simp only [aerase, ne_eq, not_true_eq_false, decide_false, Bool.false_eq_true, not_false_eq_true,
          List.filter_cons_of_neg]
        apply List.filter_eq_self.mpr
        intro p hp
        simp
        intro e; apply hn.1; rw [← e]; exact List.mem_map.mpr ⟨p, hp, rfl⟩
      rw [this]; simp; omega
    · rw [if_neg hk] at h
      have := ih hn.2 h
      simp [aerase, hk] at this ⊢; omega

theorem cancelRefs_spec (tm m : RefMap) (hwf : RefMapWF m) (hge : ∀ a, cnt m a ≤ cnt tm a) :
    ∃ tm', cancelRefs tm m = .ok tm' ∧ ∀ a, cnt tm' a = cnt tm a - cnt m a := by
  induction m generalizing tm with
  | nil => exact ⟨tm, rfl, by simp⟩
  | cons p r ih =>
    obtain ⟨a, c⟩ := p
    obtain ⟨hnd, hpos⟩ := hwf
    simp only [keys, List.map_cons, List.nodup_cons] at hnd
    have hc1 : 1 ≤ c := hpos (a, c) (by simp)
    have hra : cnt r a = 0 := cnt_eq_zero_of_not_mem hnd.1
    have hhave : c ≤ cnt tm a := by have := hge a; rw [cnt_cons, if_pos rfl] at this; exact this
    have hget : aget tm a = some (cnt tm a) := by
      unfold cnt at hhave ⊢
      cases hg : aget tm a with
      | none => rw [hg] at hhave; simp at hhave; omega
      | some v => simp
    have hwf' : RefMapWF r := ⟨hnd.2, fun p hp => hpos p (List.mem_cons_of_mem _ hp)⟩
    -- erased or lowered: either way the count of `a` goes down by `c` and the others stay
    obtain ⟨tm2, heq, hcnt2⟩ : ∃ tm2, cancelRefs tm ((a, c) :: r) = cancelRefs tm2 r ∧
        ∀ x, cnt tm2 x = if a = x then cnt tm a - c else cnt tm x := by
      simp only [cancelRefs, hget]
      rw [if_neg (by omega)]
      by_cases he : cnt tm a = c
      · rw [if_pos he]
        exact ⟨_, rfl, fun x => by rw [cnt_aerase, he, Nat.sub_self]⟩
      · rw [if_neg he]
        exact ⟨_, rfl, fun x => cnt_aset ..⟩
    obtain ⟨tm', h1, h2⟩ := ih tm2 hwf' (by
      intro x; rw [hcnt2]
      by_cases hx : a = x
      · subst hx; rw [hra]; exact Nat.zero_le _
      · rw [if_neg hx]; have := hge x; rw [cnt_cons, if_neg hx] at this; exact this)
    refine ⟨tm', heq ▸ h1, fun x => ?_⟩
    rw [h2, hcnt2, cnt_cons]
    by_cases hx : a = x
    · subst hx; rw [if_pos rfl, if_pos rfl, hra]; rfl
    · rw [if_neg hx, if_neg hx]

/-- `extra`: the references of the block being encoded (`block_refs`), not yet in `track_blocks` -/
structure TrackOKx (t : Table) (extra : RefMap) : Prop where
  sum : ∀ a, cnt t.trackMap a = total t.trackBlocks a + cnt extra a
  live : ∀ a, 0 < cnt t.trackMap a → t.vas.dropped < a ∧ a ≤ t.vas.inserted
  nodup : (keys t.trackBlocks).Nodup
  wf : ∀ p ∈ t.trackBlocks, ∀ m ∈ p.2, RefMapWF m
  nonempty : ∀ p ∈ t.trackBlocks, p.2 ≠ []

abbrev TrackOK (t : Table) : Prop := TrackOKx t []

theorem TrackOKx.congr {t t' : Table} {x : RefMap} (h : TrackOKx t x) (h1 : t'.trackMap = t.trackMap)
    (h2 : t'.trackBlocks = t.trackBlocks) (h3 : t'.vas = t.vas) : TrackOKx t' x :=
  ⟨by rw [h1, h2]; exact h.sum, by rw [h1, h3]; exact h.live, by rw [h2]; exact h.nodup, by rw [h2]; exact h.wf,
    by rw [h2]; exact h.nonempty⟩

theorem qsum_le_total (a : Nat)
    (h : aget tb k = some q) : qsum q a ≤ total tb a := by
  have := total_aset tb k [] a
  rw [h] at this; simp at this; omega

theorem qsum_ge_of_mem {q : List RefMap} {m : RefMap} (h : m ∈ q) (a : Nat) : cnt m a ≤ qsum q a := by
  induction q with
  | nil => cases h
  | cons x r ih =>
    rcases List.mem_cons.mp h with e | e
    · subst e; simp
    · have := ih e; simp; omega

/-- `untrack_block`: pops the oldest reference map of the stream and releases its counts -/
theorem untrackBlock_spec {t : Table} {extra : RefMap} (h : TrackOKx t extra) (sid : Nat) :
    (aget t.trackBlocks sid = none ∧ t.untrackBlock sid = .err .unknownStreamId) ∨
    (∃ m rest t', aget t.trackBlocks sid = some (m :: rest) ∧ t.untrackBlock sid = .ok t' ∧ TrackOKx t' extra ∧
      aget t'.trackBlocks sid = (if rest = [] then none else some rest) ∧
      (∀ x, x ≠ sid → aget t'.trackBlocks x = aget t.trackBlocks x) ∧
      (∀ a, cnt t'.trackMap a = cnt t.trackMap a - cnt m a) ∧
      t'.fields = t.fields ∧ t'.currSize = t.currSize ∧ t'.maxSize = t.maxSize ∧ t'.vas = t.vas ∧
      t'.fieldMap = t.fieldMap ∧ t'.nameMap = t.nameMap ∧ t'.lkr = t.lkr ∧ t'.blockedMax = t.blockedMax ∧
      t'.blockedCount = t.blockedCount ∧ t'.blockedStreams = t.blockedStreams) := by
  cases hq : aget t.trackBlocks sid with
  | none => left; exact ⟨rfl, by simp [Table.untrackBlock, hq]⟩
  | some q =>
    cases q with
    | nil => exact absurd rfl (h.nonempty _ (aget_mem hq))
    | cons m rest =>
      right
      have hmem := aget_mem hq
      have hge : ∀ a, cnt m a ≤ cnt t.trackMap a := by
        intro a; rw [h.sum]; have := qsum_le_total a hq; simp at this; omega
      obtain ⟨tm', hc, hcnt⟩ := cancelRefs_spec t.trackMap m (h.wf _ hmem m (by simp)) hge
      -- whichever way the queue is shortened: the sum loses `m`, every queue left is an old one or `rest`
      have key : ∀ tb', (∀ a, total tb' a + cnt m a = total t.trackBlocks a) → (keys tb').Nodup →
          (∀ p ∈ tb', p ∈ t.trackBlocks ∨ (p = (sid, rest) ∧ rest ≠ [])) →
          TrackOKx { t with trackBlocks := tb', trackMap := tm' } extra := by
        intro tb' hsum hnd hsub
        refine ⟨fun a => ?_, fun a ha => h.live a (by rw [hcnt] at ha; omega), hnd, fun p hp => ?_, fun p hp => ?_⟩
        · have := hsum a; have := h.sum a; have := hge a; simp only; rw [hcnt]; omega
        · rcases hsub p hp with hp | ⟨rfl, _⟩
          · exact h.wf p hp
          · exact fun m' hm' => h.wf _ hmem m' (List.mem_cons_of_mem _ hm')
        · rcases hsub p hp with hp | ⟨rfl, hne⟩
          · exact h.nonempty p hp
          · exact hne
      cases rest with
      | nil =>
        refine ⟨m, [], { t with trackBlocks := aerase t.trackBlocks sid, trackMap := tm' }, rfl, ?_, ?_,
          aget_aerase_self .., fun x hx => aget_aerase_ne _ (Ne.symm hx), hcnt, rfl, rfl, rfl, rfl, rfl, rfl, rfl, rfl, rfl, rfl⟩
        · simp only [Table.untrackBlock, hq, Table.trackCancel, hc, Res.bind_ok]
        · exact key _ (fun a => by have := total_aerase a h.nodup hq; simpa using this)
            (nodup_keys_aerase _ h.nodup) (fun p hp => Or.inl (mem_aerase hp))
      | cons m2 rest2 =>
        refine ⟨m, m2 :: rest2, { t with trackBlocks := aset t.trackBlocks sid (m2 :: rest2), trackMap := tm' }, rfl,
          ?_, ?_, aget_aset_self .., fun x hx => aget_aset_ne _ _ (Ne.symm hx), hcnt,
          rfl, rfl, rfl, rfl, rfl, rfl, rfl, rfl, rfl, rfl⟩
        · simp only [Table.untrackBlock, hq, Table.trackCancel, hc, Res.bind_ok]
        · refine key _ (fun a => ?_) (nodup_keys_aset _ _ h.nodup) (fun p hp => ?_)
          · have := total_aset t.trackBlocks sid (m2 :: rest2) a; rw [hq] at this; simp at this ⊢; omega
          · exact (mem_aset hp).imp id fun e => ⟨e, List.cons_ne_nil _ _⟩

theorem Table.trackBlock_eq (t : Table) (sid : Nat) (refs : RefMap) :
    t.trackBlock sid refs =
      { t with trackBlocks := aset t.trackBlocks sid ((aget t.trackBlocks sid).getD [] ++ [refs]) } := by
  unfold Table.trackBlock
  cases aget t.trackBlocks sid <;> rfl

theorem trackBlock_spec {t : Table} {refs : RefMap} (h : TrackOKx t refs) (hwf : RefMapWF refs) (sid : Nat) :
    TrackOK { t with trackBlocks := aset t.trackBlocks sid ((aget t.trackBlocks sid).getD [] ++ [refs]) } := by
  refine ⟨fun a => ?_, h.live, nodup_keys_aset _ _ h.nodup, fun p hp => ?_, fun p hp => ?_⟩
  · have hset := total_aset t.trackBlocks sid ((aget t.trackBlocks sid).getD [] ++ [refs]) a
    have hsum := h.sum a
    rw [qsum_append] at hset
    simp only [qsum_cons, qsum_nil, cnt_nil] at hset ⊢
    omega
  · rcases mem_aset hp with hp | rfl
    · exact h.wf p hp
    · intro m' hm'
      rcases List.mem_append.mp hm' with hm' | hm'
      · obtain ⟨q, hq, hm'⟩ := mem_getD_aget hm'
        exact h.wf _ (aget_mem hq) m' hm'
      · rw [List.mem_singleton.mp hm']; exact hwf
  · rcases mem_aset hp with hp | rfl
    · exact h.nonempty p hp
    · simp

def vsum (m : RefMap) : Nat := (m.map (·.2)).sum

structure BlockedOK (t : Table) : Prop where
  sum : t.blockedCount = vsum t.blockedStreams

theorem vsum_aset (m : RefMap) (k : Nat) : vsum (aset m k (cnt m k + 1)) = vsum m + 1 := by
  induction m with
  | nil => simp [aset, vsum, cnt]
  | cons p r ih =>
    obtain ⟨k', v'⟩ := p
    by_cases hk : k' = k
    · subst hk; simp [aset, vsum, cnt_cons]; omega
    · simp only [aset, if_neg hk, cnt_cons]
      simp only [vsum, List.map_cons, List.sum_cons] at ih ⊢
      rw [ih]; omega

theorem Table.registerBlocked_eq (t : Table) (l : Nat) :
    ∃ bc bs, t.registerBlocked l = { t with blockedCount := bc, blockedStreams := bs } ∧
      (t.blockedCount = vsum t.blockedStreams → bc = vsum bs) := by
  unfold Table.registerBlocked
  split
  · exact ⟨_, _, rfl, id⟩
  · exact ⟨_, _, rfl, fun h => by rw [vsum_aset, h]⟩

theorem vsum_filter (m : RefMap) (p : Nat × Nat → Bool) :
    vsum (m.filter p) + vsum (m.filter fun x => !p x) = vsum m := by
  induction m with
  | nil => rfl
  | cons q r ih =>
    by_cases hq : p q = true
    · simp [vsum, List.filter, hq] at ih ⊢; omega
    · simp [vsum, List.filter, hq] at ih ⊢; omega

/-- the checked subtraction cannot fail because `blocked_count` is the sum over `blocked_streams` -/
theorem updateLargestReceived_spec {t : Table} (h : BlockedOK t) (inc : Nat) :
    ∃ bc bs, t.updateLargestReceived inc =
        .ok { t with lkr := t.lkr + inc, blockedCount := bc, blockedStreams := bs } ∧ bc = vsum bs := by
  unfold Table.updateLargestReceived
  simp only
  by_cases h0 : t.blockedCount = 0
  · rw [if_pos h0]; exact ⟨_, _, rfl, h.sum⟩
  · rw [if_neg h0]
    have hpart := vsum_filter t.blockedStreams (fun p => decide (p.1 ≤ t.lkr + inc))
    have hs := h.sum
    simp only [decide_not] at hpart ⊢
    split
    · rename_i hemp
      refine ⟨_, _, rfl, ?_⟩
      rw [List.isEmpty_iff.mp hemp] at hpart
      simp only [vsum, List.map_nil, List.sum_nil] at hpart hs ⊢
      omega
    · simp only [vsum] at hpart hs
      rw [← List.sum_eq_foldl_nat, csub_ok (by omega)]
      exact ⟨_, _, rfl, by simp only [vsum]; omega⟩

end H3.Dyn
