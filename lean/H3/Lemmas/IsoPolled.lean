import H3.Lemmas.IsoPolledReq
/-! C07, a healthy request of the product machine under every schedule of its own task: `follows` = the
    calls of the documented receive pattern, each polled again while it answers `Pending`, peer events in
    between; `digest` = what the application has been given, `Pending` left out.  `polled_run` (induction over
    the events, one step = `step_head` / `step_body`) keeps `RInv` and the digest of the phase (`GOK`). -/
namespace H3.Iso
open H3.ReqRecv

/-- the application's own view of where the documented receive pattern of its stream stands -/
inductive APhase where
  | head | body | done
deriving DecidableEq, Repr

/-- the phase after the call of the phase has been answered `o` (`Pending`: poll the same call
    again; an error ends the pattern) -/
def APhase.after : APhase → Obs → APhase
  | .head, .ans (.res (.head _)) => .body
  | .head, .ans (.res .pending) => .head
  | .head, _ => .done
  | .body, .body rs none => if rs.getLast? = some .pending then .body else .done
  | .body, .body _ (some (.res .pending)) => .body
  | .body, _ => .done
  | .done, _ => .done

/-- `follows cfg fuel ph cell r evs`: in the run of `evs` from request state `r`, every call is the
    one the documented pattern makes at that point: in phase `head` one poll of `resolve_request` /
    `recv_response`, in phase `body` one poll of the body task (`recv_data` until it answers
    something else than data, then `recv_trailers` after a clean end), nothing once the pattern has
    ended; peer events anywhere in between. -/
def follows (cfg : Cfg) (fuel : Nat) : APhase → Option Nat → Req → List StreamEv → Bool
  | _, _, _, [] => true
  | ph, cell, r, .peer p :: evs => follows cfg fuel ph cell (r.deliver p) evs
  | .head, cell, r, .call .head :: evs =>
    follows cfg fuel (APhase.after .head (Req.step cfg cell r (.call .head)).2.2)
      (Req.step cfg cell r (.call .head)).2.1 (Req.step cfg cell r (.call .head)).1 evs
  | .body, cell, r, .call (.body f) :: evs =>
    f == fuel &&
    follows cfg fuel (APhase.after .body (Req.step cfg cell r (.call (.body f))).2.2)
      (Req.step cfg cell r (.call (.body f))).2.1 (Req.step cfg cell r (.call (.body f))).1 evs
  | _, _, _, _ => false

/-- what the application of a stream has been given so far, `Pending` answers left out -/
structure Dig where
  /-- answers of single calls (`Obs.ans`); under `follows` these are the answers of `resolve_request` /
      `recv_response` -/
  heads : List Ans := []
  /-- answers of the `recv_data` calls, in order -/
  body : List Res := []
  /-- answers of `recv_trailers` -/
  trailers : List Ans := []
deriving DecidableEq, Repr

def Dig.add (g : Dig) : Obs → Dig
  | .ans a => if a = .res .pending then g else { g with heads := g.heads ++ [a] }
  | .body rs t =>
    { g with
      body := g.body ++ rs.filter (fun r => r != .pending)
      trailers := g.trailers ++
        (match t with
         | some a => if a = .res .pending then [] else [a]
         | none => []) }
  | _ => g

def digest (obs : List Obs) : Dig := obs.foldl Dig.add {}

def peersOf : List StreamEv → List Peer
  | [] => []
  | .peer p :: r => p :: peersOf r
  | .call _ :: r => peersOf r

theorem fsScript_cons (p : Peer) (ps : List Peer) : fsScript (p :: ps) = fsOf p ++ fsScript ps := rfl

theorem filter_pieces_last (pieces : List ReqRecv.Bytes) (last : Res) :
    (pieces.map Res.data ++ [last]).filter (fun r => r != .pending) =
      pieces.map Res.data ++ (if last = .pending then [] else [last]) := by
  rw [List.filter_append]
  have h1 : (pieces.map Res.data).filter (fun r => r != .pending) = pieces.map Res.data := by
    rw [List.filter_eq_self]
    intro r hr
    obtain ⟨d, _, rfl⟩ := List.mem_map.mp hr
    rfl
  rw [h1]
  by_cases hl : last = .pending
  · subst hl; simp
  · simp [hl]

/-- where the documented receive pattern of a stream stands, as the model sees it (`trailers`: the end of
    the body has been answered, `recv_trailers` is being polled; `done`: the pattern is over, completed
    or ended by an error); used for healthy streams here (`RInv`) and for streams with stream-scoped
    faults in `IsoFault` (`RInvR`, `nextPh`) -/
inductive DPhase where
  | head | body | trailers | done
deriving DecidableEq, Repr

def DPhase.app : DPhase → APhase
  | .head => .head
  | .body => .body
  | .trailers => .body
  | .done => .done

section Healthy
variable {w : FS.Bytes} {h : ReqRecv.Bytes} {ds : List ReqRecv.Bytes} {tr : Option ReqRecv.Bytes}

/-- the invariant of a healthy request: `D` delivered so far, `b` = body bytes answered so far -/
def RInv (w : FS.Bytes) (h : ReqRecv.Bytes) (ds : List ReqRecv.Bytes) (tr : Option ReqRecv.Bytes) (ph : DPhase)
    (D : List FS.Ev) (b : ReqRecv.Bytes) (r : Req) : Prop :=
  r.gone = false ∧ r.rx.env = {} ∧
  match ph with
  | .head => r.resolved = false ∧ r.atTrailers = false ∧ HeadSt w D r.rx ∧ b = []
  | .body => r.resolved = true ∧ r.atTrailers = false ∧ ∃ out, BodySt w h D out r.rx ∧ bodyOf out = b
  | .trailers => r.resolved = true ∧ r.atTrailers = true ∧ EndSt w h ds tr D r.rx ∧ b = ds.flatten
  | .done => b = ds.flatten

/-- the digest that goes with a phase -/
def GOK (h : ReqRecv.Bytes) (ds : List ReqRecv.Bytes) (tr : Option ReqRecv.Bytes) : DPhase → ReqRecv.Bytes → Dig → Prop
  | .head, _, g => g = {}
  | .body, b, g => g.heads = [.res (.head h)] ∧ (∃ ps : List ReqRecv.Bytes, g.body = ps.map .data ∧ ps.flatten = b) ∧
      g.trailers = []
  | .trailers, _, g => g.heads = [.res (.head h)] ∧
      (∃ ps : List ReqRecv.Bytes, g.body = ps.map .data ++ [.end_] ∧ ps.flatten = ds.flatten) ∧ g.trailers = []
  | .done, _, g => g.heads = [.res (.head h)] ∧
      (∃ ps : List ReqRecv.Bytes, g.body = ps.map .data ++ [.end_] ∧ ps.flatten = ds.flatten) ∧
      g.trailers = [.res (trRes tr)]

theorem rinv_init (w : FS.Bytes) (h : ReqRecv.Bytes) (ds : List ReqRecv.Bytes) (tr : Option ReqRecv.Bytes) :
    RInv w h ds tr .head [] [] {} :=
  ⟨rfl, rfl, rfl, rfl, ⟨hinv_init w, rfl, rfl⟩, rfl⟩

theorem bodyOf_prefix {x y : List RefTok} (hp : x <+: y) : bodyOf x <+: bodyOf y := by
  obtain ⟨m, rfl⟩ := hp
  rw [bodyOf_append]
  exact List.prefix_append _ _

theorem rinv_prefix (hw : Wire w (msgToks h ds tr)) {ph : DPhase} {D : List FS.Ev} {b : ReqRecv.Bytes} {r : Req}
    (hr : RInv w h ds tr ph D b r) : b <+: ds.flatten := by
  obtain ⟨_, _, hph⟩ := hr
  cases ph with
  | head => obtain ⟨_, _, _, rfl⟩ := hph; exact List.nil_prefix
  | body =>
    obtain ⟨_, _, out, hb, rfl⟩ := hph
    have := bodyOf_prefix (rhinv_prefix hw hb.inv.toR)
    rwa [bodyOf_msgToks] at this
  | trailers => obtain ⟨_, _, _, rfl⟩ := hph; exact List.prefix_refl _
  | done => simp only at hph; subst hph; exact List.prefix_refl _

theorem rinv_deliver {ph : DPhase} {D : List FS.Ev} {b : ReqRecv.Bytes} {r : Req} (p : Peer)
    (hr : RInv w h ds tr ph D b r) (hD : Deliv w (D ++ fsOf p)) :
    RInv w h ds tr ph (D ++ fsOf p) b (r.deliver p) := by
  obtain ⟨hg, henv, hph⟩ := hr
  refine ⟨by rw [deliver_gone]; exact hg, by rw [deliver_rx]; exact henv, ?_⟩
  rw [deliver_resolved, deliver_atTrailers, deliver_rx]
  cases ph with
  | head => exact ⟨hph.1, hph.2.1, hph.2.2.1.arrive _ hD, hph.2.2.2⟩
  | body =>
    obtain ⟨h1, h2, out, hb, h3⟩ := hph
    exact ⟨h1, h2, out, hb.arrive _ hD, h3⟩
  | trailers => exact ⟨hph.1, hph.2.1, hph.2.2.1.arrive _ hD, hph.2.2.2⟩
  | done => exact hph

theorem load_none_of_env {st : St FSt} (h : st.env = {}) : load none st = st :=
  load_eq none st (by rw [h])

theorem unload_of_env {st : St FSt} (h : st.env = {}) : unload st = st := by
  obtain ⟨src, trl, env⟩ := st
  subst h
  rfl

variable (hw : Wire w (msgToks h ds tr)) (cfg : Cfg)

include hw in
/-- one poll of `resolve_request` / `recv_response` in phase `head` -/
theorem step_head (hh : cfg.hdr.head h = .ok) {D : List FS.Ev} {b : ReqRecv.Bytes} {r : Req}
    (hr : RInv w h ds tr .head D b r) :
    ∃ r', (Req.step cfg none r (.call .head) = (r', none, .ans (.res (.head h))) ∧ RInv w h ds tr .body D [] r') ∨
      (Req.step cfg none r (.call .head) = (r', none, .ans (.res .pending)) ∧ RInv w h ds tr .head D [] r' ∧
        FS.Ev.fin ∉ D) := by
  obtain ⟨hg, henv, hres, hat, hst, _⟩ := hr
  have hlive : live cfg r .head := live_head hg hres
  obtain ⟨res, st', hp, henv', hc⟩ := healthy_head hw cfg.role cfg.hdr.base (base_of_ok hh) D r.rx hst
  rw [henv] at henv'
  rw [Req.step_live cfg none r .head hlive]
  rcases hc with ⟨rfl, hb⟩ | ⟨rfl, hhd, hfin⟩
  · refine ⟨{ r with rx := st', resolved := true }, Or.inl ⟨?_, hg, henv', rfl, hat, _, hb, rfl⟩⟩
    unfold stepHead
    rw [load_none_of_env henv, hp]
    simp only [henv', unload_of_env henv']
    split
    · next h1 _ => rw [hh] at h1; cases h1
    · next h1 _ => rw [hh] at h1; cases h1
    · rfl
  · refine ⟨{ r with rx := st' }, Or.inr ⟨?_, ⟨hg, henv', hres, hat, hhd, rfl⟩, hfin⟩⟩
    unfold stepHead
    rw [load_none_of_env henv, hp]
    simp only [henv', unload_of_env henv']

include hw in
theorem healthy_trailersPoll (hT : ∀ t, tr = some t → cfg.hdr.trailer t = .ok) {D : List FS.Ev} {st : RSt}
    (hst : EndSt w h ds tr D st) :
    ∃ a st', trailersPoll cfg st = (.res a, st') ∧ st'.env = st.env ∧
      (a = trRes tr ∨ (a = .pending ∧ EndSt w h ds tr D st' ∧ FS.Ev.fin ∉ D)) := by
  obtain ⟨res, st', hp, henv, hc⟩ := healthy_trailers hw cfg.hdr.base (fun t ht => base_of_ok (hT t ht)) D st hst
  refine ⟨res, st', trailersPoll_of cfg st st' res hp fun enc he => ?_, henv, hc⟩
  rcases hc with rfl | ⟨rfl, _⟩
  · rw [hT enc (trRes_trailers he)]; nofun
  · cases he

include hw in
/-- one poll of the body task -/
theorem step_body (hT : ∀ t, tr = some t → cfg.hdr.trailer t = .ok) (fuel : Nat)
    (hfuel : (msgToks h ds tr).length < fuel) {ph : DPhase} (hph : ph = .body ∨ ph = .trailers)
    {D : List FS.Ev} {b : ReqRecv.Bytes} {r : Req} (hr : RInv w h ds tr ph D b r) :
    ∃ (r' : Req) (pieces : List ReqRecv.Bytes),
      (ph = .trailers → pieces = []) ∧
      ((∃ last, Req.step cfg none r (.call (.body fuel)) = (r', none, .body (pieces.map .data ++ [last]) none) ∧
          last = .pending ∧ ph = .body ∧ RInv w h ds tr .body D (b ++ pieces.flatten) r' ∧ FS.Ev.fin ∉ D) ∨
       (Req.step cfg none r (.call (.body fuel)) =
          (r', none, .body (pieces.map .data ++ (if ph = .body then [.end_] else [])) (some (.res .pending))) ∧
          RInv w h ds tr .trailers D ds.flatten r' ∧ b ++ pieces.flatten = ds.flatten ∧ FS.Ev.fin ∉ D) ∨
       (Req.step cfg none r (.call (.body fuel)) =
          (r', none, .body (pieces.map .data ++ (if ph = .body then [.end_] else [])) (some (.res (trRes tr)))) ∧
          RInv w h ds tr .done D ds.flatten r' ∧ b ++ pieces.flatten = ds.flatten)) := by
  rcases hph with rfl | rfl
  · -- in the `recv_data` loop
    obtain ⟨hg, henv, hres, hat, out, hst, hb⟩ := hr
    rw [show Req.step cfg none r (.call (.body fuel)) = stepBody cfg fuel none r from
      Req.step_live cfg none r (.body fuel) (live_of_resolved hg hres nofun)]
    obtain ⟨pieces, last, st2, hd, henv2, hc⟩ := healthy_drain hw fuel r.rx D out hst (by omega)
    rw [henv] at henv2
    have hlast : (pieces.map Res.data ++ [last]).getLast? = some last := List.getLast?_concat
    rcases hc with ⟨rfl, ⟨out', hst', hb'⟩, hfin⟩ | ⟨rfl, hend, hb'⟩
    · refine ⟨{ r with rx := st2 }, pieces, nofun,
        Or.inl ⟨.pending, ?_, rfl, rfl, ⟨hg, henv2, hres, hat, out', hst', by rw [hb', hb]⟩, hfin⟩⟩
      unfold stepBody
      rw [if_neg (by simp [hat]), load_none_of_env henv, hd]
      simp only [hlast, henv2, unload_of_env henv2]
      rw [if_neg (by simp)]
    · rw [hb] at hb'
      obtain ⟨res, st3, hp, henv3, hc3⟩ := healthy_trailersPoll hw cfg hT hend
      rw [henv2] at henv3
      have hstep : stepBody cfg fuel none r =
          ({ r with rx := st3, atTrailers := true }, none, .body (pieces.map .data ++ [.end_]) (some (.res res))) := by
        unfold stepBody
        rw [if_neg (by simp [hat]), load_none_of_env henv, hd]
        simp only [hlast, if_true, hp, henv3, unload_of_env henv3]
      rcases hc3 with rfl | ⟨rfl, hend3, hfin⟩
      · refine ⟨{ r with rx := st3, atTrailers := true }, pieces, nofun,
          Or.inr (Or.inr ⟨?_, ⟨hg, henv3, rfl⟩, hb'⟩)⟩
        rw [hstep]; simp
      · refine ⟨{ r with rx := st3, atTrailers := true }, pieces, nofun,
          Or.inr (Or.inl ⟨?_, ⟨hg, henv3, hres, rfl, hend3, rfl⟩, hb', hfin⟩)⟩
        rw [hstep]; simp
  · -- inside `recv_trailers`
    obtain ⟨hg, henv, hres, hat, hend, hb⟩ := hr
    rw [show Req.step cfg none r (.call (.body fuel)) = stepBody cfg fuel none r from
      Req.step_live cfg none r (.body fuel) (live_of_resolved hg hres nofun)]
    obtain ⟨res, st3, hp, henv3, hc3⟩ := healthy_trailersPoll hw cfg hT hend
    rw [henv] at henv3
    have hstep : stepBody cfg fuel none r = ({ r with rx := st3 }, none, .body [] (some (.res res))) := by
      unfold stepBody
      rw [if_pos hat, load_none_of_env henv, hp]
      simp only [henv3, unload_of_env henv3]
    rcases hc3 with rfl | ⟨rfl, hend3, hfin⟩
    · refine ⟨{ r with rx := st3 }, [], fun _ => rfl, Or.inr (Or.inr ⟨?_, ⟨hg, henv3, rfl⟩, by simpa using hb⟩)⟩
      rw [hstep]; simp
    · refine ⟨{ r with rx := st3 }, [], fun _ => rfl,
        Or.inr (Or.inl ⟨?_, ⟨hg, henv3, hres, hat, hend3, rfl⟩, by simpa using hb, hfin⟩)⟩
      rw [hstep]; simp

end Healthy

theorem follows_peer (cfg : Cfg) (fuel : Nat) (ph : APhase) (cell : Option Nat) (r : Req) (p : Peer)
    (evs : List StreamEv) :
    follows cfg fuel ph cell r (.peer p :: evs) = follows cfg fuel ph cell (r.deliver p) evs := by
  cases ph <;> rfl

theorem follows_call {cfg : Cfg} {fuel : Nat} {ph : APhase} {cell : Option Nat} {r : Req} {c : Call}
    {evs : List StreamEv} :
    follows cfg fuel ph cell r (.call c :: evs) = true ↔
      (match ph with | .head => c = .head | .body => c = .body fuel | .done => False) ∧
      follows cfg fuel (ph.after (Req.step cfg cell r (.call c)).2.2) (Req.step cfg cell r (.call c)).2.1
        (Req.step cfg cell r (.call c)).1 evs = true := by
  cases ph <;> cases c <;> simp [follows]

theorem follows_nil (cfg : Cfg) (fuel : Nat) (ph : APhase) (cell : Option Nat) (r : Req) :
    follows cfg fuel ph cell r [] = true := by cases ph <;> rfl

theorem follows_prefix (cfg : Cfg) (fuel : Nat) : ∀ (a b : List StreamEv) (ph : APhase) (cell : Option Nat)
    (r : Req), follows cfg fuel ph cell r (a ++ b) = true → follows cfg fuel ph cell r a = true := by
  intro a
  induction a with
  | nil => intro b ph cell r _; exact follows_nil cfg fuel ph cell r
  | cons ev a ih =>
    intro b ph cell r hf
    cases ev with
    | peer p =>
      rw [List.cons_append, follows_peer] at hf
      rw [follows_peer]
      exact ih b ph cell _ hf
    | call c =>
      rw [List.cons_append, follows_call] at hf
      exact follows_call.mpr ⟨hf.1, ih b _ _ _ hf.2⟩

theorem deliv_of_prefix {w : FS.Bytes} {cs : List FS.Bytes} (hne : ∀ b ∈ cs, b ≠ []) (hcs : cs.flatten = w)
    {D rest : List FS.Ev} (hp : D ++ rest <+: cs.map FS.Ev.chunk ++ [FS.Ev.fin]) : Deliv w D := by
  obtain ⟨more, hm⟩ := hp
  exact deliv_prefix (b := rest ++ more) ⟨cs, hne, Or.inr ⟨by rw [← List.append_assoc, hm], hcs⟩⟩

section Gok
variable {h : ReqRecv.Bytes} {ds : List ReqRecv.Bytes} {tr : Option ReqRecv.Bytes}

theorem gok_head_answer {b : ReqRecv.Bytes} {g : Dig} (hg : GOK h ds tr .head b g) :
    GOK h ds tr .body [] (g.add (.ans (.res (.head h)))) := by
  simp only [GOK] at hg
  subst hg
  exact ⟨by simp [Dig.add], ⟨[], rfl, rfl⟩, rfl⟩

theorem gok_head_pending {b : ReqRecv.Bytes} {g : Dig} (hg : GOK h ds tr .head b g) :
    GOK h ds tr .head [] (g.add (.ans (.res .pending))) := by
  simp only [GOK] at hg ⊢
  subst hg
  rfl

theorem gok_body_pending {b : ReqRecv.Bytes} {g : Dig} (pieces : List ReqRecv.Bytes) (hg : GOK h ds tr .body b g) :
    GOK h ds tr .body (b ++ pieces.flatten) (g.add (.body (pieces.map .data ++ [.pending]) none)) := by
  obtain ⟨h1, ⟨ps, h2, h3⟩, h4⟩ := hg
  refine ⟨h1, ⟨ps ++ pieces, ?_, by rw [List.flatten_append, h3]⟩, by simp [Dig.add, h4]⟩
  simp only [Dig.add, filter_pieces_last, if_true, List.append_nil, h2, List.map_append]

/-- the observation in the form `step_body` gives it: from the `recv_data` loop the pieces of this poll and the end,
    inside `recv_trailers` nothing more of the body -/
theorem gok_end {ph : DPhase} (hph : ph = .body ∨ ph = .trailers) {b : ReqRecv.Bytes} {g : Dig}
    {pieces : List ReqRecv.Bytes} (hp : ph = .trailers → pieces = []) (hg : GOK h ds tr ph b g)
    (hb : b ++ pieces.flatten = ds.flatten) :
    GOK h ds tr .trailers ds.flatten
      (g.add (.body (pieces.map .data ++ (if ph = .body then [.end_] else [])) (some (.res .pending)))) ∧
    GOK h ds tr .done ds.flatten
      (g.add (.body (pieces.map .data ++ (if ph = .body then [.end_] else [])) (some (.res (trRes tr))))) := by
  rcases hph with rfl | rfl
  · obtain ⟨h1, ⟨ps, h2, h3⟩, h4⟩ := hg
    have hbody : g.body ++ (pieces.map Res.data ++ [Res.end_]).filter (fun r => r != .pending) =
        (ps ++ pieces).map .data ++ [.end_] := by
      rw [filter_pieces_last, if_neg (by simp), h2, List.map_append, List.append_assoc]
    have hfl : (ps ++ pieces).flatten = ds.flatten := by rw [List.flatten_append, h3, hb]
    refine ⟨⟨h1, ⟨ps ++ pieces, hbody, hfl⟩, by simp [Dig.add, h4]⟩, ⟨h1, ⟨ps ++ pieces, hbody, hfl⟩, ?_⟩⟩
    cases tr <;> simp [Dig.add, h4, trRes]
  · obtain ⟨h1, ⟨ps, h2, h3⟩, h4⟩ := hg
    rw [hp rfl]
    refine ⟨⟨h1, ⟨ps, by simp [Dig.add, h2], h3⟩, by simp [Dig.add, h4]⟩, ⟨h1, ⟨ps, by simp [Dig.add, h2], h3⟩, ?_⟩⟩
    cases tr <;> simp [Dig.add, h4, trRes]

end Gok

theorem after_trRes (rs : List Res) (tr : Option ReqRecv.Bytes) :
    APhase.after .body (.body rs (some (.res (trRes tr)))) = .done := by
  cases tr <;> rfl

theorem after_body_pending (pieces : List ReqRecv.Bytes) :
    APhase.after .body (.body (pieces.map Res.data ++ [.pending]) none) = .body := by
  simp [APhase.after]

section Run
variable {w : FS.Bytes} {h : ReqRecv.Bytes} {ds : List ReqRecv.Bytes} {tr : Option ReqRecv.Bytes}

/-- **Every schedule of a healthy stream.**  From a state of the pattern (`RInv`, digest `g` so far),
    whatever sequence of further peer deliveries and polls of the documented pattern follows: the
    cell stays empty, the invariant and the digest of the phase reached hold, and if FIN has arrived
    and the last event is a poll of the body task, the pattern has completed. -/
theorem polled_run (hw : Wire w (msgToks h ds tr)) (cfg : Cfg) (hh : cfg.hdr.head h = .ok)
    (hT : ∀ t, tr = some t → cfg.hdr.trailer t = .ok) (fuel : Nat) (hfuel : (msgToks h ds tr).length < fuel)
    (cs : List FS.Bytes) (hne : ∀ b ∈ cs, b ≠ []) (hcs : cs.flatten = w) :
    ∀ (evs : List StreamEv) (ph : DPhase) (D : List FS.Ev) (b : ReqRecv.Bytes) (r : Req) (g : Dig),
      RInv w h ds tr ph D b r → GOK h ds tr ph b g →
      D ++ fsScript (peersOf evs) <+: cs.map FS.Ev.chunk ++ [FS.Ev.fin] →
      follows cfg fuel ph.app none r evs = true →
      ∃ ph' b', (Req.run cfg none r evs).2.1 = none ∧
        RInv w h ds tr ph' (D ++ fsScript (peersOf evs)) b' (Req.run cfg none r evs).1 ∧
        GOK h ds tr ph' b' ((Req.run cfg none r evs).2.2.foldl Dig.add g) ∧
        (FS.Ev.fin ∈ D ++ fsScript (peersOf evs) → evs.getLast? = some (.call (.body fuel)) → ph' = .done) := by
  intro evs
  induction evs with
  | nil =>
    intro ph D b r g hr hg _ _
    refine ⟨ph, b, rfl, ?_, hg, fun _ hl => by cases hl⟩
    show RInv w h ds tr ph (D ++ fsScript (peersOf [])) b r
    simpa [peersOf, fsScript] using hr
  | cons ev rest ih =>
    intro ph D b r g hr hg hpre hf
    have hlast : ∀ c, (ev :: rest).getLast? = some c → rest ≠ [] → rest.getLast? = some c :=
      fun c hc hne' => (List.getLast?_cons_of_ne_nil hne').symm.trans hc
    cases ev with
    | peer p =>
      have hpeers : D ++ fsScript (peersOf (.peer p :: rest)) = (D ++ fsOf p) ++ fsScript (peersOf rest) := by
        simp only [peersOf, fsScript_cons, List.append_assoc]
      rw [hpeers] at hpre ⊢
      have hD : Deliv w (D ++ fsOf p) := deliv_of_prefix hne hcs hpre
      rw [follows_peer] at hf
      obtain ⟨ph', b', h1, h2, h3, h4⟩ := ih ph (D ++ fsOf p) b (r.deliver p) g (rinv_deliver p hr hD) hg hpre hf
      refine ⟨ph', b', h1, h2, h3, fun hfin hl => ?_⟩
      by_cases hrest : rest = []
      · subst hrest; simp at hl
      · exact h4 hfin (hlast _ hl hrest)
    | call c =>
      obtain ⟨r', o, ph1, b1, hstep, hr1, hg1, hf1, hdone⟩ : ∃ r' o ph1 b1,
          Req.step cfg none r (.call c) = (r', none, o) ∧ RInv w h ds tr ph1 D b1 r' ∧
          GOK h ds tr ph1 b1 (g.add o) ∧ follows cfg fuel ph1.app none r' rest = true ∧
          (FS.Ev.fin ∈ D → c = .body fuel → ph1 = .done) := by
        rcases (show ph = .head ∨ (ph = .body ∨ ph = .trailers) ∨ ph = .done by cases ph <;> simp) with rfl | hph | rfl
        · obtain ⟨rfl, hf'⟩ := follows_call.mp hf
          obtain ⟨r', hc | hc⟩ := step_head hw cfg hh hr
          · obtain ⟨hstep, hr1⟩ := hc
            rw [hstep] at hf'
            exact ⟨r', _, .body, [], hstep, hr1, gok_head_answer hg, hf', fun _ hc => by cases hc⟩
          · obtain ⟨hstep, hr1, _⟩ := hc
            rw [hstep] at hf'
            exact ⟨r', _, .head, [], hstep, hr1, gok_head_pending hg, hf', fun _ hc => by cases hc⟩
        · -- the body task, in the `recv_data` loop or inside `recv_trailers`
          rw [show ph.app = .body by rcases hph with rfl | rfl <;> rfl] at hf
          obtain ⟨rfl, hf'⟩ := follows_call.mp hf
          obtain ⟨r', pieces, hp, hc | hc | hc⟩ := step_body hw cfg hT fuel hfuel hph hr
          · obtain ⟨last, hstep, rfl, rfl, hr1, hfin⟩ := hc
            rw [hstep, after_body_pending] at hf'
            exact ⟨r', _, .body, _, hstep, hr1, gok_body_pending pieces hg, hf', fun hd _ => absurd hd hfin⟩
          · obtain ⟨hstep, hr1, hb, hfin⟩ := hc
            rw [hstep] at hf'
            exact ⟨r', _, .trailers, _, hstep, hr1, (gok_end hph hp hg hb).1, hf', fun hd _ => absurd hd hfin⟩
          · obtain ⟨hstep, hr1, hb⟩ := hc
            rw [hstep, after_trRes] at hf'
            exact ⟨r', _, .done, _, hstep, hr1, (gok_end hph hp hg hb).2, hf', fun _ _ => rfl⟩
        · exact (follows_call.mp hf).1.elim
      by_cases hrest : rest = []
      · subst hrest
        have hrun : Req.run cfg none r [.call c] = (r', none, [o]) := by
          rw [Req.run_cons, hstep]; rfl
        rw [hrun]
        refine ⟨ph1, b1, rfl, by simpa [peersOf, fsScript] using hr1, hg1, ?_⟩
        intro hfin hl
        simp only [List.getLast?_singleton, Option.some.injEq, StreamEv.call.injEq] at hl
        exact hdone (by simpa [peersOf, fsScript] using hfin) hl
      · obtain ⟨ph', b', h1, h2, h3, h4⟩ := ih ph1 D b1 r' (g.add o) hr1 hg1 hpre hf1
        rw [Req.run_cons, hstep]
        exact ⟨ph', b', h1, h2, h3, fun hfin hl => h4 hfin (hlast _ hl hrest)⟩

theorem rinv_deliver_all (cs : List FS.Bytes) (hne : ∀ b ∈ cs, b ≠ []) (hcs : cs.flatten = w) {ph : DPhase}
    {b : ReqRecv.Bytes} : ∀ (ps : List Peer) (D : List FS.Ev) (r : Req), RInv w h ds tr ph D b r →
      D ++ fsScript ps <+: cs.map FS.Ev.chunk ++ [FS.Ev.fin] →
      RInv w h ds tr ph (D ++ fsScript ps) b (ps.foldl Req.deliver r) := by
  intro ps
  induction ps with
  | nil => intro D r hr _; simpa [fsScript] using hr
  | cons p ps ih =>
    intro D r hr hpre
    rw [fsScript_cons, ← List.append_assoc] at hpre ⊢
    exact ih (D ++ fsOf p) (r.deliver p) (rinv_deliver p hr (deliv_of_prefix hne hcs hpre)) hpre

theorem follows_peers (cfg : Cfg) (fuel : Nat) : ∀ (ps : List Peer) (ph : APhase) (cell : Option Nat) (r : Req)
    (rest : List StreamEv),
    follows cfg fuel ph cell r (ps.map .peer ++ rest) = follows cfg fuel ph cell (ps.foldl Req.deliver r) rest := by
  intro ps
  induction ps with
  | nil => intro ph cell r rest; rfl
  | cons p ps ih =>
    intro ph cell r rest
    rw [List.map_cons, List.cons_append, follows_peer, ih]
    rfl

theorem peersOf_peers_calls (ps : List Peer) (cs : List Call) :
    peersOf (ps.map StreamEv.peer ++ cs.map StreamEv.call) = ps := by
  induction ps with
  | nil =>
    induction cs with
    | nil => rfl
    | cons c cs ih => simpa [peersOf] using ih
  | cons p ps ih => simp only [List.map_cons, List.cons_append, peersOf, ih]

/-- the schedule of `C07_healthy_stream_delivers` — everything delivered, then one poll of the head
    call and one of the body task — follows the documented pattern: with FIN there the head call
    answers at once -/
theorem follows_delivered_first (hw : Wire w (msgToks h ds tr)) (cfg : Cfg) (hh : cfg.hdr.head h = .ok) (fuel : Nat)
    (cs : List FS.Bytes) (hne : ∀ b ∈ cs, b ≠ []) (hcs : cs.flatten = w) :
    follows cfg fuel .head none {}
      ((cs.map Peer.chunk ++ [Peer.fin]).map StreamEv.peer ++ [.call .head, .call (.body fuel)]) = true := by
  rw [follows_peers]
  have hr0 := rinv_deliver_all (h := h) (ds := ds) (tr := tr) cs hne hcs (cs.map Peer.chunk ++ [Peer.fin]) [] {}
    (rinv_init w h ds tr) (by rw [List.nil_append, fsScript_chunks_fin]; exact List.prefix_refl _)
  rw [List.nil_append, fsScript_chunks_fin] at hr0
  generalize (cs.map Peer.chunk ++ [Peer.fin]).foldl Req.deliver {} = r0 at hr0 ⊢
  obtain ⟨r1, hc | hc⟩ := step_head hw cfg hh hr0
  · obtain ⟨hstep, _⟩ := hc
    refine follows_call.mpr ⟨rfl, ?_⟩
    rw [hstep]
    exact follows_call.mpr ⟨rfl, follows_nil _ _ _ _ _⟩
  · obtain ⟨_, _, hfin⟩ := hc
    exact absurd (by simp) hfin

end Run

end H3.Iso
