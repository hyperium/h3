import H3.Model.PrefixInt
/-! The prefixed-integer model (`H3.Model.PrefixInt`).  What `rfcCont` and `contLen` find at the head of a list (octets with
    the continuation bit, then an octet below 128 or nothing) is said once, `rfcCont_split`.  The decoder's loop is the RFC's reading of
    the continuation octets (`rfcCont`), cut off after nine of them (`decLoop_eq`, `decode?_eq`, `decode_cons`); of
    the encoder only what the RFC reads is said (`rfcCont_encLoop`, `contLen_encLoop`, `rfcDecode_encode`).  Value, flags, the three
    outcomes, completeness and the round trip are case distinctions on these equations. -/
namespace H3.PrefixInt
open H3.Gen.PrefixInt (MAX_POWER)

theorem encLoop_eq (x : Nat) :
    encLoop x = if x ≥ 128 then (x % 128 + 128) :: encLoop (x / 128) else [x] := by
  rw [encLoop]

theorem encLoop_lt {x : Nat} (h : x < 128) : encLoop x = [x] := by
  rw [encLoop_eq, if_neg (by omega)]

theorem encLoop_ge {x : Nat} (h : 128 ≤ x) :
    encLoop x = (x % 128 + 128) :: encLoop (x / 128) := by
  rw [encLoop_eq, if_pos h]

theorem encLoop_bytes (x : Nat) : ∀ b ∈ encLoop x, b < 256 := by
  induction x using Nat.strongRecOn with
  | _ x ih =>
    by_cases h : 128 ≤ x
    · rw [encLoop_ge h]
      intro b hb
      rcases List.mem_cons.mp hb with rfl | hb
      · omega
      · exact ih (x / 128) (by omega) b hb
    · rw [encLoop_lt (by omega)]
      intro b hb
      rcases List.mem_cons.mp hb with rfl | hb
      · omega
      · cases hb

theorem decLoop_nil (f v p : Nat) : decLoop f v p [] = .endOf := by
  simp [decLoop]

theorem decLoop_last (f v p b : Nat) (r : List Nat) (hb : b / 128 % 2 = 0) :
    decLoop f v p (b :: r) = .ok f (v + b % 128 * 2 ^ p) r := by
  simp [decLoop, hb]

theorem decLoop_ovf (f v p b : Nat) (r : List Nat) (hb : b / 128 % 2 ≠ 0) (hp : 63 ≤ p + 7) :
    decLoop f v p (b :: r) = .overflow := by
  have : p + 7 ≥ MAX_POWER := by simp [MAX_POWER]; omega
  simp [decLoop, hb, this]

theorem decLoop_more (f v p b : Nat) (r : List Nat) (hb : b / 128 % 2 ≠ 0) (hp : p + 7 < 63) :
    decLoop f v p (b :: r) = decLoop f (v + b % 128 * 2 ^ p) (p + 7) r := by
  have : ¬ p + 7 ≥ MAX_POWER := by simp [MAX_POWER]; omega
  simp [decLoop, hb, this]

/-- `2^(7(i+1)) = 2^(7i)·128`: one more base-128 digit of the accumulated value -/
theorem acc_step' (acc b c i : Nat) :
    acc + b * 2 ^ (7 * i) + c * 2 ^ (7 * (i + 1)) = acc + (b + 128 * c) * 2 ^ (7 * i) := by
  have h1 : 2 ^ (7 * (i + 1)) = 128 * 2 ^ (7 * i) := by
    rw [Nat.mul_add, Nat.pow_add, Nat.mul_comm]
  rw [h1, ← Nat.mul_assoc, Nat.add_assoc, ← Nat.add_mul, Nat.mul_comm c 128]

theorem decLoop_cons_wf (f v i b : Nat) (r : List Nat) (hb : b < 256) (hi : i ≤ 8) :
    decLoop f v (7 * i) (b :: r) =
      if b < 128 then .ok f (v + b * 2 ^ (7 * i)) r
      else if i = 8 then .overflow
      else decLoop f (v + b % 128 * 2 ^ (7 * i)) (7 * (i + 1)) r := by
  by_cases h : b < 128
  · rw [if_pos h, decLoop_last _ _ _ _ _ (by omega), Nat.mod_eq_of_lt h]
  · rw [if_neg h]
    by_cases h8 : i = 8
    · rw [if_pos h8, decLoop_ovf _ _ _ _ _ (by omega) (by omega)]
    · rw [if_neg h8, decLoop_more _ _ _ _ _ (by omega) (by omega),
        show 7 * i + 7 = 7 * (i + 1) by omega]

theorem rfcCont_lt (b : Nat) (r : List Nat) (h : b < 128) : rfcCont (b :: r) = some (b, r) := by
  simp [rfcCont, h]

theorem rfcCont_ge_some (b : Nat) (r : List Nat) (h : ¬ b < 128) (c : Nat) (rest : List Nat)
    (hc : rfcCont r = some (c, rest)) : rfcCont (b :: r) = some (b % 128 + 128 * c, rest) := by
  simp [rfcCont, h, hc]

theorem rfcCont_ge_none (b : Nat) (r : List Nat) (h : ¬ b < 128)
    (hc : rfcCont r = none) : rfcCont (b :: r) = none := by
  simp [rfcCont, h, hc]

theorem rfcCont_split (r : List Nat) : ∃ l : List Nat, (∀ b ∈ l, 128 ≤ b) ∧
    ((r = l ∧ rfcCont r = none ∧ contLen r = l.length) ∨
     ∃ b rest c, b < 128 ∧ r = l ++ b :: rest ∧ rfcCont r = some (c, rest) ∧ contLen r = l.length + 1 ∧
       c < 128 ^ (l.length + 1)) := by
  induction r with
  | nil => exact ⟨[], nofun, .inl ⟨rfl, rfl, rfl⟩⟩
  | cons b r ih =>
    by_cases hlt : b < 128
    · exact ⟨[], nofun, .inr ⟨b, r, b, hlt, rfl, rfcCont_lt b r hlt, by simp [contLen, hlt], by simpa using hlt⟩⟩
    · obtain ⟨l, hl, h⟩ := ih
      have hl' : ∀ x ∈ b :: l, 128 ≤ x := by
        intro x hx
        rcases List.mem_cons.mp hx with rfl | hx
        · omega
        · exact hl x hx
      have hc : contLen (b :: r) = contLen r + 1 := by simp [contLen, hlt, Nat.add_comm]
      rcases h with ⟨rfl, hn, hk⟩ | ⟨b', rest, c, hb', rfl, hs, hk, hcl⟩
      · exact ⟨b :: r, hl', .inl ⟨rfl, rfcCont_ge_none b r hlt hn, by rw [hc, hk]; rfl⟩⟩
      · refine ⟨b :: l, hl', .inr ⟨b', rest, _, hb', rfl, rfcCont_ge_some b _ hlt c rest hs, by rw [hc, hk]; rfl, ?_⟩⟩
        rw [List.length_cons, Nat.pow_succ]
        omega

theorem rfcCont_none_iff (r : List Nat) : rfcCont r = none ↔ ∀ b ∈ r, 128 ≤ b := by
  obtain ⟨l, hl, ⟨rfl, hn, _⟩ | ⟨b, rest, c, hb, rfl, hs, _⟩⟩ := rfcCont_split r
  · exact ⟨fun _ => hl, fun _ => hn⟩
  · rw [hs]
    exact ⟨nofun, fun h => by have := h b (by simp); omega⟩

theorem contLen_of_all_ge (r : List Nat) (h : ∀ b ∈ r, 128 ≤ b) : contLen r = r.length := by
  obtain ⟨l, _, ⟨rfl, _, hk⟩ | ⟨b, rest, c, hb, rfl, _⟩⟩ := rfcCont_split r
  · exact hk
  · have := h b (by simp); omega

theorem rfcCont_some (r : List Nat) (c : Nat) (rest : List Nat) (h : rfcCont r = some (c, rest)) :
    c < 128 ^ contLen r ∧ r = r.take (contLen r) ++ rest := by
  obtain ⟨l, _, ⟨_, hn, _⟩ | ⟨b, rest', c', _, rfl, hs, hk, hc⟩⟩ := rfcCont_split r
  · rw [hn] at h; cases h
  · rw [hs] at h
    cases h
    rw [hk, List.take_length_add_append]
    exact ⟨hc, by simp⟩

theorem lead_iff (r : List Nat) (k : Nat) : (k ≤ r.length ∧ ∀ b ∈ r.take k, 128 ≤ b) ↔
    if (rfcCont r).isSome then k < contLen r else k ≤ contLen r := by
  obtain ⟨l, hl, ⟨rfl, hn, hk⟩ | ⟨b, rest, c, hb, rfl, hs, hk, _⟩⟩ := rfcCont_split r
  · rw [hn, hk]
    exact ⟨fun h => h.1, fun h => ⟨h, fun b hb => hl b (List.mem_of_mem_take hb)⟩⟩
  · rw [hs, hk]
    simp only [Option.isSome_some, if_true, Nat.lt_succ_iff]
    constructor
    · rintro ⟨_, h⟩
      -- otherwise the octet `b` below 128 is among the first `k`
      refine Nat.le_of_not_lt fun hlt => ?_
      obtain ⟨j, rfl⟩ : ∃ j, k = l.length + (j + 1) := ⟨k - l.length - 1, by omega⟩
      have := h b (by rw [List.take_length_add_append]; simp)
      omega
    · intro h
      refine ⟨by rw [List.length_append]; omega, fun x hx => ?_⟩
      rw [List.take_append_of_le_length h] at hx
      exact hl x (List.mem_of_mem_take hx)

theorem contLen_pos (r : List Nat) (h : r ≠ []) : 1 ≤ contLen r := by
  cases r with
  | nil => exact absurd rfl h
  | cons b r => simp only [contLen]; split <;> omega

/-- `i` continuation octets are read and gave `acc`; the loop gives up at `9 = MAX_POWER / 7` of them -/
theorem decLoop_eq (f : Nat) : ∀ (r : List Nat) (i acc : Nat), (∀ b ∈ r.take (contLen r), b < 256) → i ≤ 8 →
    decLoop f acc (7 * i) r =
      match rfcCont r with
      | some (c, rest) => if contLen r + i ≤ 9 then .ok f (acc + c * 2 ^ (7 * i)) rest else .overflow
      | none => if contLen r + i < 9 then .endOf else .overflow := by
  intro r
  induction r with
  | nil => intro i acc _ hi; simp [decLoop_nil, rfcCont, contLen]; omega
  | cons b r ih =>
    intro i acc hwf hi
    by_cases hlt : b < 128
    · rw [decLoop_cons_wf _ _ _ _ _ (by omega) hi]
      simp only [if_pos hlt, rfcCont_lt b r hlt, contLen]; rw [if_pos (by omega)]
    · simp only [contLen, if_neg hlt, Nat.add_comm 1, List.take_succ_cons] at hwf
      have hb : b < 256 := hwf b (List.mem_cons_self ..)
      have hwf' : ∀ x ∈ r.take (contLen r), x < 256 := fun x hx => hwf x (List.mem_cons_of_mem _ hx)
      rw [decLoop_cons_wf _ _ _ _ _ hb hi]
      -- the octet `b` counts on the side of the octets read
      simp only [if_neg hlt, contLen, show 1 + contLen r + i = contLen r + (i + 1) by omega]
      by_cases h8 : i = 8
      · rw [if_pos h8]
        cases hr : rfcCont r with
        | none => simp only [rfcCont_ge_none b r hlt hr]; rw [if_neg (by omega)]
        | some p =>
          have := contLen_pos r (by rintro rfl; simp [rfcCont] at hr)
          simp only [rfcCont_ge_some b r hlt p.1 p.2 hr]; rw [if_neg (by omega)]
      · rw [if_neg h8, ih (i + 1) _ hwf' (by omega)]
        cases hr : rfcCont r with
        | none => simp only [rfcCont_ge_none b r hlt hr]
        | some p => simp only [rfcCont_ge_some b r hlt p.1 p.2 hr, acc_step']

theorem rfcCont_encLoop (rest : List Nat) (x : Nat) : rfcCont (encLoop x ++ rest) = some (x, rest) := by
  induction x using Nat.strongRecOn with
  | _ x ih =>
    by_cases h : x < 128
    · rw [encLoop_lt h, List.singleton_append, rfcCont_lt _ _ h]
    · have hge : ¬ x % 128 + 128 < 128 := by omega
      rw [encLoop_ge (by omega), List.cons_append, rfcCont_ge_some _ _ hge _ _ (ih (x / 128) (by omega))]
      congr 2; omega

/-- `encLoop x` has as many octets as `x` has base-128 digits -/
theorem contLen_encLoop (rest : List Nat) : ∀ (k x : Nat),
    contLen (encLoop x ++ rest) ≤ k + 1 ↔ x < 128 ^ (k + 1) := by
  intro k
  induction k with
  | zero =>
    intro x
    by_cases h : x < 128
    · rw [encLoop_lt h, List.singleton_append]; simp [contLen, h]
    · have hge : ¬ x % 128 + 128 < 128 := by omega
      have := contLen_pos (encLoop (x / 128) ++ rest) (by rw [encLoop_eq]; split <;> simp)
      rw [encLoop_ge (by omega), List.cons_append]
      simp only [contLen, if_neg hge]; omega
  | succ k ih =>
    intro x
    have hp := Nat.one_le_pow (k + 1) 128 (by decide)
    by_cases h : x < 128
    · rw [encLoop_lt h, List.singleton_append]
      simp only [contLen, if_pos h, Nat.pow_succ]; omega
    · have hge : ¬ x % 128 + 128 < 128 := by omega
      rw [encLoop_ge (by omega), List.cons_append]
      simp only [contLen, if_neg hge]
      rw [Nat.add_comm 1, Nat.add_le_add_iff_right, ih (x / 128), Nat.div_lt_iff_lt_mul (by decide), ← Nat.pow_succ]

theorem mul_pow_or (a b n : Nat) (h : b < 2 ^ n) : a * 2 ^ n ||| b = a * 2 ^ n + b := by
  rw [← Nat.shiftLeft_eq, Nat.shiftLeft_add_eq_or_of_lt h]

theorem decode?_nil (n : Nat) (hn8 : n ≤ 8) : decode? n [] = some .endOf := by
  simp [decode?]; omega

/-- `0xFF >> (8 - size)` is the all-ones prefix, for the eight sizes -/
theorem mask_eq : ∀ n, n ≤ 8 → 255 / 2 ^ (8 - n) = 2 ^ n - 1 := by decide

theorem decode?_cons (n first : Nat) (r : List Nat) (hn1 : 1 ≤ n) (hn8 : n ≤ 8)
    (hf : first < 256) :
    decode? n (first :: r) =
      some (if first % 2 ^ n < 2 ^ n - 1 then .ok (first / 2 ^ n) (first % 2 ^ n) r
            else decLoop (first / 2 ^ n) (2 ^ n - 1) 0 r) := by
  have h : first / 2 ^ n % 256 = first / 2 ^ n :=
    Nat.mod_eq_of_lt (Nat.lt_of_le_of_lt (Nat.div_le_self _ _) hf)
  have hpos := Nat.two_pow_pos n
  simp only [decode?, if_neg (show ¬ n > 8 by omega), if_neg (show ¬ n = 0 by omega), mask_eq n hn8, h,
    show 2 ^ n - 1 + 1 = 2 ^ n by omega]
  split <;> rfl

theorem decode_of_decode? {n : Nat} {bs : List Nat} {x : Res} (h : decode? n bs = some x) :
    decode n bs = x := by
  simp [decode, h]

theorem decode_nil (n : Nat) (hn8 : n ≤ 8) : decode n [] = .endOf :=
  decode_of_decode? (decode?_nil n hn8)

theorem rfcDecode_nil (n : Nat) : rfcDecode n [] = none := by simp [rfcDecode]

theorem decode?_eq (n first : Nat) (r : List Nat) (hn1 : 1 ≤ n) (hn8 : n ≤ 8)
    (hb : first < 256) (hwf : ∀ b ∈ r.take (contLen r), b < 256) :
    decode? n (first :: r) = some (
      if first % 2 ^ n < 2 ^ n - 1 then .ok (first / 2 ^ n) (first % 2 ^ n) r
      else match rfcCont r with
        | some (c, rest) => if contLen r ≤ 9 then .ok (first / 2 ^ n) (2 ^ n - 1 + c) rest else .overflow
        | none => if contLen r < 9 then .endOf else .overflow) := by
  rw [decode?_cons n first r hn1 hn8 hb, show (0 : Nat) = 7 * 0 from rfl, decLoop_eq _ r 0 _ hwf (by omega)]
  simp only [Nat.mul_zero, Nat.pow_zero, Nat.mul_one, Nat.add_zero]

theorem rfcDecode_cons (n first : Nat) (r : List Nat) :
    rfcDecode n (first :: r) =
      if first % 2 ^ n < 2 ^ n - 1 then some (first % 2 ^ n, r)
      else match rfcCont r with
        | none => none
        | some (v, rest) => some (2 ^ n - 1 + v, rest) := rfl

theorem decode_cons (n first : Nat) (r : List Nat) (hn1 : 1 ≤ n) (hn8 : n ≤ 8)
    (hwf : ∀ b ∈ first :: r, b < 256) :
    decode n (first :: r) =
      if first % 2 ^ n < 2 ^ n - 1 then .ok (first / 2 ^ n) (first % 2 ^ n) r
      else match rfcCont r with
        | some (c, rest) => if contLen r ≤ 9 then .ok (first / 2 ^ n) (2 ^ n - 1 + c) rest else .overflow
        | none => if contLen r < 9 then .endOf else .overflow :=
  decode_of_decode? (decode?_eq n first r hn1 hn8 (hwf first (List.mem_cons_self ..))
    (fun b hb => hwf b (List.mem_cons_of_mem _ (List.mem_of_mem_take hb))))

theorem rfcDecode_cons_none (n first : Nat) (r : List Nat) :
    rfcDecode n (first :: r) = none ↔ ¬ first % 2 ^ n < 2 ^ n - 1 ∧ rfcCont r = none := by
  rw [rfcDecode_cons]
  split
  · simp [*]
  · cases rfcCont r <;> simp [*]

/-- `decode_cons` read from the two errors: both need a saturated prefix; `.endOf` is the continuation octets
    running out before the loop gives up, `.overflow` nine of them that each announce a further one -/
theorem decode_cons_err (n first : Nat) (r : List Nat) (hn1 : 1 ≤ n) (hn8 : n ≤ 8)
    (hwf : ∀ b ∈ first :: r, b < 256) :
    (decode n (first :: r) = .endOf ↔ ¬ first % 2 ^ n < 2 ^ n - 1 ∧ rfcCont r = none ∧ contLen r < 9) ∧
    (decode n (first :: r) = .overflow ↔
      ¬ first % 2 ^ n < 2 ^ n - 1 ∧ 9 ≤ r.length ∧ ∀ b ∈ r.take 9, 128 ≤ b) := by
  rw [decode_cons n first r hn1 hn8 hwf, lead_iff r 9]
  split
  · simp [*]
  · cases rfcCont r with
    | none => by_cases h : contLen r < 9 <;> simp [*] <;> omega
    | some p => by_cases h : contLen r ≤ 9 <;> simp [*] <;> omega

theorem pow_63 : (2 : Nat) ^ 63 = 128 ^ 9 := by decide

theorem two_pow_le_256 {n : Nat} (hn8 : n ≤ 8) : 2 ^ n ≤ 256 :=
  Nat.pow_le_pow_right (by decide) hn8

theorem decode_sound (n : Nat) (hn1 : 1 ≤ n) (hn8 : n ≤ 8) (bs : List Nat)
    (hwf : ∀ b ∈ bs, b < 256) (f v : Nat) (rest : List Nat) (h : decode n bs = .ok f v rest) :
    rfcDecode n bs = some (v, rest) ∧ v < 2 ^ 64 ∧ v - (2 ^ n - 1) < 2 ^ 63 ∧
    ∃ first r, bs = first :: r ∧ f = first / 2 ^ n := by
  have h256 := two_pow_le_256 hn8
  cases bs with
  | nil => rw [decode_nil n hn8] at h; cases h
  | cons first r =>
    rw [decode_cons n first r hn1 hn8 hwf] at h
    rw [rfcDecode_cons]
    split at h
    · rename_i hs
      cases h
      exact ⟨if_pos hs, by omega, by omega, _, _, rfl, rfl⟩
    · rename_i hs
      rw [if_neg hs]
      split at h
      · rename_i c rest' hc
        split at h
        · rename_i hlen
          cases h
          have := Nat.lt_of_lt_of_le (rfcCont_some _ _ _ hc).1 (Nat.pow_le_pow_right (by decide) hlen)
          rw [← pow_63] at this
          exact ⟨by simp only [hc], by omega, by omega, _, _, rfl, rfl⟩
        · cases h
      · split at h <;> cases h

theorem flags_lt {n first : Nat} (hn8 : n ≤ 8) (hb : first < 256) : first / 2 ^ n < 2 ^ (8 - n) := by
  rw [Nat.div_lt_iff_lt_mul (Nat.two_pow_pos n), ← Nat.pow_add, show 8 - n + n = 8 by omega]
  exact hb

/-- the flags of a string literal with the `H` bit appended are flags of its length prefix, one bit shorter -/
theorem strFlags_lt {n flags : Nat} (hn2 : 2 ≤ n) (hn8 : n ≤ 8) (hf : flags < 2 ^ (8 - n)) :
    2 * flags + 1 < 2 ^ (8 - (n - 1)) := by
  rw [show 8 - (n - 1) = (8 - n) + 1 by omega, Nat.pow_succ]; omega

theorem flags_shift_add_le {n flags : Nat} (hn8 : n ≤ 8) (hf : flags < 2 ^ (8 - n)) :
    flags * 2 ^ n + 2 ^ n ≤ 256 := by
  have h1 : 2 ^ (8 - n) * 2 ^ n = 256 := by
    rw [← Nat.pow_add, show 8 - n + n = 8 by omega]
  have h2 : (flags + 1) * 2 ^ n ≤ 2 ^ (8 - n) * 2 ^ n := Nat.mul_le_mul_right _ hf
  rw [Nat.succ_mul] at h2
  omega

theorem first_div (a w n : Nat) (h : w < 2 ^ n) : (a * 2 ^ n + w) / 2 ^ n = a := by
  rw [Nat.add_comm, Nat.add_mul_div_right _ _ (Nat.two_pow_pos n), Nat.div_eq_of_lt h,
    Nat.zero_add]

/-- `encode?` with the `u8` truncations and the bit-ORs resolved. -/
theorem encode?_eq (n flags v : Nat) (hn8 : n ≤ 8) (hf : flags < 2 ^ (8 - n)) :
    encode? n flags v =
      some (if v < 2 ^ n - 1 then [flags * 2 ^ n + v]
            else (flags * 2 ^ n + (2 ^ n - 1)) :: encLoop (v - (2 ^ n - 1))) := by
  have hpos := Nat.two_pow_pos n
  have hfl := flags_shift_add_le hn8 hf
  have hm : (2 ^ n - 1) % 256 = 2 ^ n - 1 := Nat.mod_eq_of_lt (by omega)
  have hfm : flags * 2 ^ n % 256 = flags * 2 ^ n := Nat.mod_eq_of_lt (by omega)
  unfold encode?
  rw [if_neg (by omega)]
  simp only [hm, hfm]
  by_cases h : v < 2 ^ n - 1
  · rw [if_pos h, if_pos h, mul_pow_or _ _ _ (by omega)]
  · rw [if_neg h, if_neg h, Nat.or_comm, mul_pow_or _ _ _ (by omega)]

theorem encode_eq (n flags v : Nat) (hn8 : n ≤ 8) (hf : flags < 2 ^ (8 - n)) :
    encode n flags v =
      if v < 2 ^ n - 1 then [flags * 2 ^ n + v]
      else (flags * 2 ^ n + (2 ^ n - 1)) :: encLoop (v - (2 ^ n - 1)) := by
  simp [encode, encode?_eq n flags v hn8 hf]

theorem encode_bytes (n flags v : Nat) (hn8 : n ≤ 8) (hf : flags < 2 ^ (8 - n)) :
    ∀ b ∈ encode n flags v, b < 256 := by
  have hpos := Nat.two_pow_pos n
  have hfl := flags_shift_add_le hn8 hf
  rw [encode_eq n flags v hn8 hf]
  intro b hb
  by_cases h : v < 2 ^ n - 1
  · rw [if_pos h] at hb
    rcases List.mem_cons.mp hb with rfl | hb
    · omega
    · cases hb
  · rw [if_neg h] at hb
    rcases List.mem_cons.mp hb with rfl | hb
    · omega
    · exact encLoop_bytes _ b hb

theorem encode_head (n flags v : Nat) (hn8 : n ≤ 8) (hf : flags < 2 ^ (8 - n)) :
    ∃ first t, encode n flags v = first :: t ∧ first / 2 ^ n = flags := by
  have hpos := Nat.two_pow_pos n
  rw [encode_eq n flags v hn8 hf]
  by_cases h : v < 2 ^ n - 1
  · exact ⟨_, _, if_pos h, first_div _ _ _ (by omega)⟩
  · exact ⟨_, _, if_neg h, first_div _ _ _ (by omega)⟩

theorem rfcDecode_encode (n flags v : Nat) (hn8 : n ≤ 8) (hf : flags < 2 ^ (8 - n)) (rest : List Nat) :
    rfcDecode n (encode n flags v ++ rest) = some (v, rest) := by
  have hpos := Nat.two_pow_pos n
  rw [encode_eq n flags v hn8 hf]
  by_cases h : v < 2 ^ n - 1
  · rw [if_pos h, List.singleton_append, rfcDecode_cons, Nat.mul_add_mod_of_lt (by omega), if_pos h]
  · rw [if_neg h, List.cons_append, rfcDecode_cons, Nat.mul_add_mod_of_lt (by omega), if_neg (by omega), rfcCont_encLoop]
    simp only [show 2 ^ n - 1 + (v - (2 ^ n - 1)) = v by omega]

theorem decode?_encode_eq (n flags v : Nat) (hn1 : 1 ≤ n) (hn8 : n ≤ 8) (hf : flags < 2 ^ (8 - n))
    (rest : List Nat) :
    decode? n (encode n flags v ++ rest) =
      some (if v - (2 ^ n - 1) < 2 ^ 63 then .ok flags v rest else .overflow) := by
  have hpos := Nat.two_pow_pos n
  have hfl := flags_shift_add_le hn8 hf
  rw [encode_eq n flags v hn8 hf]
  by_cases h : v < 2 ^ n - 1
  · have hv' : v < 2 ^ n := by omega
    rw [if_pos h, List.singleton_append, decode?_cons n _ rest hn1 hn8 (by omega), Nat.mul_add_mod_of_lt hv',
      first_div _ _ _ hv', if_pos h, if_pos (by have := Nat.two_pow_pos 63; omega)]
  · have hm : 2 ^ n - 1 < 2 ^ n := by omega
    have hc := rfcCont_encLoop rest (v - (2 ^ n - 1))
    -- the continuation octets read are those of `encLoop`, whatever `rest` holds
    have htake := List.append_cancel_right ((rfcCont_some _ _ _ hc).2.symm)
    have hlen := contLen_encLoop rest 8 (v - (2 ^ n - 1))
    rw [← pow_63] at hlen
    rw [if_neg h, List.cons_append, decode?_eq n _ _ hn1 hn8 (by omega) (by rw [htake]; exact encLoop_bytes _),
      Nat.mul_add_mod_of_lt hm, first_div _ _ _ hm, if_neg (by omega)]
    simp only [hc]
    by_cases hv : v - (2 ^ n - 1) < 2 ^ 63
    · rw [if_pos (hlen.mpr hv), if_pos hv, show 2 ^ n - 1 + (v - (2 ^ n - 1)) = v by omega]
    · rw [if_neg (fun hc => hv (hlen.mp hc)), if_neg hv]

theorem decode_encode (n flags v : Nat) (hn1 : 1 ≤ n) (hn8 : n ≤ 8) (hf : flags < 2 ^ (8 - n))
    (hv : v - (2 ^ n - 1) < 2 ^ 63) (rest : List Nat) :
    decode n (encode n flags v ++ rest) = .ok flags v rest :=
  decode_of_decode? (by rw [decode?_encode_eq n flags v hn1 hn8 hf rest, if_pos hv])

theorem decLoop_ok (f : Nat) : ∀ (r : List Nat) (v p f' v' : Nat) (rest : List Nat),
    decLoop f v p r = .ok f' v' rest → f' = f ∧ ∃ pre, pre ≠ [] ∧ r = pre ++ rest := by
  intro r
  induction r with
  | nil => intro v p f' v' rest h; simp [decLoop] at h
  | cons b r ih =>
    intro v p f' v' rest h
    unfold decLoop at h
    simp only at h
    split at h
    · injection h with h1 _ h3
      exact ⟨h1.symm, [b], by simp, by simp [h3]⟩
    · split at h
      · cases h
      · obtain ⟨hf, pre, _, hp⟩ := ih _ _ _ _ _ h
        exact ⟨hf, b :: pre, by simp, by simp [hp]⟩

theorem decode_suffix (n : Nat) (bs : List Nat) (f v : Nat) (rest : List Nat)
    (h : decode n bs = .ok f v rest) : ∃ pre, pre ≠ [] ∧ bs = pre ++ rest := by
  unfold decode decode? at h
  split at h
  · simp at h
  · cases bs with
    | nil => simp at h
    | cons first r =>
      simp only at h
      split at h
      · simp at h
      · split at h
        · simp only [Option.getD_some] at h
          injection h with _ _ h3
          exact ⟨[first], by simp, by simp [h3]⟩
        · simp only [Option.getD_some] at h
          obtain ⟨_, pre, _, hp⟩ := decLoop_ok _ _ _ _ _ _ _ h
          exact ⟨first :: pre, by simp, by simp [hp]⟩

end H3.PrefixInt
