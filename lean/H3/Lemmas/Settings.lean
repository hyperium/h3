import H3.Model.Settings
import H3.Model.Config
import H3.Spec.Settings
import H3.Lemmas.VarintSpec
import H3.Lemmas.SettingsEnc
import H3.Lemmas.Frame
/-! For C13: `Settings::decode` against the RFC parse of the same bytes (through `step` and `foldPairs`),
    the model's identifier lists against the specification's, `Settings::get` after a decode, and
    `TryFrom<Config>` as a sequence of inserts. -/
namespace H3.Settings
open H3.Varint H3.Gen.Consts H3.Gen.Settings

theorem wf_of_append_right {a b : Bytes} (h : WF (a ++ b)) : WF b := (WF_append_iff.mp h).2

theorem encode_wf (x : Nat) (hx : x < 2^62) : WF (encode x) :=
  (H3.Varint.decode_encode x hx []).2.2

theorem writeVar_big (x : Nat) (hx : ¬ x < 2^62) : writeVar x = none := writeVar_none x hx

theorem encPairs_wf (ps : List (Nat × Nat)) (h : Fits ps) : WF (encPairs ps) := by
  induction ps with
  | nil => exact List.forall_mem_nil _
  | cons p r ih =>
    obtain ⟨id, v⟩ := p
    obtain ⟨⟨h1, h2⟩, hr⟩ := fits_cons.mp h
    exact WF_append_iff.2 ⟨WF_append_iff.2 ⟨encode_wf id h1, encode_wf v h2⟩, ih hr⟩

theorem encPairs_append (a b : List (Nat × Nat)) : encPairs (a ++ b) = encPairs a ++ encPairs b := by
  induction a with
  | nil => rfl
  | cons p r ih => obtain ⟨id, v⟩ := p; simp [encPairs, ih]

open H3.Spec.Settings (parse parseFuel)

theorem parseFuel_nil (f : Nat) : parseFuel f [] = some [] := by
  cases f <;> rfl

theorem parseFuel_succ (f : Nat) (bs : Bytes) (h : bs ≠ []) :
    parseFuel (f+1) bs =
      match H3.Frame.rfc2 bs with
      | none => none
      | some (id, v, r2) =>
        match parseFuel f r2 with
        | none => none
        | some ps => some ((id, v) :: ps) := by
  cases bs with
  | nil => exact absurd rfl h
  | cons b t =>
    rw [parseFuel, H3.Frame.rfc2]
    cases rfcDecode (b :: t) with
    | none => rfl
    | some p1 =>
      obtain ⟨id, r1⟩ := p1
      simp only
      cases rfcDecode r1 <;> rfl

/-- the payload parsers of the two specifications (`Spec.Framing.pairs` behind the output judgement,
    `parseFuel` here) are one function, up to where the fuel is counted -/
theorem pairs_succ_eq_parseFuel (f : Nat) (bs : Bytes) :
    H3.Spec.Framing.pairs (f + 1) bs = parseFuel f bs := by
  induction f generalizing bs with
  | zero =>
    cases bs with
    | nil => rfl
    | cons b t =>
      rw [H3.Spec.Framing.pairs, if_neg (List.cons_ne_nil b t)]
      show _ = none
      cases rfcDecode (b :: t) with
      | none => rfl
      | some x =>
        obtain ⟨id, r1⟩ := x
        simp only
        cases rfcDecode r1 <;> rfl
  | succ f ih =>
    cases bs with
    | nil => rfl
    | cons b t =>
      rw [H3.Spec.Framing.pairs, if_neg (List.cons_ne_nil b t), parseFuel]
      cases rfcDecode (b :: t) with
      | none => rfl
      | some x =>
        obtain ⟨id, r1⟩ := x
        simp only
        cases rfcDecode r1 with
        | none => rfl
        | some y =>
          obtain ⟨v, r2⟩ := y
          simp only [ih]
          cases parseFuel f r2 <;> rfl

theorem parseFuel_encPairs (ps : List (Nat × Nat)) (h : Fits ps) (f : Nat) (hf : ps.length ≤ f) :
    parseFuel f (encPairs ps) = some ps := by
  rw [← pairs_succ_eq_parseFuel, ← H3.WriteBuf.pairsWire_eq]
  exact H3.Spec.Output.pairs_pairsWire ps h (f + 1) (by omega)

theorem parse_encPairs (ps : List (Nat × Nat)) (h : Fits ps) : parse (encPairs ps) = some ps := by
  unfold parse
  apply parseFuel_encPairs ps h
  rw [encPairs_length ps h]
  have := sizePairs_ge ps
  omega

theorem hasId_false {s : Settings} {id : Nat} (h : ∀ e ∈ s.entries, e.1 ≠ id) : hasId s id = false := by
  unfold hasId
  rw [List.any_eq_false]
  intro e he
  simpa using h e he

theorem hasId_true {s : Settings} {id : Nat} (h : ∃ e ∈ s.entries, e.1 = id) : hasId s id = true := by
  unfold hasId
  rw [List.any_eq_true]
  obtain ⟨e, he, h⟩ := h
  exact ⟨e, he, by simpa using h⟩

theorem nodup_ids_snoc {l : List (Nat × Nat)} {p : Nat × Nat} :
    ((l ++ [p]).map (·.1)).Nodup ↔ (l.map (·.1)).Nodup ∧ ∀ e ∈ l, e.1 ≠ p.1 := by
  rw [List.map_append, List.nodup_append]
  constructor
  · rintro ⟨h, _, hd⟩
    exact ⟨h, fun e he heq => hd e.1 (List.mem_map_of_mem he) p.1 (by simp) heq⟩
  · rintro ⟨h, hn⟩
    refine ⟨h, by simp, fun a ha b hb => ?_⟩
    simp at hb; subst hb
    obtain ⟨e, he, rfl⟩ := List.mem_map.mp ha
    exact hn e he

theorem insert_eq (s : Settings) (id v : Nat) (hlen : s.entries.length < SETTINGS_LEN) (hid : id < 2^62) :
    insert s id v = if v ≥ 2^62 then .error (.invalidSettingValue id v)
      else if hasId s id then .error (.repeated id) else .ok ⟨s.entries ++ [(id, v)]⟩ := by
  unfold insert
  rw [if_neg (Nat.not_le.mpr hlen), if_neg (Nat.not_le.mpr hid)]

theorem insert_ok_iff {s s' : Settings} {id v : Nat} :
    insert s id v = .ok s' ↔ s.entries.length < SETTINGS_LEN ∧ id < 2^62 ∧ v < 2^62 ∧
      (∀ e ∈ s.entries, e.1 ≠ id) ∧ s' = ⟨s.entries ++ [(id, v)]⟩ := by
  constructor
  · intro h
    by_cases h1 : s.entries.length ≥ SETTINGS_LEN
    · unfold insert at h; rw [if_pos h1] at h; cases h
    by_cases h2 : id ≥ 2^62
    · unfold insert at h; rw [if_neg h1, if_pos h2] at h; cases h
    rw [insert_eq s id v (Nat.not_le.mp h1) (Nat.not_le.mp h2)] at h
    by_cases h3 : v ≥ 2^62
    · rw [if_pos h3] at h; cases h
    by_cases h4 : hasId s id = true
    · rw [if_neg h3, if_pos h4] at h; cases h
    rw [if_neg h3, if_neg h4] at h
    cases h
    exact ⟨Nat.not_le.mp h1, Nat.not_le.mp h2, Nat.not_le.mp h3, fun e he heq => h4 (hasId_true ⟨e, he, heq⟩), rfl⟩
  · rintro ⟨hlen, hid, hv, hnot, rfl⟩
    rw [insert_eq s id v hlen hid, if_neg (Nat.not_le.mpr hv), hasId_false hnot]
    rfl

/-- what one iteration of `Settings::decode` does with a pair that has been read -/
def step (s : Settings) (p : Nat × Nat) : Except SettingsError Settings :=
  if isForbidden p.1 then .error (.invalidSettingId p.1)
  else if isSupported p.1 then
    (if badValue p.1 p.2 then .error (.invalidSettingValue p.1 p.2) else insert s p.1 p.2)
  else .ok s

def foldPairs : Settings → List (Nat × Nat) → Except SettingsError Settings
  | s, [] => .ok s
  | s, p :: ps =>
    match step s p with
    | .error e => .error e
    | .ok s' => foldPairs s' ps

/-- what `decode` keeps: supported identifiers, each once -/
def Inv (s : Settings) : Prop :=
  (∀ e ∈ s.entries, isSupported e.1 = true) ∧ (s.entries.map (·.1)).Nodup

theorem inv_empty : Inv empty := by simp [Inv, empty]

/-- seven supported identifiers, eight slots: `Exceeded` is out of reach -/
theorem inv_length {s : Settings} (h : Inv s) : s.entries.length < SETTINGS_LEN := by
  have hsub : (s.entries.map (·.1)) ⊆ supportedIds := by
    intro x hx
    obtain ⟨e, he, rfl⟩ := List.mem_map.mp hx
    have := h.1 e he
    simpa [isSupported] using this
  have := List.Nodup.length_le_of_subset h.2 hsub
  simp only [List.length_map] at this
  have h7 : supportedIds.length = 7 := by decide
  simp only [SETTINGS_LEN]; omega

/-- the errors `decode` can produce, with what causes each -/
def ErrKind (e : SettingsError) : Prop :=
  e = .malformed ∨ (∃ id, e = .invalidSettingId id ∧ isForbidden id = true) ∨
  (∃ id, e = .repeated id ∧ isSupported id = true) ∨
  (∃ id v, e = .invalidSettingValue id v ∧ isSupported id = true ∧ badValue id v = true)

theorem errKind_ne_exceeded {e : SettingsError} (h : ErrKind e) : e ≠ .exceeded := by
  rcases h with rfl | ⟨id, rfl, _⟩ | ⟨id, rfl, _⟩ | ⟨id, v, rfl, _⟩ <;> simp

theorem step_spec (s : Settings) (p : Nat × Nat) (hi : Inv s) (h1 : p.1 < 2^62) (h2 : p.2 < 2^62) :
    (isForbidden p.1 = true ∧ step s p = .error (.invalidSettingId p.1)) ∨
    (isForbidden p.1 = false ∧ isSupported p.1 = false ∧ step s p = .ok s) ∨
    (isForbidden p.1 = false ∧ isSupported p.1 = true ∧ badValue p.1 p.2 = false ∧ (∃ e ∈ s.entries, e.1 = p.1) ∧
      step s p = .error (.repeated p.1)) ∨
    (isForbidden p.1 = false ∧ isSupported p.1 = true ∧ badValue p.1 p.2 = false ∧ (∀ e ∈ s.entries, e.1 ≠ p.1) ∧
      step s p = .ok ⟨s.entries ++ [p]⟩ ∧ Inv ⟨s.entries ++ [p]⟩) ∨
    (isForbidden p.1 = false ∧ isSupported p.1 = true ∧ badValue p.1 p.2 = true ∧
      step s p = .error (.invalidSettingValue p.1 p.2)) := by
  have hlen := inv_length hi
  unfold step
  by_cases hf : isForbidden p.1 = true
  · left; exact ⟨hf, by rw [if_pos hf]⟩
  · right
    have hf' : isForbidden p.1 = false := by simpa using hf
    rw [if_neg hf]
    by_cases hs : isSupported p.1 = true
    · right
      rw [if_pos hs]
      by_cases hb : badValue p.1 p.2 = true
      · right; right; exact ⟨hf', hs, hb, by rw [if_pos hb]⟩
      have hb' : badValue p.1 p.2 = false := by simpa using hb
      rw [if_neg hb]
      by_cases hin : ∃ e ∈ s.entries, e.1 = p.1
      · left; exact ⟨hf', hs, hb', hin, by rw [insert_eq s p.1 p.2 hlen h1, if_neg (Nat.not_le.mpr h2), hasId_true hin]; rfl⟩
      · right; left
        have hnot : ∀ e ∈ s.entries, e.1 ≠ p.1 := fun e he heq => hin ⟨e, he, heq⟩
        refine ⟨hf', hs, hb', hnot, insert_ok_iff.mpr ⟨hlen, h1, h2, hnot, rfl⟩, ?_, ?_⟩
        · intro e he
          rcases List.mem_append.mp he with h | h
          · exact hi.1 e h
          · simp at h; subst h; exact hs
        · exact nodup_ids_snoc.mpr ⟨hi.2, hnot⟩
    · left
      have hs' : isSupported p.1 = false := by simpa using hs
      exact ⟨hf', hs', by rw [if_neg hs]⟩

def kept (ps : List (Nat × Nat)) : List (Nat × Nat) := ps.filter (fun p => isSupported p.1)

theorem kept_cons (p : Nat × Nat) (r : List (Nat × Nat)) : kept (p :: r) = kept [p] ++ kept r :=
  List.filter_append [p] r

theorem inv_kept {s : Settings} {ps : List (Nat × Nat)} (hi : Inv s)
    (hnd : ((s.entries ++ kept ps).map (·.1)).Nodup) : Inv ⟨s.entries ++ kept ps⟩ := by
  refine ⟨fun e he => ?_, hnd⟩
  rcases List.mem_append.mp he with h | h
  · exact hi.1 e h
  · exact (List.mem_filter.mp h).2

/-- what `Settings::decode` goes through without an error once `s` is stored -/
def Accepts (s : Settings) (ps : List (Nat × Nat)) : Prop :=
  (∀ p ∈ ps, isForbidden p.1 = false) ∧
  (∀ p ∈ ps, isSupported p.1 = true → badValue p.1 p.2 = false) ∧
  ((s.entries ++ kept ps).map (·.1)).Nodup

theorem accepts_one {s : Settings} {p : Nat × Nat} :
    Accepts s [p] ↔ isForbidden p.1 = false ∧ (isSupported p.1 = true → badValue p.1 p.2 = false) ∧
      ((s.entries ++ kept [p]).map (·.1)).Nodup := by
  simp only [Accepts, List.forall_mem_cons, List.not_mem_nil, false_imp_iff, implies_true, and_true]

theorem accepts_cons {s : Settings} {p : Nat × Nat} {r : List (Nat × Nat)} :
    Accepts s (p :: r) ↔ Accepts s [p] ∧ Accepts ⟨s.entries ++ kept [p]⟩ r := by
  rw [accepts_one]
  simp only [Accepts, List.forall_mem_cons, kept_cons p r, ← List.append_assoc]
  constructor
  · rintro ⟨⟨a, a'⟩, ⟨b, b'⟩, c⟩
    refine ⟨⟨a, b, ?_⟩, a', b', c⟩
    rw [List.map_append] at c; exact (List.nodup_append.mp c).1
  · rintro ⟨⟨a, b, _⟩, a', b', c⟩; exact ⟨⟨a, a'⟩, ⟨b, b'⟩, c⟩

theorem step_char {s : Settings} {p : Nat × Nat} (hi : Inv s) (h1 : p.1 < 2^62) (h2 : p.2 < 2^62) :
    (step s p = .ok ⟨s.entries ++ kept [p]⟩ ∧ Accepts s [p]) ∨
    ∃ e, step s p = .error e ∧ ErrKind e ∧ ¬ Accepts s [p] := by
  have hk1 : isSupported p.1 = true → kept [p] = [p] := fun h => by simp [kept, h]
  have hk0 : isSupported p.1 = false → kept [p] = [] := fun h => by simp [kept, h]
  rw [accepts_one]
  rcases step_spec s p hi h1 h2 with ⟨hx, hst⟩ | ⟨hx, hs, hst⟩ | ⟨hx, hs, hb, ⟨e, he, hin⟩, hst⟩ |
    ⟨hx, hs, hb, _, hst, hi'⟩ | ⟨hx, hs, hb, hst⟩
  · exact .inr ⟨_, hst, .inr (.inl ⟨_, rfl, hx⟩), fun h => by rw [h.1] at hx; cases hx⟩
  · rw [hk0 hs, List.append_nil]
    exact .inl ⟨hst, hx, fun h => absurd (hs ▸ h) Bool.false_ne_true, hi.2⟩
  · refine .inr ⟨_, hst, .inr (.inr (.inl ⟨_, rfl, hs⟩)), fun h => ?_⟩
    rw [hk1 hs] at h
    exact (nodup_ids_snoc.mp h.2.2).2 e he hin
  · rw [hk1 hs]
    exact .inl ⟨hst, hx, fun _ => hb, hi'.2⟩
  · exact .inr ⟨_, hst, .inr (.inr (.inr ⟨_, _, rfl, hs, hb⟩)), fun h => by rw [h.2.1 hs] at hb; cases hb⟩

theorem foldPairs_char {s : Settings} {ps : List (Nat × Nat)} (hi : Inv s) (hf : Fits ps) :
    (foldPairs s ps = .ok ⟨s.entries ++ kept ps⟩ ∧ Accepts s ps) ∨
    ∃ e, foldPairs s ps = .error e ∧ ErrKind e ∧ ¬ Accepts s ps := by
  induction ps generalizing s with
  | nil => exact .inl ⟨by simp [foldPairs, kept], nofun, nofun, by simpa [kept] using hi.2⟩
  | cons p r ih =>
    obtain ⟨⟨h1, h2⟩, hr⟩ := fits_cons.mp hf
    rcases step_char hi h1 h2 with ⟨hst, a⟩ | ⟨e, hst, hk, hna⟩
    · simp only [foldPairs, hst, kept_cons p r, ← List.append_assoc]
      rcases ih (inv_kept hi a.2.2) hr with ⟨hfr, a'⟩ | ⟨e, hfr, hk, hna⟩
      · exact .inl ⟨hfr, accepts_cons.mpr ⟨a, a'⟩⟩
      · exact .inr ⟨e, hfr, hk, fun h => hna (accepts_cons.mp h).2⟩
    · simp only [foldPairs, hst]
      exact .inr ⟨e, rfl, hk, fun h => hna (accepts_cons.mp h).1⟩

theorem foldPairs_ok (s : Settings) (ps : List (Nat × Nat)) (hi : Inv s) (hf : Fits ps)
    (hnf : ∀ p ∈ ps, isForbidden p.1 = false)
    (hnb : ∀ p ∈ ps, isSupported p.1 = true → badValue p.1 p.2 = false)
    (hnd : ((s.entries ++ kept ps).map (·.1)).Nodup) :
    foldPairs s ps = .ok ⟨s.entries ++ kept ps⟩ := by
  rcases foldPairs_char hi hf with ⟨h, _⟩ | ⟨e, _, _, hna⟩
  · exact h
  · exact absurd ⟨hnf, hnb, hnd⟩ hna

theorem foldPairs_err (s : Settings) (ps : List (Nat × Nat)) (hi : Inv s) (hf : Fits ps)
    (h : (∃ p ∈ ps, isForbidden p.1 = true) ∨ ¬ ((s.entries ++ kept ps).map (·.1)).Nodup ∨
      (∃ p ∈ ps, isSupported p.1 = true ∧ badValue p.1 p.2 = true)) :
    ∃ e, foldPairs s ps = .error e ∧ ErrKind e := by
  rcases foldPairs_char hi hf with ⟨_, a, b, c⟩ | ⟨e, he, hk, _⟩
  · rcases h with ⟨p, hp, hx⟩ | h | ⟨p, hp, hs, hb⟩
    · rw [a p hp] at hx; cases hx
    · exact absurd c h
    · rw [b p hp hs] at hb; cases hb
  · exact ⟨e, he, hk⟩

theorem readEntry_eq (bs : Bytes) (hwf : WF bs) : readEntry bs = H3.Frame.rfc2 bs := by
  unfold readEntry H3.Frame.rfc2
  rw [decode_of_rfc bs hwf]
  cases h1 : rfcDecode bs with
  | none => simp only; split <;> rfl
  | some p1 =>
    obtain ⟨id, r1⟩ := p1
    simp only
    rw [decode_of_rfc r1 (rfcDecode_wf h1 hwf)]
    cases h2 : rfcDecode r1 with
    | none => simp only; split <;> rfl
    | some p2 =>
      obtain ⟨v, r2⟩ := p2
      have := (H3.Frame.rfc2_facts hwf (H3.Frame.rfc2_some h1 h2)).2.2.2.1
      simp only
      rw [if_neg (by omega)]

theorem decodeLoop_succ (f : Nat) (s : Settings) (bs : Bytes) (h : bs ≠ []) :
    decodeLoop (f+1) s bs =
      match readEntry bs with
      | none => .error .malformed
      | some (id, v, rest) =>
        match step s (id, v) with
        | .error e => .error e
        | .ok s' => decodeLoop f s' rest := by
  have hne : bs.isEmpty = false := by cases bs <;> simp_all
  -- `step` is the loop body once the entry is read; the cases below are its tests in order
  simp only [decodeLoop, hne, step]
  cases readEntry bs with
  | none => rfl
  | some t =>
    obtain ⟨id, v, rest⟩ := t
    simp only [Bool.false_eq_true, if_false]
    by_cases hf : isForbidden id = true
    · simp [hf]
    · by_cases hs : isSupported id = true
      · simp only [hf, hs, if_true, if_false, Bool.false_eq_true]
        by_cases hb : badValue id v = true
        · simp [hb]
        · simp only [hb, if_false, Bool.false_eq_true]
          cases insert s id v <;> rfl
      · simp only [hf, hs, if_false, Bool.false_eq_true]

/-- `Settings::decode`'s loop against the RFC parse of the same bytes. -/
theorem decodeLoop_spec (f : Nat) (s : Settings) (bs : Bytes) (hwf : WF bs) (hlen : bs.length ≤ f)
    (hi : Inv s) :
    match parseFuel f bs with
    | some ps => Fits ps ∧ decodeLoop f s bs = foldPairs s ps
    | none => ∃ e, decodeLoop f s bs = .error e ∧ ErrKind e := by
  induction f generalizing s bs with
  | zero =>
    have : bs = [] := by cases bs <;> simp_all
    subst this
    simp [parseFuel, decodeLoop, foldPairs, fits_nil]
  | succ f ih =>
    by_cases hne : bs = []
    · subst hne
      simp [parseFuel_nil, decodeLoop, foldPairs, fits_nil]
    · rw [parseFuel_succ f bs hne, decodeLoop_succ f s bs hne, readEntry_eq bs hwf]
      cases hr : H3.Frame.rfc2 bs with
      | none => exact ⟨_, rfl, Or.inl rfl⟩
      | some t =>
        obtain ⟨id, v, r2⟩ := t
        obtain ⟨b1, b2, hwf2, hl2, _⟩ := H3.Frame.rfc2_facts hwf hr
        -- both loops stop at an error of `step` and go on with its result otherwise
        rcases step_char (p := (id, v)) hi b1 b2 with ⟨hst, ha⟩ | ⟨e, hst, hk, _⟩
        · have := ih _ r2 hwf2 (by omega) (inv_kept hi ha.2.2)
          simp only [hst]
          cases h3 : parseFuel f r2 with
          | none => rw [h3] at this; exact this
          | some ps =>
            rw [h3] at this
            exact ⟨fits_cons.mpr ⟨⟨b1, b2⟩, this.1⟩, by simp only [foldPairs, hst, this.2]⟩
        · simp only [hst]
          cases h3 : parseFuel f r2 with
          | none => exact ⟨e, rfl, hk⟩
          | some ps =>
            -- only `Fits ps` is wanted of `ih`: any state with `Inv` serves, `s` is at hand
            have := ih s r2 hwf2 (by omega) hi
            rw [h3] at this
            exact ⟨fits_cons.mpr ⟨⟨b1, b2⟩, this.1⟩, by simp only [foldPairs, hst]⟩

theorem decode_spec (bs : Bytes) (hwf : WF bs) :
    match parse bs with
    | some ps => Fits ps ∧ decode bs = foldPairs empty ps
    | none => ∃ e, decode bs = .error e ∧ ErrKind e :=
  decodeLoop_spec bs.length empty bs hwf (Nat.le_refl _) inv_empty

/-- `Settings::decode` against the RFC parse of the same bytes, for both outcomes (what `C13_recv_settings`
    and `C13_received_settings_agree_with_oracle` are read off) -/
theorem decode_char (bs : Bytes) (hwf : WF bs) :
    match decode bs with
    | .ok s => ∃ ps, parse bs = some ps ∧ Accepts empty ps ∧ s = ⟨kept ps⟩
    | .error e => ErrKind e ∧ ∀ ps, parse bs = some ps → ¬ Accepts empty ps := by
  have hspec := decode_spec bs hwf
  cases hp : parse bs with
  | none =>
    rw [hp] at hspec
    obtain ⟨e, h1, h2⟩ := hspec
    rw [h1]; exact ⟨h2, nofun⟩
  | some ps =>
    rw [hp] at hspec
    rw [hspec.2]
    rcases foldPairs_char inv_empty hspec.1 with ⟨h, a⟩ | ⟨e, h, hk, hna⟩
    · rw [h]; exact ⟨ps, rfl, a, rfl⟩
    · rw [h]; exact ⟨hk, fun _ e => Option.some.inj e ▸ hna⟩

open H3.Spec.Settings (reserved known occurrences hasReserved repeatsKnown carried)

/-- the code's reserved list is the RFC's (§11.2.2) -/
theorem forbidden_eq_reserved : forbiddenIds = reserved := by decide

/-- the code's supported identifiers are the ones the specification calls understood -/
theorem supported_iff_known (id : Nat) : isSupported id = true ↔ id ∈ known := by
  -- the same seven identifiers, in another order
  have hp : supportedIds.Perm known := by decide
  simp only [isSupported, List.contains_eq_mem, decide_eq_true_eq]
  exact hp.mem_iff

theorem kept_eq_known (ps : List (Nat × Nat)) : kept ps = ps.filter (fun p => known.contains p.1) :=
  List.filter_congr fun p _ => by
    rw [Bool.eq_iff_iff, supported_iff_known]; simp

theorem hasReserved_false_iff (ps : List (Nat × Nat)) :
    hasReserved ps = false ↔ ∀ p ∈ ps, isForbidden p.1 = false := by
  simp [hasReserved, isForbidden, forbidden_eq_reserved]

/-- the identifiers `Settings::decode` tests for a value above 1 (`SettingId::is_boolean`, read from the
    source by the translator) are the ones RFC 9297 §2.1.1 / RFC 8441 §3 restrict to 0 and 1 (D-13b: on a
    source without that test the list is empty and this fails to prove) -/
theorem boolean_eq_spec : booleanIds = H3.Spec.Settings.boolean01 := by decide

theorem boolean_supported (id : Nat) (h : H3.Spec.Settings.boolean01.contains id = true) :
    isSupported id = true := by
  simp only [H3.Spec.Settings.boolean01, H3.Spec.Settings.ENABLE_CONNECT_PROTOCOL, H3.Spec.Settings.H3_DATAGRAM,
    List.contains_eq_mem, List.mem_cons, List.not_mem_nil, or_false, decide_eq_true_eq] at h
  rcases h with rfl | rfl <;> decide

theorem badValue_eq (id v : Nat) :
    badValue id v = (H3.Spec.Settings.boolean01.contains id && decide (1 < v)) := by
  simp only [badValue, isBoolean, boolean_eq_spec]

theorem badValue_false {id v : Nat} (h : id ∈ H3.Spec.Settings.boolean01 → v ≤ 1) : badValue id v = false := by
  rw [badValue_eq]
  cases hc : H3.Spec.Settings.boolean01.contains id
  · rfl
  · have := h (by simpa using hc)
    simp only [Bool.true_and, decide_eq_false_iff_not]; omega

theorem errKind_spec {e : SettingsError} (he : ErrKind e) :
    e = .malformed ∨ (∃ id ∈ reserved, e = .invalidSettingId id) ∨ (∃ id ∈ known, e = .repeated id) ∨
      (∃ id ∈ H3.Spec.Settings.boolean01, ∃ v, 1 < v ∧ e = .invalidSettingValue id v) := by
  rcases he with h | ⟨id, h, hf⟩ | ⟨id, h, hs⟩ | ⟨id, v, h, _, hb⟩
  · exact Or.inl h
  · refine Or.inr (Or.inl ⟨id, ?_, h⟩)
    rw [← forbidden_eq_reserved]; simpa [isForbidden] using hf
  · exact Or.inr (Or.inr (Or.inl ⟨id, (supported_iff_known id).mp hs, h⟩))
  · rw [badValue_eq] at hb
    simp only [Bool.and_eq_true, decide_eq_true_eq, List.contains_eq_mem] at hb
    exact Or.inr (Or.inr (Or.inr ⟨id, hb.1, v, hb.2, h⟩))

theorem hasBadFlag_false_iff (ps : List (Nat × Nat)) :
    H3.Spec.Settings.hasBadFlag ps = false ↔
      ∀ p ∈ ps, isSupported p.1 = true → badValue p.1 p.2 = false := by
  simp only [H3.Spec.Settings.hasBadFlag, List.any_eq_false, badValue_eq, Bool.not_eq_true]
  refine ⟨fun h p hp _ => h p hp, fun h p hp => ?_⟩
  by_cases hs : isSupported p.1 = true
  · exact h p hp hs
  · rw [Bool.eq_false_iff.mpr fun hc => hs (boolean_supported p.1 hc)]; rfl

theorem count_kept (ps : List (Nat × Nat)) (a : Nat) :
    List.count a ((kept ps).map (·.1)) = if isSupported a = true then occurrences ps a else 0 := by
  rw [List.count_eq_countP, List.countP_map, kept, List.countP_filter, occurrences,
    ← List.countP_eq_length_filter]
  split
  · rename_i hs
    exact List.countP_congr fun p _ => by
      simp only [Function.comp_apply, Bool.and_eq_true, beq_iff_eq]
      exact ⟨fun h => h.1 ▸ rfl, fun h => ⟨h ▸ rfl, h ▸ hs⟩⟩
  · rename_i hs
    exact List.countP_eq_zero.mpr fun p _ h => by
      simp only [Function.comp_apply, Bool.and_eq_true, beq_iff_eq] at h
      exact hs (h.1 ▸ h.2)

theorem repeatsKnown_false_iff (ps : List (Nat × Nat)) :
    repeatsKnown ps = false ↔ ((kept ps).map (·.1)).Nodup := by
  rw [List.nodup_iff_count]
  simp only [count_kept]
  unfold repeatsKnown
  rw [List.any_eq_false]
  constructor
  · intro h a
    by_cases hs : isSupported a = true
    · rw [if_pos hs]
      have := h a ((supported_iff_known a).mp hs)
      simp at this; omega
    · rw [if_neg hs]; omega
  · intro h a ha
    have hs := (supported_iff_known a).mpr ha
    have := h a
    rw [if_pos hs] at this
    simp; omega

/-- acceptable from nothing = none of the specification's three reasons for H3_SETTINGS_ERROR -/
theorem accepts_iff_spec (ps : List (Nat × Nat)) :
    Accepts empty ps ↔ (hasReserved ps || repeatsKnown ps || H3.Spec.Settings.hasBadFlag ps) = false := by
  rw [Bool.or_eq_false_iff, Bool.or_eq_false_iff, hasReserved_false_iff, hasBadFlag_false_iff,
    repeatsKnown_false_iff]
  exact ⟨fun ⟨a, b, c⟩ => ⟨⟨a, c⟩, b⟩, fun ⟨⟨a, c⟩, b⟩ => ⟨a, b, c⟩⟩

theorem get_eq_find (s : Settings) (id : Nat) (h0 : id ≠ SETTING_NONE) :
    get s id = (s.entries.find? (fun e => e.1 == id)).map (·.2) := by
  unfold get slots
  rw [List.find?_append, List.find?_replicate_of_neg (by simpa using fun h => h0 h.symm)]
  simp

theorem find_kept (ps : List (Nat × Nat)) (id : Nat) (hs : isSupported id = true) :
    ((kept ps).find? (fun e => e.1 == id)).map (·.2) = ps.lookup id := by
  induction ps with
  | nil => simp [kept]
  | cons p r ih =>
    obtain ⟨a, b⟩ := p
    unfold kept at ih ⊢
    by_cases he : a = id
    · subst he
      simp [hs]
    · have hb : (a == id) = false := by simpa using he
      have hb' : (id == a) = false := by simpa using fun h => he h.symm
      rw [List.lookup_cons, hb']
      simp only [List.filter_cons]
      split
      · simp only [List.find?_cons, hb]; exact ih
      · exact ih

theorem get_kept (ps : List (Nat × Nat)) (id : Nat) (hs : isSupported id = true) :
    get ⟨kept ps⟩ id = carried ps id := by
  have h0 : id ≠ SETTING_NONE := by
    intro h; rw [h] at hs; revert hs; decide
  rw [get_eq_find _ _ h0]
  exact find_kept ps id hs

/-- the `Settings` values the API can build: `default()` and successful `insert`s -/
inductive Reachable : Settings → Prop
  | default : Reachable empty
  | insert {s s' : Settings} {id v : Nat} : Reachable s → insert s id v = .ok s' → Reachable s'

theorem reachable_inv {s : Settings} (h : Reachable s) :
    s.entries.length ≤ SETTINGS_LEN ∧ Fits s.entries ∧ (s.entries.map (·.1)).Nodup := by
  induction h with
  | default => simp [empty, fits_nil]
  | insert hr hi ih =>
    obtain ⟨h1, h2, h3, h4, rfl⟩ := insert_ok_iff.mp hi
    obtain ⟨i1, i2, i3⟩ := ih
    exact ⟨by simp; omega, fits_append.mpr ⟨i2, by intro p hp; simp at hp; subst hp; exact ⟨h2, h3⟩⟩,
      nodup_ids_snoc.mpr ⟨i3, h4⟩⟩

theorem frameDecode_frame (payload : Bytes) (hl : payload.length < 2^62) :
    frameDecode ([FRAME_SETTINGS] ++ Varint.encode payload.length ++ payload) = some (decode payload, []) := by
  unfold frameDecode
  have h4 : Varint.decode ([FRAME_SETTINGS] ++ Varint.encode payload.length ++ payload)
      = .ok FRAME_SETTINGS (Varint.encode payload.length ++ payload) := by
    simp only [List.cons_append, List.nil_append]
    rw [decode1 _ _ (by decide)]; rfl
  rw [h4]
  simp only [ne_eq, not_true_eq_false, if_false]
  rw [(H3.Varint.decode_encode payload.length hl payload).1]
  simp

theorem kept_nodup_of_nodup {ps : List (Nat × Nat)} (h : (ps.map (·.1)).Nodup) :
    ((kept ps).map (·.1)).Nodup := by
  apply List.Nodup.sublist _ h
  exact List.Sublist.map _ List.filter_sublist

theorem decode_encPairs (s : Settings) (hr : Reachable s)
    (hnf : ∀ e ∈ s.entries, isForbidden e.1 = false)
    (hnb : ∀ e ∈ s.entries, isSupported e.1 = true → badValue e.1 e.2 = false) :
    decode (encPairs s.entries) = .ok ⟨kept s.entries⟩ := by
  obtain ⟨_, hf, hnd⟩ := reachable_inv hr
  have := decode_spec (encPairs s.entries) (encPairs_wf _ hf)
  rw [parse_encPairs _ hf] at this
  rw [this.2, foldPairs_ok empty s.entries inv_empty hf hnf hnb (by simpa [empty] using kept_nodup_of_nodup hnd)]
  simp [empty]

theorem kept_eq_self {ps : List (Nat × Nat)} (h : ∀ e ∈ ps, isSupported e.1 = true) : kept ps = ps := by
  unfold kept
  rw [List.filter_eq_self]
  exact h

theorem greaseId_reserved (n : Nat) : H3.Spec.Output.isReserved (greaseId n) = true := by
  simp [H3.Spec.Output.isReserved, greaseId, GREASE_MUL, GREASE_ADD]

theorem greaseId_not_mem {l : List Nat} (hl : ∀ y ∈ l, H3.Spec.Output.isReserved y = false) (n : Nat) :
    greaseId n ∉ l :=
  fun hm => H3.Spec.Output.reserved_ne (greaseId_reserved n) (hl _ hm) rfl

end H3.Settings

namespace H3.Config
open H3.Varint H3.Settings H3.Gen.Consts H3.Gen.Settings

/-- the entries `TryFrom<Config>` produces, in its order -/
def entriesOf (c : Config) (n : Nat) : List (Nat × Nat) :=
  (if c.grease then [(greaseId n, 0)] else []) ++
  [(SETTING_MAX_HEADER_LIST_SIZE, c.settings.mfs), (SETTING_ENABLE_CONNECT_PROTOCOL, boolVal c.settings.ec),
   (SETTING_ENABLE_WEBTRANSPORT, boolVal c.settings.wt), (SETTING_H3_DATAGRAM, boolVal c.settings.dg),
   (SETTING_WEBTRANSPORT_MAX_SESSIONS, c.settings.wts)]

theorem boolVal_lt (b : Bool) : boolVal b < 2 := by cases b <;> decide

theorem entriesOf_ids (c : Config) (n : Nat) {P : Nat → Prop} (hg : P (greaseId n))
    (h5 : ∀ id ∈ [SETTING_MAX_HEADER_LIST_SIZE, SETTING_ENABLE_CONNECT_PROTOCOL, SETTING_ENABLE_WEBTRANSPORT,
      SETTING_H3_DATAGRAM, SETTING_WEBTRANSPORT_MAX_SESSIONS], P id) : ∀ p ∈ entriesOf c n, P p.1 := by
  intro p hp
  rcases List.mem_append.mp hp with h | h
  · split at h
    · rw [List.mem_singleton.mp h]; exact hg
    · cases h
  · simp only [List.mem_cons, List.not_mem_nil, or_false] at h
    rcases h with rfl | rfl | rfl | rfl | rfl <;> exact h5 _ (by simp)

/-- a sequence of `insert(..)?` calls -/
def insertList : Settings → List (Nat × Nat) → Except SettingsError Settings
  | s, [] => pure s
  | s, (id, v) :: r => insert s id v >>= (insertList · r)

theorem insertList_cons_ok {s s' : Settings} {id v : Nat} (h : insert s id v = .ok s')
    (r : List (Nat × Nat)) : insertList s ((id, v) :: r) = insertList s' r := by
  rw [insertList, h]; rfl

theorem insertList_eq (s : Settings) (ps : List (Nat × Nat))
    (hlen : s.entries.length + ps.length ≤ SETTINGS_LEN) (hids : ∀ p ∈ ps, p.1 < 2^62)
    (hnd : ((s.entries ++ ps).map (·.1)).Nodup) :
    insertList s ps = match ps.find? (fun p => decide (p.2 ≥ 2^62)) with
      | none => .ok ⟨s.entries ++ ps⟩
      | some p => .error (.invalidSettingValue p.1 p.2) := by
  induction ps generalizing s with
  | nil => simp [insertList, pure, Except.pure]
  | cons p r ih =>
    obtain ⟨id, v⟩ := p
    simp only [List.length_cons] at hlen
    have h1 : id < 2^62 := hids (id, v) (List.mem_cons_self ..)
    by_cases h2 : v ≥ 2^62
    · rw [insertList, insert_eq s id v (by omega) h1, if_pos h2, List.find?_cons_of_pos (by exact decide_eq_true h2)]
      rfl
    · have hnot : ∀ e ∈ s.entries, e.1 ≠ id := by
        intro e he heq
        rw [List.map_append, List.nodup_append] at hnd
        exact hnd.2.2 e.1 (List.mem_map_of_mem he) id (by simp) heq
      rw [insertList_cons_ok (insert_ok_iff.mpr ⟨by omega, h1, Nat.not_le.mp h2, hnot, rfl⟩),
        ih ⟨s.entries ++ [(id, v)]⟩ (by simp; omega) (fun q hq => hids q (List.mem_cons_of_mem _ hq))
          (by simpa using hnd), List.find?_cons_of_neg (by simpa using h2)]
      simp

theorem insertList_big (s : Settings) (ps : List (Nat × Nat))
    (hlen : s.entries.length + ps.length ≤ SETTINGS_LEN) (hids : ∀ p ∈ ps, p.1 < 2^62)
    (hnd : ((s.entries ++ ps).map (·.1)).Nodup) (hbig : ∃ p ∈ ps, ¬ p.2 < 2^62) :
    ∃ id v, insertList s ps = .error (.invalidSettingValue id v) ∧ ¬ v < 2^62 := by
  obtain ⟨p, hp, hpb⟩ := hbig
  rw [insertList_eq s ps hlen hids hnd]
  cases hq : ps.find? (fun p => decide (p.2 ≥ 2^62)) with
  | none => exact absurd (List.find?_eq_none.mp hq p hp) (by simpa using hpb)
  | some q => exact ⟨q.1, q.2, rfl, by simpa using List.find?_some hq⟩

theorem insertAll_eq (s : Settings) (r : Record) :
    insertAll s r = insertList s
      [(SETTING_MAX_HEADER_LIST_SIZE, r.mfs), (SETTING_ENABLE_CONNECT_PROTOCOL, boolVal r.ec),
       (SETTING_ENABLE_WEBTRANSPORT, boolVal r.wt), (SETTING_H3_DATAGRAM, boolVal r.dg),
       (SETTING_WEBTRANSPORT_MAX_SESSIONS, r.wts)] := by
  simp only [insertAll, insertList, bind_pure]

/-- `TryFrom<Config>` is the sequence of inserts of `entriesOf`: the grease insert, when there is
    one, succeeds -/
theorem toSettings_eq (c : Config) (n : Nat) (hg : greaseId n < 2^62) :
    toSettings c n = insertList empty (entriesOf c n) := by
  unfold toSettings entriesOf
  rw [insertAll_eq]
  cases c.grease
  · rfl
  · have h := insert_ok_iff.mpr ⟨(by decide : empty.entries.length < SETTINGS_LEN), hg, (by decide : 0 < 2^62),
      (by simp [empty] : ∀ e ∈ empty.entries, e.1 ≠ greaseId n), rfl⟩
    simp only [if_true, h]
    exact (insertList_cons_ok h _).symm

theorem entriesOf_nodup (c : Config) (n : Nat) : ((entriesOf c n).map (·.1)).Nodup := by
  -- a grease identifier is none of the five (mod 31)
  have hg := greaseId_not_mem (l := [SETTING_MAX_HEADER_LIST_SIZE, SETTING_ENABLE_CONNECT_PROTOCOL,
    SETTING_ENABLE_WEBTRANSPORT, SETTING_H3_DATAGRAM, SETTING_WEBTRANSPORT_MAX_SESSIONS]) (by decide) n
  unfold entriesOf
  cases c.grease
  · simp; decide
  · simp only [if_true, List.cons_append, List.nil_append, List.map_cons, List.map_nil]
    exact List.nodup_cons.mpr ⟨hg, by decide⟩

theorem entriesOf_fits (c : Config) (n : Nat) (hm : c.settings.mfs < 2^62) (hw : c.settings.wts < 2^62)
    (hg : greaseId n < 2^62) : Fits (entriesOf c n) := by
  have hb : ∀ b, boolVal b < 2^62 := fun b => Nat.lt_trans (boolVal_lt b) (by decide)
  intro p hp
  refine ⟨entriesOf_ids c n (P := (· < 2^62)) hg (by decide) p hp, ?_⟩
  rcases List.mem_append.mp hp with h | h
  · split at h
    · rw [List.mem_singleton.mp h]; exact (by decide : 0 < 2^62)
    · cases h
  · simp only [List.mem_cons, List.not_mem_nil, or_false] at h
    rcases h with rfl | rfl | rfl | rfl | rfl
    · exact hm
    · exact hb _
    · exact hb _
    · exact hb _
    · exact hw

theorem entriesOf_length (c : Config) (n : Nat) : (entriesOf c n).length ≤ 6 := by
  unfold entriesOf; cases c.grease <;> simp

theorem toSettings_ok (c : Config) (n : Nat) (hm : c.settings.mfs < 2^62) (hw : c.settings.wts < 2^62)
    (hg : greaseId n < 2^62) : toSettings c n = .ok ⟨entriesOf c n⟩ := by
  have hl := entriesOf_length c n
  have hf := entriesOf_fits c n hm hw hg
  rw [toSettings_eq c n hg, insertList_eq empty _ (by simp only [SETTINGS_LEN, empty, List.length_nil]; omega)
    (fun p hp => (hf p hp).1) (entriesOf_nodup c n), List.find?_eq_none.mpr fun p hp => by simpa using (hf p hp).2]
  rfl

theorem entriesOf_size (c : Config) (n : Nat) : sizePairs (entriesOf c n) ≤ 39 := by
  have b1 := size_small _ (Nat.lt_trans (boolVal_lt c.settings.ec) (by decide))
  have b2 := size_small _ (Nat.lt_trans (boolVal_lt c.settings.wt) (by decide))
  have b3 := size_small _ (Nat.lt_trans (boolVal_lt c.settings.dg) (by decide))
  have s1 := size_le_8 (greaseId n)
  have s2 := size_le_8 c.settings.mfs
  have s3 := size_le_8 c.settings.wts
  have c1 : size SETTING_MAX_HEADER_LIST_SIZE = 1 := by decide
  have c2 : size SETTING_ENABLE_CONNECT_PROTOCOL = 1 := by decide
  have c3 : size SETTING_ENABLE_WEBTRANSPORT = 4 := by decide
  have c4 : size SETTING_H3_DATAGRAM = 1 := by decide
  have c5 : size SETTING_WEBTRANSPORT_MAX_SESSIONS = 4 := by decide
  have c0 : size 0 = 1 := by decide
  unfold entriesOf
  cases c.grease
  · simp only [Bool.false_eq_true, if_false, List.nil_append, sizePairs, b1, b2, b3, c1, c2, c3, c4, c5]
    omega
  · simp only [if_true, List.cons_append, List.nil_append, sizePairs, b1, b2, b3, c1, c2, c3, c4, c5, c0]
    omega

theorem controlHeader_entriesOf (c : Config) (n : Nat) (hm : c.settings.mfs < 2^62)
    (hw : c.settings.wts < 2^62) (hg : greaseId n < 2^62) :
    controlHeader? ⟨entriesOf c n⟩ =
      some ([STREAM_CONTROL, FRAME_SETTINGS, (encPairs (entriesOf c n)).length] ++ encPairs (entriesOf c n)) := by
  have hf := entriesOf_fits c n hm hw hg
  have hs := entriesOf_size c n
  have hlen := encPairs_length _ hf
  have ht : writeVar STREAM_CONTROL = some [STREAM_CONTROL] := by decide
  unfold controlHeader?
  rw [ht, encode?_eq ⟨entriesOf c n⟩ hf (by simp only; omega)]
  simp only [encode_small _ (by omega : sizePairs (entriesOf c n) < 64), bind, Option.bind, pure]
  rw [if_neg]
  · simp [hlen]
  · simp [hlen, WRITE_BUF_ENCODE_SIZE]; omega

theorem fromSettings_kept (ps : List (Nat × Nat)) :
    fromSettings ⟨kept ps⟩ =
      { mfs := (ps.lookup SETTING_MAX_HEADER_LIST_SIZE).getD Record.default.mfs
        wt := ((ps.lookup SETTING_ENABLE_WEBTRANSPORT).map (· != 0)).getD Record.default.wt
        wts := (ps.lookup SETTING_WEBTRANSPORT_MAX_SESSIONS).getD Record.default.wts
        dg := ((ps.lookup SETTING_H3_DATAGRAM).map (· != 0)).getD Record.default.dg
        ec := ((ps.lookup SETTING_ENABLE_CONNECT_PROTOCOL).map (· != 0)).getD Record.default.ec } := by
  unfold fromSettings
  rw [get_kept ps _ (by decide), get_kept ps _ (by decide), get_kept ps _ (by decide),
    get_kept ps _ (by decide), get_kept ps _ (by decide)]
  rfl

/-- a number that does not fit a varint makes the conversion fail (D-13 repaired) -/
theorem toSettings_big (c : Config) (n : Nat) (hg : greaseId n < 2^62)
    (hbig : ¬ c.settings.mfs < 2^62 ∨ ¬ c.settings.wts < 2^62) :
    ∃ id v, toSettings c n = .error (.invalidSettingValue id v) ∧ ¬ v < 2^62 := by
  have hl := entriesOf_length c n
  have hb : ∃ p ∈ entriesOf c n, ¬ p.2 < 2^62 := by
    rcases hbig with h | h
    · exact ⟨(SETTING_MAX_HEADER_LIST_SIZE, c.settings.mfs), List.mem_append_right _ (by simp), h⟩
    · exact ⟨(SETTING_WEBTRANSPORT_MAX_SESSIONS, c.settings.wts), List.mem_append_right _ (by simp), h⟩
  rw [toSettings_eq c n hg]
  exact insertList_big empty _ (by simp only [SETTINGS_LEN, empty, List.length_nil]; omega)
    (entriesOf_ids c n (P := (· < 2^62)) hg (by decide)) (entriesOf_nodup c n) hb

theorem entriesOf_eq_expected (c : Config) (n : Nat) :
    entriesOf c n = H3.Spec.Settings.expectedSent c.grease n c.settings.mfs c.settings.ec c.settings.wt
      c.settings.dg c.settings.wts := by
  unfold entriesOf H3.Spec.Settings.expectedSent
  have : greaseId n = 0x1f * n + 0x21 := by simp [greaseId, GREASE_MUL, GREASE_ADD, Nat.mul_comm]
  rw [this]
  rfl

/-- `value != 0` is an acceptable reading of a 0/1 setting -/
theorem flagOk_lookup (ps : List (Nat × Nat)) (id : Nat) :
    H3.Spec.Settings.FlagOk ps id (((ps.lookup id).map (· != 0)).getD false) := by
  unfold H3.Spec.Settings.FlagOk H3.Spec.Settings.carried
  cases ps.lookup id with
  | none => rfl
  | some v =>
    match v with
    | 0 | 1 => rfl
    | (k+2) => trivial

theorem lookup_mem {ps : List (Nat × Nat)} {id v : Nat} (h : ps.lookup id = some v) : (id, v) ∈ ps := by
  obtain ⟨l₁, l₂, rfl, _⟩ := List.lookup_eq_some_iff.mp h
  simp

/-- where only 0 and 1 occur, `value != 0` is the exact reading: on iff the value 1 is carried -/
theorem flagExact_lookup (ps : List (Nat × Nat)) (id : Nat) (hid : H3.Spec.Settings.boolean01.contains id = true)
    (hb : H3.Spec.Settings.hasBadFlag ps = false) :
    H3.Spec.Settings.FlagExact ps id (((ps.lookup id).map (· != 0)).getD false) := by
  unfold H3.Spec.Settings.FlagExact H3.Spec.Settings.carried
  cases h : ps.lookup id with
  | none => rfl
  | some v =>
    have hm := lookup_mem h
    have hv : ¬ 1 < v := by
      intro hv
      have : H3.Spec.Settings.hasBadFlag ps = true := by
        simp only [H3.Spec.Settings.hasBadFlag, List.any_eq_true]
        exact ⟨(id, v), hm, by simp only [hid, Bool.true_and, decide_eq_true_eq]; exact hv⟩
      rw [hb] at this; cases this
    match v, hv with
    | 0, _ | 1, _ => rfl
    | (k+2), hv => exact absurd (by omega) hv

open H3.Spec.Settings in
theorem fromSettings_kept_spec (ps : List (Nat × Nat)) (hb : hasBadFlag ps = false) :
    (fromSettings ⟨kept ps⟩).mfs = numeric ps MAX_FIELD_SECTION_SIZE unlimited ∧
    (fromSettings ⟨kept ps⟩).wts = numeric ps WEBTRANSPORT_MAX_SESSIONS 0 ∧
    FlagExact ps ENABLE_CONNECT_PROTOCOL (fromSettings ⟨kept ps⟩).ec ∧
    FlagExact ps H3_DATAGRAM (fromSettings ⟨kept ps⟩).dg ∧
    FlagOk ps ENABLE_WEBTRANSPORT (fromSettings ⟨kept ps⟩).wt := by
  rw [fromSettings_kept]
  exact ⟨rfl, rfl, flagExact_lookup ps _ (by decide) hb, flagExact_lookup ps _ (by decide) hb,
    flagOk_lookup ps _⟩

end H3.Config
