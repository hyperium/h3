import H3.Model.E2E
import H3.Lemmas.SendFrames
import H3.Lemmas.FrameRefSpec
/-! The bytes of a message on its stream, read back by the RFC 9114 §7.1 oracle (`observe`) and by
    the byte-wise reference automaton of the frame layer (`run frameDec`): the send-side frame lemmas
    (C14) composed with what each reader does on `wire type payload` (`decode_wire`, `rfc_wire`). -/
namespace H3.E2E
open H3.Varint H3.WriteBuf H3.FS H3.Spec.Framing H3.Gen.WriteBuf

abbrev fwire := H3.Spec.Output.wire

/-- the frames a request stream carries: DATA and HEADERS with octet payloads shorter than 2^62,
    and frames of a type h3 does not know (the grease frame) -/
def Plain : SFrame → Prop
  | .data p => p.length < 2^62 ∧ WF p
  | .headers b => b.length < 2^62 ∧ WF b
  | .grease ty => ty < 2^62 ∧ isKnown ty = false ∧ ty ≠ 0x0 ∧ ty ≠ 0x41
  | _ => False

theorem frameBytes_plain (f : SFrame) (h : Plain f) :
    frameBytes f = fwire (frameTypeOf f) (WriteBuf.bodyOf f) ∧ frameTypeOf f < 2^62 ∧ (WriteBuf.bodyOf f).length < 2^62 ∧
      frameTypeOf f ≠ 0x41 := by
  have hb : Bounded f ∧ frameTypeOf f ≠ 0x41 := by
    cases f with
    | data p => exact ⟨h.1, (by decide : 0 ≠ 0x41)⟩
    | headers p => exact ⟨h.1, (by decide : 1 ≠ 0x41)⟩
    | grease ty => exact ⟨h.1, h.2.2.2⟩
    | _ => exact h.elim
  have hl : HasLength f := by cases f <;> first | trivial | exact h.elim
  obtain ⟨hdr, he, hw, hty, hp, _⟩ := encodeFrame_eq f hb.1 hl
  exact ⟨by rw [frameBytes, he]; exact hw, hty, hp, hb.2⟩

theorem wireOf_cons (f : SFrame) (fs : List SFrame) : wireOf (f :: fs) = frameBytes f ++ wireOf fs := by
  simp [wireOf]

theorem wireOf_append (a b : List SFrame) : wireOf (a ++ b) = wireOf a ++ wireOf b := by
  simp [wireOf]

theorem dec_fwire (ty : Nat) (p rest : Bytes) (hty : ty < 2^62) (hp : p.length < 2^62) (h41 : ty ≠ 0x41) :
    (ty = 0 → frameDec.dec (fwire ty p ++ rest) =
      .frame (.data p.length) (encode ty ++ encode p.length).length) ∧
    (ty = 1 → frameDec.dec (fwire ty p ++ rest) = .frame (.headers p) (fwire ty p).length) ∧
    (ty ≠ 0 → isKnown ty = false → frameDec.dec (fwire ty p ++ rest) = .unknown (fwire ty p).length) := by
  have hd : frameDec.dec (fwire ty p ++ rest) = liftRes (H3.Frame.decode (fwire ty p ++ rest)) := rfl
  rw [hd, H3.Frame.decode_wire ty p rest hty hp,
    if_neg (show ty ≠ H3.Gen.Consts.FRAME_WEBTRANSPORT_BI_STREAM from h41)]
  refine ⟨fun h0 => by rw [if_pos (show ty = H3.Gen.Consts.FRAME_DATA from h0)]; rfl,
    fun h1 => by subst h1; rfl,
    fun h0 hk => by
      rw [if_neg (show ty ≠ H3.Gen.Consts.FRAME_DATA from h0), H3.Frame.typed_unknown ty _ _ hk]; rfl⟩

abbrev RTok := H3.FS.Tok H3.Frame.Frame H3.Frame.FrameErr

/-- what the byte-wise reference automaton emits for a frame list -/
def runToks : List SFrame → List RTok
  | [] => []
  | .data p :: r => .frame (.data p.length) :: (p.map .byte ++ runToks r)
  | .headers b :: r => .frame (.headers b) :: runToks r
  | _ :: r => runToks r

theorem runToks_cons (f : SFrame) (r : List SFrame) : runToks (f :: r) = runToks [f] ++ runToks r := by
  cases f <;> simp [runToks]

theorem run_frame (f : SFrame) (hf : Plain f) (rest : Bytes) :
    run frameDec (.hdr []) (frameBytes f ++ rest) =
      ((run frameDec (.hdr []) rest).1, runToks [f] ++ (run frameDec (.hdr []) rest).2) := by
  cases f with
  | data p =>
    rw [show frameBytes (.data p) = fwire 0 p from (frameBytes_plain _ hf).1,
      run_dec_frame frameDec_laws ((dec_fwire 0 p rest (by decide) hf.1 (by decide)).1 rfl)]
    have hdrop : (fwire 0 p ++ rest).drop (encode 0 ++ encode p.length).length = p ++ rest := by
      have : fwire 0 p ++ rest = (encode 0 ++ encode p.length) ++ (p ++ rest) := by
        simp [fwire, H3.Spec.Output.wire]
      rw [this, List.drop_left]
    rw [hdrop]
    simp only [frameDec, frameKind, Kind.rem, runToks]
    by_cases h0 : p.length = 0
    · have : p = [] := List.eq_nil_of_length_eq_zero h0
      subst this
      simp
    · rw [PSt.ofRem_pos h0, run_data_full _ p.length (p ++ rest) h0 (by simp)]
      simp
  | headers p =>
    rw [show frameBytes (.headers p) = fwire 1 p from (frameBytes_plain _ hf).1,
      run_dec_frame frameDec_laws ((dec_fwire 1 p rest (by decide) hf.1 (by decide)).2.1 rfl)]
    simp [frameDec, frameKind, Kind.rem, runToks]
  | grease ty =>
    rw [show frameBytes (.grease ty) = fwire ty GREASE_FRAME_PAYLOAD from (frameBytes_plain _ hf).1,
      run_dec_unknown frameDec_laws
        ((dec_fwire ty GREASE_FRAME_PAYLOAD rest hf.1 (by decide) hf.2.2.2).2.2 hf.2.2.1 hf.2.1)]
    simp [runToks]
  | _ => exact hf.elim

theorem run_wireOf (fs : List SFrame) (h : ∀ f ∈ fs, Plain f) :
    run frameDec (.hdr []) (wireOf fs) = (.hdr [], runToks fs) := by
  induction fs with
  | nil => rfl
  | cons f r ih =>
    rw [wireOf_cons, run_frame f (h f (by simp)), ih (fun x hx => h x (by simp [hx])), runToks_cons f r]

/-- what a reader must observe for a frame list (an empty DATA frame has no payload token) -/
def obsToks : List SFrame → List Spec.Framing.Tok
  | [] => []
  | .data p :: r =>
    if p = [] then .frame (.data 0) :: obsToks r else .frame (.data p.length) :: .data p :: obsToks r
  | .headers b :: r => .frame (.headers b) :: obsToks r
  | _ :: r => obsToks r

theorem obsToks_cons (f : SFrame) (r : List SFrame) : obsToks (f :: r) = obsToks [f] ++ obsToks r := by
  cases f with
  | data p => by_cases hp : p = [] <;> simp [obsToks, hp]
  | _ => simp [obsToks]

theorem observe_frame (f : SFrame) (hf : Plain f) (n : Nat) (rest : Bytes) (e : Ending) :
    observe (n + 1) (frameBytes f ++ rest) e = obsToks [f] ++ observe n rest e := by
  obtain ⟨he, hty, hp, h41⟩ := frameBytes_plain f hf
  obtain ⟨h1, h2⟩ := H3.Spec.Output.rfc_wire (frameTypeOf f) (WriteBuf.bodyOf f) rest hty hp
  have hlt : ∀ a b : Nat, ¬ a + b < a := fun a b => Nat.not_lt.mpr (Nat.le_add_right a b)
  rw [he, observe_body n _ _ _ _ _ e
    (List.append_ne_nil_of_left_ne_nil (H3.Spec.Output.wire_ne_nil _ _ hty) rest) h1 h41 h2]
  cases f with
  | data p =>
    by_cases hp0 : p = []
    · subst hp0; simp [frameTypeOf, WriteBuf.bodyOf, obsToks]
    · have hl : p.length ≠ 0 := fun h0 => hp0 (List.eq_nil_of_length_eq_zero h0)
      simp [frameTypeOf, WriteBuf.bodyOf, obsToks, hp0, hl]
  | headers p => simp [frameTypeOf, WriteBuf.bodyOf, obsToks, classify, isKnown, hlt]
  | grease ty => simp [frameTypeOf, WriteBuf.bodyOf, obsToks, hf.2.1, hf.2.2.1, hlt]
  | _ => exact hf.elim

theorem observe_wireOf (e : Ending) (fs : List SFrame) (h : ∀ f ∈ fs, Plain f) :
    ∀ fuel, fs.length < fuel → observe fuel (wireOf fs) e = obsToks fs ++ [endTok e true] := by
  induction fs with
  | nil =>
    intro fuel hf
    obtain ⟨n, rfl⟩ : ∃ n, fuel = n + 1 := ⟨fuel - 1, by omega⟩
    simp [wireOf, observe_nil, obsToks]
  | cons f r ih =>
    intro fuel hfuel
    obtain ⟨n, rfl⟩ : ∃ n, fuel = n + 1 := ⟨fuel - 1, by omega⟩
    rw [wireOf_cons, observe_frame f (h f (by simp)) n _ e,
      ih (fun x hx => h x (by simp [hx])) n (by simp only [List.length_cons] at hfuel; omega),
      obsToks_cons f r, List.append_assoc]

theorem wireOf_length_ge (fs : List SFrame) (h : ∀ f ∈ fs, Plain f) : fs.length ≤ (wireOf fs).length := by
  induction fs with
  | nil => simp
  | cons f r ih =>
    obtain ⟨he, hty, _, _⟩ := frameBytes_plain f (h f (by simp))
    have := H3.Spec.Output.wire_length_pos (frameTypeOf f) (WriteBuf.bodyOf f) hty
    have := ih (fun x hx => h x (by simp [hx]))
    rw [wireOf_cons, he]
    simp only [List.length_append, List.length_cons]
    unfold fwire
    omega

end H3.E2E
