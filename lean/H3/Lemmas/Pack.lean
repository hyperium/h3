import H3.Lemmas.Bits
/-! Lemmas about `H3.Bits.pack` (groups of eight bits as bytes, last group filled with ones). -/
namespace H3.Bits

abbrev ones (n : Nat) : List Bool := List.replicate n true

theorem val_ones (n : Nat) : val (ones n) = 2 ^ n - 1 := by
  simpa using (val_eq_ones_iff (ones n)).2 (by simp)

theorem ones_add (a b : Nat) : ones (a + b) = ones a ++ ones b := List.replicate_append_replicate.symm

theorem val_pad (R : List Bool) (k : Nat) : val (R ++ ones k) = val R * 2 ^ k + (2 ^ k - 1) := by
  rw [val_append, val_ones]; simp

theorem pack_nil : pack [] = [] := rfl

theorem pack_append8 (a r : List Bool) (h : a.length = 8) : pack (a ++ r) = val a :: pack r :=
  match a, h with
  | [_, _, _, _, _, _, _, _], _ => rfl

theorem pack_short (l : List Bool) (h0 : 0 < l.length) (h : l.length < 8) :
    pack l = [val (l ++ ones (8 - l.length))] := by
  rcases l with _|⟨b7, _|⟨b6, _|⟨b5, _|⟨b4, _|⟨b3, _|⟨b2, _|⟨b1, _|⟨b0, r⟩⟩⟩⟩⟩⟩⟩⟩ <;>
    simp only [List.length_cons, List.length_nil] at h h0 <;>
    first | omega | simp [pack, List.replicate_succ]

theorem pack_ind {P : List Bool → Prop} (nil : P []) (short : ∀ l, 0 < l.length → l.length < 8 → P l)
    (step : ∀ a r, a.length = 8 → P r → P (a ++ r)) (l : List Bool) : P l := by
  generalize hn : l.length = n
  induction n using Nat.strongRecOn generalizing l with
  | _ n ih =>
    by_cases h : l.length < 8
    · cases l with
      | nil => exact nil
      | cons x t => exact short _ (Nat.succ_pos _) h
    · have := step (l.take 8) (l.drop 8) (by simp; omega) (ih (l.drop 8).length (by simp; omega) _ rfl)
      rwa [List.take_append_drop] at this

theorem pack_append (a b : List Bool) (h : 8 ∣ a.length) : pack (a ++ b) = pack a ++ pack b := by
  induction a using pack_ind with
  | nil => rfl
  | short l h0 h8 => omega
  | step a r ha ih =>
    rw [List.length_append, ha] at h
    rw [List.append_assoc, pack_append8 _ _ ha, pack_append8 _ _ ha, ih (by omega)]
    rfl

theorem pack_ones (n : Nat) : pack (ones (8 * n)) = List.replicate n 255 := by
  induction n with
  | zero => simp [pack_nil]
  | succ n ih =>
    have e : ones (8 * (n + 1)) = ones 8 ++ ones (8 * n) := by
      simp only [ones, List.replicate_append_replicate]; congr 1; omega
    rw [e, pack_append8 _ _ (by simp), ih, List.replicate_succ]
    rfl

theorem length_pack (l : List Bool) : (pack l).length = (l.length + 7) / 8 := by
  induction l using pack_ind with
  | nil => rfl
  | short l h0 h8 => rw [pack_short l h0 h8]; simp; omega
  | step a r ha ih => rw [pack_append8 a r ha, List.length_cons, ih, List.length_append]; omega

theorem pack_lt (l : List Bool) : ∀ b ∈ pack l, b < 256 := by
  induction l using pack_ind with
  | nil => simp [pack_nil]
  | short l h0 h8 =>
    rw [pack_short l h0 h8]
    intro b hb
    rw [List.mem_singleton.1 hb]
    have := val_lt (l ++ ones (8 - l.length))
    rwa [show (l ++ ones (8 - l.length)).length = 8 by simp; omega] at this
  | step a r ha ih =>
    rw [pack_append8 a r ha]
    intro b hb
    rcases List.mem_cons.mp hb with rfl | hb
    · have := val_lt a
      rwa [ha] at this
    · exact ih b hb

theorem bitsOf_pack (l : List Bool) :
    bitsOf (pack l) = l ++ List.replicate ((8 - l.length % 8) % 8) true := by
  induction l using pack_ind with
  | nil => rfl
  | short l h0 h8 =>
    have := bitsN_val (l ++ ones (8 - l.length))
    rw [show (l ++ ones (8 - l.length)).length = 8 by simp; omega] at this
    rw [pack_short l h0 h8, bitsOf, this, bitsOf, List.append_nil,
      show (8 - l.length % 8) % 8 = 8 - l.length by omega]
  | step a r ha ih =>
    have := bitsN_val a
    rw [ha] at this
    rw [pack_append8 a r ha, bitsOf, this, ih, List.append_assoc, List.length_append]
    congr 3
    omega

theorem pack_bitsOf (bs : List Nat) (h : ∀ b ∈ bs, b < 256) : pack (bitsOf bs) = bs := by
  induction bs with
  | nil => simp [bitsOf, pack_nil]
  | cons b r ih =>
    rw [bitsOf, pack_append8 _ _ (length_bitsN 8 b), val_bitsN,
      ih (fun x hx => h x (List.mem_cons_of_mem _ hx))]
    have := h b List.mem_cons_self
    congr 1
    omega

theorem pack_pad (l : List Bool) : pack (l ++ ones ((8 - l.length % 8) % 8)) = pack l := by
  rw [← bitsOf_pack, pack_bitsOf _ (pack_lt l)]

/-- the byte that starts with the `r` bits of `h` and goes on with ones -/
def padByte (r h : Nat) : Nat := h * 2 ^ (8 - r) + (2 ^ (8 - r) - 1)

theorem pack_pad_ones (R : List Bool) (k m : Nat) (h : R.length + k = 8 * (m + 1)) (hR : R.length ≤ 8) :
    pack (R ++ ones k) = padByte R.length (val R) :: List.replicate m 255 := by
  obtain rfl : k = (8 - R.length) + 8 * m := by omega
  rw [ones_add, ← List.append_assoc, pack_append8 _ _ (by simp; omega), pack_ones, val_pad, padByte]

end H3.Bits
