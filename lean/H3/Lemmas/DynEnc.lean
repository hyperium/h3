import H3.Lemmas.DynTrack
import H3.Lemmas.DynStatic
import H3.Lemmas.DynPrefix
import H3.Model.DynSys
/-! `Encoder::encode`: what the representations written denote (`denoteAll`), the invariant of the loop over the fields
    (`LoopInv`), and the call as a whole (`TableInv`, `encode_spec` with `EncodeFacts`), which is what the files about the
    connected system use. -/
namespace H3.Dyn
open H3.Spec.Dyn (STable)

/-- `a` is 1-based, as the code counts -/
def entry1 (all : List Field) (a : Nat) : Option Field := if a = 0 then none else all[a - 1]?

-- `Spec.Dyn.denoteRep` with 1-based indices and over everything ever inserted, evicted or not; the way back is
-- `denoteRep_of_all` / `denote_of_all`
def denoteRepAll (all : List Field) (base : Nat) (r : Rep) : Option Field :=
  match r with
  | .indexedStatic i => staticGet i
  | .litStatic i v => (staticGet i).map (·.withValue v)
  | .lit n v => some ⟨n, v⟩
  | .indexedDyn rel => entry1 all (base - rel)
  | .indexedPost i => entry1 all (base + i + 1)
  | .litDyn rel v => (entry1 all (base - rel)).map (·.withValue v)
  | .litPost i v => (entry1 all (base + i + 1)).map (·.withValue v)

def denoteAll (all : List Field) (base : Nat) : List Rep → Option (List Field)
  | [] => some []
  | r :: rs => (denoteRepAll all base r).bind fun f => (denoteAll all base rs).map (f :: ·)

theorem entry1_append {all : List Field} {a : Nat} {f : Field} (l : List Field) (h : entry1 all a = some f) :
    entry1 (all ++ l) a = some f := by
  unfold entry1 at *
  split at h
  · simp at h
  · rename_i ha; rw [if_neg ha, List.getElem?_append_left]; exact h
    exact (List.getElem?_eq_some_iff.mp h).1

theorem denoteAll_cons {all : List Field} {base : Nat} {r : Rep} {rs : List Rep} {fs : List Field}
    (h : denoteAll all base (r :: rs) = some fs) :
    ∃ f fs', fs = f :: fs' ∧ denoteRepAll all base r = some f ∧ denoteAll all base rs = some fs' := by
  obtain ⟨f, hr, h⟩ := Option.bind_eq_some_iff.mp h
  obtain ⟨fs', hrs, h⟩ := Option.map_eq_some_iff.mp h
  exact ⟨f, fs', h.symm, hr, hrs⟩

theorem denoteRepAll_append {all : List Field} {base : Nat} {r : Rep} {f : Field} (l : List Field)
    (h : denoteRepAll all base r = some f) : denoteRepAll (all ++ l) base r = some f := by
  cases r with
  | indexedStatic i | litStatic i v | lit n v => exact h
  | indexedDyn rel | indexedPost i => exact entry1_append l h
  | litDyn rel v | litPost i v =>
    obtain ⟨g, hg, hv⟩ := Option.map_eq_some_iff.mp h
    exact Option.map_eq_some_iff.mpr ⟨g, entry1_append l hg, hv⟩

theorem denoteAll_append_all {all : List Field} {base : Nat} {rs : List Rep} {fs : List Field} (l : List Field)
    (h : denoteAll all base rs = some fs) : denoteAll (all ++ l) base rs = some fs := by
  induction rs generalizing fs with
  | nil => exact h
  | cons r rs ih =>
    obtain ⟨f, fs', rfl, hr, hrs⟩ := denoteAll_cons h
    simp only [denoteAll, denoteRepAll_append l hr, ih hrs, Option.bind_some, Option.map_some]

theorem denoteAll_snoc {all : List Field} {base : Nat} {rs : List Rep} {fs : List Field} {r : Rep} {f : Field}
    (h : denoteAll all base rs = some fs) (hr : denoteRepAll all base r = some f) :
    denoteAll all base (rs ++ [r]) = some (fs ++ [f]) := by
  induction rs generalizing fs with
  | nil => cases h; simp [denoteAll, hr]
  | cons r' rs ih =>
    obtain ⟨f', fs', rfl, hr', hrs⟩ := denoteAll_cons h
    simp only [List.cons_append, denoteAll, hr', ih hrs, Option.bind_some, Option.map_some]

/-- Invariant of the loop of `Encoder::encode` over the fields. `init`, `log`: the oracle table at connection start and
    the instructions emitted before this call; `t0`: the table at loop entry; `base`: the Base (`largest_ref()` then);
    `t`, `br`, `o`: table, `block_refs`, output so far; `done`: fields encoded so far; `st`: oracle table after
    `log ++ o.instrs`. `new`: every entry this call inserted is referenced by this block (`PInv.unrecv` rests on it);
    `mono`: reference counts only grow during the call (clause (4) of `C20_no_evict_referenced`). -/
structure LoopInv (init : STable) (log : List EncInstr) (t0 : Table) (base : Nat)
    (t : Table) (br : RefMap) (o : EncOut) (done : List Field) (st : STable) : Prop where
  run : init.run (log ++ o.instrs) = some st
  abs : Abs t st
  maps : MapsOK t st
  track : TrackOKx t br
  brwf : RefMapWF br
  aux0 : t.trackBlocks = t0.trackBlocks ∧ t.lkr = t0.lkr ∧ t.blockedMax = t0.blockedMax ∧
    t.blockedCount = t0.blockedCount ∧ t.blockedStreams = t0.blockedStreams
  grow : t0.vas.inserted ≤ st.all.length
  baseLe : base ≤ t0.vas.inserted
  capEq : st.cap = t0.maxSize
  den : denoteAll st.all base o.reps = some done
  refs : ∀ r ∈ o.reps, ∀ a, r.absRef base = some a → 1 ≤ cnt br a ∧ a ≤ o.required
  req : o.required = 0 ∨ ∃ r ∈ o.reps, r.absRef base = some o.required
  new : ∀ a, t0.vas.inserted < a → a ≤ st.all.length → 1 ≤ cnt br a ∧ a ≤ o.required
  noSU : ∀ i ∈ o.instrs, ∀ c, i ≠ .sizeUpdate c
  refPos : ∀ r ∈ o.reps, ∀ a, r.absRef base = some a → 1 ≤ a
  mono : ∀ a, cnt t0.trackMap a ≤ cnt t.trackMap a

variable {init : STable} {log : List EncInstr} {t0 : Table} {base sid : Nat} {t : Table} {br : RefMap} {e : TEnc}
  {o : EncOut} {done : List Field} {st : STable}

theorem RefMapWF.aset_succ {m : RefMap} (h : RefMapWF m) (a : Nat) : RefMapWF (aset m a (cnt m a + 1)) := by
  refine ⟨nodup_keys_aset _ _ h.1, fun p hp => ?_⟩
  rcases mem_aset hp with hp | hp
  · exact h.2 p hp
  · subst hp; simp

theorem cnt_le_aset_succ (m : RefMap) (a x : Nat) : cnt m x ≤ cnt (aset m a (cnt m a + 1)) x := by
  rw [cnt_aset]; split
  · rename_i e; subst e; omega
  · exact Nat.le_refl _

theorem cnt_aset_succ_self (m : RefMap) (a : Nat) : 1 ≤ cnt (aset m a (cnt m a + 1)) a := by
  rw [cnt_aset, if_pos rfl]; omega

theorem TrackOKx.trackRef (h : TrackOKx t br) {a : Nat} (h1 : t.vas.dropped < a)
    (h2 : a ≤ t.vas.inserted) : TrackOKx (t.trackRef a) (aset br a (cnt br a + 1)) :=
  { h with
    sum := by
      intro x; simp only [Table.trackRef]; rw [cnt_aset, cnt_aset, h.sum a]
      split
      · rename_i e; subst e; omega
      · exact h.sum x
    live := by
      intro x hx; simp only [Table.trackRef] at hx ⊢; rw [cnt_aset] at hx
      split at hx
      · rename_i e; subst e; exact ⟨h1, h2⟩
      · exact h.live x hx }

theorem TrackOKx.of_aux {t t1 : Table} {br : RefMap} (h : TrackOKx t br) (haux : t1.aux = t.aux)
    (hd : ∀ a, t.vas.dropped < a → a ≤ t1.vas.dropped → t.isTracked a = false)
    (hi : t.vas.inserted ≤ t1.vas.inserted) : TrackOKx t1 br := by
  obtain ⟨htm, htb, _⟩ := Table.aux_eq haux
  refine ⟨by rw [htm, htb]; exact h.sum, fun a ha => ?_, by rw [htb]; exact h.nodup, by rw [htb]; exact h.wf,
    by rw [htb]; exact h.nonempty⟩
  rw [htm] at ha
  have hl := h.live a ha
  refine ⟨Nat.lt_of_not_le fun hle => ?_, Nat.le_trans hl.2 hi⟩
  exact absurd ((Table.isTracked_iff t a).mpr ha) (by rw [hd a hl.1 hle]; exact Bool.false_ne_true)

theorem refs_snoc {base req a : Nat} {reps : List Rep} {br br' : RefMap} {r : Rep}
    (hrefs : ∀ r ∈ reps, ∀ x, r.absRef base = some x → 1 ≤ cnt br x ∧ x ≤ req)
    (hreq : req = 0 ∨ ∃ r ∈ reps, r.absRef base = some req)
    (hpos : ∀ r ∈ reps, ∀ x, r.absRef base = some x → 1 ≤ x)
    (hbr : ∀ x, cnt br x ≤ cnt br' x) (ha : r.absRef base = some a) (hc : 1 ≤ cnt br' a) (ha1 : 1 ≤ a) :
    (∀ r' ∈ reps ++ [r], ∀ x, r'.absRef base = some x → 1 ≤ cnt br' x ∧ x ≤ max req a) ∧
    (max req a = 0 ∨ ∃ r' ∈ reps ++ [r], r'.absRef base = some (max req a)) ∧
    (∀ r' ∈ reps ++ [r], ∀ x, r'.absRef base = some x → 1 ≤ x) := by
  have hnew : ∀ x, r.absRef base = some x → x = a := fun x hx => Option.some.inj (hx.symm.trans ha)
  refine ⟨forall_mem_snoc (fun r' hr' x hx => ?_) (fun x hx => ?_), ?_, forall_mem_snoc hpos (fun x hx => ?_)⟩
  · exact ⟨Nat.le_trans (hrefs r' hr' x hx).1 (hbr x), Nat.le_trans (hrefs r' hr' x hx).2 (Nat.le_max_left _ _)⟩
  · rw [hnew x hx]; exact ⟨hc, Nat.le_max_right _ _⟩
  · rw [Nat.max_def]; split
    · exact Or.inr ⟨r, List.mem_append_right _ (List.mem_singleton_self r), ha⟩
    · exact hreq.imp id fun ⟨r', hr', hx⟩ => ⟨r', List.mem_append_left _ hr', hx⟩
  · rw [hnew x hx]; exact ha1

theorem LoopInv.trackRef (h : LoopInv init log t0 base t br o done st)
    {a : Nat} (ha : st.dropped < a) (ha' : a ≤ st.all.length) :
    LoopInv init log t0 base (t.trackRef a) (aset br a (cnt br a + 1)) o done st :=
  { h with
    abs := h.abs.of_core rfl rfl rfl rfl
    maps := h.maps.congr rfl rfl
    track := h.track.trackRef (by rw [h.abs.drp]; exact ha) (by rw [h.abs.ins]; exact ha')
    brwf := h.brwf.aset_succ a
    refs := fun r hr x hx => ⟨Nat.le_trans (h.refs r hr x hx).1 (cnt_le_aset_succ br a x), (h.refs r hr x hx).2⟩
    new := fun x h1 h2 => ⟨Nat.le_trans (h.new x h1 h2).1 (cnt_le_aset_succ br a x), (h.new x h1 h2).2⟩
    mono := fun x => Nat.le_trans (h.mono x) (cnt_le_aset_succ t.trackMap a x) }

theorem LoopInv.emitRef (h : LoopInv init log t0 base t br o done st)
    {r : Rep} {f : Field} {a : Nat} (hr : denoteRepAll st.all base r = some f)
    (ha : r.absRef base = some a) (hc : 1 ≤ cnt br a) :
    LoopInv init log t0 base t br (({ o with reps := o.reps ++ [r] } : EncOut).ref a) (done ++ [f]) st := by
  have ha1 : 1 ≤ a := by
    have := (h.track.live a (by rw [h.track.sum]; omega)).1; omega
  obtain ⟨h1, h2, h3⟩ := refs_snoc h.refs h.req h.refPos (fun _ => Nat.le_refl _) ha hc ha1
  exact { h with
    den := denoteAll_snoc h.den hr
    refs := h1
    req := h2
    new := fun x hx1 hx2 => ⟨(h.new x hx1 hx2).1, Nat.le_trans (h.new x hx1 hx2).2 (Nat.le_max_left _ _)⟩
    refPos := h3 }

theorem LoopInv.emitNoRef (h : LoopInv init log t0 base t br o done st)
    {r : Rep} {f : Field} (hr : denoteRepAll st.all base r = some f) (ha : r.absRef base = none) :
    LoopInv init log t0 base t br ({ o with reps := o.reps ++ [r] } : EncOut) (done ++ [f]) st :=
  { h with
    den := denoteAll_snoc h.den hr
    refs := forall_mem_snoc h.refs (fun x hx => by rw [ha] at hx; cases hx)
    req := h.req.imp id fun ⟨r', hr', hx⟩ => ⟨r', List.mem_append_left _ hr', hx⟩
    refPos := forall_mem_snoc h.refPos (fun x hx => by rw [ha] at hx; cases hx) }

theorem LoopInv.setMaps (h : LoopInv init log t0 base t br o done st)
    (fm : List (Field × Nat)) (nm : List (Bytes × Nat))
    (hm : MapsOK { t with fieldMap := fm, nameMap := nm } st) :
    LoopInv init log t0 base { t with fieldMap := fm, nameMap := nm } br o done st :=
  { h with abs := h.abs.of_core rfl rfl rfl rfl, maps := hm, track := h.track.congr rfl rfl rfl }

/-- a successful `insert` followed by `track_ref(index)` and the post-base representation -/
theorem LoopInv.inserted {init log t0 base t br o done st} (h : LoopInv init log t0 base t br o done st)
    {f : Field} {t1 : Table} {st' : STable} {i : EncInstr}
    (hi : st.apply i = some st') (hs : st.insert f = some st') (habs : Abs t1 st') (haux : t1.aux = t.aux)
    (hmaps : MapsOK t1 st') (hunt : ∀ a, st.dropped < a → a ≤ st'.dropped → t.isTracked a = false)
    (hlive : st'.dropped ≤ st.all.length) :
    LoopInv init log t0 base (t1.trackRef (st.all.length + 1))
      (aset br (st.all.length + 1) (cnt br (st.all.length + 1) + 1))
      (({ o with instrs := o.instrs ++ [i],
                 reps := o.reps ++ [.indexedPost (st.all.length + 1 - (base + 1))] } : EncOut).ref (st.all.length + 1))
      (done ++ [f]) st' := by
  obtain ⟨hall, hcap, hdr⟩ := STable.insert_all hs
  obtain ⟨htm, htb, hlkr, hbm, hbc, hbs⟩ := Table.aux_eq haux
  have hlen : st'.all.length = st.all.length + 1 := by rw [hall]; simp
  have hbase : base ≤ st.all.length := Nat.le_trans h.baseLe h.grow
  have hidx : base + (st.all.length + 1 - (base + 1)) + 1 = st.all.length + 1 := by
    rw [Nat.add_sub_add_right, Nat.add_sub_of_le hbase]
  have hnew : denoteRepAll st'.all base (.indexedPost (st.all.length + 1 - (base + 1))) = some f := by
    simp only [denoteRepAll, hidx, entry1, hall]
    rw [if_neg (by omega)]; simp
  have htrack : TrackOKx t1 br :=
    h.track.of_aux haux (by rw [h.abs.drp, habs.drp]; exact hunt) (by rw [h.abs.ins, habs.ins, hlen]; omega)
  obtain ⟨h1, h2, h3⟩ := refs_snoc (r := .indexedPost (st.all.length + 1 - (base + 1))) h.refs h.req h.refPos
    (cnt_le_aset_succ br (st.all.length + 1)) (by simp only [Rep.absRef, hidx]) (cnt_aset_succ_self _ _) (by omega)
  exact {
    run := by
      simp only [EncOut.ref]
      rw [← List.append_assoc, STable.run_append, h.run]
      simp [STable.run, hi]
    abs := habs.of_core rfl rfl rfl rfl
    maps := hmaps.congr rfl rfl
    track := htrack.trackRef (by rw [habs.drp]; omega) (by rw [habs.ins, hlen]; omega)
    brwf := h.brwf.aset_succ _
    aux0 := ⟨htb.trans h.aux0.1, hlkr.trans h.aux0.2.1, hbm.trans h.aux0.2.2.1, hbc.trans h.aux0.2.2.2.1,
      hbs.trans h.aux0.2.2.2.2⟩
    grow := by rw [hlen]; exact Nat.le_succ_of_le h.grow
    baseLe := h.baseLe
    capEq := hcap.trans h.capEq
    den := denoteAll_snoc (by rw [hall]; exact denoteAll_append_all _ h.den) hnew
    refs := h1
    req := h2
    new := by
      intro x hx1 hx2
      by_cases hx : x = st.all.length + 1
      · subst hx; exact ⟨cnt_aset_succ_self _ _, Nat.le_max_right _ _⟩
      · have := h.new x hx1 (by omega)
        exact ⟨Nat.le_trans this.1 (cnt_le_aset_succ br _ x), Nat.le_trans this.2 (Nat.le_max_left _ _)⟩
    noSU := by
      refine forall_mem_snoc h.noSU fun c e => ?_
      -- a Set Dynamic Table Capacity appends nothing
      subst e
      rcases STable.apply_cases hi with ⟨_, _, _, rfl⟩ | ⟨hne, _⟩
      · simp [STable.setCap] at hlen
      · exact hne c rfl
    refPos := h3
    mono := fun x => Nat.le_trans (h.mono x) (by rw [← htm]; exact cnt_le_aset_succ t1.trackMap _ x) }

def EInv (init : STable) (log : List EncInstr) (t0 : Table) (base sid : Nat)
    (e : TEnc) (o : EncOut) (done : List Field) (st : STable) : Prop :=
  LoopInv init log t0 base e.table e.blockRefs o done st ∧ e.base = base ∧ e.streamId = sid

def LookupOK (base : Nat) (br : RefMap) (st : STable) (p : Field → Prop) : Lookup → Prop
  | .relative idx a => a ≤ base ∧ idx = base - a ∧ 1 ≤ cnt br a ∧ ∃ g, entry1 st.all a = some g ∧ p g
  | .postBase idx a => base < a ∧ idx = a - base - 1 ∧ 1 ≤ cnt br a ∧ ∃ g, entry1 st.all a = some g ∧ p g
  | .notFound => True
  | .static i => ∃ g, staticGet i = some g ∧ p g

theorem lookupResult_inv (h : EInv init log t0 base sid e o done st)
    (x : Option Nat) (p : Field → Prop)
    (hx : ∀ a, x = some a → st.dropped < a ∧ ∃ g, st.all[a - 1]? = some g ∧ p g) :
    EInv init log t0 base sid (e.lookupResult x).1 o done st ∧
    LookupOK base (e.lookupResult x).1.blockRefs st p (e.lookupResult x).2 := by
  obtain ⟨hl, rfl, rfl⟩ := h
  cases x with
  | none => exact ⟨⟨hl, rfl, rfl⟩, trivial⟩
  | some a =>
    obtain ⟨ha, g, hg, hp⟩ := hx a rfl
    have hlen : a ≤ st.all.length := Nat.le_of_pred_lt (List.getElem?_eq_some_iff.mp hg).1
    have he : entry1 st.all a = some g := (if_neg (Nat.ne_of_gt (Nat.zero_lt_of_lt ha))).trans hg
    simp only [TEnc.lookupResult]
    split
    · rename_i hab
      exact ⟨⟨hl.trackRef ha hlen, rfl, rfl⟩, hab, rfl, cnt_aset_succ_self _ _, g, he, hp⟩
    · rename_i hab
      exact ⟨⟨hl.trackRef ha hlen, rfl, rfl⟩, Nat.lt_of_not_le hab, rfl, cnt_aset_succ_self _ _, g, he, hp⟩

theorem find_inv (h : EInv init log t0 base sid e o done st) (f : Field) :
    EInv init log t0 base sid (e.find f).1 o done st ∧
    LookupOK base (e.find f).1.blockRefs st (· = f) (e.find f).2 :=
  lookupResult_inv h (aget e.table.fieldMap f) (· = f) fun a ha =>
    ⟨(h.1.maps.fm f a ha).1, f, (h.1.maps.fm f a ha).2, rfl⟩

theorem findName_inv (h : EInv init log t0 base sid e o done st) (n : Bytes) :
    EInv init log t0 base sid (e.findName n).1 o done st ∧
    LookupOK base (e.findName n).1.blockRefs st (·.name = n) (e.findName n).2 := by
  unfold TEnc.findName
  cases hsn : staticFindName n with
  | some i => exact ⟨h, staticFindName_sound hsn⟩
  | none => exact lookupResult_inv h (aget e.table.nameMap n) (·.name = n) (h.1.maps.nm n)

theorem Field.withValue_eq {g f : Field} (h : g.name = f.name) : g.withValue f.value = f := by
  cases f; cases g; simp_all [Field.withValue]

theorem emitLookup_inv (h : EInv init log t0 base sid e o done st)
    {f : Field} {l : Lookup} (hl : LookupOK base e.blockRefs st (·.name = f.name) l) :
    EInv init log t0 base sid e (emitLookup o f l) (done ++ [f]) st := by
  obtain ⟨hi, hb, hs⟩ := h
  refine ⟨?_, hb, hs⟩
  cases l with
  | static i =>
    obtain ⟨g, hg, hn⟩ := hl
    exact hi.emitNoRef (r := .litStatic i f.value) (by simp [denoteRepAll, hg, Field.withValue_eq hn]) rfl
  | notFound =>
    exact hi.emitNoRef (r := .lit f.name f.value) (by simp [denoteRepAll]) rfl
  | relative idx a =>
    obtain ⟨hab, hidx, hc, g, hg, hn⟩ := hl
    have : base - idx = a := by omega
    exact hi.emitRef (r := .litDyn idx f.value)
      (by simp [denoteRepAll, this, hg, Field.withValue_eq hn]) (by simp [Rep.absRef, this]) hc
  | postBase idx a =>
    obtain ⟨hab, hidx, hc, g, hg, hn⟩ := hl
    have : base + idx + 1 = a := by omega
    exact hi.emitRef (r := .litPost idx f.value)
      (by simp [denoteRepAll, this, hg, Field.withValue_eq hn]) (by simp [Rep.absRef, this]) hc

theorem notInserted_inv (h : EInv init log t0 base sid e o done st) (f : Field) :
    EInv init log t0 base sid (e.notInserted f).1 (emitInsertion o f (e.notInserted f).2) (done ++ [f]) st := by
  obtain ⟨h1, h2⟩ := findName_inv h f.name
  exact emitLookup_inv h1 h2

theorem MapsOK.setField (h : MapsOK t st) {f : Field} {a : Nat}
    (ha : st.dropped < a) (hf : st.all[a - 1]? = some f) : MapsOK { t with fieldMap := aset t.fieldMap f a } st := by
  refine ⟨fun g x hg => ?_, h.nm⟩
  rw [aget_aset] at hg
  split at hg
  · rename_i e; subst e; cases hg; exact ⟨ha, hf⟩
  · exact h.fm g x hg

theorem MapsOK.setName (h : MapsOK t st) {f : Field} {a : Nat}
    (ha : st.dropped < a) (hf : st.all[a - 1]? = some f) : MapsOK { t with nameMap := aset t.nameMap f.name a } st := by
  refine ⟨h.fm, fun n x hg => ?_⟩
  rw [aget_aset] at hg
  split at hg
  · rename_i e; subst e; cases hg; exact ⟨ha, f, hf, rfl⟩
  · exact h.nm n x hg

theorem afterInsert_inv (h : EInv init log t0 base sid e o done st)
    {f : Field} {t1 : Table} {st' : STable}
    (hs : st.insert f = some st') (habs : Abs t1 st') (haux : t1.aux = e.table.aux)
    (hmaps0 : MapsOK t1 { st with dropped := st'.dropped }) (hunt : ∀ a, st.dropped < a → a ≤ st'.dropped → e.table.isTracked a = false)
    (hlive : st'.dropped ≤ st.all.length) :
    ∃ e' r, (({ e with table := t1 } : TEnc).trackRef (st.all.length + 1)).afterInsert f (st.all.length + 1) = .ok (e', r) ∧
      EInv init log t0 base sid e' (emitInsertion o f r) (done ++ [f]) st' := by
  obtain ⟨hi, hb, hsid⟩ := h
  obtain ⟨hall, hcap, hdr⟩ := STable.insert_all hs
  have hmaps : MapsOK t1 st' := hmaps0.grow rfl hall
  have hlen : st'.all.length = st.all.length + 1 := by rw [hall]; simp
  have hnewEntry : st'.all[st.all.length + 1 - 1]? = some f := by rw [hall]; simp
  have hnewLive : st'.dropped < st.all.length + 1 := Nat.lt_succ_of_le hlive
  have hpb : csub (st.all.length + 1) (e.base + 1) .insertPostbase = .ok (st.all.length + 1 - (base + 1)) := by
    rw [hb]; exact csub_ok (Nat.succ_le_succ (Nat.le_trans hi.baseLe hi.grow))
  have hold : ∀ {x : Nat} {g : Field}, st.all[x - 1]? = some g → x ≤ st.all.length :=
    fun hg => Nat.le_of_pred_lt (List.getElem?_eq_some_iff.mp hg).1
  -- the four exits differ only in the instruction `i` announcing the insertion and in the name map installed
  have exit : ∀ (i : EncInstr) (nm : List (Bytes × Nat)), st.apply i = some st' → MapsOK { t1 with nameMap := nm } st' →
      LoopInv init log t0 base
        { t1.trackRef (st.all.length + 1) with fieldMap := aset t1.fieldMap f (st.all.length + 1), nameMap := nm }
        (aset e.blockRefs (st.all.length + 1) (cnt e.blockRefs (st.all.length + 1) + 1))
        (({ o with instrs := o.instrs ++ [i],
                   reps := o.reps ++ [.indexedPost (st.all.length + 1 - (base + 1))] } : EncOut).ref (st.all.length + 1))
        (done ++ [f]) st' :=
    fun i nm happly hm => (hi.inserted happly hs habs haux hmaps hunt hlive).setMaps _ _
      ((hm.setField hnewLive hnewEntry).congr rfl rfl)
  simp only [TEnc.afterInsert]
  cases hfm : aget t1.fieldMap f with
  | some refIndex =>
    obtain ⟨h4, h3⟩ := hmaps0.fm f refIndex hfm
    replace h4 := Nat.lt_of_le_of_lt hdr h4
    have happly : st.apply (.dup (st.all.length + 1 - (refIndex + 1))) = some st' := by
      simp only [STable.apply, Nat.add_sub_add_right, relEntry_of h4 h3, Option.bind_some, hs]
    have hm : MapsOK { t1 with nameMap := aModify t1.nameMap f.name (st.all.length + 1) } st' := by
      unfold aModify
      cases aget t1.nameMap f.name with
      | some _ => exact hmaps.setName hnewLive hnewEntry
      | none => exact hmaps.congr rfl rfl
    simp only [TEnc.trackRef, Table.trackRef, hfm, hpb, csub_ok (Nat.succ_le_succ (hold h3)), Res.bind_ok]
    exact ⟨_, _, rfl, (exit _ _ happly hm).trackRef (hmaps.fm f _ hfm).1 (hlen ▸ Nat.le_succ_of_le (hold h3)), hb, hsid⟩
  | none =>
    simp only [TEnc.trackRef, Table.trackRef, hfm]
    cases hsn : staticFindName f.name with
    | some si =>
      obtain ⟨g, hg, hgn⟩ := staticFindName_sound hsn
      have happly : st.apply (.insertStatic si f.value) = some st' := by
        simp only [STable.apply, hg, Option.bind_some, hgn]; exact hs
      simp only [hpb, Res.bind_ok]
      exact ⟨_, _, rfl, exit _ _ happly (hmaps.congr rfl rfl), hb, hsid⟩
    | none =>
      simp only
      cases hnmx : aget t1.nameMap f.name with
      | some refIndex =>
        obtain ⟨h4, g, h3, hgn⟩ := hmaps0.nm f.name refIndex hnmx
        replace h4 := Nat.lt_of_le_of_lt hdr h4
        have happly : st.apply (.insertDyn (st.all.length + 1 - (refIndex + 1)) f.value) = some st' := by
          simp only [STable.apply, Nat.add_sub_add_right, relEntry_of h4 h3, Option.bind_some, hgn]; exact hs
        simp only [hpb, csub_ok (Nat.succ_le_succ (hold h3)), Res.bind_ok]
        exact ⟨_, _, rfl, (exit _ _ happly (hmaps.setName hnewLive hnewEntry)).trackRef (hmaps.nm _ _ hnmx).1
          (hlen ▸ Nat.le_succ_of_le (hold h3)), hb, hsid⟩
      | none =>
        simp only [hpb, Res.bind_ok]
        exact ⟨_, _, rfl, exit _ _ (show st.apply (.insertLit f.name f.value) = some st' from hs)
          (hmaps.setName hnewLive hnewEntry), hb, hsid⟩

theorem insert_inv (h : EInv init log t0 base sid e o done st) (f : Field) :
    ∃ e' r st', e.insert f = .ok (e', r) ∧ EInv init log t0 base sid e' (emitInsertion o f r) (done ++ [f]) st' := by
  unfold TEnc.insert
  by_cases hbl : e.table.blockedCount ≥ e.table.blockedMax
  · rw [if_pos hbl]; exact ⟨_, _, st, rfl, notInserted_inv h f⟩
  · rw [if_neg hbl]
    have ho := insert_spec h.1.abs f
    generalize e.table.insert f = r at ho
    cases ho with
    | inserted t1 st' hs habs haux hm hunt hlive =>
      obtain ⟨e', r', h1, h2⟩ := afterInsert_inv h hs habs haux (hm h.1.maps) hunt hlive
      rw [← h.1.abs.ins] at h1 ⊢
      exact ⟨e', r', st', h1, h2⟩
    -- `zeroCap`, `pinned`: `insert` answered `Ok(None)`; `tooLarge`: it answered `MaxTableSizeReached`, which
    -- `DynamicTableEncoder::insert` turns into the same `NotInserted` exit
    | _ => exact ⟨_, _, st, rfl, notInserted_inv h f⟩

theorem encodeField_inv (h : EInv init log t0 base sid e o done st) (f : Field) :
    ∃ e' o' st', encodeField e o f = .ok (e', o') ∧ EInv init log t0 base sid e' o' (done ++ [f]) st' := by
  unfold encodeField
  cases hsf : staticFind f with
  | some i =>
    refine ⟨_, _, st, rfl, ?_, h.2.1, h.2.2⟩
    exact h.1.emitNoRef (r := .indexedStatic i) (by simp [denoteRepAll, staticFind_sound hsf]) rfl
  | none =>
    simp only
    obtain ⟨h1, h2⟩ := find_inv h f
    cases hl : (e.find f).2 with
    | relative idx a =>
      simp only
      rw [hl] at h2
      obtain ⟨hab, hidx, hc, g, hg, rfl⟩ := h2
      have : base - idx = a := by omega
      refine ⟨_, _, st, rfl, ?_, h1.2.1, h1.2.2⟩
      exact h1.1.emitRef (r := .indexedDyn idx) (by simp [denoteRepAll, this, hg])
        (by simp [Rep.absRef, this]) hc
    | _ =>
      simp only
      obtain ⟨e', r, st', h3, h4⟩ := insert_inv h1 f
      exact ⟨e', _, st', by rw [h3]; rfl, h4⟩

theorem encodeFields_inv (h : EInv init log t0 base sid e o done st)
    (fs : List Field) :
    ∃ e' o' st', encodeFields e o fs = .ok (e', o') ∧ EInv init log t0 base sid e' o' (done ++ fs) st' := by
  induction fs generalizing e o done st with
  | nil => exact ⟨e, o, st, rfl, by simpa using h⟩
  | cons f fs ih =>
    obtain ⟨e1, o1, st1, h1, hi1⟩ := encodeField_inv h f
    obtain ⟨e2, o2, st2, h2, hi2⟩ := ih hi1
    exact ⟨e2, o2, st2, by simp only [encodeFields, h1, Res.bind_ok, h2], by simpa using hi2⟩

/-- invariant of the encoder's table between calls; `log` = every encoder instruction emitted so far -/
structure TableInv (init : STable) (log : List EncInstr) (t : Table) (st : STable) : Prop where
  run : init.run log = some st
  abs : Abs t st
  maps : MapsOK t st
  track : TrackOK t
  blocked : BlockedOK t

theorem refreshMaps_spec (h : Abs t st) (fs : List Field) (idx : Nat)
    (fm : List (Field × Nat)) (nm : List (Bytes × Nat)) (hsuf : t.fields.drop idx = fs)
    (hm : MapsOK { t with fieldMap := fm, nameMap := nm } st) :
    ∃ fm' nm', refreshMaps t.vas fs idx fm nm = .ok (fm', nm') ∧
      MapsOK { t with fieldMap := fm', nameMap := nm' } st := by
  induction fs generalizing idx fm nm with
  | nil => exact ⟨fm, nm, rfl, hm⟩
  | cons f r ih =>
    have hlen : idx < t.fields.length := by
      apply Nat.lt_of_not_le; intro hle
      rw [List.drop_eq_nil_of_le hle] at hsuf; simp at hsuf
    have hidx : t.vas.index idx = some (idx + t.vas.dropped + 1) := by
      simp only [Vas.index]; rw [if_neg (by rw [h.delta]; omega)]
    have hf : t.fields[idx]? = some f := by
      have : (t.fields.drop idx)[0]? = some f := by rw [hsuf]; rfl
      rw [List.getElem?_drop] at this; simpa using this
    have hall : st.all[idx + t.vas.dropped + 1 - 1]? = some f := by
      rw [h.fields, List.getElem?_drop] at hf
      rw [h.drp]; rw [← hf]; congr 1; omega
    have hdl : st.dropped < idx + t.vas.dropped + 1 := by rw [h.drp]; omega
    simp only [refreshMaps, hidx]
    apply ih (idx + 1)
    · rw [← List.drop_drop, hsuf]; rfl
    · exact ((hm.setField hdl hall).setName hdl hall).congr rfl rfl

theorem TEnc.commit_eq (e : TEnc) (r : Nat) :
    ∃ bc bs, e.commit r =
        { e.table with
          trackBlocks := aset e.table.trackBlocks e.streamId ((aget e.table.trackBlocks e.streamId).getD [] ++ [e.blockRefs])
          blockedCount := bc, blockedStreams := bs } ∧
      (e.table.blockedCount = vsum e.table.blockedStreams → bc = vsum bs) := by
  unfold TEnc.commit
  rw [Table.trackBlock_eq]
  exact Table.registerBlocked_eq _ _

/-- what the connected system reads off one `encode` call (no proof reads `lkr`, `baseLe`, `dropMono`) -/
structure EncodeFacts (t : Table) (st : STable) (sid : Nat) (fields : List Field) (enc : Encoded) (st' : STable) : Prop where
  den : denoteAll st'.all enc.base enc.block.reps = some fields
  refs : ∀ r ∈ enc.block.reps, ∀ a, r.absRef enc.base = some a → 1 ≤ cnt enc.refMap a ∧ a ≤ enc.required
  req : enc.required = 0 ∨ ∃ r ∈ enc.block.reps, r.absRef enc.base = some enc.required
  new : ∀ a, st.all.length < a → a ≤ st'.all.length → 1 ≤ cnt enc.refMap a ∧ a ≤ enc.required
  reqLe : enc.required ≤ st'.all.length
  wf : RefMapWF enc.refMap
  queue : aget enc.table.trackBlocks sid = some ((aget t.trackBlocks sid).getD [] ++ [enc.refMap])
  others : ∀ x, x ≠ sid → aget enc.table.trackBlocks x = aget t.trackBlocks x
  lkr : enc.table.lkr = t.lkr
  cap : st'.cap = st.cap
  pfx : prefixNew enc.required enc.base st'.all.length st.cap = .ok enc.block.pfx
  baseLe : enc.base ≤ st.all.length
  grow : ∃ l, st'.all = st.all ++ l
  dropMono : st.dropped ≤ st'.dropped
  noSU : ∀ i ∈ enc.instrs, ∀ c, i ≠ .sizeUpdate c
  refPos : ∀ r ∈ enc.block.reps, ∀ a, r.absRef enc.base = some a → 1 ≤ a
  mono : ∀ a, cnt t.trackMap a ≤ cnt enc.table.trackMap a

theorem encode_spec {init log t st} (h : TableInv init log t st) (sid : Nat) (fields : List Field) :
    ∃ enc st', encode t sid fields = .ok enc ∧ TableInv init (log ++ enc.instrs) enc.table st' ∧
      EncodeFacts t st sid fields enc st' := by
  unfold encode Table.encoder
  obtain ⟨fm, nm, hrm, hmaps⟩ := refreshMaps_spec h.abs t.fields 0 t.fieldMap t.nameMap (by simp)
    (h.maps.congr rfl rfl)
  have hlr : t.vas.largestRef = .ok (t.vas.inserted - t.vas.dropped) := by
    unfold Vas.largestRef; exact csub_ok (by rw [h.abs.ins, h.abs.drp]; exact h.abs.le)
  simp only [hrm, hlr, Res.bind_ok]
  have h0 : EInv init log { t with fieldMap := fm, nameMap := nm } (t.vas.inserted - t.vas.dropped) sid
      { table := { t with fieldMap := fm, nameMap := nm }, base := t.vas.inserted - t.vas.dropped, streamId := sid }
      {} [] st := by
    refine ⟨?_, rfl, rfl⟩
    exact {
      run := by simpa using h.run
      abs := h.abs.of_core rfl rfl rfl rfl
      maps := hmaps
      track := h.track.congr rfl rfl rfl
      brwf := ⟨by simp [keys], by simp⟩
      aux0 := ⟨rfl, rfl, rfl, rfl, rfl⟩
      grow := by simp only; rw [h.abs.ins]; exact Nat.le_refl _
      baseLe := by simp only; omega
      capEq := by simp only; exact h.abs.max.symm
      den := rfl
      refs := by intro r hr; simp at hr
      req := Or.inl rfl
      new := by intro a h1 h2; simp only at h1; rw [h.abs.ins] at h1; omega
      noSU := by intro i hi; simp at hi
      refPos := by intro r hr; simp at hr
      mono := fun _ => Nat.le_refl _ }
  obtain ⟨e, o, st', hloop, hinv, hbase, hsid⟩ := encodeFields_inv h0 fields
  simp only [hloop, Res.bind_ok]
  simp only [List.nil_append] at hinv
  -- `HeaderPrefix::new` cannot panic: a Required Insert Count other than 0 is a referenced, hence live, entry
  have hreqLive : o.required ≠ 0 → st'.dropped < o.required ∧ o.required ≤ st'.all.length := by
    intro hne
    rcases hinv.req with h0' | ⟨r, hr, ha⟩
    · exact absurd h0' hne
    · have hc := (hinv.refs r hr _ ha).1
      have := hinv.track.live o.required (by rw [hinv.track.sum]; omega)
      rw [hinv.abs.drp, hinv.abs.ins] at this; exact this
  have hcapst : st'.cap = st.cap := by rw [hinv.capEq]; simp only; exact h.abs.max
  have hpfx : ∃ p, prefixNew o.required e.base e.table.totalInserted e.table.maxSize = .ok p := by
    refine prefixNew_ok fun hr0 => ?_
    obtain ⟨hl1, hl2⟩ := hreqLive hr0
    have hlen := hinv.abs.length_le
    rw [Table.totalInserted, hinv.abs.ins, hinv.abs.max]
    exact ⟨hl2, Nat.le_trans (Nat.le_sub_of_add_le' (Nat.lt_of_lt_of_le hl1 hl2)) hlen⟩
  obtain ⟨p, hp⟩ := hpfx
  simp only [hp, Res.bind_ok]
  obtain ⟨bc, bs, hcom, hbl⟩ := e.commit_eq o.required
  rw [hcom]
  have hrm := STable.run_mono (st := st) (st' := st') (ins := o.instrs) (by
    have := hinv.run; rw [STable.run_append, h.run] at this; simpa using this)
  refine ⟨_, st', rfl, ?_, ?_⟩
  · exact {
      run := hinv.run
      abs := hinv.abs.of_core rfl rfl rfl rfl
      maps := hinv.maps.congr rfl rfl
      track := (trackBlock_spec hinv.track hinv.brwf e.streamId).congr rfl rfl rfl
      blocked := ⟨hbl (by rw [hinv.aux0.2.2.2.1, hinv.aux0.2.2.2.2]; exact h.blocked.sum)⟩ }
  · exact {
      den := hbase ▸ hinv.den
      refs := hbase ▸ hinv.refs
      req := hbase ▸ hinv.req
      refPos := hbase ▸ hinv.refPos
      new := fun a h1 h2 => hinv.new a (by simp only; rw [h.abs.ins]; exact h1) h2
      reqLe := by
        simp only
        by_cases hr0 : o.required = 0
        · omega
        · exact (hreqLive hr0).2
      wf := hinv.brwf
      queue := by simp only; rw [hsid, hinv.aux0.1]; exact aget_aset_self ..
      others := fun x hx => by simp only; rw [hsid, hinv.aux0.1]; exact aget_aset_ne _ _ (Ne.symm hx)
      lkr := hinv.aux0.2.1
      cap := hcapst
      pfx := by
        simp only
        rw [← hp]; simp only [Table.totalInserted]
        rw [hinv.abs.ins, hinv.abs.max, hcapst]
      baseLe := by simp only; rw [hbase, ← h.abs.ins]; omega
      grow := hrm.1
      dropMono := hrm.2
      noSU := hinv.noSU
      mono := hinv.mono }

end H3.Dyn
