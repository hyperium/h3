import H3.Lemmas.FrameStream
/-! The two preservation lemmas of App. B.1 (`pollNextLoop_spec`, `pollData_spec`):
    every answer of `poll_next` / `poll_data`, from a state satisfying `Inv`, is described in
    terms of the reference automaton, and non-error answers re-establish `Inv`.  Both go through what
    `try_recv` does under `Inv` (`TryRecv.spec`), then the decode step (`afterRecv_spec`) or `takeChunk_spec`. -/
namespace H3.FS
variable {F E : Type}

/-- nothing that is buffered decodes -/
def Stuck (D : Dec F E) (s : St) : Prop := s.flat = [] ∨ (D.dec s.flat).isIncomplete = true

/-- a protocol error was reported: the consumed bytes end at a frame boundary and some prefix
    of the buffer drives the reference automaton into exactly this error -/
def ErrAt (D : Dec F E) (seen : Bytes) (toks : List (Tok F E)) (s : St) (e : E) : Prop :=
  ∃ consumed n, seen = consumed ++ s.flat ∧ run D (.hdr []) consumed = (.hdr [], toks) ∧
    1 ≤ n ∧ n ≤ s.flat.length ∧ run D (.hdr []) (s.flat.take n) = (.dead, [.errProto e])

/-- bookkeeping of what a call took from the script: never a reset, nothing after `fin` -/
def TakenOK (eos eos' : Bool) (taken : List Ev) : Prop :=
  (∀ c, Ev.reset c ∉ taken) ∧
  (if eos then taken = [] ∧ eos' = true
   else if eos' then ∃ pre, taken = pre ++ [.fin] ∧ .fin ∉ pre else .fin ∉ taken)

/-- what an answer of `poll_next` means (`seen` already includes the chunks the call took) -/
def NextOut (D : Dec F E) (seen : Bytes) (toks : List (Tok F E)) (s' : St) (script' : List Ev) :
    Out F E → Prop
  | .frame f => Inv D seen (toks ++ [.frame f]) s'
  | .pending => Inv D seen toks s' ∧ Stuck D s' ∧ s'.eos = false ∧ s'.remaining = 0
  | .none => Inv D seen toks s' ∧ s'.flat = [] ∧ s'.eos = true ∧ s'.remaining = 0
  | .errEnd => Inv D seen toks s' ∧ s'.flat ≠ [] ∧ (D.dec s'.flat).isIncomplete = true ∧
      s'.eos = true ∧ s'.remaining = 0
  | .errProto e => ErrAt D seen toks s' e
  | .errQuic c => Inv D seen toks s' ∧ (∃ r, script' = .reset c :: r) ∧ s'.eos = false
  | .data _ => False
  | .panic => False

/-- specification of the decode step: an answer means what it means as the answer of `poll_next` (and the decode
    step does not touch `eos`); no answer after a chunk, and then nothing that is buffered decodes -/
def AfterSpec (D : Dec F E) (seen : Bytes) (toks : List (Tok F E)) (s : St) (e : End) (script' : List Ev) :
    Option (Out F E × St) → Prop
  | some (o, s') => s'.eos = s.eos ∧ NextOut D seen toks s' script' o
  | none => e = .more ∧ ∃ d exp, decLoop D (s.flat.length + 1) s.flat s.expected 0 = .none d exp ∧
      Inv D seen toks { s with buf := advance d s.buf, expected := exp } ∧
      Stuck D { s with buf := advance d s.buf, expected := exp }

theorem flat_advance (s : St) (d : Nat) (exp : Option Nat) (h : ∀ c ∈ s.buf, c ≠ []) :
    ({ s with buf := advance d s.buf, expected := exp } : St).flat = s.flat.drop d := by
  simp [St.flat, advance_flatten d s.buf]

theorem takenOK_trans {e1 e2 : Bool} {t1 t2 : List Ev} (h1 : TakenOK false e1 t1)
    (h2 : TakenOK e1 e2 t2) : TakenOK false e2 (t1 ++ t2) := by
  cases e1 with
  | true =>
    simp only [TakenOK, if_true] at h2
    obtain ⟨_, rfl, rfl⟩ := h2
    simpa using h1
  | false =>
    simp only [TakenOK, Bool.false_eq_true, if_false] at h1 h2 ⊢
    refine ⟨fun c hc => ?_, ?_⟩
    · rcases List.mem_append.mp hc with h | h
      · exact h1.1 c h
      · exact h2.1 c h
    · cases e2 with
      | true =>
        simp only [if_true] at h2 ⊢
        obtain ⟨pre, rfl, hpre⟩ := h2.2
        refine ⟨t1 ++ pre, by simp, ?_⟩
        intro h
        rcases List.mem_append.mp h with h | h
        · exact h1.2 h
        · exact hpre h
      | false =>
        simp only [Bool.false_eq_true, if_false] at h2 ⊢
        intro h
        rcases List.mem_append.mp h with h | h
        · exact h1.2 h
        · exact h2.2 h

theorem scriptOK_suffix {a b : List Ev} (h : ScriptOK (a ++ b)) : ScriptOK b :=
  fun x hx => h x (List.mem_append_right _ hx)

/-- the decode step drops `d` buffered bytes, over which the automaton goes from the frame boundary to `p` and emits
    `t`: the split of `seen` that the invariant of the new state asks for -/
theorem Inv.drop {D : Dec F E} {seen : Bytes} {toks : List (Tok F E)} {s : St} (hI : Inv D seen toks s)
    (h0 : s.remaining = 0) {d : Nat} {p : PSt} {t : List (Tok F E)}
    (hr : run D (.hdr []) (s.flat.take d) = (p, t)) :
    ∃ consumed, seen = consumed ++ (advance d s.buf).flatten ∧ run D (.hdr []) consumed = (p, toks ++ t) := by
  obtain ⟨consumed, hseen, hrun⟩ := hI.split
  rw [h0, PSt.ofRem_zero] at hrun
  refine ⟨consumed ++ s.flat.take d, ?_, ?_⟩
  · rw [advance_flatten, hseen, List.append_assoc, ← St.flat, List.take_append_drop]
  · rw [run_append, hrun, hr]

theorem afterRecv_spec (D : Dec F E) (L : Laws D) (seen : Bytes) (toks : List (Tok F E)) (s : St)
    (hI : Inv D seen toks s) (h0 : s.remaining = 0) (e : End) (hpend : e = .pending → s.eos = false)
    (heos : e = .eos → s.eos = true) (script' : List Ev) :
    AfterSpec D seen toks s e script' (afterRecv D s e) := by
  have hspec := decLoop_spec D L (s.flat.length + 1) s.flat s.expected 0 (by omega) hI.exp
  unfold afterRecv
  revert hspec
  cases hdl : decLoop D (s.flat.length + 1) s.flat s.expected 0 with
  | frame d f =>
    rintro ⟨d', rfl, _, _, hr⟩
    simp only [Nat.zero_add]
    rw [St.applyKind_eq]
    exact ⟨rfl, advance_ne _ _ hI.ne, hI.drop h0 hr, expSound_none D _, fun _ => rfl⟩
  | error d exp e' =>
    rintro ⟨d', n, rfl, hn1, hn2, hr0, hr⟩
    simp only [Nat.zero_add]
    have hfl := flat_advance s d' exp hI.ne
    obtain ⟨consumed, hseen, hrun⟩ := hI.drop h0 hr0
    refine ⟨rfl, consumed, n, hseen, by simpa using hrun, hn1, ?_, ?_⟩
    · rw [hfl, List.length_drop]
      omega
    · rw [hfl]
      exact hr
  | none d exp =>
    rintro ⟨d', rfl, _, hr0, hstuck, hsnd⟩
    simp only [Nat.zero_add] at hdl ⊢
    have hfl := flat_advance s d' exp hI.ne
    obtain ⟨consumed, hseen, hrun⟩ := hI.drop h0 hr0
    have hInv : Inv D seen toks { s with buf := advance d' s.buf, expected := exp } :=
      ⟨advance_ne _ _ hI.ne, ⟨consumed, hseen, by simpa [h0] using hrun⟩, hfl ▸ hsnd, fun h => absurd h0 h⟩
    have hSt : Stuck D { s with buf := advance d' s.buf, expected := exp } := by
      unfold Stuck; rw [hfl]; exact hstuck
    cases e with
    | more => exact ⟨rfl, d', exp, hdl, hInv, hSt⟩
    | pending => exact ⟨rfl, hInv, hSt, hpend rfl, h0⟩
    | eos =>
      by_cases hnil : ({ s with buf := advance d' s.buf, expected := exp } : St).flat = []
      · rw [if_pos hnil]
        exact ⟨rfl, hInv, hnil, heos rfl, h0⟩
      · rw [if_neg hnil]
        exact ⟨rfl, hInv, hnil, hSt.resolve_left hnil, heos rfl, h0⟩

def NextPost (D : Dec F E) (seen : Bytes) (toks : List (Tok F E)) (s : St) (script : List Ev) :
    Out F E × St × List Ev → Prop
  | (o, s', script') => ∃ taken, script = taken ++ script' ∧ TakenOK s.eos s'.eos taken ∧
      NextOut D (seen ++ evBytes taken) toks s' script' o

theorem inv_push (D : Dec F E) (seen : Bytes) (toks : List (Tok F E)) (s : St) (b : Bytes)
    (hI : Inv D seen toks s) (hb : b ≠ []) : Inv D (seen ++ b) toks (s.push b) := by
  obtain ⟨consumed, hseen, hrun⟩ := hI.split
  have hfl : (s.push b).flat = s.flat ++ b := by simp [St.push, St.flat]
  refine ⟨?_, ⟨consumed, ?_, hrun⟩, ?_, hI.expData⟩
  · intro c hc
    simp only [St.push, List.mem_append, List.mem_singleton] at hc
    rcases hc with hc | rfl
    · exact hI.ne c hc
    · exact hb
  · rw [hfl, hseen, List.append_assoc]
  · rw [hfl]; exact expSound_append D _ _ _ hI.exp

theorem TryRecv.spec {D : Dec F E} {seen : Bytes} {toks : List (Tok F E)} {s s1 : St} {sc tk r : List Ev} {e : End}
    (h : TryRecv s sc tk e s1 r) (hI : Inv D seen toks s) (hsc : ScriptOK sc) :
    TakenOK s.eos s1.eos tk ∧ Inv D (seen ++ evBytes tk) toks s1 ∧ (e = .pending → s1.eos = false) ∧
      (e = .eos → s1.eos = true) := by
  cases h with
  | eos he => exact ⟨by simp [TakenOK, he], by simpa [evBytes] using hI, nofun, fun _ => he⟩
  | nil he => exact ⟨by simp [TakenOK, he], by simpa [evBytes] using hI, fun _ => he, nofun⟩
  | pend he => exact ⟨by simp [TakenOK, he], by simpa [evBytes] using hI, fun _ => he, nofun⟩
  | fin he =>
    exact ⟨by simp only [TakenOK, he]; exact ⟨by simp, [], by simp⟩,
      by simpa [evBytes] using (⟨hI.ne, hI.split, hI.exp, hI.expData⟩ : Inv D seen toks { s with eos := true }),
      nofun, fun _ => rfl⟩
  | chunk he =>
    exact ⟨by simp [TakenOK, he, St.push], by simpa [evBytes] using inv_push D seen toks s _ hI (hsc _ (by simp)),
      nofun, nofun⟩

theorem pollNextLoop_spec (D : Dec F E) (L : Laws D) (script : List Ev) :
    ∀ (seen : Bytes) (toks : List (Tok F E)) (s : St), Inv D seen toks s → s.remaining = 0 →
      ScriptOK script → NextPost D seen toks s script (pollNextLoop D s script) := by
  intro seen toks s hI h0 hsc
  have hr := pollNextLoop_run D script s
  generalize pollNextLoop D s script = res at hr
  induction hr generalizing seen with
  | @reset s c r he =>
    exact ⟨[], by simp, by simp [TakenOK, he], by simpa [evBytes] using hI, ⟨r, rfl⟩, he⟩
  | @answer s sc tk e s1 r o s' ht ha =>
    obtain ⟨htk, hI1, hpend, heos⟩ := ht.spec hI hsc
    obtain ⟨rfl, _, hrem, _⟩ := ht.shape
    have hA := afterRecv_spec D L _ toks s1 hI1 (hrem.trans h0) e hpend heos r
    rw [ha] at hA
    exact ⟨tk, rfl, hA.1 ▸ htk, hA.2⟩
  | @more s sc tk s1 r d exp res ht hdl _ ih =>
    obtain ⟨htk, hI1, _⟩ := ht.spec hI hsc
    obtain ⟨rfl, _, hrem, _, hmore⟩ := ht.shape
    have hA := afterRecv_spec D L _ toks s1 hI1 (hrem.trans h0) .more nofun nofun []
    rw [show afterRecv D s1 .more = none by unfold afterRecv; rw [hdl]] at hA
    obtain ⟨_, d', exp', hdl', hI2, _⟩ := hA
    rw [hdl] at hdl'
    cases hdl'
    obtain ⟨taken, rfl, htk', hout⟩ := ih _ hI2 (hrem.trans h0) (scriptOK_suffix hsc)
    refine ⟨tk ++ taken, by simp, ?_, by simpa [evBytes_append, List.append_assoc] using hout⟩
    rw [(hmore rfl).1] at htk ⊢
    exact takenOK_trans htk htk'

theorem takeChunk_spec (max : Nat) (buf : List Bytes) (hne : ∀ c ∈ buf, c ≠ []) (hmax : max ≠ 0) :
    match takeChunk max buf with
    | (none, buf') => buf = [] ∧ buf' = []
    | (some d, buf') => d ≠ [] ∧ d.length ≤ max ∧ buf.flatten = d ++ buf'.flatten ∧
        (∀ c ∈ buf', c ≠ []) := by
  cases buf with
  | nil => simp [takeChunk]
  | cons c cs =>
    have hc : c ≠ [] := hne c (by simp)
    have hclen : 0 < c.length := List.length_pos_iff.mpr hc
    simp only [takeChunk]
    refine ⟨?_, ?_, ?_, ?_⟩
    · intro h0
      have := congrArg List.length h0
      simp only [List.length_take, List.length_nil] at this
      omega
    · simp only [List.length_take]; omega
    · by_cases hk : min max c.length = c.length
      · rw [if_pos hk, hk]; simp
      · rw [if_neg hk]
        simp only [List.flatten_cons]
        rw [← List.append_assoc, List.take_append_drop]
    · by_cases hk : min max c.length = c.length
      · rw [if_pos hk]; exact fun x hx => hne x (by simp [hx])
      · rw [if_neg hk]
        intro x hx
        simp only [List.mem_cons] at hx
        rcases hx with rfl | hx
        · intro h0
          have := congrArg List.length h0
          simp at this
          omega
        · exact hne x (by simp [hx])

/-- what an answer of `poll_data` means (`seen` already includes the chunk the call took) -/
def DataOut (D : Dec F E) (seen : Bytes) (toks : List (Tok F E)) (s s' : St) (script' : List Ev) :
    Out F E → Prop
  | .none => Inv D seen toks s' ∧ ((s.remaining = 0 ∧ s' = s) ∨
      (s.remaining = USIZE_MAX ∧ s'.remaining = USIZE_MAX ∧ s'.eos = true ∧ s'.flat = []))
  | .data d => d ≠ [] ∧ d.length ≤ s.remaining ∧ s'.remaining = s.remaining - d.length ∧
      Inv D seen (toks ++ d.map .byte) s'
  | .pending => Inv D seen toks s' ∧ s'.flat = [] ∧ s'.eos = false ∧ s'.remaining = s.remaining
  | .errEnd => s'.eos = true ∧ s.remaining ≠ 0 ∧
      ∃ consumed rest, seen = consumed ++ rest ∧
        run D (.hdr []) consumed = (.data s.remaining, toks) ∧ rest.length < s.remaining
  | .errQuic c => s' = s ∧ (∃ r, script' = .reset c :: r) ∧ s.eos = false
  | .frame _ => False
  | .errProto _ => False
  | .panic => False

def DataPost (D : Dec F E) (seen : Bytes) (toks : List (Tok F E)) (s : St) (script : List Ev) :
    Out F E × St × List Ev → Prop
  | (o, s', script') => ∃ taken, script = taken ++ script' ∧ TakenOK s.eos s'.eos taken ∧
      DataOut D (seen ++ evBytes taken) toks s s' script' o

theorem takenOK_refl (eos : Bool) : TakenOK eos eos [] := by
  cases eos <;> simp [TakenOK]

theorem TakenOK.eos_false {eos eos' : Bool} {tk : List Ev} (h : TakenOK eos eos' tk) (he : eos' = false) :
    eos = false := by
  cases eos with
  | false => rfl
  | true =>
    simp only [TakenOK, if_true] at h
    rw [h.2.2] at he; cases he

theorem pollData_spec (D : Dec F E) (seen : Bytes) (toks : List (Tok F E)) (s : St)
    (script : List Ev) (hI : Inv D seen toks s) (hsc : ScriptOK script) :
    DataPost D seen toks s script (pollData (F := F) (E := E) s script) := by
  have hr := pollData_run (F := F) (E := E) s script
  generalize pollData (F := F) (E := E) s script = res at hr
  have flat_nil : ∀ {s1 : St}, s1.buf = [] → s1.flat = [] := fun hb => by simp [St.flat, hb]
  cases hr with
  | idle h0 => exact ⟨[], by simp, takenOK_refl _, by simpa [evBytes] using hI, Or.inl ⟨h0, rfl⟩⟩
  | @reset c r h0 heosf => exact ⟨[], by simp, takenOK_refl _, rfl, ⟨r, rfl⟩, heosf⟩
  | @recv _ taken _ s1 _ _ _ h0 htr ht =>
    -- after `try_recv`: the invariant holds of `s1`, and the reference run stands inside the payload
    obtain ⟨htk, hI1, _⟩ := htr.spec hI hsc
    obtain ⟨rfl, _, hrem, _⟩ := htr.shape
    obtain ⟨consumed, hseen, hrun⟩ := hI1.split
    rw [hrem, PSt.ofRem_pos h0] at hrun
    have hS := takeChunk_spec s1.remaining s1.buf hI1.ne (by rw [hrem]; exact h0)
    cases ht with
    | ended hE hb hmax =>
      exact ⟨taken, rfl, htk, hE, h0, consumed, [], by rw [hseen, flat_nil hb], hrun, by simp; omega⟩
    | rawEnd hE hb hmax => exact ⟨taken, rfl, htk, hI1, Or.inr ⟨by rw [← hrem]; exact hmax, hmax, hE, flat_nil hb⟩⟩
    | wait hE hb => exact ⟨taken, rfl, htk, hI1, flat_nil hb, hE, hrem⟩
    | @cut d hE hT hlt =>
      rw [hT] at hS
      refine ⟨taken, rfl, htk, hE, h0, consumed, d, ?_, hrun, by rw [← hrem]; exact hlt⟩
      rw [hseen]; simp only [St.flat]; rw [hS.2.2.1]; simp
    | @piece d buf' hT _ =>
      rw [hT] at hS
      obtain ⟨hd, hdlen, hflat, hne'⟩ := hS
      refine ⟨taken, rfl, htk, hd, by rw [← hrem]; exact hdlen, by simp [hrem], ?_⟩
      have hexp := hI1.expData (by rw [hrem]; exact h0)
      refine ⟨hne', ⟨consumed ++ d, ?_, ?_⟩, ?_, fun _ => hexp⟩
      · show _ = _ ++ buf'.flatten
        rw [hseen]; simp only [St.flat]; rw [hflat, List.append_assoc]
      · rw [run_append, hrun]
        rw [run_data D d s.remaining h0 (by rw [← hrem]; exact hdlen)]
        simp [hrem]
      · show ExpSound D _ s1.expected
        rw [hexp]; exact expSound_none D _

end H3.FS
