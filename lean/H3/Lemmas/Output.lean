import H3.Spec.Output
import H3.Lemmas.VarintSpec
/-! The output specification `H3.Spec.Output` on bytes of the shape `varint type ++ varint |payload| ++
    payload`: read back as one frame whatever follows, every prefix acceptable on an open stream, and a
    stream that starts with whole frames judged as the rest.  Before that, on identifiers: a reserved one is none
    of a list of unreserved ones (`reserved_not_mem`), which the send-side and settings files take from here. -/
namespace H3.Spec.Output
open H3.Varint

theorem reserved_ne {x y : Nat} (hx : isReserved x = true) (hy : isReserved y = false) : x ≠ y :=
  fun e => by rw [e, hy] at hx; cases hx

theorem reserved_not_mem {x : Nat} (hx : isReserved x = true) (l : List Nat)
    (hl : ∀ y ∈ l, isReserved y = false) : l.contains x = false := by
  rw [List.contains_eq_mem, decide_eq_false_iff_not]
  exact fun hm => reserved_ne hx (hl x hm) rfl

theorem wire_length_pos (ty : Nat) (p : Bytes) (hty : ty < 2^62) : 0 < (wire ty p).length := by
  have := encode_length_pos ty hty
  simp [wire]; omega

theorem wire_ne_nil (ty : Nat) (p : Bytes) (hty : ty < 2^62) : wire ty p ≠ [] :=
  fun h => absurd (wire_length_pos ty p hty) (by rw [h]; exact Nat.lt_irrefl 0)

theorem rfc_wire (ty : Nat) (p rest : Bytes) (hty : ty < 2^62) (hp : p.length < 2^62) :
    rfcDecode (wire ty p ++ rest) = some (ty, encode p.length ++ (p ++ rest)) ∧
    rfcDecode (encode p.length ++ (p ++ rest)) = some (p.length, p ++ rest) := by
  refine ⟨?_, rfcDecode_encode _ hp _⟩
  rw [wire, List.append_assoc, List.append_assoc]
  exact rfcDecode_encode ty hty _

theorem frameStep_whole (tyOk : Nat → Option Violation) (payOk : Nat → Bytes → Option Violation)
    (k : Bytes → Option Violation) (ty : Nat) (p rest : Bytes) (fin : Bool)
    (hty : ty < 2^62) (hp : p.length < 2^62) (h1 : tyOk ty = none) (h2 : payOk ty p = none) :
    frameStep tyOk payOk k (wire ty p ++ rest) fin = k rest := by
  obtain ⟨e1, e2⟩ := rfc_wire ty p rest hty hp
  unfold frameStep
  rw [e1]
  simp only [h1]
  rw [e2]
  simp only
  rw [if_neg (by simp), List.take_left, List.drop_left, h2]

theorem frameStep_partial (tyOk : Nat → Option Violation)
    (payOk : Nat → Bytes → Option Violation) (k : Bytes → Option Violation) (ty : Nat)
    (p : Bytes) (hty : ty < 2^62) (hp : p.length < 2^62) (h1 : tyOk ty = none) (c : Nat)
    (hc : c < (wire ty p).length) :
    frameStep tyOk payOk k ((wire ty p).take c) false = none := by
  simp only [wire, List.length_append, List.append_assoc] at hc ⊢
  unfold frameStep
  rw [rfcDecode_encode_take ty hty]
  by_cases hA : c < (encode ty).length
  · rw [if_pos hA]; rfl
  · -- the type is there
    rw [if_neg hA]
    simp only [h1]
    rw [rfcDecode_encode_take _ hp]
    by_cases hB : c - (encode ty).length < (encode p.length).length
    · rw [if_pos hB]; rfl
    · -- the length is there, the payload is not
      rw [if_neg hB]
      simp only [List.length_take]
      rw [if_pos (by omega)]; rfl

theorem frameStep_congr (tyOk : Nat → Option Violation) (payOk : Nat → Bytes → Option Violation)
    (k k' : Bytes → Option Violation) (w : Bytes) (fin : Bool)
    (h : ∀ r, r.length < w.length → k r = k' r) :
    frameStep tyOk payOk k w fin = frameStep tyOk payOk k' w fin := by
  unfold frameStep
  cases h1 : rfcDecode w with
  | none => rfl
  | some x1 =>
    obtain ⟨ty, r1⟩ := x1
    simp only
    cases tyOk ty with
    | some v => rfl
    | none =>
      simp only
      cases h2 : rfcDecode r1 with
      | none => rfl
      | some x2 =>
        obtain ⟨len, r2⟩ := x2
        simp only
        by_cases hl : r2.length < len
        · rw [if_pos hl, if_pos hl]
        · rw [if_neg hl, if_neg hl]
          cases payOk ty (r2.take len) with
          | some v => rfl
          | none =>
            simp only
            apply h
            have := rfcDecode_length h1
            have := rfcDecode_length h2
            simp only [List.length_drop]
            omega

theorem walk_fuel (tyOk : Nat → Option Violation) (payOk : Nat → Bytes → Option Violation)
    (fuel fuel' : Nat) (w : Bytes) (fin : Bool) (h1 : w.length < fuel) (h2 : w.length < fuel') :
    walk tyOk payOk fuel w fin = walk tyOk payOk fuel' w fin := by
  induction fuel generalizing fuel' w with
  | zero => omega
  | succ n ih =>
    cases fuel' with
    | zero => omega
    | succ m =>
      unfold walk
      by_cases hw : w = []
      · rw [if_pos hw, if_pos hw]
      · rw [if_neg hw, if_neg hw]
        apply frameStep_congr
        intro r hr
        exact ih m r (by omega) (by omega)

/-- a sequence of frames with exactly the fuel the specification uses -/
def walkTop (tyOk : Nat → Option Violation) (payOk : Nat → Bytes → Option Violation)
    (w : Bytes) (fin : Bool) : Option Violation := walk tyOk payOk (w.length + 1) w fin

theorem walkTop_nil (tyOk : Nat → Option Violation) (payOk : Nat → Bytes → Option Violation)
    (fin : Bool) : walkTop tyOk payOk [] fin = none := by
  simp [walkTop, walk]

def IsFrame (tyOk : Nat → Option Violation) (payOk : Nat → Bytes → Option Violation)
    (item : Bytes) : Prop :=
  ∃ ty p, ty < 2^62 ∧ p.length < 2^62 ∧ tyOk ty = none ∧ payOk ty p = none ∧ item = wire ty p

theorem walkTop_frame {tyOk : Nat → Option Violation} {payOk : Nat → Bytes → Option Violation}
    {item : Bytes} (hi : IsFrame tyOk payOk item) (rest : Bytes) (fin : Bool) :
    walkTop tyOk payOk (item ++ rest) fin = walkTop tyOk payOk rest fin := by
  obtain ⟨ty, p, hty, hp, h1, h2, rfl⟩ := hi
  have hpos := wire_length_pos ty p hty
  unfold walkTop
  rw [walk, if_neg (List.append_ne_nil_of_left_ne_nil (wire_ne_nil ty p hty) rest),
    frameStep_whole tyOk payOk _ ty p rest fin hty hp h1 h2]
  apply walk_fuel
  · simp only [List.length_append]; omega
  · omega

theorem walkTop_partial {tyOk : Nat → Option Violation} {payOk : Nat → Bytes → Option Violation}
    {item : Bytes} (hi : IsFrame tyOk payOk item) (c : Nat) :
    walkTop tyOk payOk (item.take c) false = none := by
  by_cases hc : c < item.length
  · obtain ⟨ty, p, hty, hp, h1, h2, rfl⟩ := hi
    unfold walkTop
    rw [walk]
    split
    · rfl
    · exact frameStep_partial tyOk payOk _ ty p hty hp h1 c hc
  · rw [List.take_of_length_le (by omega)]
    have := walkTop_frame hi [] false
    rw [List.append_nil] at this
    rw [this, walkTop_nil]

/-- a stream that so far consists of whole acceptable frames: judging it with more bytes
    appended is judging those bytes -/
def Transparent (tyOk : Nat → Option Violation) (payOk : Nat → Bytes → Option Violation)
    (base : Bytes) : Prop :=
  ∀ rest fin, walkTop tyOk payOk (base ++ rest) fin = walkTop tyOk payOk rest fin

theorem transparent_nil (tyOk : Nat → Option Violation) (payOk : Nat → Bytes → Option Violation) :
    Transparent tyOk payOk [] := fun _ _ => rfl

theorem transparent_append {tyOk : Nat → Option Violation}
    {payOk : Nat → Bytes → Option Violation} {base item : Bytes}
    (hb : Transparent tyOk payOk base) (hi : IsFrame tyOk payOk item) :
    Transparent tyOk payOk (base ++ item) := by
  intro rest fin
  rw [List.append_assoc, hb, walkTop_frame hi]

theorem checkRequest_eq (w : Bytes) (fin : Bool) :
    checkRequest w fin = walkTop reqTyOk noPayCheck w fin := rfl

end H3.Spec.Output
