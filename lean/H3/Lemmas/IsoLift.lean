import H3.Lemmas.Iso
import H3.Lemmas.ReqLift
/-! C07 composed with the closed lifting of C03: a *valid message* stated on the wire bytes through the reference
    automaton of C02 (`msgToks`), what the §4.1 recogniser demands for it (`spec_msgKinds`, `hdrsOkK_msgKinds`), and
    the transport script of a healthy stream (chunks, then FIN) in the terms of `chunked_outcome_fin_fuel`
    (`Lemmas/ReqLift.lean`), the outcome of the documented pattern over any cutting of the bytes. -/
namespace H3.Iso
open H3.ReqRecv H3.Frame
open H3.Spec.ReqSeq hiding Bytes

/-- The tokens the reference automaton (C02, `FS.run frameDec`) emits on the bytes of a valid
    message: HEADERS `h`; DATA frames with payloads `ds` (any lengths, zero included), each
    followed by its payload bytes; HEADERS `t` iff there are trailers.  Frames of unknown type —
    before, between and after these — leave no token. -/
def msgToks (h : ReqRecv.Bytes) (ds : List ReqRecv.Bytes) (tr : Option ReqRecv.Bytes) : List RefTok :=
  .frame (.headers h) ::
    (ds.flatMap (fun p => .frame (.data p.length) :: p.map .byte) ++
      (match tr with | none => [] | some t => [.frame (.headers t)]))

/-- the recogniser's input for such a message: `H D* H?` (the `U`s are skipped anyway) -/
def msgKinds (h : ReqRecv.Bytes) (ds : List ReqRecv.Bytes) (tr : Option ReqRecv.Bytes) : List K :=
  .H h :: (ds.map .D ++ (match tr with | none => [] | some t => [.H t]))

def trToks (tr : Option ReqRecv.Bytes) : List RefTok :=
  match tr with | none => [] | some t => [.frame (.headers t)]

def bodyToks (ds : List ReqRecv.Bytes) : List RefTok :=
  ds.flatMap (fun p => .frame (.data p.length) :: p.map .byte)

theorem msgToks_eq (h : ReqRecv.Bytes) (ds : List ReqRecv.Bytes) (tr : Option ReqRecv.Bytes) :
    msgToks h ds tr = .frame (.headers h) :: (bodyToks ds ++ trToks tr) := rfl

theorem bodyToks_cons (p : ReqRecv.Bytes) (ds : List ReqRecv.Bytes) :
    bodyToks (p :: ds) = .frame (.data p.length) :: (p.map .byte ++ bodyToks ds) := by
  simp [bodyToks]

theorem mem_bodyToks {ds : List ReqRecv.Bytes} {tok : RefTok} (h : tok ∈ bodyToks ds) :
    (∃ d ∈ ds, tok = .frame (.data d.length)) ∨ ∃ b, tok = .byte b := by
  simp only [bodyToks, List.mem_flatMap, List.mem_cons, List.mem_map] at h
  obtain ⟨d, hd, hp | ⟨x, _, hx⟩⟩ := h
  · exact Or.inl ⟨d, hd, hp⟩
  · exact Or.inr ⟨x, hx.symm⟩

theorem leadBytes_bodyToks (ds : List ReqRecv.Bytes) (tr : Option ReqRecv.Bytes) :
    leadBytes (bodyToks ds ++ trToks tr) = [] := by
  cases ds with
  | nil => cases tr <;> rfl
  | cons p ds => rw [bodyToks_cons]; rfl

theorem kindsOf_body (tr : Option ReqRecv.Bytes) : ∀ ds : List ReqRecv.Bytes,
    kindsOf (bodyToks ds ++ trToks tr) = ds.map .D ++ (match tr with | none => [] | some t => [.H t]) := by
  intro ds
  induction ds with
  | nil => cases tr <;> rfl
  | cons p ds ih =>
    rw [bodyToks_cons, List.cons_append, List.append_assoc]
    simp only [kindsOf, List.map_cons, List.cons_append]
    rw [leadBytes_bytes_append, kindsOf_bytes_append, leadBytes_bodyToks, ih]
    simp [refKind]

theorem kindsOf_msgToks (h : ReqRecv.Bytes) (ds : List ReqRecv.Bytes) (tr : Option ReqRecv.Bytes) :
    kindsOf (msgToks h ds tr) = msgKinds h ds tr := by
  rw [msgToks_eq]
  simp only [kindsOf, refKind, msgKinds]
  rw [kindsOf_body]

theorem expected_Ds (side : Side) (h : ReqRecv.Bytes) (rest : List K) (stop : Stop) :
    ∀ (ds : List ReqRecv.Bytes) (acc : ReqRecv.Bytes),
      expected side (.body h acc) (ds.map .D ++ rest) stop = expected side (.body h (acc ++ ds.flatten)) rest stop := by
  intro ds
  induction ds with
  | nil => intro acc; simp
  | cons p ds ih =>
    intro acc
    simp only [List.map_cons, List.cons_append, expected, List.flatten_cons]
    rw [ih, List.append_assoc]

/-- what RFC 9114 §4.1 demands for a valid message ended by FIN: the head, the DATA payloads
    concatenated, the end of the body, the trailers iff present; no error, nothing reset -/
theorem spec_msgKinds (side : Side) (h : ReqRecv.Bytes) (ds : List ReqRecv.Bytes) (tr : Option ReqRecv.Bytes) :
    spec side (msgKinds h ds tr) .fin =
      .oneOf [{ calls := [.head h, .body ds.flatten, .bodyEnd, trObs tr] }] := by
  unfold spec msgKinds
  simp only [expected]
  rw [expected_Ds]
  cases tr <;> simp [expected, atStop, trObs]

/-- the positional header hypothesis of C03 for a valid message: the head block is an acceptable
    head, the trailer block (if any) an acceptable trailer section -/
theorem hdrsOkK_msgKinds (H : ReqRecv.Hdr) (h : ReqRecv.Bytes) (ds : List ReqRecv.Bytes) (tr : Option ReqRecv.Bytes)
    (hh : H.head h = .ok) (hT : ∀ t, tr = some t → H.trailer t = .ok) :
    HdrsOkK H .head (msgKinds h ds tr) := by
  have hD : ∀ (ds : List ReqRecv.Bytes) (r : List K), hdrBlocks (ds.map K.D ++ r) = hdrBlocks r := by
    intro ds r
    induction ds with
    | nil => rfl
    | cons d ds ih => simpa [hdrBlocks] using ih
  rw [hdrsOkK_iff]
  unfold msgKinds
  simp only [hdrBlocks]
  rw [hD]
  cases tr with
  | none => exact ⟨hh, trivial⟩
  | some t => exact ⟨hh, hT t rfl⟩

theorem headers_mem_msgToks (h : ReqRecv.Bytes) (ds : List ReqRecv.Bytes) (tr : Option ReqRecv.Bytes)
    (b : ReqRecv.Bytes) (hb : FS.Tok.frame (Frame.headers b) ∈ msgToks h ds tr) : b = h ∨ tr = some b := by
  rw [msgToks_eq] at hb
  simp only [List.mem_cons, FS.Tok.frame.injEq, Frame.headers.injEq, List.mem_append] at hb
  rcases hb with hb | hb | hb
  · exact Or.inl hb
  · rcases mem_bodyToks hb with ⟨_, _, hd⟩ | ⟨_, hx⟩
    · cases hd
    · cases hx
  · cases tr with
    | none => simp [trToks] at hb
    | some t =>
      simp only [trToks, List.mem_singleton, FS.Tok.frame.injEq, Frame.headers.injEq] at hb
      exact Or.inr (by rw [hb])

/-- no WebTransport header, no DATA frame of length `usize::MAX` in a valid message -/
theorem noRaw_of_msgToks (w : FS.Bytes) (p : FS.PSt) (h : ReqRecv.Bytes) (ds : List ReqRecv.Bytes)
    (tr : Option ReqRecv.Bytes) (hw : FS.run FS.frameDec (.hdr []) w = (p, msgToks h ds tr))
    (hlen : ∀ d ∈ ds, d.length < FS.USIZE_MAX) : NoRaw w := by
  intro f hf
  rw [hw, msgToks_eq] at hf
  simp only [List.mem_cons, FS.Tok.frame.injEq, List.mem_append] at hf
  rcases hf with rfl | hf | hf
  · exact FS.usize_pos
  · rcases mem_bodyToks hf with ⟨d, hd, hp⟩ | ⟨_, hx⟩
    · cases hp
      exact hlen d hd
    · cases hx
  · cases tr with
    | none => simp [trToks] at hf
    | some t =>
      simp only [trToks, List.mem_singleton, FS.Tok.frame.injEq] at hf
      subst hf
      exact FS.usize_pos

theorem fsScript_chunks_fin (cs : List Bytes) :
    fsScript (cs.map Peer.chunk ++ [.fin]) = cs.map FS.Ev.chunk ++ [.fin] := by
  induction cs with
  | nil => rfl
  | cons c cs ih =>
    simp only [fsScript, List.map_cons, List.cons_append, List.flatMap_cons, fsOf] at ih ⊢
    rw [ih]
    rfl

theorem evBytes_chunks (cs : List Bytes) : FS.evBytes (cs.map FS.Ev.chunk) = cs.flatten := by
  induction cs with
  | nil => rfl
  | cons c cs ih => simp [FS.evBytes, ih]

theorem onlyChunks_map (cs : List Bytes) : OnlyChunks (cs.map FS.Ev.chunk) := by
  intro ev hev
  obtain ⟨b, _, rfl⟩ := List.mem_map.mp hev
  exact ⟨b, rfl⟩

theorem chunks_not_mem (cs : List Bytes) :
    FS.Ev.fin ∉ cs.map FS.Ev.chunk ∧ FS.Ev.pend ∉ cs.map FS.Ev.chunk ∧ ∀ c, FS.Ev.reset c ∉ cs.map FS.Ev.chunk :=
  onlyChunks_not_mem (onlyChunks_map cs)

theorem chunks_then_facts {cs : List Bytes} (hne : ∀ b ∈ cs, b ≠ []) {t : List FS.Ev}
    (ht : ∀ ev ∈ t, ev = .fin ∨ ∃ c, ev = .reset c) :
    FS.ScriptOK (cs.map FS.Ev.chunk ++ t) ∧ FS.Ev.pend ∉ cs.map FS.Ev.chunk ++ t := by
  refine ⟨fun b hb => ?_, fun hm => ?_⟩
  · rcases List.mem_append.mp hb with hb | hb
    · obtain ⟨b', hb', he⟩ := List.mem_map.mp hb
      cases he; exact hne b hb'
    · rcases ht _ hb with he | ⟨c, he⟩ <;> cases he
  · rcases List.mem_append.mp hm with hm | hm
    · exact (chunks_not_mem cs).2.1 hm
    · rcases ht _ hm with he | ⟨c, he⟩ <;> cases he

theorem scriptOK_chunks_fin (cs : List Bytes) (hne : ∀ b ∈ cs, b ≠ []) :
    FS.ScriptOK (cs.map FS.Ev.chunk ++ [.fin]) :=
  (chunks_then_facts hne (by simp)).1

end H3.Iso
