import H3.Lemmas.WriteBuf
import H3.Lemmas.Output
import H3.Lemmas.SettingsEnc
/-! `Frame::encode` and `From<Frame<B>>` as the specification's segmenter sees them: for every variant no
    `write_var` panic when the integers are below 2^62, and for those with a length field the header followed
    by the payload is `wire type body`. -/
namespace H3.WriteBuf
open H3.Varint H3.Gen.Consts H3.Gen.WriteBuf H3.Spec.Output

theorem greaseId_reserved (n : Nat) : isReserved (greaseId n) = true := by
  simp [isReserved, greaseId, GREASE_MUL, GREASE_ADD]

theorem greaseId_lt (n : Nat) (h : n < GREASE_RANGE_END) : greaseId n < 2^62 := by
  unfold greaseId GREASE_MUL GREASE_ADD
  unfold GREASE_RANGE_END at h
  omega

/-- `write_var(x); write_var(y)` (DATA and HEADERS headers, the WebTransport stream headers) -/
theorem writeVar2_some {x y : Nat} {b : Bytes}
    (h : (do let t ← writeVar x; let l ← writeVar y; pure (t ++ l)) = some b) :
    x < 2^62 ∧ y < 2^62 ∧ b = encode x ++ encode y := by
  cases hx : writeVar x with
  | none => rw [hx] at h; cases h
  | some t =>
    cases hy : writeVar y with
    | none => rw [hx, hy] at h; cases h
    | some l =>
      rw [hx, hy] at h
      obtain ⟨h1, rfl⟩ := writeVar_some hx
      obtain ⟨h2, rfl⟩ := writeVar_some hy
      exact ⟨h1, h2, (Option.some.inj h).symm⟩

theorem simpleFrame_eq (ty id : Nat) (hty : ty < 2^62) :
    simpleFrame ty id = if id < 2^62 then some (wire ty (encode id)) else none := by
  unfold simpleFrame
  rw [writeVar_eq ty hty]
  split
  · rename_i hid
    have hs : size id < 2^62 := by have := size_le_8 id; omega
    rw [size_eq_of_lt hid, encode?_eq id hid]
    simp only [Option.bind_eq_bind, Option.bind_some]
    rw [writeVar_eq _ hs, wire, encode_length_eq_size id hid]
    rfl
  · rename_i hid
    have : size? id = none := by
      unfold size?
      rw [if_neg (by omega), if_neg (by omega), if_neg (by omega), if_neg hid]
    rw [this]
    rfl

theorem simpleFrame_some {ty id : Nat} {hb : Bytes} (hty : ty < 2^62)
    (h : simpleFrame ty id = some hb) : id < 2^62 ∧ hb = wire ty (encode id) := by
  rw [simpleFrame_eq ty id hty, Option.ite_none_right_eq_some] at h
  exact ⟨h.1, (Option.some.inj h.2).symm⟩

/-- the RFC 9114 §7.2 type of a frame (`Frame::Grease` carries its own) -/
def frameTypeOf : SFrame → Nat
  | .data _ => 0x0
  | .headers _ => 0x1
  | .cancelPush _ => 0x3
  | .settings _ => 0x4
  | .pushPromise _ _ => 0x5
  | .goaway _ => 0x7
  | .maxPushId _ => 0xd
  | .webTransport _ => 0x41
  | .grease ty => ty

/-- every integer the frame makes `write_var` encode is below 2^62 -/
def Bounded : SFrame → Prop
  | .data p => p.length < 2^62
  | .headers p => p.length < 2^62
  | .cancelPush id => id < 2^62
  | .settings es => (∀ e ∈ es, e.1 < 2^62 ∧ e.2 < 2^62) ∧ (pairsWire es).length < 2^62
  | .pushPromise id enc => id < 2^62 ∧ 8 + enc.length < 2^62
  | .goaway id => id < 2^62
  | .maxPushId id => id < 2^62
  | .webTransport s => s < 2^62
  | .grease ty => ty < 2^62

/-- frames that have a length field and whose bytes are all accounted for by it
    (the WebTransport header has no length; PUSH_PROMISE, which h3 never sends, is the
    latent exception shown in `C14_push_promise_latent`) -/
def HasLength : SFrame → Prop
  | .pushPromise _ _ => False
  | .webTransport _ => False
  | _ => True

theorem writeVar2_of_lt {x y : Nat} (hx : x < 2^62) (hy : y < 2^62) :
    (do let t ← writeVar x; let l ← writeVar y; pure (t ++ l)) = some (encode x ++ encode y) ∧
      (encode x ++ encode y).length ≤ 16 := by
  have := encode_length_le x hx
  have := encode_length_le y hy
  refine ⟨by rw [writeVar_eq x hx, writeVar_eq y hy]; rfl, ?_⟩
  rw [List.length_append]; omega

/-- CANCEL_PUSH, GOAWAY, MAX_PUSH_ID: type, length and one varint, 24 bytes at most -/
theorem simpleFrame_of_lt (ty id : Nat) (hty : ty < 2^62) (hid : id < 2^62) :
    simpleFrame ty id = some (wire ty (encode id)) ∧ (encode id).length < 2^62 ∧
      (wire ty (encode id)).length ≤ 24 := by
  have h1 := encode_length_le id hid
  have h2 := encode_length_le ty hty
  have h3 := encode_length_le (encode id).length (by omega)
  refine ⟨by rw [simpleFrame_eq ty id hty, if_pos hid], by omega, ?_⟩
  simp only [wire, List.length_append]; omega

/-- what the length field of the frame covers -/
def bodyOf : SFrame → Bytes
  | .data p => p
  | .headers b => b
  | .cancelPush id => encode id
  | .settings es => pairsWire es
  | .goaway id => encode id
  | .maxPushId id => encode id
  | .grease _ => GREASE_FRAME_PAYLOAD
  | .pushPromise _ _ => []
  | .webTransport _ => []

/-- the fixed types are small, and `Frame::Grease` writes its own as a varint -/
theorem frameTypeOf_lt {f : SFrame} (hb : Bounded f) : frameTypeOf f < 2^62 := by
  cases f with
  | grease ty => exact hb
  | _ => simp [frameTypeOf]

/-- `Frame::encode` of a frame with a length field: the header array receives what `wire type body` has in
    front of `Frame::payload()`; only SETTINGS can be longer than two varints and a varint -/
theorem encodeFrame_eq (f : SFrame) (hb : Bounded f) (hl : HasLength f) :
    ∃ hdr, encodeFrame f = some hdr ∧
      hdr ++ (framePayload f).getD [] = wire (frameTypeOf f) (bodyOf f) ∧
      frameTypeOf f < 2^62 ∧ (bodyOf f).length < 2^62 ∧
      ((∀ es, f ≠ .settings es) → hdr.length ≤ 24) := by
  have hty := frameTypeOf_lt hb
  cases f with
  | data p | headers p =>
    obtain ⟨he, hle⟩ := writeVar2_of_lt hty hb
    exact ⟨_, he, rfl, hty, hb, fun _ => by omega⟩
  | cancelPush id | goaway id | maxPushId id =>
    obtain ⟨he, hlen, hle⟩ := simpleFrame_of_lt _ id hty hb
    exact ⟨_, he, List.append_nil _, hty, hlen, fun _ => hle⟩
  | settings es =>
    exact ⟨_, settingsEncode_of_fine hb.1 hb.2, List.append_nil _, hty, hb.2, fun h => absurd rfl (h es)⟩
  | grease ty =>
    refine ⟨wire ty GREASE_FRAME_PAYLOAD, ?_, List.append_nil _, hb,
      by show GREASE_FRAME_PAYLOAD.length < 2^62; decide, fun _ => ?_⟩
    · simp only [encodeFrame]; rw [writeVar_eq ty hb, writeVar_eq GREASE_FRAME_LEN (by decide)]; rfl
    · have := encode_length_le ty hb
      have : (encode 6).length = 1 := by decide
      simp only [wire, List.length_append, show GREASE_FRAME_PAYLOAD.length = 6 by decide]
      omega
  | pushPromise id enc | webTransport s => exact hl.elim

theorem encodeFrame_bounded {f : SFrame} {hdr : Bytes} (hl : HasLength f)
    (he : encodeFrame f = some hdr) : Bounded f := by
  cases f with
  | data p | headers p => exact (writeVar2_some he).2.1
  | cancelPush id | goaway id | maxPushId id => exact (simpleFrame_some (by decide) he).1
  | settings es =>
    obtain ⟨h1, h2, _⟩ := settingsEncode_some he
    exact ⟨h1, h2⟩
  | grease ty =>
    refine Classical.byContradiction fun ht => ?_
    simp only [encodeFrame] at he
    rw [writeVar_none _ ht] at he
    cases he
  | pushPromise id enc | webTransport s => exact hl.elim

theorem encodeFrame_total (f : SFrame) (hb : Bounded f) : (encodeFrame f).isSome = true := by
  by_cases hl : HasLength f
  · obtain ⟨hdr, he, _⟩ := encodeFrame_eq f hb hl
    rw [he]; rfl
  cases f with
  | pushPromise id enc =>
    simp only [Bounded] at hb
    simp only [encodeFrame, FRAME_PUSH_PROMISE, sizeOf?]
    have h8 := size_le_8 id
    rw [writeVar_eq 5 (by decide), sizeOf_eq id hb.1]
    simp only [Option.bind_eq_bind, Option.bind_some]
    rw [writeVar_eq (size id + enc.length) (by omega), writeVar_eq id hb.1]
    rfl
  | webTransport s =>
    exact Option.isSome_iff_exists.mpr ⟨_, (writeVar2_of_lt (x := 65) (by decide) hb).1⟩
  | _ => exact absurd trivial hl

theorem fromFrame_spec {f : SFrame} {w : WB} (hl : HasLength f) (h : fromFrame f = some w) :
    Bounded f ∧ w.WF ∧ w.view = wire (frameTypeOf f) (bodyOf f) ∧
      frameTypeOf f < 2^62 ∧ (bodyOf f).length < 2^62 := by
  obtain ⟨bs, hbs, hwf, hv⟩ := putOpt_new h
  have hb := encodeFrame_bounded hl hbs
  obtain ⟨hdr, he, hw, hty, hlen, _⟩ := encodeFrame_eq f hb hl
  cases hbs.symm.trans he
  exact ⟨hb, hwf, hv.trans hw, hty, hlen⟩

theorem fromFrame_some (f : SFrame) (hb : Bounded f) (hl : HasLength f)
    (hfit : ∀ es, f = .settings es → (wire 4 (pairsWire es)).length ≤ WRITE_BUF_ENCODE_SIZE) :
    ∃ w, fromFrame f = some w := by
  obtain ⟨hdr, he, hw, _, _, hlen⟩ := encodeFrame_eq f hb hl
  have hle : hdr.length ≤ WRITE_BUF_ENCODE_SIZE := by
    by_cases hs : ∃ es, f = .settings es
    · obtain ⟨es, rfl⟩ := hs
      rw [show hdr = wire 4 (pairsWire es) from (List.append_nil hdr).symm.trans hw]
      exact hfit es rfl
    · have := hlen fun es h => hs ⟨es, h⟩
      unfold WRITE_BUF_ENCODE_SIZE; omega
  unfold fromFrame
  rw [he]
  exact putOpt_new_some _ _ hle

end H3.WriteBuf
