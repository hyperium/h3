import H3.Lemmas.Frame
import H3.Lemmas.FrameStream
/-! The three decoder laws (DESIGN App. B.1) for the model of `Frame::decode` (`frameDec_laws`).  A header `(ty, x, h)`
    announces a segment of `seg ty x h` bytes; short of it `Frame.body` answers `Incomplete` (`body_short`), with all of
    it there the answer is definite, ends the segment and depends on its bytes alone (`body_full`), and the laws are
    read off the view `dec_view`.  Then the transport of answers between `Frame.decode` and `frameDec` (`liftRes_*`);
    every buffer has a decodable extension (`frameDec_completable`). -/
namespace H3.FS
open H3.Frame H3.Varint H3.Gen.Consts

theorem typed_pos (ty : Nat) (p : Bytes) (n n' : Nat)
    (h : (liftRes (typed ty p n)).pos? = some n') : n' = n := by
  have hk := typed_ok ty p n
  generalize typed ty p n = r at h hk
  cases r with
  | frame f m => cases f <;> first | exact hk.elim | (cases h; exact hk)
  | unknown m => cases h; exact hk
  | incomplete m => cases h
  | error e => cases h

theorem typed_definite (ty : Nat) (p : Bytes) (n : Nat) :
    (liftRes (typed ty p n)).isIncomplete = false := by
  have hk := typed_ok ty p n
  generalize typed ty p n = r at hk
  cases r with
  | incomplete m => exact hk.elim
  | _ => rfl

/-- the bytes of the segment that a header `(ty, x, h)` announces to `Frame::decode`: the header alone for DATA and the
    WebTransport signal, whose payload `poll_data` hands out; header and payload otherwise -/
def seg (ty x h : Nat) : Nat :=
  if ty = FRAME_WEBTRANSPORT_BI_STREAM then h else if ty = FRAME_DATA then h else h + x

theorem seg_cases (ty x h : Nat) : seg ty x h = h ∨ seg ty x h = h + x := by
  unfold seg; repeat' split
  all_goals simp

theorem body_short {ty x h : Nat} {b : Bytes} (hh : h ≤ b.length) (hs : b.length < seg ty x h) :
    body ty x h b = .incomplete (2 + x) := by
  unfold seg at hs
  unfold body
  split at hs
  · omega
  split at hs
  · omega
  rw [if_neg ‹_›, if_neg ‹_›, if_pos (by omega)]

theorem body_incomplete {ty x h : Nat} {b : Bytes} {m : Nat} (hm : body ty x h b = .incomplete m) :
    ty ≠ FRAME_WEBTRANSPORT_BI_STREAM ∧ ty ≠ FRAME_DATA ∧ b.length - h < x ∧ m = 2 + x := by
  unfold body at hm
  split at hm
  · cases hm
  split at hm
  · cases hm
  split at hm
  · cases hm; exact ⟨‹_›, ‹_›, ‹_›, rfl⟩
  · have := typed_ok ty ((b.drop h).take x) (h + x)
    rw [hm] at this
    exact this.elim

theorem body_full {ty x h : Nat} {b : Bytes} (hs : seg ty x h ≤ b.length) :
    (liftRes (body ty x h b)).isIncomplete = false ∧
    (∀ n, (liftRes (body ty x h b)).pos? = some n → n = seg ty x h) ∧
    ∀ b' : Bytes, seg ty x h ≤ b'.length → b'.take (seg ty x h) = b.take (seg ty x h) →
      body ty x h b' = body ty x h b := by
  unfold seg at hs ⊢
  unfold body
  by_cases hwt : ty = FRAME_WEBTRANSPORT_BI_STREAM
  · simp only [if_pos hwt]
    exact ⟨rfl, fun n hn => by cases hn; rfl, fun _ _ _ => trivial⟩
  by_cases hd : ty = FRAME_DATA
  · simp only [if_neg hwt, if_pos hd]
    exact ⟨rfl, fun n hn => by cases hn; rfl, fun _ _ _ => trivial⟩
  simp only [if_neg hwt, if_neg hd] at hs ⊢
  rw [if_neg (by omega)]
  refine ⟨typed_definite _ _ _, fun n hn => typed_pos _ _ _ _ hn, fun b' hs' ht => ?_⟩
  have e : ∀ c : Bytes, (c.drop h).take x = (c.take (h + x)).drop h := fun c => by
    rw [List.drop_take, Nat.add_sub_cancel_left]
  rw [if_neg (by omega), e b', e b, ht]

theorem liftRes_inj {a b : H3.Frame.DecRes} (h : liftRes a = liftRes b) : a = b := by
  cases a <;> cases b <;> simp_all [liftRes]

theorem liftRes_incomplete_iff (r : H3.Frame.DecRes) :
    (liftRes r).isIncomplete = true ↔ ∃ m, r = .incomplete m := by
  cases r <;> simp [liftRes, DecRes.isIncomplete]

theorem liftRes_definite_iff (r : H3.Frame.DecRes) :
    (liftRes r).isIncomplete = false ↔ ∀ m, r ≠ .incomplete m := by
  cases r <;> simp [liftRes, DecRes.isIncomplete]

theorem frameDec_frame_iff (w : Bytes) (f : H3.Frame.Frame) (n : Nat) :
    frameDec.dec w = .frame f n ↔ H3.Frame.decode w = .frame f n :=
  ⟨fun h => liftRes_inj (a := H3.Frame.decode w) (b := .frame f n) h, fun h => by
    show liftRes (H3.Frame.decode w) = _; rw [h]; rfl⟩

theorem dec_view (b : Bytes) :
    frameDec.dec b = match hdr2 b with
      | none => .incomplete (incN b)
      | some (ty, x, h) => liftRes (body ty x h b) := by
  show liftRes (decode b) = _
  rw [decode_view]
  cases hdr2 b with
  | none => rfl
  | some t => rfl

theorem dec_definite {b : Bytes} (h : (frameDec.dec b).isIncomplete = false) :
    ∃ ty x hd, hdr2 b = some (ty, x, hd) ∧ seg ty x hd ≤ b.length ∧ frameDec.dec b = liftRes (body ty x hd b) := by
  rw [dec_view] at h ⊢
  cases hh : hdr2 b with
  | none => rw [hh] at h; cases h
  | some t =>
    obtain ⟨ty, x, hd⟩ := t
    rw [hh] at h
    refine ⟨ty, x, hd, rfl, Nat.le_of_not_lt fun hs => ?_, rfl⟩
    simp only [body_short (hdr2_bounds hh).2 hs] at h
    cases h

theorem frameDec_stable (b c : Bytes) (h : (frameDec.dec b).isIncomplete = false) :
    frameDec.dec (b ++ c) = frameDec.dec b := by
  obtain ⟨ty, x, hd, hh, hs, hb⟩ := dec_definite h
  rw [hb, dec_view, hdr2_append hh c]
  exact congrArg liftRes ((body_full hs).2.2 _ (by rw [List.length_append]; omega) (List.take_append_of_le_length hs))

theorem frameDec_pos_le (b : Bytes) (n : Nat) (hp : (frameDec.dec b).pos? = some n) :
    1 ≤ n ∧ n ≤ b.length := by
  obtain ⟨ty, x, hd, hh, hs, hb⟩ := dec_definite (DecRes.definite_of_pos hp)
  rw [hb] at hp
  have := (body_full hs).2.1 n hp
  have := (hdr2_bounds hh).1
  have := seg_cases ty x hd
  omega

theorem frameDec_minimal (b : Bytes) (n : Nat) (hp : (frameDec.dec b).pos? = some n) :
    (∀ k, k < n → (frameDec.dec (b.take k)).isIncomplete = true) ∧
    frameDec.dec (b.take n) = frameDec.dec b := by
  obtain ⟨ty, x, hd, hh, hs, hb⟩ := dec_definite (DecRes.definite_of_pos hp)
  rw [hb] at hp
  obtain rfl := (body_full hs).2.1 n hp
  have hge := seg_cases ty x hd
  refine ⟨fun k hk => ?_, ?_⟩
  · rw [dec_view, hdr2_take hh k]
    by_cases hk' : k < hd
    · rw [if_pos hk']; rfl
    · rw [if_neg hk']
      have hl : (b.take k).length = k := by rw [List.length_take]; omega
      show (liftRes (body ty x hd (b.take k))).isIncomplete = true
      rw [body_short (h := hd) (by omega) (by rw [hl]; exact hk)]
      rfl
  · rw [dec_view, hdr2_take hh, if_neg (by omega), hb]
    exact congrArg liftRes ((body_full hs).2.2 _ (by rw [List.length_take]; omega) (by rw [List.take_take, Nat.min_self]))

theorem frameDec_lower (b c : Bytes) (m : Nat) (hm : frameDec.dec b = .incomplete m)
    (hdef : (frameDec.dec (b ++ c)).isIncomplete = false) : m ≤ (b ++ c).length := by
  obtain ⟨ty, x, hd, hh', hs, _⟩ := dec_definite hdef
  have := seg_cases ty x hd
  rw [dec_view] at hm
  cases hh : hdr2 b with
  | none =>
    rw [hh] at hm
    cases hm
    have := hdr2_none_append hh hh'
    omega
  | some t =>
    have := hdr2_append hh c
    rw [hh'] at this
    cases this
    rw [hh] at hm
    obtain ⟨hwt, hdt, _, rfl⟩ := body_incomplete (liftRes_inj (b := .incomplete m) hm)
    rw [seg, if_neg hwt, if_neg hdt] at hs
    have := (hdr2_bounds hh).1
    omega

theorem frameDec_completable (b : Bytes) :
    ∃ c, (frameDec.dec (b ++ c)).isIncomplete = false := by
  -- 16 more bytes complete both header varints (8 bytes at most each), then as many as the length says
  obtain ⟨ty, n1, h1, hn1⟩ := vhead_some_of_long (b ++ List.replicate 16 0) (by simp)
  obtain ⟨x, n2, h2, hn2⟩ := vhead_some_of_long ((b ++ List.replicate 16 0).drop n1)
    (by simp; omega)
  have hh : hdr2 (b ++ List.replicate 16 0) = some (ty, x, n1 + n2) := hdr2_eq_some.mpr ⟨n1, n2, h1, h2, rfl⟩
  have hb := hdr2_bounds hh
  refine ⟨List.replicate 16 0 ++ List.replicate x 0, ?_⟩
  rw [← List.append_assoc, dec_view, hdr2_append hh]
  have := seg_cases ty x (n1 + n2)
  exact (body_full (by simp only [List.length_append, List.length_replicate]; omega)).1

theorem frameDec_laws : Laws frameDec :=
  { nil := by decide
    stable := frameDec_stable
    pos_le := frameDec_pos_le
    minimal := frameDec_minimal
    lower := frameDec_lower }

end H3.FS
