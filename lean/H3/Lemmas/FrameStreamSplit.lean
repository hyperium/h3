import H3.Lemmas.FrameStreamReach
/-! `split()` on the frame layer (identity on `buf`, `eos`, `expected`, `remaining`): call
    sequences with splits anywhere answer like the same sequences without them; the request-body
    reader (`recvData`, `runR`) walks along reachable configurations of the frame layer, so the
    C02 invariant (and with it "the tokens handed out are those of the reference automaton")
    covers it, splits included. -/
namespace H3.FS

theorem split_eq (s : St) : s.split = s := rfl

theorem runCallsS_erase (cs : List CallS) :
    ∀ (s : St) (script : List Ev), runCallsS s script cs = runCalls s script (CallS.erase cs) := by
  induction cs with
  | nil => intro s script; rfl
  | cons c cs ih =>
    intro s script
    cases c with
    | split => rw [runCallsS, CallS.erase, split_eq]; exact ih s script
    | next =>
      rw [runCallsS, CallS.erase, runCalls]
      cases hres : pollNext frameDec s script with
      | mk o rest =>
      cases o <;> simp only [ih]
    | data =>
      rw [runCallsS, CallS.erase, runCalls]
      cases hres : pollData (F := H3.Frame.Frame) (E := H3.Frame.FrameErr) s script with
      | mk o rest =>
      cases o <;> simp only [ih]

/-- a request-level call sequence without its `split`s -/
def CallR.erase (cs : List CallR) : List CallR := cs.filter (fun c => c == .recv)

theorem runR_erase (cs : List CallR) :
    ∀ (s : St) (script : List Ev), runR s script cs = runR s script (CallR.erase cs) := by
  induction cs with
  | nil => intro s script; rfl
  | cons c cs ih =>
    intro s script
    cases c with
    | split =>
      have : CallR.erase (CallR.split :: cs) = CallR.erase cs := by simp [CallR.erase]
      rw [this, runR, split_eq]; exact ih s script
    | recv =>
      have : CallR.erase (CallR.recv :: cs) = CallR.recv :: CallR.erase cs := by simp [CallR.erase]
      rw [this, runR, runR]
      cases (recvData (recvFuel s script) s script).out <;> simp only [ih]

theorem runR_splits_anywhere (cs cs' : List CallR) (h : CallR.erase cs = CallR.erase cs')
    (s : St) (script : List Ev) : runR s script cs = runR s script cs' := by
  rw [runR_erase cs, runR_erase cs', h]

theorem recvData_reach (sc0 : List Ev) (fuel : Nat) :
    ∀ (toks : List (Tok H3.Frame.Frame H3.Frame.FrameErr)) (s : St) (script : List Ev),
      Reach frameDec sc0 toks s script →
      ∃ s2 r2, Reach frameDec sc0 (toks ++ (recvData fuel s script).raw.flatMap Out.toks) s2 r2 ∧
        ((recvData fuel s script).out.isErr = false →
          s2 = (recvData fuel s script).st ∧ r2 = (recvData fuel s script).script) := by
  induction fuel with
  | zero => intro toks s script h; exact ⟨s, script, by simpa [recvData] using h, fun _ => ⟨rfl, rfl⟩⟩
  | succ fuel ih =>
    intro toks s script h
    have one : ∀ (o : FOut) (s' : St) (r : List Ev),
        (pollNext frameDec s script = (o, s', r) ∨ pollData s script = (o, s', r)) →
        ∃ s2 r2, Reach frameDec sc0 (toks ++ [o].flatMap Out.toks) s2 r2 ∧
          (o.isErr = false → s2 = s' ∧ r2 = r) :=
      fun o s' r hc => by simpa using h.call hc
    rw [recvData]
    split
    · split
      rename_i o s' r hres
      exact one o s' r (.inr hres)
    · split
      · rename_i n s' r hres
        obtain ⟨s1, r1, h1, h2⟩ := h.call (.inl hres)
        obtain ⟨rfl, rfl⟩ := h2 rfl
        obtain ⟨s2, r2, h3, h4⟩ := ih _ _ _ h1
        exact ⟨s2, r2, by simpa [List.flatMap_cons, List.append_assoc] using h3, h4⟩
      · rename_i p s' r hres
        obtain ⟨s1, r1, h1, h2⟩ := h.call (.inl hres)
        obtain ⟨rfl, rfl⟩ := h2 rfl
        exact ⟨s1, r1, by simpa using h1, fun _ => ⟨rfl, rfl⟩⟩
      · rename_i o s' r _ _ hres
        exact one o s' r (.inl hres)

theorem runR_reach (sc0 : List Ev) (calls : List CallR) :
    ∀ (toks : List (Tok H3.Frame.Frame H3.Frame.FrameErr)) (s : St) (script : List Ev),
      Reach frameDec sc0 toks s script →
      ∃ s' script', Reach frameDec sc0 (toks ++ (runR s script calls).raw.flatMap Out.toks) s' script' := by
  induction calls with
  | nil => intro toks s script h; exact ⟨s, script, by simpa [runR] using h⟩
  | cons c cs ih =>
    intro toks s script h
    cases c with
    | split => rw [runR, split_eq]; exact ih toks s script h
    | recv =>
      rw [runR]
      obtain ⟨s2, r2, h2, h3⟩ := recvData_reach sc0 (recvFuel s script) toks s script h
      cases hout : (recvData (recvFuel s script) s script).out with
      | data d =>
        obtain ⟨rfl, rfl⟩ := h3 (by rw [hout]; rfl)
        obtain ⟨s4, r4, h4⟩ := ih _ _ _ h2
        exact ⟨s4, r4, by simpa [List.flatMap_append, List.append_assoc] using h4⟩
      | pending =>
        obtain ⟨rfl, rfl⟩ := h3 (by rw [hout]; rfl)
        obtain ⟨s4, r4, h4⟩ := ih _ _ _ h2
        exact ⟨s4, r4, by simpa [List.flatMap_append, List.append_assoc] using h4⟩
      | frame _ => exact ⟨s2, r2, h2⟩
      | none => exact ⟨s2, r2, h2⟩
      | errProto _ => exact ⟨s2, r2, h2⟩
      | errEnd => exact ⟨s2, r2, h2⟩
      | errQuic _ => exact ⟨s2, r2, h2⟩
      | panic => exact ⟨s2, r2, h2⟩

end H3.FS
