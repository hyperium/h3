import H3.Model.Goaway
import H3.Model.Drain
import H3.Gen.GoawayArms
import H3.Gen.CtlArms
import H3.Gen.Consts
/-! Agreement of the graceful-shutdown models (`H3.Goaway`, `H3.Drain`; C08, C09) with what the translator reads
    out of the Rust sources on every run (`H3.Gen.GoawayArms`; the GOAWAY arms of the role handlers are in
    `H3.Gen.CtlArms`): `ConnectionInner::shutdown` and `process_goaway` (order of steps, comparison operators), the
    identifier the server announces, the accept / reject filter of `poll_accept_request_stream_internal` with what
    follows a rejection, the `Ok(None)` decision, `poll_requests_completion`, the client's `shutdown` and the
    closing gates of `send_request`.  `poll_requests_completion` and the `Ok(None)` decision are also what `H3.Drain`
    models: its agreement lemmas for them are here, beside the generated items they share with `H3.Goaway`; the
    request-end channel and its owners are in `H3.Lemmas.GenAgreeDrain`.

    A generated list of steps is *run* by an interpreter over the model's state and proved equal to the model's
    function; a generated operator or term is evaluated and the model's definition proved to compute the same. -/
namespace H3.GenAgree.Goaway
open H3.Goaway H3.Gen.Consts

def cmp : Gen.GoawayArms.Cmp → Nat → Nat → Bool
  | .lt, a, b => decide (a < b)
  | .le, a, b => decide (a ≤ b)
  | .gt, a, b => decide (a > b)
  | .ge, a, b => decide (a ≥ b)
  | .eq, a, b => decide (a = b)
  | .ne, a, b => decide (a ≠ b)

/-- the step list of `ConnectionInner::shutdown(sent_closing, new)` run on the model's state: the state
    reached and what the call showed (a GOAWAY frame written, `Ok(())`, or the connection error
    recorded before) -/
def runShutdown (new : Nat) : List Gen.GoawayArms.Op → State → Option (State × List Obs)
  | [], _ => none
  | .reportIfFailed :: r, s => if s.failed then some (s, [.shutdownErr]) else runShutdown new r s
  | .keepIf c :: r, s =>
    match s.sentClosing with
    | some prev => if cmp c prev new then some (s, [.shutdownOk]) else runShutdown new r s
    | none => runShutdown new r s
  | .store :: r, s => runShutdown new r { s with sentClosing := some new }
  | .setClosing :: r, s => runShutdown new r { s with closing := true }
  | .writeGoaway :: _, s => some (s, [.goaway new, .shutdownOk])
  | _ :: _, _ => none

/-- the application's `shutdown(n)` (`Goaway.step`): the error check first — a failed connection
    answers its error, writes nothing and leaves `sent_closing` alone —, then the only-if-lower test,
    the store, the closing flag, the frame -/
theorem shutdown_agrees (s : State) (n : Nat) :
    some (step s (.shutdown n)) = runShutdown (shutdownId s.largest n) Gen.GoawayArms.shutdown s := by
  simp only [Gen.GoawayArms.shutdown, runShutdown, step, shutdown, keepsPrevious]
  cases hf : s.failed with
  | true => simp
  | false =>
    cases h : s.sentClosing with
    | none => simp
    | some g =>
      simp only [cmp]
      by_cases hle : g ≤ shutdownId s.largest n <;> simp [hle]

/-- the same list without its error check is the model's `shutdown` (used by `accept` for its last
    GOAWAY, behind `accept`'s own look at the error) -/
theorem shutdown_unfailed (s : State) (n : Nat) (hf : s.failed = false) :
    some ((shutdown s n).1, (shutdown s n).2 ++ [Obs.shutdownOk]) =
      runShutdown (shutdownId s.largest n) Gen.GoawayArms.shutdown s := by
  rw [← shutdown_agrees]
  simp [step, hf]

/-- a failing write of the GOAWAY frame closes the connection with H3_CLOSED_CRITICAL_STREAM -/
theorem shutdown_write_codes :
    Gen.GoawayArms.shutdownWriteStoppedCode = CODE_H3_CLOSED_CRITICAL_STREAM ∧
    Gen.GoawayArms.shutdownWriteUnknownCode = CODE_H3_CLOSED_CRITICAL_STREAM := ⟨rfl, rfl⟩

def eval (largest arg : Nat) : Gen.GoawayArms.Term → Nat
  | .largest => largest
  | .arg => arg
  | .firstRequest => FIRST_REQUEST
  | .lit n => n
  | .add a b => StreamId.add (eval largest arg a) (eval largest arg b)
  | .satAdd a b => min (eval largest arg a + eval largest arg b) StreamId.U64MAX

theorem shutdownId_agrees (largest : Option Nat) (n : Nat) :
    shutdownId largest n =
      match largest with
      | some id => eval id n Gen.GoawayArms.shutdownIdSome
      | none => eval 0 n Gen.GoawayArms.shutdownIdNone := by
  cases largest <;> rfl

/-- `StreamId::FIRST_REQUEST` and `impl Add<usize> for StreamId` -/
theorem streamId_arith (id rhs : Nat) :
    FIRST_REQUEST = StreamId.new Gen.GoawayArms.FIRST_REQUEST_INDEX 0 0 ∧
    StreamId.add id rhs =
      StreamId.new (min (StreamId.satAdd (StreamId.index id) rhs)
        (StreamId.VARINT_MAX / 2 ^ Gen.GoawayArms.ADD_INDEX_CAP_SHIFT)) (StreamId.dir id) (StreamId.initiator id) :=
  ⟨rfl, rfl⟩

def runProcess (new : Nat) : List Gen.GoawayArms.Op → State → Option State
  | [], _ => none
  | .failIf c _ :: r, s =>
    match s.recvClosing with
    | some prev => if cmp c prev new then some { s with failed := true } else runProcess new r s
    | none => runProcess new r s
  | .store :: r, s => runProcess new r { s with recvClosing := some new }
  | .setClosing :: r, s => runProcess new r { s with closing := true }
  | .ok :: _, s => some s
  | _ :: _, _ => none

theorem processGoaway_agrees (s : State) (id : Nat) :
    some (processGoaway s id) = runProcess id Gen.GoawayArms.processGoaway s := by
  simp only [Gen.GoawayArms.processGoaway, runProcess, processGoaway, largerThanBefore]
  cases h : s.recvClosing with
  | none => simp
  | some p =>
    simp only [cmp]
    by_cases hlt : p < id <;> simp [hlt]

/-- the connection error of an increasing identifier is H3_ID_ERROR -/
theorem processGoaway_code :
    (Gen.GoawayArms.processGoaway.filterMap fun o => match o with | .failIf _ c => some c | _ => none) =
      [CODE_H3_ID_ERROR] := rfl

/-- what the role handlers do with a GOAWAY frame: the server passes the identifier on, the client
    first refuses an identifier that is not a request stream ID (H3_ID_ERROR) -/
theorem goaway_handlers :
    Gen.CtlArms.server .goaway = .goaway ∧ Gen.CtlArms.client .goaway = .goawayRequestId CODE_H3_ID_ERROR :=
  ⟨rfl, rfl⟩

theorem procCtlServer_cons (s : State) (id : Nat) (rest : List Nat) :
    procCtlServer s (id :: rest) =
      match runProcess id Gen.GoawayArms.processGoaway s with
      | some s' => if s'.failed then { s' with ctl := rest } else procCtlServer s' rest
      | none => s := by
  rw [← processGoaway_agrees]
  rfl

theorem procCtlClient_cons (s : State) (id : Nat) (rest : List Nat) :
    procCtlClient s (id :: rest) =
      if StreamId.isRequest id then
        match runProcess id Gen.GoawayArms.processGoaway s with
        | some s' => if s'.failed then { s' with ctl := rest } else procCtlClient s' rest
        | none => s
      else { s with failed := true, ctl := rest } := by
  rw [← processGoaway_agrees]
  rfl

def holds (refused : Bool) (s : State) : Gen.GoawayArms.Cond → Bool
  | .recvClosingIsSome => s.recvClosing.isSome
  | .sentClosingIsSome => s.sentClosing.isSome
  /- `poll_requests_completion(cx).is_ready()`: nothing is left in `ongoing_streams` once the
     channel has been emptied (the model: completions are seen at once) -/
  | .requestsCompleted => s.ongoing.isEmpty
  /- the local flag the reject branch raises -/
  | .rejectedHere => refused

def allAny (f : Gen.GoawayArms.Cond → Bool) (cs : List (List Gen.GoawayArms.Cond)) : Bool := cs.all (·.any f)

/-- `if let Some(max_id) = self.sent_closing { if s.send_id() <cmp> max_id { … } }` -/
theorem rejects_agrees (sent : Option Nat) (id : Nat) :
    rejects sent id =
      match sent with
      | some maxId => cmp Gen.GoawayArms.rejectCmp id maxId
      | none => false := by
  cases sent <;> rfl

/-- `Poll::Pending` of the transport: `Ok(None)` iff every generated condition holds -/
theorem drained_agrees (refused : Bool) (s : State) :
    drained refused s = allAny (holds refused s) Gen.GoawayArms.pendingDone := by
  simp [drained, Gen.GoawayArms.pendingDone, holds, allAny]

/-- the poll function answered `None`: `accept` sends the last GOAWAY with the generated argument -/
def genAcceptNone (s : State) : Option (State × List Obs) :=
  Gen.GoawayArms.acceptNoneShutdown.map fun n => ((shutdown s n).1, (shutdown s n).2 ++ [.acceptNone])

theorem acceptNone_agrees (s : State) : some (acceptNone s) = genAcceptNone s := rfl

/-- behind the filter -/
def runSurface (id : Nat) (rest : List Nat) : List Gen.GoawayArms.SurfOp → State → Option (State × List Obs)
  | [], _ => none
  | .largestMax :: r, s => runSurface id rest r { s with largest := some (maxOpt s.largest id) }
  | .largestOverwrite :: r, s => runSurface id rest r { s with largest := some id }
  | .ongoingInsert :: r, s => runSurface id rest r { s with ongoing := id :: s.ongoing }
  | .surface :: _, s => some ({ s with incoming := rest }, [.surfaced id])

theorem surface_agrees (s : State) (id : Nat) (rest : List Nat) :
    some (surface s id rest, [Obs.surfaced id]) = runSurface id rest Gen.GoawayArms.surfaceOps s := rfl

/-- what the reject branch does besides closing the stream -/
inductive RejReading where
  /-- `Ok(None)` at once under this condition, else the next stream of the queue (the shape before
      the D-08b repair; the model has no such exit) -/
  | noneIfElseNext (c : Gen.GoawayArms.Cond)
  /-- the flag is raised (or left alone), then the next stream of the queue -/
  | next (mark : Bool)
deriving DecidableEq

/-- the reject branch: both directions of the stream are closed with H3_REQUEST_REJECTED (the
    model's observation `rejected id`); then the rest as read by `RejReading` -/
def rejectReading : List Gen.GoawayArms.RejOp → Option RejReading
  | [.stopSending a, .reset b, .noneIf c, .next] =>
    if a = CODE_H3_REQUEST_REJECTED ∧ b = CODE_H3_REQUEST_REJECTED then some (.noneIfElseNext c) else none
  | [.stopSending a, .reset b, .markRejected, .next] =>
    if a = CODE_H3_REQUEST_REJECTED ∧ b = CODE_H3_REQUEST_REJECTED then some (.next true) else none
  | [.stopSending a, .reset b, .next] =>
    if a = CODE_H3_REQUEST_REJECTED ∧ b = CODE_H3_REQUEST_REJECTED then some (.next false) else none
  | _ => none

/-- the loop of `poll_accept_request_stream_internal` written over the generated items -/
def genAcceptLoop (refused : Bool) (s : State) : List Nat → Option (State × List Obs)
  | [] =>
    let s0 := { s with incoming := [] }
    if allAny (holds refused s0) Gen.GoawayArms.pendingDone then genAcceptNone s0 else some (s0, [.acceptPending])
  | id :: rest =>
    let rej := match s.sentClosing with
      | some maxId => cmp Gen.GoawayArms.rejectCmp id maxId
      | none => false
    if rej then
      match rejectReading Gen.GoawayArms.rejectOps with
      | none => none
      | some (.noneIfElseNext c) =>
        if holds refused s c then
          (genAcceptNone { s with incoming := rest }).map fun r => (r.1, .rejected id :: r.2)
        else (genAcceptLoop refused s rest).map fun r => (r.1, .rejected id :: r.2)
      | some (.next mark) => (genAcceptLoop (refused || mark) s rest).map fun r => (r.1, .rejected id :: r.2)
    else runSurface id rest Gen.GoawayArms.surfaceOps s

/-- the model's loop is the generated one: a refusal raises the flag and goes on with the queue (no
    `None` from inside the reject branch), `None` is decided only with an empty queue — under the
    generated condition, which reads the flag -/
theorem acceptLoop_agrees (refused : Bool) (s : State) (l : List Nat) :
    some (acceptLoop refused s l) = genAcceptLoop refused s l := by
  induction l generalizing refused with
  | nil =>
    simp only [acceptLoop, genAcceptLoop, ← drained_agrees, ← acceptNone_agrees]
    split <;> rfl
  | cons id rest ih =>
    simp only [acceptLoop, genAcceptLoop, ← rejects_agrees, ← surface_agrees]
    by_cases hr : rejects s.sentClosing id = true
    · simp only [hr, if_true]
      have : rejectReading Gen.GoawayArms.rejectOps = some (.next true) := rfl
      simp only [this, Bool.or_true, ← ih]
      rfl
    · simp [hr]

/-- the flag starts lowered: `accept` enters the loop with `refused = false` -/
theorem accept_enters_unrefused (s : State) (hf : s.failed = false) (hf1 : (procCtlServer s s.ctl).failed = false) :
    some (accept s) = genAcceptLoop false (procCtlServer s s.ctl) (procCtlServer s s.ctl).incoming := by
  rw [← acceptLoop_agrees]
  simp [accept, hf, hf1]

/-- the loop over the request-end channel: an identifier taken out of the channel is removed from
    `ongoing_streams` and the loop goes on; a closed channel ends it; with nothing waiting the
    answer is `Ready` iff `ongoing_streams` is empty -/
def drainChan (ongoing : List Nat) : List Nat → Option (List Nat)
  | [] => some ongoing
  | id :: chan =>
    match Gen.GoawayArms.completionOnId with
    | .removeAndLoop => drainChan (ongoing.filter (· != id)) chan
    | _ => none

theorem removeAll_agrees (ongoing chan : List Nat) : some (Drain.removeAll ongoing chan) = drainChan ongoing chan := by
  induction chan generalizing ongoing with
  | nil => simp [Drain.removeAll, drainChan]
  | cons id chan ih =>
    simp only [drainChan, Gen.GoawayArms.completionOnId, ← ih]
    congr 1
    simp only [Drain.removeAll, List.filter_filter]
    apply List.filter_congr
    intro x _
    by_cases hx : x = id <;> simp [hx]

theorem completion_ends :
    Gen.GoawayArms.completionOnClosed = .ready ∧ Gen.GoawayArms.completionOnEmpty = .readyIfNoneOngoing :=
  ⟨rfl, rfl⟩

def dholds (s : Drain.State) : Gen.GoawayArms.Cond → Bool
  | .recvClosingIsSome => s.recvClosing
  | .sentClosingIsSome => false       -- no local `shutdown` in `H3.Drain`
  | .requestsCompleted => s.ongoing.isEmpty
  | .rejectedHere => false            -- … hence no stream is ever rejected there

/-- the `Ok(None)` decision of the drain model is the generated conjunction -/
theorem verdict_agrees (s : Drain.State) :
    Drain.verdict s =
      if allAny (dholds s) Gen.GoawayArms.pendingDone then ({ s with inFlight := false }, [.acceptNone])
      else (s, [.acceptPending]) := by
  simp [Drain.verdict, Gen.GoawayArms.pendingDone, dholds, allAny]

/-- `Connection::shutdown` of the client announces push identifier 0 whatever its argument;
    `send_request` has exactly two gates: it begins with one (`Goaway.sendCall`), and the statement
    right behind `poll_open_bidi(..).await` — where the call may have waited for stream credit — is
    the other (`Goaway.sendOpened`), in front of the statement that writes the request; the gate
    reads `SharedState.closing` — the flag `set_closing()` raises in `shutdown` and `process_goaway`
    — and answers `RemoteClosing` -/
theorem client_items :
    Gen.GoawayArms.clientShutdownId = 0 ∧
    Gen.GoawayArms.sendRequestGates = [0, Gen.GoawayArms.sendRequestOpenIndex + 1] ∧
    Gen.GoawayArms.sendRequestOpenIndex + 1 < Gen.GoawayArms.sendRequestWriteIndex ∧
    Gen.GoawayArms.gateError = "RemoteClosing" ∧ Gen.GoawayArms.setClosingStores = true :=
  ⟨rfl, rfl, by decide, rfl, rfl⟩

theorem sendCall_gate (s : State) :
    sendCall s =
      if s.closing = Gen.GoawayArms.setClosingStores then (s, [.remoteClosing])
      else ({ s with parked := s.parked + 1 }, []) := by
  simp only [sendCall, Gen.GoawayArms.setClosingStores]
  cases s.closing <;> rfl

theorem sendOpened_gate (s : State) (hp : s.parked ≠ 0) :
    sendOpened s =
      if s.closing = Gen.GoawayArms.setClosingStores then
        ({ s with parked := s.parked - 1, opened := s.opened + 1 }, [.unused (4 * s.opened), .remoteClosing])
      else ({ s with parked := s.parked - 1, opened := s.opened + 1 }, [.opened (4 * s.opened)]) := by
  simp only [sendOpened, Gen.GoawayArms.setClosingStores, hp, if_false]
  cases s.closing <;> rfl

end H3.GenAgree.Goaway
