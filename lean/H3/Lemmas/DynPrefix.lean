import H3.Lemmas.DynBasic
import H3.Spec.Dyn
/-! `HeaderPrefix::{new,get}`: the Required Insert Count survives the modulo encoding whenever the
    decoder's insert count lies in the window RFC 9204 §4.5.1.1 assumes. -/
namespace H3.Dyn

/-- the idea of the file: two numbers less than `M = F/2` apart have quotients by `F` at most one apart, and
    the remainders tell which way -/
theorem quot_cases {F M p q ic w : Nat} (hF : F = 2 * M) (hw : w < F) (hic : ic < F)
    (h1 : F * p + ic ≤ F * q + w + M) (h2 : F * q + w < F * p + ic + M) :
    (p = q + 1 ∧ ic + M ≤ w) ∨ (p + 1 = q ∧ w + M < ic) ∨ (p = q ∧ ¬ ic + M ≤ w ∧ ¬ w + M < ic) := by
  rcases Nat.lt_trichotomy p q with h | h | h
  · rcases Nat.eq_or_lt_of_le (Nat.succ_le_of_lt h) with e | e
    · subst e; rw [Nat.mul_succ] at h1 h2; right; left; omega
    · have h4 := Nat.mul_le_mul_left F (Nat.succ_le_of_lt e)
      rw [Nat.mul_succ, Nat.mul_succ] at h4; omega
  · subst h; right; right; omega
  · rcases Nat.eq_or_lt_of_le (Nat.succ_le_of_lt h) with e | e
    · subst e; rw [Nat.mul_succ] at h1 h2; left; omega
    · have h4 := Nat.mul_le_mul_left F (Nat.succ_le_of_lt e)
      rw [Nat.mul_succ, Nat.mul_succ] at h4; omega

theorem prefixRequired_window (r total' mx : Nat)
    (hw1 : r ≤ total' + mx / 32) (hw2 : total' < r + mx / 32) :
    prefixRequired (r % (2 * (mx / 32)) + 1) total' mx = .ok r := by
  unfold prefixRequired
  rw [if_neg (Nat.succ_ne_zero _)]
  simp only [Nat.add_sub_cancel]
  generalize mx / 32 = M at *
  generalize hF : 2 * M = F at *
  -- `total' = F*q + w`, `r = F*p + ic`
  have hT := Nat.div_add_mod total' F
  have hR := Nat.div_add_mod r F
  -- the window is not empty, so `M > 0`
  have hF0 : 0 < F := by omega
  have hw := Nat.mod_lt total' hF0
  have hic := Nat.mod_lt r hF0
  generalize total' / F = q at hT
  generalize total' % F = w at *
  generalize r / F = p at hR
  generalize r % F = ic at *
  subst hT hR
  rw [if_neg (by omega)]
  rcases quot_cases hF.symm hw hic hw1 hw2 with ⟨rfl, h⟩ | ⟨rfl, h⟩ | ⟨rfl, h, h'⟩
  · rw [if_pos h, Nat.mul_succ]; congr 1; omega
  · rw [if_neg (by omega), if_pos h, Nat.mul_succ, csub_ok (by omega)]; congr 1; omega
  · rw [if_neg h, if_neg h']; congr 1; omega

/-- `HeaderPrefix::get (HeaderPrefix::new r base total max) total' max = (r, base)` for every decoder
    insert count `total'` with `total' − max/32 < r ≤ total' + max/32` -/
theorem prefix_roundtrip (r base total mx total' : Nat) (hr : 0 < r) (hrt : r ≤ total) (hM : 1 ≤ mx / 32)
    (hw1 : r ≤ total' + mx / 32) (hw2 : total' < r + mx / 32) :
    ∃ p, prefixNew r base total mx = .ok p ∧ prefixGet p total' mx = .ok (r, base) := by
  have hmx : mx ≠ 0 := by intro e; subst e; simp at hM
  unfold prefixNew
  rw [if_neg hmx, if_neg (by omega), if_neg (by omega)]
  simp only
  rw [if_neg (by omega)]
  refine ⟨_, rfl, ?_⟩
  unfold prefixGet
  rw [if_neg hmx]
  simp only [prefixRequired_window r total' mx hw1 hw2, Res.bind_ok]
  rw [if_neg (by omega)]
  by_cases hb : r > base
  · simp only [hb, if_true]
    rw [if_neg (by simp), if_neg (by omega)]
    congr 2; omega
  · simp only [hb, if_false]
    rw [if_pos (by simp)]
    congr 2; omega

theorem prefixNew_ok {r base total mx : Nat} (h : r ≠ 0 → r ≤ total ∧ 1 ≤ mx / 32) :
    ∃ p, prefixNew r base total mx = .ok p := by
  unfold prefixNew
  by_cases hm0 : mx = 0
  · rw [if_pos hm0]; exact ⟨_, rfl⟩
  · rw [if_neg hm0]
    by_cases hr0 : r = 0
    · rw [if_pos hr0]; exact ⟨_, rfl⟩
    · rw [if_neg hr0, if_neg (not_not_intro (h hr0).1)]
      simp only
      rw [if_neg (Nat.ne_of_gt (h hr0).2)]; exact ⟨_, rfl⟩

theorem prefix_zero (base total mx total' : Nat) :
    prefixNew 0 base total mx = .ok ⟨0, false, 0⟩ ∧ prefixGet ⟨0, false, 0⟩ total' mx = .ok (0, 0) := by
  by_cases h : mx = 0
  · exact ⟨if_pos h, if_pos h⟩
  · exact ⟨(if_neg h).trans rfl, (if_neg h).trans rfl⟩

theorem decodeRIC_succ {ic M total' r : Nat} (h : H3.Spec.Dyn.decodeRIC (ic + 1) M total' = some r) :
    ic = r % (2 * M) ∧ r ≤ total' + M ∧ total' < r + M := by
  unfold H3.Spec.Dyn.decodeRIC at h
  simp only [Nat.add_succ_sub_one] at h
  rw [if_neg (Nat.succ_ne_zero _)] at h
  generalize hF : 2 * M = F at *
  by_cases h1 : ic + 1 > F
  · rw [if_pos h1] at h; cases h
  · rw [if_neg h1] at h
    -- `total' + M = F*q + w`
    have hT := Nat.div_add_mod (total' + M) F
    have hw := Nat.mod_lt (total' + M) (show 0 < F by omega)
    rw [Nat.mul_comm ((total' + M) / F) F] at h
    generalize (total' + M) / F = q at *
    generalize (total' + M) % F = w at *
    by_cases h2 : F * q + ic > total' + M
    · rw [if_pos h2] at h
      cases q with
      | zero => rw [if_pos (by omega)] at h; cases h
      | succ k =>
        rw [Nat.mul_succ] at h hT h2
        rw [if_neg (by omega), Nat.add_right_comm, Nat.add_sub_cancel] at h
        split at h
        · cases h
        · cases h
          rw [Nat.mul_add_mod_self_left, Nat.mod_eq_of_lt (by omega)]; omega
    · rw [if_neg h2] at h
      split at h
      · cases h
      · cases h
        rw [Nat.mul_add_mod_self_left, Nat.mod_eq_of_lt (by omega)]; omega

theorem prefixRequired_of_decodeRIC {eic total' mx r : Nat}
    (h : H3.Spec.Dyn.decodeRIC eic (mx / 32) total' = some r) : prefixRequired eic total' mx = .ok r := by
  cases eic with
  | zero => cases h; rfl
  | succ ic =>
    obtain ⟨hic, h1, h2⟩ := decodeRIC_succ h
    rw [hic]; exact prefixRequired_window r total' mx h1 h2

end H3.Dyn
