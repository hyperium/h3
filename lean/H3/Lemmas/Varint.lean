import H3.Model.Varint
/-! The arithmetic of QUIC varints: big-endian bytes, the encoder's four forms as one family (`Form`), and the
    varint at the head of a buffer, on prefixes and extensions of the buffer, as `Varint.decode` sees it (`vhead`)
    and as the RFC 9000 §16 reading `rfcDecode` sees it on any list of numbers; on bytes the two agree. -/
namespace H3.Varint

theorem WF_take {b : Bytes} (h : WF b) (n : Nat) : WF (b.take n) :=
  fun x hx => h x (List.mem_of_mem_take hx)

theorem WF_drop {b : Bytes} (h : WF b) (n : Nat) : WF (b.drop n) :=
  fun x hx => h x (List.mem_of_mem_drop hx)

theorem WF_append_iff {a b : Bytes} : WF (a ++ b) ↔ WF a ∧ WF b := List.forall_mem_append

theorem rfcDecode_iff {b r : Bytes} {v : Nat} :
    rfcDecode b = some (v, r) ↔ ∃ b0 t, b = b0 :: t ∧ rfcLen b0 ≤ b.length ∧
      v = beVal (b.take (rfcLen b0)) % 2 ^ (8 * rfcLen b0 - 2) ∧ r = b.drop (rfcLen b0) := by
  cases b with
  | nil => exact ⟨fun h => (nomatch h), fun ⟨_, _, e, _⟩ => (nomatch e)⟩
  | cons b0 t =>
    simp only [rfcDecode, rfcValue]
    by_cases hl : (b0 :: t).length < rfcLen b0
    · rw [if_pos hl]
      exact ⟨fun h => (nomatch h), fun ⟨_, _, e, h, _⟩ => (by cases e; omega)⟩
    · rw [if_neg hl]
      constructor
      · intro h; cases h; exact ⟨b0, t, rfl, by omega, rfl, rfl⟩
      · rintro ⟨_, _, e, _, rfl, rfl⟩; cases e; rfl

theorem rfcDecode_cons_none {b0 : Nat} {t : Bytes} :
    rfcDecode (b0 :: t) = none ↔ (b0 :: t).length < rfcLen b0 := by
  simp only [rfcDecode]
  split
  · exact ⟨fun _ => ‹_›, fun _ => rfl⟩
  · exact ⟨fun h => (nomatch h), fun h => absurd h ‹_›⟩

theorem rfcDecode_length {b r : Bytes} {v : Nat} (h : rfcDecode b = some (v, r)) : r.length < b.length := by
  obtain ⟨b0, _, _, hl, _, rfl⟩ := rfcDecode_iff.mp h
  have : 1 ≤ rfcLen b0 := Nat.one_le_two_pow
  rw [List.length_drop]; omega

theorem rfcDecode_wf {b r : Bytes} {v : Nat} (h : rfcDecode b = some (v, r)) (hwf : WF b) : WF r := by
  obtain ⟨_, _, _, _, _, rfl⟩ := rfcDecode_iff.mp h
  exact WF_drop hwf _

theorem rfcDecode_append {a r : Bytes} {v : Nat} (h : rfcDecode a = some (v, r)) (c : Bytes) :
    rfcDecode (a ++ c) = some (v, r ++ c) := by
  obtain ⟨b0, t, rfl, hl, rfl, rfl⟩ := rfcDecode_iff.mp h
  exact rfcDecode_iff.mpr ⟨b0, t ++ c, rfl, by rw [List.length_append]; omega,
    by rw [List.take_append_of_le_length hl], by rw [List.drop_append_of_le_length hl]⟩

theorem rfcDecode_take {b r : Bytes} {v : Nat} (h : rfcDecode b = some (v, r)) (k : Nat) :
    rfcDecode (b.take k) =
      if k < b.length - r.length then none else some (v, r.take (k - (b.length - r.length))) := by
  obtain ⟨b0, t, rfl, hl, rfl, rfl⟩ := rfcDecode_iff.mp h
  have hpos : 1 ≤ rfcLen b0 := Nat.one_le_two_pow
  rw [List.length_drop, show (b0 :: t).length - ((b0 :: t).length - rfcLen b0) = rfcLen b0 by omega]
  cases k with
  | zero => rw [if_pos (by omega)]; rfl
  | succ k =>
    by_cases hk : k + 1 < rfcLen b0
    · rw [if_pos hk, List.take_succ_cons, rfcDecode,
        if_pos (by simp only [List.length_cons, List.length_take]; omega)]
    · rw [if_neg hk]
      refine rfcDecode_iff.mpr ⟨b0, t.take k, rfl, by simp only [List.length_take]; omega, ?_, ?_⟩
      · rw [List.take_take, Nat.min_eq_left (by omega)]
      · rw [List.drop_take]

theorem be1 (x : Nat) : be 1 x = [x % 256] := by simp [be]

theorem be_length (n x : Nat) : (be n x).length = n := by
  induction n generalizing x with
  | zero => rfl
  | succ n ih => simp [be, ih]

theorem be_wf (n x : Nat) : WF (be n x) := by
  induction n generalizing x with
  | zero => simp [be, WF]
  | succ n ih =>
    intro b hb
    simp only [be, List.mem_append, List.mem_singleton] at hb
    rcases hb with hb | hb
    · exact ih _ b hb
    · subst hb; exact Nat.mod_lt _ (by decide)

theorem foldl_be (l : Bytes) (a : Nat) :
    l.foldl (fun a b => a * 256 + b) a = a * 256 ^ l.length + beVal l := by
  induction l generalizing a with
  | nil => simp [beVal]
  | cons b l ih =>
    rw [beVal, List.foldl_cons, List.foldl_cons, ih, ih (0 * 256 + b), List.length_cons, Nat.pow_succ]
    simp [Nat.add_mul, Nat.mul_assoc, Nat.mul_comm 256, Nat.add_assoc]

theorem beVal_cons (b : Nat) (l : Bytes) : beVal (b :: l) = b * 256 ^ l.length + beVal l := by
  rw [beVal, List.foldl_cons, foldl_be]; simp

theorem beVal_lt (l : Bytes) (h : WF l) : beVal l < 256 ^ l.length := by
  induction l with
  | nil => simp [beVal]
  | cons b l ih =>
    have hb : b < 256 := h b (by simp)
    have := ih (fun c hc => h c (by simp [hc]))
    have := Nat.mul_le_mul_right (256 ^ l.length) (show b + 1 ≤ 256 by omega)
    rw [beVal_cons, List.length_cons, Nat.pow_succ, Nat.mul_comm _ 256]
    rw [Nat.add_mul] at this
    omega

theorem be_succ (n x : Nat) : be (n + 1) x = (x / 256 ^ n % 256) :: be n x := by
  induction n generalizing x with
  | zero => simp [be]
  | succ n ih => rw [be, ih, be, List.cons_append, Nat.div_div_eq_div_mul, Nat.pow_succ, Nat.mul_comm]

theorem beVal_be (n x : Nat) : beVal (be n x) = x % 256 ^ n := by
  induction n generalizing x with
  | zero => simp [be, beVal, Nat.mod_one]
  | succ n ih =>
    rw [be_succ, beVal_cons, ih, be_length, Nat.pow_succ, Nat.mod_mul, Nat.mul_comm]
    omega

theorem be_add_mul (n k x : Nat) : be n (256 ^ n * k + x) = be n x := by
  induction n generalizing x k with
  | zero => rfl
  | succ n ih =>
    rw [be, be, Nat.pow_succ, Nat.mul_comm _ 256, Nat.mul_assoc, Nat.mul_add_div (by decide),
      Nat.mul_add_mod, ih]

/-- `n + 1` bytes holding the length bits `t` and a value `x` of at most `8 n + 6` bits -/
theorem be_tagged (n t x : Nat) (ht : t < 4) (hx : x < 64 * 256 ^ n) :
    be (n + 1) (256 ^ n * (t * 64) + x) = (t * 64 + x / 256 ^ n) :: be n x := by
  have hp : 0 < 256 ^ n := Nat.pow_pos (by decide)
  have hq : x / 256 ^ n < 64 := (Nat.div_lt_iff_lt_mul hp).mpr hx
  rw [be_succ, be_add_mul, Nat.mul_add_div hp, Nat.mod_eq_of_lt (by omega)]

/-- encoded length announced by the first byte, as `Varint.decode` reads it -/
def vlen (b0 : Nat) : Nat :=
  if b0 / 64 = 0 then 1 else if b0 / 64 = 1 then 2 else if b0 / 64 = 2 then 4 else 8

/-- the `k` of `UnexpectedEnd(k)` for a cut-off varint starting with `b0` -/
def vk (b0 : Nat) : Nat :=
  if b0 / 64 = 0 then 0 else if b0 / 64 = 1 then 1 else if b0 / 64 = 2 then 2 else 3

def vval (b0 : Nat) (t : Bytes) : Nat := beVal (b0 % 64 :: t.take (vlen b0 - 1))

theorem vlen_cases (b0 : Nat) :
    vlen b0 = 1 ∧ vk b0 = 0 ∨ vlen b0 = 2 ∧ vk b0 = 1 ∨ vlen b0 = 4 ∧ vk b0 = 2 ∨ vlen b0 = 8 ∧ vk b0 = 3 := by
  unfold vlen vk
  by_cases h0 : b0 / 64 = 0
  · simp [h0]
  · by_cases h1 : b0 / 64 = 1
    · simp [h1]
    · by_cases h2 : b0 / 64 = 2 <;> simp [h0, h1, h2]

theorem vlen_pos (b0 : Nat) : 1 ≤ vlen b0 := by
  rcases vlen_cases b0 with h | h | h | h <;> rw [h.1] <;> decide

theorem vk_lt_vlen (b0 : Nat) : vk b0 + 1 ≤ vlen b0 := by
  rcases vlen_cases b0 with h | h | h | h <;> rw [h.1, h.2] <;> decide

theorem vlen_le8 (b0 : Nat) : vlen b0 ≤ 8 := by
  rcases vlen_cases b0 with h | h | h | h <;> rw [h.1] <;> decide

theorem decode_cons (b0 : Nat) (r : Bytes) :
    decode (b0 :: r) = if r.length < vlen b0 - 1 then .endOf (vk b0)
      else .ok (vval b0 r) (r.drop (vlen b0 - 1)) := by
  unfold decode vval vlen vk
  by_cases h0 : b0 / 64 = 0
  · simp [h0, beVal]
  · by_cases h1 : b0 / 64 = 1
    · simp [h1]
    · by_cases h2 : b0 / 64 = 2 <;> simp [h0, h1, h2]

theorem decode1 (b0 : Nat) (r : Bytes) (h : b0 / 64 = 0) : decode (b0 :: r) = .ok (b0 % 64) r := by
  simp [decode, h]

theorem decode2 (b0 b1 : Nat) (r : Bytes) (h : b0 / 64 = 1) :
    decode (b0 :: b1 :: r) = .ok (b0 % 64 * 256 + b1) r := by
  simp [decode, h, beVal]

/-- the varint at the head of `b`, if it is completely there: value and encoded length -/
def vhead (b : Bytes) : Option (Nat × Nat) :=
  match b with
  | [] => none
  | b0 :: t => if t.length + 1 < vlen b0 then none else some (vval b0 t, vlen b0)

/-- the `k` of `UnexpectedEnd(k)` on a buffer whose head varint is cut off -/
def vkOf (b : Bytes) : Nat :=
  match b with
  | [] => 0
  | b0 :: _ => vk b0

theorem decode_vhead (b : Bytes) :
    decode b = match vhead b with
      | none => .endOf (vkOf b)
      | some (v, n) => .ok v (b.drop n) := by
  cases b with
  | nil => rfl
  | cons b0 t =>
    simp only [vhead]
    have := vlen_pos b0
    rw [decode_cons]
    by_cases h : t.length + 1 < vlen b0
    · rw [if_pos h, if_pos (by omega)]; rfl
    · rw [if_neg h, if_neg (by omega)]
      obtain ⟨m, hm⟩ : ∃ m, vlen b0 = m + 1 := ⟨vlen b0 - 1, by omega⟩
      simp [hm]

/-- length bits `t`, `n` bytes after the first -/
def Form (t n : Nat) : Prop := (t = 0 ∧ n = 0) ∨ (t = 1 ∧ n = 1) ∨ (t = 2 ∧ n = 3) ∨ (t = 3 ∧ n = 7)

theorem form_head {t n : Nat} (hf : Form t n) (q : Nat) (hq : q < 64) :
    t * 64 + q < 256 ∧ (t * 64 + q) % 64 = q ∧ vlen (t * 64 + q) = n + 1 := by
  have ht : t ≤ 3 := by rcases hf with h | h | h | h <;> rw [h.1] <;> decide
  have hdiv : (t * 64 + q) / 64 = t := by omega
  refine ⟨by omega, by omega, ?_⟩
  unfold vlen
  rw [hdiv]
  rcases hf with ⟨rfl, rfl⟩ | ⟨rfl, rfl⟩ | ⟨rfl, rfl⟩ | ⟨rfl, rfl⟩ <;> rfl

/-- each of the four forms is read back, minimal for its value or not -/
theorem vhead_form {t n : Nat} (hf : Form t n) (x : Nat) (hx : x < 64 * 256 ^ n) (rest : Bytes) :
    vhead ((t * 64 + x / 256 ^ n) :: (be n x ++ rest)) = some (x, n + 1) := by
  have hq : x / 256 ^ n < 64 := (Nat.div_lt_iff_lt_mul (Nat.pow_pos (by decide))).mpr hx
  obtain ⟨_, hmod, hv⟩ := form_head hf _ hq
  rw [vhead, vval, hv, Nat.add_sub_cancel, if_neg (by simp [be_length]),
    List.take_left' (be_length n x), beVal_cons, beVal_be, be_length,
    hmod, Nat.mul_comm, Nat.div_add_mod]

theorem encode_form (x : Nat) (hx : x < 2^62) :
    ∃ t n, Form t n ∧ x < 64 * 256 ^ n ∧ size x = n + 1 ∧
      encode x = (t * 64 + x / 256 ^ n) :: be n x := by
  unfold encode encode? size
  by_cases h6 : x < 2^6
  · exact ⟨0, 0, .inl ⟨rfl, rfl⟩, h6, by rw [if_pos h6], by rw [if_pos h6]; simp [be]⟩
  · by_cases h14 : x < 2^14
    · exact ⟨1, 1, .inr (.inl ⟨rfl, rfl⟩), h14, by rw [if_neg h6, if_pos h14],
        by rw [if_neg h6, if_pos h14]; exact be_tagged 1 1 x (by decide) h14⟩
    · by_cases h30 : x < 2^30
      · exact ⟨2, 3, .inr (.inr (.inl ⟨rfl, rfl⟩)), h30, by rw [if_neg h6, if_neg h14, if_pos h30],
          by rw [if_neg h6, if_neg h14, if_pos h30]; exact be_tagged 3 2 x (by decide) h30⟩
      · exact ⟨3, 7, .inr (.inr (.inr ⟨rfl, rfl⟩)), hx, by rw [if_neg h6, if_neg h14, if_neg h30],
          by rw [if_neg h6, if_neg h14, if_neg h30, if_pos hx]; exact be_tagged 7 3 x (by decide) hx⟩

theorem vhead_encode (x : Nat) (hx : x < 2^62) (r : Bytes) :
    vhead (encode x ++ r) = some (x, (encode x).length) := by
  obtain ⟨t, n, hf, hlt, _, he⟩ := encode_form x hx
  rw [he, List.length_cons, be_length]
  exact vhead_form hf x hlt r

theorem decode_encode (x : Nat) (hx : x < 2^62) (rest : Bytes) :
    decode (encode x ++ rest) = .ok x rest ∧ (encode x).length = size x ∧ WF (encode x) := by
  obtain ⟨t, n, hf, hlt, hs, he⟩ := encode_form x hx
  have hq : x / 256 ^ n < 64 := (Nat.div_lt_iff_lt_mul (Nat.pow_pos (by decide))).mpr hlt
  refine ⟨by rw [decode_vhead, vhead_encode x hx rest]; simp only [List.drop_left],
    by rw [he, hs, List.length_cons, be_length], ?_⟩
  rw [he]
  intro b hb
  rcases List.mem_cons.mp hb with rfl | hb
  · exact (form_head hf _ hq).1
  · exact be_wf n x b hb

theorem encode?_eq (x : Nat) (hx : x < 2^62) : encode? x = some (encode x) := by
  unfold encode encode?
  -- the `none` arm (`unreachable!`) is behind the fourth `if`, which is `hx`; every other arm is a `some`
  rw [if_pos hx]
  repeat' split
  all_goals rfl

theorem size_eq_of_lt {x : Nat} (h : x < 2^62) : size? x = some (size x) := by
  unfold size? size
  repeat' split
  all_goals first | rfl | omega

/-- removing the two length bits of the first byte, on the value -/
theorem beVal_tag_mod (b0 : Nat) (l : Bytes) (hl : WF l) :
    beVal (b0 :: l) % (64 * 256 ^ l.length) = beVal (b0 % 64 :: l) := by
  have := beVal_lt l hl
  have h2 := Nat.mul_le_mul_right (256 ^ l.length) (show b0 % 64 + 1 ≤ 64 by omega)
  rw [Nat.add_mul] at h2
  rw [beVal_cons, beVal_cons]
  conv => lhs; rw [← Nat.div_add_mod b0 64, Nat.add_mul, Nat.mul_comm 64, Nat.mul_assoc, Nat.add_assoc,
    Nat.mul_comm, Nat.mul_add_mod]
  exact Nat.mod_eq_of_lt (by omega)

theorem vval_lt (b0 : Nat) (t : Bytes) (h : WF (t.take (vlen b0 - 1))) : vval b0 t < 2^62 := by
  have h1 := beVal_lt _ h
  have h2 := Nat.mul_le_mul_right (256 ^ (t.take (vlen b0 - 1)).length) (show b0 % 64 + 1 ≤ 64 by omega)
  have h8 := vlen_le8 b0
  have h3 : 256 ^ (t.take (vlen b0 - 1)).length ≤ 256 ^ 7 :=
    Nat.pow_le_pow_right (by decide) (Nat.le_trans (List.length_take_le _ _) (by omega))
  rw [Nat.add_mul] at h2
  rw [vval, beVal_cons]
  omega

theorem rfcLen_eq_vlen (b0 : Nat) (hb : b0 < 256) :
    rfcLen b0 = vlen b0 ∧ 2 ^ (8 * rfcLen b0 - 2) = 64 * 256 ^ (vlen b0 - 1) := by
  have : b0 / 64 = 0 ∨ b0 / 64 = 1 ∨ b0 / 64 = 2 ∨ b0 / 64 = 3 := by omega
  unfold rfcLen vlen
  rcases this with h | h | h | h <;> rw [h] <;> exact ⟨rfl, rfl⟩

theorem vkOf_le (b : Bytes) : vkOf b ≤ 3 := by
  cases b with
  | nil => exact Nat.zero_le _
  | cons b0 t => rcases vlen_cases b0 with h | h | h | h <;> rw [vkOf, h.2] <;> decide

theorem vhead_lt {b : Bytes} {v n : Nat} (hwf : WF b) (h : vhead b = some (v, n)) : v < 2^62 := by
  cases b with
  | nil => cases h
  | cons b0 t =>
    simp only [vhead] at h
    split at h
    · cases h
    · cases h
      exact vval_lt b0 t (WF_take (fun y hy => hwf y (List.mem_cons_of_mem _ hy)) _)

theorem vhead_bounds {b : Bytes} {v n : Nat} (h : vhead b = some (v, n)) : 1 ≤ n ∧ n ≤ b.length := by
  cases b with
  | nil => cases h
  | cons b0 t =>
    simp only [vhead] at h
    split at h
    · cases h
    · cases h
      exact ⟨vlen_pos b0, by simp; omega⟩

theorem vhead_some_of_long (x : Bytes) (h : 8 ≤ x.length) : ∃ v n, vhead x = some (v, n) ∧ n ≤ 8 := by
  cases x with
  | nil => simp at h
  | cons b0 t =>
    have := vlen_le8 b0
    simp only [List.length_cons] at h
    refine ⟨vval b0 t, vlen b0, ?_, this⟩
    simp only [vhead]
    rw [if_neg (by omega)]

theorem vhead_append {b : Bytes} {v n : Nat} (h : vhead b = some (v, n)) (c : Bytes) :
    vhead (b ++ c) = some (v, n) := by
  cases b with
  | nil => cases h
  | cons b0 t =>
    simp only [vhead] at h
    split at h
    · cases h
    · rename_i hlen
      cases h
      simp only [List.cons_append, vhead]
      rw [if_neg (by simp; omega)]
      simp only [vval]
      rw [List.take_append_of_le_length (by omega)]

theorem vhead_take {b : Bytes} {v n : Nat} (h : vhead b = some (v, n)) (k : Nat) :
    vhead (b.take k) = if k < n then none else some (v, n) := by
  cases b with
  | nil => cases h
  | cons b0 t =>
    simp only [vhead] at h
    split at h
    · cases h
    · rename_i hlen
      cases h
      cases k with
      | zero =>
        have := vlen_pos b0
        simp [vhead]
        omega
      | succ k =>
        simp only [List.take_succ_cons, vhead, List.length_take]
        by_cases hk : k + 1 < vlen b0
        · rw [if_pos hk, if_pos (by omega)]
        · rw [if_neg hk, if_neg (by omega)]
          simp only [vval]
          rw [List.take_take]
          have : min (vlen b0 - 1) k = vlen b0 - 1 := by omega
          rw [this]

theorem vhead_none_append {b c : Bytes} {v n : Nat} (h : vhead b = none)
    (h' : vhead (b ++ c) = some (v, n)) : b.length < n ∧ vkOf b + 1 ≤ n := by
  cases b with
  | nil =>
    have := (vhead_bounds h').1
    exact ⟨by simp; omega, by simp [vkOf]; omega⟩
  | cons b0 t =>
    simp only [vhead] at h
    split at h
    · rename_i hlen
      simp only [List.cons_append, vhead] at h'
      split at h'
      · cases h'
      · cases h'
        exact ⟨by simpa using hlen, vk_lt_vlen b0⟩
    · cases h

theorem vhead_none_take {b : Bytes} (h : vhead b = none) (k : Nat) : vhead (b.take k) = none := by
  cases h' : vhead (b.take k) with
  | none => rfl
  | some p =>
    have := vhead_append h' (b.drop k)
    rw [List.take_append_drop, h] at this
    cases this

theorem rfcDecode_eq_vhead (b : Bytes) (hwf : WF b) :
    rfcDecode b = (vhead b).map fun p => (p.1, b.drop p.2) := by
  cases b with
  | nil => rfl
  | cons b0 r =>
    obtain ⟨h1, h2⟩ := rfcLen_eq_vlen b0 (hwf b0 (by simp))
    obtain ⟨m, hm⟩ : ∃ m, vlen b0 = m + 1 := ⟨vlen b0 - 1, by have := vlen_pos b0; omega⟩
    have hr : WF (r.take m) := WF_take (fun y hy => hwf y (List.mem_cons_of_mem _ hy)) m
    rw [rfcDecode, rfcValue, vhead, vval, h2, h1, hm, List.length_cons, List.take_succ_cons]
    simp only [Nat.add_sub_cancel]
    by_cases hl : r.length < m
    · rw [if_pos (by omega), if_pos (by omega)]; rfl
    · rw [if_neg (by omega), if_neg (by omega), Option.map_some, List.drop_succ_cons]
      have h3 := beVal_tag_mod b0 _ hr
      rw [show (r.take m).length = m by simp; omega] at h3
      rw [h3]

theorem decode_of_rfc (b : Bytes) (hwf : WF b) :
    decode b = match rfcDecode b with
      | some (v, r) => .ok v r
      | none => .endOf (vkOf b) := by
  rw [decode_vhead, rfcDecode_eq_vhead b hwf]
  cases vhead b <;> rfl

theorem decode_total (bs : Bytes) (hwf : WF bs) :
    (∀ v r, rfcDecode bs = some (v, r) → decode bs = .ok v r ∧ v < 2^62) ∧
    (rfcDecode bs = none → ∃ k, decode bs = .endOf k) := by
  have hd := decode_of_rfc bs hwf
  refine ⟨fun v r h => ⟨by rw [hd, h], ?_⟩, fun h => ⟨vkOf bs, by rw [hd, h]⟩⟩
  rw [rfcDecode_eq_vhead bs hwf] at h
  cases hv : vhead bs with
  | none => rw [hv] at h; cases h
  | some p =>
    rw [hv] at h
    simp only [Option.map_some, Option.some.injEq, Prod.mk.injEq] at h
    exact h.1 ▸ vhead_lt hwf hv

end H3.Varint
