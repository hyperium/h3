import H3.Lemmas.ReqLiftRun
import H3.Lemmas.ReqLiftToks
import H3.Lemmas.ReqLiftKinds
import H3.Lemmas.ReqRetry
import H3.Lemmas.ReqSimP
import H3.Lemmas.FrameStreamPend
/-! The simulation between the `FrameStream` model over a transport script and the token source that
    holds the model's own future answers, for the model as it is (`w = false`: `LiftR`, `liftR_sim`) and
    for the model that waits out a `Pending` (`w = true`: `LiftRS`, `liftRS_sim` in `ReqPoll.lean`) at once:
    `liftW_sim w`.  Then the frame sequence of a script whose bytes carry no 0x41 header (`NoRaw`): `Tied`,
    `liftW_exists`; and where it is a function of the bytes alone: the ending of a tied run is the reference
    automaton's verdict over the bytes before the FIN (`termOK_final`; for scripts of chunks only, `OnlyChunks`:
    `tied_fin_exact`, `tied_open_exact`).  The file ends, in `H3.Iso`, with the outcome theorem for chunks then
    FIN with the loop bound free (`chunked_outcome_fin_fuel`), which `Props/C03` and the C07 composition use. -/
namespace H3.ReqRecv
open H3.Frame

/-- the configuration `c` of the `FrameStream` model satisfies the C02 invariant, and the token
    source `a` holds the answers `c` is going to give to the canonical reader -/
def LiftR (c : FSt) (a : TS) : Prop :=
  Fut c.1 c.2 a.items a.term ∧ a.rem = c.1.remaining ∧
    ∃ seen toks, FS.Inv FS.frameDec seen toks c.1 ∧ FS.ScriptOK c.2

/-- what the waiting model (`w = true`) still waits for: the events left in the script -/
def lenW (w : Bool) (c : FSt) : Nat := if w then c.2.length else 0

/-- `fsSrc` (`w = false`, by `rfl`) or `waitSrc` (`w = true`, by `rfl`) -/
def srcW (w : Bool) : Src FSt := skipSrc fsSrc (lenW w)

theorem fsLawsW (w : Bool) : PendLaws fsSrc (lenW w) where
  next_len := fun c => by
    cases w
    · exact Nat.le_refl 0
    · exact FS.pollNext_len FS.frameDec c.1 c.2
  data_len := fun c => by
    cases w
    · exact Nat.le_refl 0
    · exact FS.pollData_len (F := Frame) (E := FrameErr) c.1 c.2
  next_pend := by
    intro c h
    obtain ⟨s, sc⟩ := c
    rcases hq : FS.pollNext FS.frameDec s sc with ⟨o, s', sc'⟩
    have hx := fs_pollNext s sc o s' sc' hq
    rw [hx] at h ⊢
    cases o <;> simp [isPend] at h
    obtain ⟨h1, h2, h3⟩ := FS.pollNext_pending_st FS.frameDec s s' sc sc' hq
    refine ⟨by simp [fsSrc, h2], by simp [fsSrc, h1], ?_⟩
    cases w
    · exact fun hne => absurd rfl hne
    · exact fun hne => h3 (by intro hc; simp [lenW, hc] at hne)
  data_pend := by
    intro c h
    obtain ⟨s, sc⟩ := c
    rcases hq : FS.pollData (F := Frame) (E := FrameErr) s sc with ⟨o, s', sc'⟩
    have hx := fs_pollData s sc o s' sc' hq
    rw [hx] at h ⊢
    cases o <;> simp [isPend] at h
    obtain ⟨h1, _, h3⟩ := FS.pollData_pending_st s s' sc sc' hq
    refine ⟨by simp [fsSrc, h1], ?_⟩
    cases w
    · exact fun hne => absurd rfl hne
    · exact fun hne => h3 (by intro hc; simp [lenW, hc] at hne)

/-- `LiftR` (`w = false`) and `LiftRS` (`w = true`) in one -/
def LiftW (w : Bool) (c : FSt) (a : TS) : Prop :=
  FutW w c.1 c.2 a.items a.term ∧ a.rem = c.1.remaining ∧
    ∃ seen toks, FS.Inv FS.frameDec seen toks c.1 ∧ FS.ScriptOK c.2

/-- one poll of `srcW w`, given the model's answer: a `Pending` with events left to wait for is polled again -/
theorem srcW_next_of (w : Bool) {s s' : FS.St} {sc sc' : List FS.Ev} {o : FOut}
    (h : FS.pollNext FS.frameDec s sc = (o, s', sc')) :
    (srcW w).pollNext (s, sc) =
      if isPend o = true ∧ lenW w (s', sc') ≠ 0 then (srcW w).pollNext (s', sc') else (o, (s', sc')) := by
  have := skipNext_unfold (fsLawsW w) (s, sc)
  rw [fs_pollNext s sc o s' sc' h] at this
  exact this

theorem srcW_data_of (w : Bool) {s s' : FS.St} {sc sc' : List FS.Ev} {o : FOut}
    (h : FS.pollData (F := Frame) (E := FrameErr) s sc = (o, s', sc')) :
    (srcW w).pollData (s, sc) =
      if isPend o = true ∧ lenW w (s', sc') ≠ 0 then (srcW w).pollData (s', sc') else (o, (s', sc')) := by
  have := skipData_unfold (fsLawsW w) (s, sc)
  rw [fs_pollData s sc o s' sc' h] at this
  exact this

theorem term_next_pending {t : Term} (h : isPend t.next = true) : t = .open_ := by
  cases t <;> simp [Term.next, isPend] at h
  rfl

theorem term_data_pending {t : Term} (h : isPend t.data = true) : t = .open_ := by
  cases t <;> simp [Term.data, isPend] at h
  rfl

/-- a `Pending` that ends the run is not waited out: nothing is left (`w = true`) or the model never waits -/
theorem no_wait {w : Bool} {t : Term} {o : FOut} {c : FSt} (ht : isPend o = true → t = .open_)
    (hfin : w = true → t = .open_ → c.2 = []) : ¬ (isPend o = true ∧ lenW w c ≠ 0) := by
  rintro ⟨h1, h2⟩
  cases w
  · exact h2 rfl
  · exact h2 (by simp [lenW, hfin rfl (ht h1)])

theorem futW_next {w : Bool} {s : FS.St} {sc : List FS.Ev} {items : List Item} {t : Term}
    (hF : FutW w s sc items t) :
    ∀ (seen : FS.Bytes) (toks : List RefTok), s.remaining = 0 → FS.Inv FS.frameDec seen toks s → FS.ScriptOK sc →
      ((srcW w).pollNext (s, sc)).1 = (tokSrc.pollNext { items := items, term := t, rem := 0 }).1 ∧
      (contOut (tokSrc.pollNext { items := items, term := t, rem := 0 }).1 = true →
        LiftW w ((srcW w).pollNext (s, sc)).2 (tokSrc.pollNext { items := items, term := t, rem := 0 }).2) := by
  induction hF with
  | @frame s sc f s' sc' items t h0 hc hr _ =>
    intro seen toks _ hI hsc
    rw [srcW_next_of w hc, if_neg (by simp [isPend]), tok_next_frame]
    obtain ⟨tk, hs, _, hst⟩ := FS.pollNext_step FS.frameDec FS.frameDec_laws hI hsc h0 hc
    cases hst with
    | frame _ hI' hrem =>
    exact ⟨rfl, fun _ => ⟨hr, (kindLen_eq f).trans hrem.symm, _, _, hI', by rw [hs] at hsc; exact FS.scriptOK_suffix hsc⟩⟩
  | @skipN s sc s' sc' items t hw h0 hc hne hr ih =>
    intro seen toks _ hI hsc
    rw [srcW_next_of w hc, if_pos ⟨rfl, by subst hw; simpa [lenW] using hne⟩]
    obtain ⟨tk, hs, _, hst⟩ := FS.pollNext_step FS.frameDec FS.frameDec_laws hI hsc h0 hc
    cases hst with
    | wait hI' hrem => exact ih _ _ (hrem.trans h0) hI' (by rw [hs] at hsc; exact FS.scriptOK_suffix hsc)
  | @nextEnd s sc t h0 hc hfin =>
    intro seen toks _ hI hsc
    rcases hq : FS.pollNext FS.frameDec s sc with ⟨o, s1, sc1⟩
    rw [hq] at hc hfin
    simp only at hc hfin
    rw [srcW_next_of w hq, if_neg (no_wait (fun h => term_next_pending (hc ▸ h)) hfin), tok_next_nil]
    refine ⟨hc, fun hcont => ?_⟩
    cases t with
    | fin =>
      simp only [Term.next] at hc
      subst hc
      obtain ⟨tk, hs, _, hst⟩ := FS.pollNext_step FS.frameDec FS.frameDec_laws hI hsc h0 hq
      cases hst with
      | none hI' hrem' hfl heos' =>
      have hsc1 : FS.ScriptOK sc1 := by rw [hs] at hsc; exact FS.scriptOK_suffix hsc
      refine ⟨FutW.nextEnd hrem' ?_ (fun _ hc => by cases hc), by simp only; rw [hrem'], _, _, hI', hsc1⟩
      rw [FS.pollNext_at_end FS.frameDec s1 sc1 hrem' heos' hfl]
      rfl
    | _ => simp [Term.next, contOut] at hcont
  | piece h0 _ _ _ => intro _ _ h; exact absurd h h0
  | skipD _ h0 _ _ _ _ => intro _ _ h; exact absurd h h0
  | dataEnd h0 _ _ => intro _ _ h; exact absurd h h0

theorem futW_data {w : Bool} {s : FS.St} {sc : List FS.Ev} {items : List Item} {t : Term}
    (hF : FutW w s sc items t) :
    ∀ (seen : FS.Bytes) (toks : List RefTok), s.remaining ≠ 0 → FS.Inv FS.frameDec seen toks s → FS.ScriptOK sc →
      ((srcW w).pollData (s, sc)).1 = (tokSrc.pollData { items := items, term := t, rem := s.remaining }).1 ∧
      (contOut (tokSrc.pollData { items := items, term := t, rem := s.remaining }).1 = true →
        LiftW w ((srcW w).pollData (s, sc)).2 (tokSrc.pollData { items := items, term := t, rem := s.remaining }).2) := by
  induction hF with
  | @piece s sc d s' sc' items t h0 hc hr _ =>
    intro seen toks _ hI hsc
    rw [srcW_data_of w hc, if_neg (by simp [isPend]), tok_data_piece d items t s.remaining h0]
    obtain ⟨tk, hs, _, hst⟩ := FS.pollData_step FS.frameDec hI hsc h0 hc
    cases hst with
    | data _ _ _ hrem' hI' =>
    exact ⟨rfl, fun _ => ⟨hr, hrem'.symm, _, _, hI', by rw [hs] at hsc; exact FS.scriptOK_suffix hsc⟩⟩
  | @skipD s sc s' sc' items t hw h0 hc hne hr ih =>
    intro seen toks _ hI hsc
    rw [srcW_data_of w hc, if_pos ⟨rfl, by subst hw; simpa [lenW] using hne⟩]
    obtain ⟨tk, hs, _, hst⟩ := FS.pollData_step FS.frameDec hI hsc h0 hc
    cases hst with
    | wait hI' hrem' =>
    have := ih _ _ (by rw [hrem']; exact h0) hI' (by rw [hs] at hsc; exact FS.scriptOK_suffix hsc)
    rw [hrem'] at this
    exact this
  | @dataEnd s sc t h0 hc hfin =>
    intro seen toks _ hI hsc
    rcases hq : FS.pollData (F := Frame) (E := FrameErr) s sc with ⟨o, s1, sc1⟩
    rw [hq] at hc hfin
    simp only at hc hfin
    rw [srcW_data_of w hq, if_neg (no_wait (fun h => term_data_pending (hc ▸ h)) hfin), tok_data_nil t s.remaining h0]
    refine ⟨hc, fun hcont => ?_⟩
    cases t <;> simp [Term.data, contOut] at hcont
  | frame h0 _ _ _ => intro _ _ h; exact absurd h0 h
  | skipN _ h0 _ _ _ _ => intro _ _ h; exact absurd h0 h
  | nextEnd h0 _ _ => intro _ _ h; exact absurd h0 h

theorem liftW_eosL (w : Bool) (c : FSt) (a : TS) (h : LiftW w c a) (he : fsSrc.isEos c = true)
    (hd : tokSrc.hasData a = false) : (tokSrc.pollNext a).1 = .none ∧ LiftW w c (tokSrc.pollNext a).2 := by
  obtain ⟨s, sc⟩ := c
  obtain ⟨items, term, rem⟩ := a
  have h' := h
  obtain ⟨hF, hrem, seen, toks, hI, hsc⟩ := h
  simp only at hF hrem hI hsc
  subst hrem
  have h0 : s.remaining = 0 := by simpa using hd
  have heos : s.eos = true ∧ s.flat = [] := by
    simpa [fsSrc] using he
  have hnone := FS.pollNext_at_end FS.frameDec s sc h0 heos.1 heos.2
  cases hF with
  | frame _ hc _ => rw [hc] at hnone; cases hnone
  | skipN _ _ hc _ _ => rw [hc] at hnone; cases hnone
  | nextEnd _ hc _ =>
    rw [hnone] at hc
    have e2 : tokSrc.pollNext { items := [], term := term, rem := s.remaining } =
        (term.next, { items := [], term := term, rem := s.remaining }) := by
      rw [h0]; exact tok_next_nil _
    rw [e2]
    exact ⟨hc.symm, h'⟩
  | piece h0' _ _ => exact absurd h0 h0'
  | skipD _ h0' _ _ _ => exact absurd h0 h0'
  | dataEnd h0' _ _ => exact absurd h0 h0'

theorem liftW_sim (w : Bool) : FrameSimP (srcW w) tokSrc (LiftW w) where
  hasData := by
    intro c a h
    obtain ⟨_, hrem, _⟩ := h
    show fsSrc.hasData c = _
    simp only [fsSrc, tok_hasData, hrem]
  next := by
    intro c a h
    obtain ⟨s, sc⟩ := c
    obtain ⟨items, term, rem⟩ := a
    obtain ⟨hF, hrem, seen, toks, hI, hsc⟩ := h
    simp only at hF hrem hI hsc
    subst hrem
    by_cases h0 : s.remaining = 0
    · have := futW_next hF seen toks h0 hI hsc
      rw [h0]
      exact this
    · -- `poll_next` inside a DATA payload: the `assert!` on both sides
      have hp : FS.pollNext FS.frameDec s sc = (.panic, s, sc) := by
        unfold FS.pollNext; rw [if_pos h0]
      rw [srcW_next_of w hp, if_neg (by simp [isPend])]
      have e2 : tokSrc.pollNext { items := items, term := term, rem := s.remaining } =
          (.panic, { items := items, term := term, rem := s.remaining }) := by
        simp [tokSrc, h0]
      rw [e2]
      exact ⟨rfl, fun hc => by simp [contOut] at hc⟩
  data := by
    intro c a h
    obtain ⟨s, sc⟩ := c
    obtain ⟨items, term, rem⟩ := a
    have h' := h
    obtain ⟨hF, hrem, seen, toks, hI, hsc⟩ := h
    simp only at hF hrem hI hsc
    subst hrem
    by_cases h0 : s.remaining = 0
    · have hp : FS.pollData (F := Frame) (E := FrameErr) s sc = (.none, s, sc) := by
        unfold FS.pollData; rw [if_pos h0]
      rw [srcW_data_of w hp, if_neg (by simp [isPend])]
      have e2 : tokSrc.pollData { items := items, term := term, rem := s.remaining } =
          (.none, { items := items, term := term, rem := s.remaining }) := by
        simp [tokSrc, h0]
      rw [e2]
      exact ⟨rfl, fun _ => h'⟩
    · exact futW_data hF seen toks h0 hI hsc
  eosL := fun c a h he _ hd => liftW_eosL w c a h he hd
  eosR := by
    intro c a _ _ h
    simp at h

theorem liftR_eq : LiftR = LiftW false :=
  funext fun _ => funext fun _ => propext (and_congr futW_false_iff.symm Iff.rfl)

/-- the `FrameStream` model over any transport script answers like the token source holding its
    future answers, as long as the documented pattern goes on -/
theorem liftR_sim : FrameSimP fsSrc tokSrc LiftR := liftR_eq ▸ liftW_sim false

/-- The bytes carry no WebTransport header (0x41) at a frame position, and no DATA frame whose
    length is `usize::MAX` (no varint is that large): `poll_data` never runs in raw mode.  A
    condition on the byte string alone. -/
def NoRaw (w : FS.Bytes) : Prop :=
  ∀ f, FS.Tok.frame f ∈ (FS.run FS.frameDec (.hdr []) w).2 → (FS.frameDec.kind f).rem < FS.USIZE_MAX

/-- `Tied sc toks e`: the frame-layer answers `compile toks e` are those of the reference
    automaton over the bytes of the part `taken` of the script that the model took from the
    transport, and the ending is the one the automaton's final state and the rest of the script
    dictate (`TermOK`); and the recogniser's input `toks.map kind` is what can be read off these
    tokens (`kindsOf`; in particular `toks` has no entries for frames of unknown type, which
    neither the frame layer nor the recogniser shows). -/
def Tied (sc : List FS.Ev) (toks : List Tok) (e : Ending) : Prop :=
  (∃ taken rest eos, sc = taken ++ rest ∧ FS.TakenOK false eos taken ∧
    TermOK (FS.run FS.frameDec (.hdr []) (FS.evBytes taken)) (itemToks (compile toks e).1) eos taken
      rest (compile toks e).2) ∧
  toks.map kind = kindsOf (itemToks (compile toks e).1 ++ protoToks (compile toks e).2)

def noRawB (w : FS.Bytes) : Bool :=
  (FS.run FS.frameDec (.hdr []) w).2.all fun tok =>
    match tok with
    | .frame f => decide ((FS.frameDec.kind f).rem < FS.USIZE_MAX)
    | _ => true

theorem noRaw_iff (w : FS.Bytes) : NoRaw w ↔ noRawB w = true := by
  unfold NoRaw noRawB
  rw [List.all_eq_true]
  constructor
  · intro h tok htok
    cases tok with
    | frame f => simpa using h f htok
    | _ => rfl
  · intro h f hf
    simpa using h _ hf

instance (w : FS.Bytes) : Decidable (NoRaw w) := decidable_of_iff _ (noRaw_iff w).symm

theorem tok_pending_fix (a : TS) (h : (tokSrc.pollNext a).1 = .pending) : (tokSrc.pollNext a).2 = a := by
  obtain ⟨items, term, rem⟩ := a
  simp only [tokSrc] at h ⊢
  by_cases hr : rem = 0
  · subst hr
    cases items with
    | nil => rfl
    | cons it r =>
      cases it with
      | frame f => simp at h
      | piece b => rfl
  · simp [hr]

theorem termOK_prefix {R : FS.PSt × List RefTok} {all : List RefTok} {eos : Bool}
    {taken rest : List FS.Ev} {t : Term} (h : TermOK R all eos taken rest t) :
    ∃ more, R.2 = all ++ more := by
  cases t with
  | fin => exact ⟨[], by simpa using h.2.2⟩
  | truncated =>
    rcases h.2 with ⟨_, _, _, h2⟩ | ⟨_, bs, _, _, h2⟩
    · exact ⟨[], by simpa using h2⟩
    · exact ⟨_, h2⟩
  | open_ => exact ⟨[], by simpa using h.2.1⟩
  | proto e => exact ⟨_, h.2⟩
  | reset c => exact h.2.2

theorem tied_prefix {sc : List FS.Ev} {toks : List Tok} {e : Ending} (h : Tied sc toks e) :
    itemToks (compile toks e).1 <+:
      (FS.run FS.frameDec (.hdr []) (FS.evBytes (FS.upToFin sc))).2 := by
  obtain ⟨⟨taken, rest, eos, hsplit, htk, hT⟩, _⟩ := h
  obtain ⟨more, hm⟩ := termOK_prefix hT
  rw [(FS.wire_taken hsplit htk).1, FS.wOf, FS.run_append, hm]
  exact ⟨more ++ (FS.run FS.frameDec (FS.run FS.frameDec (.hdr []) (FS.evBytes taken)).1
    (if eos then [] else FS.evBytes (FS.upToFin rest))).2, by simp⟩

/-- the blocks the reference automaton finds in the wire bytes are acceptable in their positions
    (first HEADERS = head, second = trailers) ⇒ so are those of a frame sequence tied to the script -/
theorem tied_hdrsOk (H : Hdr) {sc : List FS.Ev} {toks : List Tok} {e : Ending} (h : Tied sc toks e)
    (hH : HdrsOkK H .head (kindsOf (FS.run FS.frameDec (.hdr []) (FS.evBytes (FS.upToFin sc))).2)) :
    HdrsOk H toks := by
  obtain ⟨more, hm⟩ := tied_prefix h
  exact hdrsOk_of_ref H h.2 hm.symm hH

theorem tied_headers {sc : List FS.Ev} {toks : List Tok} {e : Ending} (h : Tied sc toks e) {b : Bytes}
    (hb : Tok.headers b ∈ toks) : FS.Tok.frame (.headers b) ∈ itemToks (compile toks e).1 :=
  (List.mem_append.mp (headers_of_kindsOf (h.2 ▸ List.mem_map_of_mem (f := kind) hb))).resolve_right
    (by cases (compile toks e).2 <;> simp [protoToks])

/-- `Tied`, and for the waiting model (`w = true`) the ending `open_` means that the script is used up -/
def TiedW (w : Bool) (sc : List FS.Ev) (toks : List Tok) (e : Ending) : Prop :=
  (∃ taken rest eos, sc = taken ++ rest ∧ FS.TakenOK false eos taken ∧
    TermOK (FS.run FS.frameDec (.hdr []) (FS.evBytes taken)) (itemToks (compile toks e).1) eos taken
      rest (compile toks e).2 ∧ (w = true → (compile toks e).2 = .open_ → rest = [])) ∧
  toks.map kind = kindsOf (itemToks (compile toks e).1 ++ protoToks (compile toks e).2)

theorem TiedW.tied {w : Bool} {sc : List FS.Ev} {toks : List Tok} {e : Ending} (h : TiedW w sc toks e) :
    Tied sc toks e := by
  obtain ⟨⟨taken, rest, eos, h1, h2, h3, _⟩, hk⟩ := h
  exact ⟨⟨taken, rest, eos, h1, h2, h3⟩, hk⟩

open H3.C06 (mu) in
/-- the frame sequence of a script is `decompile` of the reader's run (`futW_exists`); its length is
    within the fuel of `documentedChunks` because every item uses up something of `mu` -/
theorem liftW_exists (w : Bool) (sc : List FS.Ev) (hsc : FS.ScriptOK sc)
    (hraw : NoRaw (FS.evBytes (FS.upToFin sc))) :
    ∃ toks e, LiftW w ({}, sc) (TS.ofToks toks e) ∧ (∀ tok ∈ toks, TokWF tok) ∧
      (compile toks e).1.length + 2 ≤ fsFuel ({}, sc) ∧ TiedW w sc toks e := by
  have hC : FS.CInv FS.frameDec sc [] {} sc := FS.reach_inv FS.frameDec FS.frameDec_laws sc hsc .init
  obtain ⟨items, t, hF, hR, hlen, _, tF, rF, eF, h1, h2, h3, h4⟩ :=
    futW_exists w sc hsc hraw (mu {} sc + 1) {} sc [] hC (by omega)
  have hR0 : Run 0 items t := hR
  obtain ⟨hl, hd⟩ := run0_lead hR0
  obtain ⟨_, _, _, hc, hwf⟩ := compile_decompile hR0
  rw [hl, hd] at hc
  have hc := hc rfl
  refine ⟨(decompile items t).1, (decompile items t).2, ?_, hwf, ?_, ⟨tF, rF, eF, h1, h2, ?_, ?_⟩, ?_⟩
  · refine ⟨?_, ?_, [], [], FS.inv_init FS.frameDec, hsc⟩
    · simp only [TS.ofToks, hc]; exact hF
    · simp only [TS.ofToks]
  · simp only [hc, FS.fsFuel_mu]
    omega
  · rw [hc]
    simpa using h3
  · rw [hc]
    exact h4
  · rw [hc]
    exact decompile_kinds t items

theorem lift_exists (sc : List FS.Ev) (hsc : FS.ScriptOK sc)
    (hraw : NoRaw (FS.evBytes (FS.upToFin sc))) :
    ∃ toks e, LiftR ({}, sc) (TS.ofToks toks e) ∧ (∀ tok ∈ toks, TokWF tok) ∧
      (compile toks e).1.length + 2 ≤ fsFuel ({}, sc) ∧
      (∀ b, Tok.headers b ∈ toks → FS.Tok.frame (.headers b) ∈ itemToks (compile toks e).1) ∧
      Tied sc toks e := by
  obtain ⟨toks, e, hR, hwf, hfuel, htied⟩ := liftW_exists false sc hsc hraw
  exact ⟨toks, e, liftR_eq ▸ hR, hwf, hfuel, fun _ => tied_headers htied.tied, htied.tied⟩

/-- the transport delivers chunks only: no `Pending`, no FIN, no RESET -/
def OnlyChunks (l : List FS.Ev) : Prop := ∀ ev ∈ l, ∃ b, ev = FS.Ev.chunk b

def onlyChunksB (sc : List FS.Ev) : Bool :=
  sc.all fun ev => match ev with | .chunk _ => true | _ => false

theorem onlyChunks_iff (sc : List FS.Ev) : OnlyChunks sc ↔ onlyChunksB sc = true := by
  unfold OnlyChunks onlyChunksB
  rw [List.all_eq_true]
  constructor
  · intro h ev hev
    obtain ⟨b, rfl⟩ := h ev hev
    rfl
  · intro h ev hev
    have := h ev hev
    cases ev with
    | chunk b => exact ⟨b, rfl⟩
    | _ => simp at this

instance (sc : List FS.Ev) : Decidable (OnlyChunks sc) := decidable_of_iff _ (onlyChunks_iff sc).symm

/-- The ending of a run tied to the script `sc`, as the reference automaton's verdict over ALL the bytes before
    the FIN (`FS.FinalOK`: the table that `TermOK` repeats for the bytes taken; `FS.FinalOK.of_taken` carries it
    over), provided no RESET stands before the FIN and an ending `open_` means that the script is used up
    (`hopen`: it is — `TiedS` — or no `pend` stands before the FIN — `OnlyChunks`). -/
theorem termOK_final {sc taken rest : List FS.Ev} {eos : Bool} {all : List RefTok} {t : Term}
    (hsplit : sc = taken ++ rest) (htk : FS.TakenOK false eos taken)
    (hT : TermOK (FS.run FS.frameDec (.hdr []) (FS.evBytes taken)) all eos taken rest t)
    (hreset : ∀ c, FS.Ev.reset c ∉ FS.upToFin sc)
    (hopen : t = .open_ → rest = [] ∨ FS.Ev.pend ∉ FS.upToFin sc) :
    FS.FinalOK (FS.run FS.frameDec (.hdr []) (FS.evBytes (FS.upToFin sc))) (FS.hasFin sc) all t.next := by
  -- while the FIN has not been taken, what was taken and the head of the rest stand before it
  have hup : eos = false → FS.upToFin sc = taken ++ FS.upToFin rest := by
    intro he
    rw [he] at htk
    rw [hsplit]
    exact FS.upToFin_append_of_not_mem taken rest htk.2
  obtain ⟨hw, hf⟩ := FS.wire_taken hsplit htk
  rw [hw, hf]
  cases t with
  | fin => exact FS.FinalOK.of_taken (o := .none) hT nofun
  | truncated => exact FS.FinalOK.of_taken (o := .errEnd) hT nofun
  | proto e => exact FS.FinalOK.of_taken (o := .errProto e) hT nofun
  | open_ =>
    obtain ⟨he, h1, h2, hw⟩ := hT
    refine FS.FinalOK.of_taken (o := .pending) ⟨he, h1, h2⟩ (fun _ => ?_)
    rcases hopen rfl with hr | hp
    · exact hr
    · rcases hw with hw | hw
      · exact hw
      · exact absurd (by rw [hup he]; exact List.mem_append_left _ hw) hp
  | reset c =>
    obtain ⟨he, ⟨r, hr⟩, _⟩ := hT
    exact absurd (by rw [hup he, hr]; simp [FS.upToFin]) (hreset c)

theorem termOK_fin {pre post taken rest : List FS.Ev} {eos : Bool} {all : List RefTok} {t : Term}
    {acc : FS.Bytes} (hfin : FS.Ev.fin ∉ pre) (hreset : ∀ c, FS.Ev.reset c ∉ pre)
    (hsplit : pre ++ .fin :: post = taken ++ rest) (htk : FS.TakenOK false eos taken)
    (hT : TermOK (FS.run FS.frameDec (.hdr []) (FS.evBytes taken)) all eos taken rest t)
    (hopen : t = .open_ → rest = [] ∨ FS.Ev.pend ∉ pre)
    (hc : (FS.run FS.frameDec (.hdr []) (FS.evBytes pre)).1 = .hdr acc) :
    (FS.run FS.frameDec (.hdr []) (FS.evBytes pre)).2 = all ∧
      ((t = .fin ∧ acc = []) ∨ (t = .truncated ∧ acc ≠ [])) := by
  have hup : FS.upToFin (pre ++ .fin :: post) = pre := FS.upToFin_fin pre post hfin
  have hF := termOK_final hsplit htk hT (by rw [hup]; exact hreset) (by rw [hup]; exact hopen)
  rw [hup, show FS.hasFin (pre ++ .fin :: post) = true by simp [FS.hasFin]] at hF
  cases t with
  | fin =>
    obtain ⟨_, h1, h2⟩ := hF
    rw [hc] at h1
    cases h1
    exact ⟨h2, .inl ⟨rfl, rfl⟩⟩
  | truncated =>
    rcases hF.2 with ⟨acc', hne, h2, h3⟩ | ⟨_, _, _, h2, _⟩
    · rw [hc] at h2
      cases h2
      exact ⟨h3, .inr ⟨rfl, hne⟩⟩
    · rw [hc] at h2
      cases h2
  | open_ => exact absurd hF.1 (by simp)
  | proto err =>
    have h1 := hF.1
    rw [hc] at h1
    cases h1
  | reset c => exact hF.elim

theorem termOK_open {sc taken rest : List FS.Ev} {eos : Bool} {all : List RefTok} {t : Term}
    (hfin : FS.Ev.fin ∉ sc) (hreset : ∀ c, FS.Ev.reset c ∉ sc)
    (hsplit : sc = taken ++ rest) (htk : FS.TakenOK false eos taken)
    (hT : TermOK (FS.run FS.frameDec (.hdr []) (FS.evBytes taken)) all eos taken rest t)
    (hopen : t = .open_ → rest = [] ∨ FS.Ev.pend ∉ sc)
    (hc : (FS.run FS.frameDec (.hdr []) (FS.evBytes sc)).1 ≠ .dead) :
    t = .open_ ∧ (FS.run FS.frameDec (.hdr []) (FS.evBytes sc)).2 = all := by
  have hup := FS.upToFin_of_not_mem hfin
  have hF := termOK_final hsplit htk hT (by rw [hup]; exact hreset) (by rw [hup]; exact hopen)
  rw [hup, show FS.hasFin sc = false by simp [FS.hasFin, hfin]] at hF
  cases t with
  | open_ => exact ⟨rfl, hF.2.1⟩
  | fin => exact absurd hF.1 (by simp)
  | truncated => exact absurd hF.1 (by simp)
  | proto err => exact absurd hF.1 hc
  | reset c => exact hF.elim

theorem onlyChunks_not_mem {l : List FS.Ev} (h : OnlyChunks l) :
    FS.Ev.fin ∉ l ∧ FS.Ev.pend ∉ l ∧ ∀ c, FS.Ev.reset c ∉ l := by
  refine ⟨fun hm => ?_, fun hm => ?_, fun c hm => ?_⟩ <;>
    (obtain ⟨b, hb⟩ := h _ hm; cases hb)

/-- FIN on a frame boundary behind chunks only: the ending is `fin` and the recogniser's input is
    read off the reference automaton's tokens over the bytes — the same for every cutting -/
theorem tied_fin_exact {pre post : List FS.Ev} {toks : List Tok} {e : Ending} (hpre : OnlyChunks pre)
    (h : Tied (pre ++ .fin :: post) toks e)
    (hc : (FS.run FS.frameDec (.hdr []) (FS.evBytes pre)).1 = .hdr []) :
    e = .fin ∧ toks.map kind = kindsOf (FS.run FS.frameDec (.hdr []) (FS.evBytes pre)).2 := by
  obtain ⟨⟨taken, rest, eos, hsplit, htk, hT⟩, hk⟩ := h
  obtain ⟨hfin, hpend, hreset⟩ := onlyChunks_not_mem hpre
  obtain ⟨hall, ⟨ht, _⟩ | ⟨_, hne⟩⟩ := termOK_fin hfin hreset hsplit htk hT (fun _ => .inr hpend) hc
  · refine ⟨ending_of_term (e' := .fin) ht, ?_⟩
    rw [hk, hall, ht]
    simp [protoToks]
  · exact absurd rfl hne

theorem tied_open_exact {sc : List FS.Ev} {toks : List Tok} {e : Ending} (hsc : OnlyChunks sc)
    (h : Tied sc toks e) (hc : (FS.run FS.frameDec (.hdr []) (FS.evBytes sc)).1 ≠ .dead) :
    e = .open_ ∧ toks.map kind = kindsOf (FS.run FS.frameDec (.hdr []) (FS.evBytes sc)).2 := by
  obtain ⟨⟨taken, rest, eos, hsplit, htk, hT⟩, hk⟩ := h
  obtain ⟨hfin, hpend, hreset⟩ := onlyChunks_not_mem hsc
  obtain ⟨ht, hall⟩ := termOK_open hfin hreset hsplit htk hT (fun _ => .inr hpend) hc
  refine ⟨ending_of_term (e' := .open_) ht, ?_⟩
  rw [hk, hall, ht]
  simp [protoToks]

end H3.ReqRecv

namespace H3.Iso
open H3.ReqRecv
open H3.Spec.ReqSeq

/-- The wire bytes cut into non-empty chunks in any way, then FIN on a frame boundary, every loop bound at least
    the model's own: the outcome is the recogniser's for the frame kinds of the bytes.  `C03_chunked_outcome_fin`
    is the instance at the model's bound; the C07 composition (`Lemmas/IsoLift.lean`, `Props/C07`), whose name it
    carries, needs the bound free. -/
theorem chunked_outcome_fin_fuel (role : Role) (H : ReqRecv.Hdr) (pre post : List FS.Ev) (fuel : Nat)
    (hpre : OnlyChunks pre) (hsc : FS.ScriptOK (pre ++ .fin :: post)) (hraw : NoRaw (FS.evBytes pre))
    (hH : HdrsOkK H .head (kindsOf (FS.run FS.frameDec (.hdr []) (FS.evBytes pre)).2))
    (hclean : (FS.run FS.frameDec (.hdr []) (FS.evBytes pre)).1 = .hdr [])
    (hfuel : fsFuel ({}, pre ++ .fin :: post) ≤ fuel) :
    (spec (sideOf role) (kindsOf (FS.run FS.frameDec (.hdr []) (FS.evBytes pre)).2) .fin).accepts
      (observe (documented role fsSrc H fuel { src := ({}, pre ++ .fin :: post) })) := by
  have hup : FS.upToFin (pre ++ .fin :: post) = pre := FS.upToFin_fin pre post (onlyChunks_not_mem hpre).1
  obtain ⟨toks, e, hR, hwf, hfuel0, hhdr, htied⟩ :=
    lift_exists (pre ++ .fin :: post) hsc (by rw [hup]; exact hraw)
  have hok : HdrsOk H toks := tied_hdrsOk H htied (by rw [hup]; exact hH)
  have hdoc : documented role fsSrc H fuel { src := ({}, pre ++ .fin :: post) } =
      documented role tokSrc H fuel { src := TS.ofToks toks e } :=
    same_documented_fresh liftR_sim tokSrc_hdrNoData role H fuel hR
  obtain ⟨he, hk⟩ := tied_fin_exact hpre htied hclean
  subst he
  rw [hdoc, ← hk]
  exact recv_spec role H .fin toks fuel hwf hok (by omega)

end H3.Iso
