import H3.Lemmas.C06Req
/-! The documented receive pattern run against a transport script (`runDoc`: every `Pending`
    retried while the script has events left), every schedule (`DocReach`), and the model's own
    driver `documented` (one poll per call): no panic; with the end of the stream in the script,
    completion. -/
namespace H3.C06
open H3.ReqRecv
open H3.Lemmas.C04 (ScriptWF)

/-- The documented pattern against the script held by `st`: the call of the phase is polled; an
    answer is logged and the pattern moves on as `nextPhase` says; a `Pending` is not logged but
    retried (the script's next event has woken the task) unless the script is used up — then the
    call stays pending for good and that is the last entry.  `k` bounds the number of polls
    (`(ph, invalid)` = bound reached), `N` is handed to `poll_recv_data`'s loop. -/
def runDoc (role : Role) (H : Hdr) (N : Nat) : Nat → Phase → RSt → List (Phase × Res)
  | 0, ph, _ => [(ph, .invalid)]
  | k+1, ph, st =>
    let x := pollPhase role H N ph st
    match nextPhase ph x.1 with
    | none => [(ph, x.1)]
    | some ph' =>
      if x.1 = .pending then
        (if x.2.src.2.isEmpty then [(ph, .pending)] else runDoc role H N k ph' x.2)
      else (ph, x.1) :: runDoc role H N k ph' x.2

def initSt (script : List FS.Ev) : RSt := { src := ({}, script) }

/-- both layers composed, with re-polling: the bound is the one the model's drivers use -/
def documentedPolled (role : Role) (H : Hdr) (script : List FS.Ev) : List (Phase × Res) :=
  runDoc role H (fsFuel ({}, script)) (fsFuel ({}, script)) .head (initSt script)

/-- a value or an error: the call has completed -/
def settled : Res → Bool
  | .pending | .invalid | .panic => false
  | _ => true

theorem phaseOK_init (script : List FS.Ev) : PhaseOK .head (initSt script) := rfl

theorem wfSt_init (script : List FS.Ev) (h : ScriptWF script) : WFSt (initSt script) :=
  ⟨fun c hc => by simp [initSt] at hc, h⟩

theorem runDoc_no_panic (role : Role) (H : Hdr) (N : Nat) (k : Nat) (ph : Phase) (st : RSt)
    (hok : PhaseOK ph st) (hwf : WFSt st) : ∀ e ∈ runDoc role H N k ph st, e.2 ≠ .panic := by
  fun_induction runDoc role H N k ph st with
  | case1 => intro e he; rw [List.mem_singleton.mp he]; nofun
  | case2 k ph st x hn =>
    intro e he
    rw [List.mem_singleton.mp he]
    exact (pollPhase_safe role H N ph st hok hwf).noPanic
  | case3 => intro e he; rw [List.mem_singleton.mp he]; nofun
  | case4 k ph st x ph' hn _ _ ih =>
    obtain ⟨hok', hwf'⟩ := (pollPhase_safe role H N ph st hok hwf).next ph' hn
    exact ih hok' hwf'
  | case5 k ph st x ph' hn _ ih =>
    have hS := pollPhase_safe role H N ph st hok hwf
    obtain ⟨hok', hwf'⟩ := hS.next ph' hn
    intro e he
    rcases List.mem_cons.mp he with rfl | he
    · exact hS.noPanic
    · exact ih hok' hwf' e he

theorem settled_of {r : Res} (h1 : r ≠ .panic) (h2 : r ≠ .pending) (h3 : r ≠ .invalid) : settled r = true := by
  cases r <;> simp_all [settled]

theorem runDoc_complete (role : Role) (H : Hdr) (N : Nat) (k : Nat) (ph : Phase) (st : RSt)
    (hok : PhaseOK ph st) (hwf : WFSt st) (hG : GoodS st) (hE : EndsS st) (hN : muS st < N)
    (hk : rank ph + muS st < k) :
    (∀ e ∈ runDoc role H N k ph st, settled e.2 = true) ∧
    ∃ pre last, runDoc role H N k ph st = pre ++ [last] ∧ nextPhase last.1 last.2 = none := by
  fun_induction runDoc role H N k ph st with
  | case1 => omega
  | case2 k ph st x hn =>
    have hS := pollPhase_safe role H N ph st hok hwf
    have hL := pollPhase_live role H N ph st hok hG
    -- the last answer: not `Pending` (that would go on), not the loop bound (`N` exceeds the measure)
    have hset : settled x.1 = true :=
      settled_of hS.noPanic (fun hp => by rw [show x.1 = _ from hp] at hn; cases ph <;> cases hn)
        (fun hi => by have := hL.fuel hi; omega)
    exact ⟨fun e he => by rw [List.mem_singleton.mp he]; exact hset, [], _, rfl, hn⟩
  | case3 k ph st x ph' hn hp hemp =>
    -- `Pending` with the script used up: but the end of the stream was promised, and `eos` is not set
    have h2 := (pollPhase_safe role H N ph st hok hwf).pendOpen hp
    have h1 : Ends x.2.src.1 x.2.src.2 := ((pollPhase_live role H N ph st hok hG).next ph' hn).2.1 hE
    rw [List.isEmpty_iff.mp hemp] at h1
    rw [ends_nil h1] at h2
    cases h2
  | case4 k ph st x ph' hn hp hemp ih =>
    have hS : StepOK ph st x := pollPhase_safe role H N ph st hok hwf
    have hL : StepLive N ph st x := pollPhase_live role H N ph st hok hG
    obtain ⟨hok', hwf'⟩ := hS.next ph' hn
    obtain ⟨hG', hE', hmu, hpend, -⟩ := hL.next ph' hn
    have hlt := hpend hp (fun h => hemp (by rw [h]; rfl))
    obtain rfl : ph' = ph := by rw [show x.1 = _ from hp] at hn; exact nextPhase_pending hn
    exact ih hok' hwf' hG' (hE' hE) (by omega) (by omega)
  | case5 k ph st x ph' hn hp ih =>
    have hS : StepOK ph st x := pollPhase_safe role H N ph st hok hwf
    have hL : StepLive N ph st x := pollPhase_live role H N ph st hok hG
    obtain ⟨hok', hwf'⟩ := hS.next ph' hn
    obtain ⟨hG', hE', hmu, -, hnp⟩ := hL.next ph' hn
    have hlt := hnp hp
    obtain ⟨h1, pre, last, h2, h3⟩ := ih hok' hwf' hG' (hE' hE) (by omega) (by omega)
    refine ⟨fun e he => ?_, (ph, x.1) :: pre, last, by rw [h2]; rfl, h3⟩
    rcases List.mem_cons.mp he with rfl | he
    · exact settled_of hS.noPanic hp (fun hi => by rw [show x.1 = _ from hi] at hn; cases ph <;> cases hn)
    · exact h1 e he

/-- Configurations the documented pattern can be in: it starts before the head with nothing read;
    the call of the phase is polled and the pattern moves on as `nextPhase` says (a `Pending` call
    is polled again — whenever, and as often as, the executor likes); between any two polls more
    events may arrive from the peer. -/
inductive DocReach (role : Role) (H : Hdr) (N : Nat) : Phase → RSt → Prop where
  | init (script : List FS.Ev) (hwf : ScriptWF script) : DocReach role H N .head (initSt script)
  | poll {ph ph' : Phase} {st : RSt} : DocReach role H N ph st →
      nextPhase ph (pollPhase role H N ph st).1 = some ph' →
      DocReach role H N ph' (pollPhase role H N ph st).2
  | arrive {ph : Phase} {st : RSt} (evs : List FS.Ev) (hwf : ScriptWF evs) : DocReach role H N ph st →
      DocReach role H N ph { st with src := (st.src.1, st.src.2 ++ evs) }

theorem docReach_inv {role : Role} {H : Hdr} {N : Nat} {ph : Phase} {st : RSt}
    (h : DocReach role H N ph st) : PhaseOK ph st ∧ WFSt st := by
  induction h with
  | init script hwf => exact ⟨phaseOK_init script, wfSt_init script hwf⟩
  | poll _ hn ih => exact (pollPhase_safe role H N _ _ ih.1 ih.2).next _ hn
  | @arrive ph st evs hwf _ ih =>
    refine ⟨?_, ih.2.1, scriptWF_append ih.2.2 hwf⟩
    have := ih.1
    cases ph <;> exact this

theorem atEnd_arrive {c : FSt} (evs : List FS.Ev) (h : AtEnd c) : AtEnd (c.1, c.2 ++ evs) := by
  rcases h with h | ⟨x, r, h⟩
  · exact Or.inl h
  · exact Or.inr ⟨x, r ++ evs, by simp [h]⟩

theorem drain_safe : ∀ (fuel : Nat) (st : RSt), PhaseOK .body st → WFSt st →
    (∀ r ∈ (drain fsSrc fuel st).1, r ≠ .panic) ∧
    ((drain fsSrc fuel st).1.getLast? = some .end_ →
      PhaseOK .trailers (drain fsSrc fuel st).2 ∧ WFSt (drain fsSrc fuel st).2) := by
  intro fuel
  induction fuel with
  | zero =>
    intro st _ _
    simp [drain]
  | succ f ih =>
    intro st hok hwf
    have hS := pollRecvData_safe (f + 1) st hok hwf
    rw [drain]
    generalize pollRecvData fsSrc (f + 1) st = p at hS
    obtain ⟨r, st'⟩ := p
    cases r with
    | data d =>
      simp only
      obtain ⟨hok', hwf'⟩ := hS.next .body rfl
      obtain ⟨h1, h2⟩ := ih st' hok' hwf'
      have hne := drain_ne_nil fsSrc f st'
      refine ⟨?_, ?_⟩
      · intro r hr
        simp only [List.mem_cons] at hr
        rcases hr with rfl | hr
        · simp
        · exact h1 r hr
      · intro hl
        rw [List.getLast?_cons_of_ne_nil hne] at hl
        exact h2 hl
    | end_ =>
      simp only
      exact ⟨by simp, fun _ => hS.next .trailers rfl⟩
    | panic => exact absurd rfl hS.noPanic
    | _ => simp

theorem documented_no_panic (role : Role) (H : Hdr) (fuel : Nat) (st : RSt) (hok : PhaseOK .head st)
    (hwf : WFSt st) :
    (documented role fsSrc H fuel st).head ≠ .panic ∧
    (∀ r ∈ (documented role fsSrc H fuel st).body, r ≠ .panic) ∧
    (documented role fsSrc H fuel st).trailers ≠ some .panic := by
  have hS := pollHead_safe role H st hok hwf
  unfold documented
  generalize pollHead role fsSrc H st = p at hS
  obtain ⟨h, st1⟩ := p
  cases h with
  | head b =>
    simp only
    obtain ⟨hok1, hwf1⟩ := hS.next .body rfl
    obtain ⟨h1, h2⟩ := drain_safe fuel st1 hok1 hwf1
    unfold bodyRun
    simp only
    split
    · rename_i hl
      obtain ⟨hok2, hwf2⟩ := h2 hl
      have hT := pollRecvTrailers_safe H _ hok2 hwf2
      refine ⟨by simp, h1, ?_⟩
      simp only [ne_eq, Option.some.injEq]
      exact hT.noPanic
    · exact ⟨by simp, h1, by simp⟩
  | panic => exact absurd rfl hS.noPanic
  | _ => simp

end H3.C06
