import H3.Model.Huffman
import H3.Lemmas.Bits
import H3.Lemmas.Pack
import H3.Lemmas.BitWindow
/-! The Huffman encoder model (`H3.Huffman.hencode?`, section "encode.rs" of `H3.Model.Huffman`)
    computes "concatenate the code words of the generated table, fill up with ones to the byte
    boundary" and never panics on byte strings (`hencode?_eq`).  The invariant: the buffer is
    `pack (bits ++ ones k)`, the bits emitted so far followed by ones to the end of the buffer (`Inv`; between two
    symbols the ones fill up the last byte only, `Inv₀`); the byte arithmetic of `write_bits` (shifts, `PAD_LEFT` /
    `PAD_RIGHT` masks) enters as four evaluated facts about `padByte`, the byte that is ones from some bit on. -/
namespace H3.Huffman
open H3.Bits
open H3.Gen.HuffEnc (PAD_LEFT PAD_RIGHT)

/-- code word of byte `c` according to the generated encode table -/
def codeT (c : Nat) : List Bool :=
  match H3.Gen.HuffEnc.table[c]? with
  | some (l, v) => bitsN l v
  | none => []

def encT : List Nat → List Bool
  | [] => []
  | c :: r => codeT c ++ encT r

/-- the `debug_assert_eq!` of `write_bits` holds: the bits from `r` on are ones -/
theorem byte_assert : ∀ r < 8, ∀ h < 2 ^ r, padByte r h ||| PAD_LEFT.getD r 0 = 255 := by
  decide +kernel

/-- one-byte case of `write_bits`: the byte written -/
theorem byte_one : ∀ r < 8, ∀ h < 2 ^ r, ∀ c < 9 - r, ∀ v < 2 ^ c,
    ((padByte r h ||| PAD_RIGHT.getD (8 - r) 0) &&&
      (((v <<< (8 - r - c)) % 256) ||| PAD_LEFT.getD r 0)) ||| PAD_RIGHT.getD (8 - c - r) 0
    = padByte (r + c) (h * 2 ^ c + v) := by
  decide +kernel

/-- two-byte case of `write_bits`: the first byte (`w` = the high bits of the value) -/
theorem byte_two_fst : ∀ r < 8, ∀ h < 2 ^ r, ∀ w < 2 ^ (8 - r),
    (padByte r h ||| PAD_RIGHT.getD (8 - r) 0) &&& (w ||| PAD_LEFT.getD r 0) = h * 2 ^ (8 - r) + w := by
  decide +kernel

/-- two-byte case of `write_bits`: the second byte -/
theorem byte_two_snd : ∀ rem < 8, ∀ v < 256,
    ((v <<< rem) % 256) ||| PAD_RIGHT.getD rem 0 = padByte (8 - rem) (v % 2 ^ (8 - rem)) := by
  decide +kernel

private theorem getElem?_mid (pre post : List Nat) (x : Nat) : (pre ++ x :: post)[pre.length]? = some x := by
  simp

private theorem set_mid (pre post : List Nat) (x y : Nat) :
    (pre ++ x :: post).set pre.length y = pre ++ y :: post := by
  simp

private theorem set_mid2 (pre post : List Nat) (x y z : Nat) :
    (pre ++ x :: y :: post).set (pre.length + 1) z = pre ++ x :: z :: post := by
  simp

theorem writeBits_one (pre post : List Nat) (r c h v : Nat)
    (hr : r < 8) (hh : h < 2 ^ r) (hc : 1 ≤ c) (hrc : r + c ≤ 8) (hv : v < 2 ^ c) :
    writeBits (pre ++ padByte r h :: post) ⟨pre.length, r, c⟩ v =
      some (pre ++ padByte (r + c) (h * 2 ^ c + v) :: post) := by
  unfold writeBits
  simp only []
  rw [if_neg (by omega), getElem?_mid]
  simp only []
  rw [if_neg (by rw [byte_assert r hr h hh]; simp), if_pos hrc, set_mid,
    byte_one r hr h hh c (by omega) v hv]

theorem writeBits_two (pre post : List Nat) (r d h v nxt : Nat)
    (hr : r < 8) (hh : h < 2 ^ r) (hd1 : 1 ≤ d) (hdr : d ≤ r) (hv : v < 2 ^ (8 - r + d)) :
    writeBits (pre ++ padByte r h :: nxt :: post) ⟨pre.length, r, 8 - r + d⟩ v =
      some (pre ++ (h * 2 ^ (8 - r) + v / 2 ^ d % 2 ^ (8 - r)) :: padByte d (v % 2 ^ d) :: post) := by
  have hw : v / 2 ^ d < 2 ^ (8 - r) := by
    rw [Nat.div_lt_iff_lt_mul (Nat.two_pow_pos _), ← Nat.pow_add]; exact hv
  have hv8 : v < 256 := Nat.lt_of_lt_of_le hv (Nat.pow_le_pow_right (by decide) (by omega : 8 - r + d ≤ 8))
  unfold writeBits
  simp only []
  rw [if_neg (by omega), getElem?_mid]
  simp only []
  rw [if_neg (by rw [byte_assert r hr h hh]; simp), if_neg (by omega), set_mid]
  rw [if_pos (by simp), set_mid2, Nat.shiftRight_eq_div_pow, show 8 - r + d - (8 - r) = d by omega,
    byte_two_fst r hr h hh _ hw, byte_two_snd (8 - d) (by omega) v hv8, show 8 - (8 - d) = d by omega,
    Nat.mod_eq_of_lt hw]

theorem writeBits_tail (pre : List Nat) (R : List Bool) (k m c v : Nat) (hR : R.length < 8)
    (hc : 1 ≤ c) (hc8 : c ≤ 8) (hv : v < 2 ^ c) (hk : c ≤ k) (hm : R.length + k = 8 * (m + 1)) :
    writeBits (pre ++ pack (R ++ ones k)) ⟨pre.length, R.length, c⟩ v =
      some (pre ++ pack ((R ++ bitsN c v) ++ ones (k - c))) := by
  have hh := val_lt R
  by_cases hrc : R.length + c ≤ 8
  · rw [pack_pad_ones R k m hm (by omega),
      pack_pad_ones (R ++ bitsN c v) (k - c) m (by simp; omega) (by simp; omega),
      List.length_append, length_bitsN, val_append, val_bitsN, length_bitsN, Nat.mod_eq_of_lt hv]
    exact writeBits_one pre _ R.length c (val R) v hR hh hc hrc hv
  · obtain ⟨m, rfl⟩ : ∃ m', m = m' + 1 := ⟨m - 1, by omega⟩
    obtain ⟨d, rfl⟩ : ∃ d, c = 8 - R.length + d := ⟨c - (8 - R.length), by omega⟩
    -- the value splits into its high `8 - R.length` bits, which fill the current byte, and its low `d` bits
    rw [pack_pad_ones R k (m + 1) hm (by omega), List.replicate_succ, bitsN_add, ← List.append_assoc R,
      List.append_assoc (R ++ _), pack_append8 _ _ (by simp; omega),
      pack_pad_ones (bitsN d v) _ m (by simp; omega) (by simp; omega),
      val_append, val_bitsN, val_bitsN, length_bitsN, length_bitsN]
    exact writeBits_two pre (List.replicate m 255) R.length d (val R) v 255 hR hh (by omega) (by omega) hv

theorem writeBits_pack (bits : List Bool) (k c v : Nat) (hc : 1 ≤ c) (hc8 : c ≤ 8)
    (hv : v < 2 ^ c) (hk : c ≤ k) (h8 : (bits.length + k) % 8 = 0) :
    writeBits (pack (bits ++ ones k)) ⟨bits.length / 8, bits.length % 8, c⟩ v =
      some (pack ((bits ++ bitsN c v) ++ ones (k - c))) := by
  obtain ⟨F, R, rfl, hF, hR⟩ : ∃ F R, bits = F ++ R ∧ F.length = 8 * (bits.length / 8) ∧
      R.length = bits.length % 8 :=
    ⟨bits.take (8 * (bits.length / 8)), bits.drop (8 * (bits.length / 8)),
      (List.take_append_drop _ _).symm, by simp; omega, by simp; omega⟩
  have hpl : (pack F).length = (F ++ R).length / 8 := by rw [length_pack, hF]; omega
  rw [List.append_assoc, List.append_assoc, List.append_assoc, pack_append _ _ ⟨_, hF⟩,
    pack_append _ _ ⟨_, hF⟩, ← hpl, ← hR, ← List.append_assoc]
  exact writeBits_tail (pack F) R k ((R.length + k) / 8 - 1) c v (by omega) hc hc8 hv hk (by omega)

/-- the bits `putParts` writes for a row of `raw` -/
def partsBits : List Nat → Nat → List Bool
  | [], _ => []
  | p :: ps, rest =>
    bitsN (if rest < 8 then rest else 8) p ++ partsBits ps (rest - (if rest < 8 then rest else 8))

/-- every part fits its window and no window is empty -/
def partsOK : List Nat → Nat → Bool
  | [], _ => true
  | p :: ps, rest =>
    decide (1 ≤ rest) && decide (p < 2 ^ (if rest < 8 then rest else 8)) &&
      partsOK ps (rest - (if rest < 8 then rest else 8))

/-- row `c` of `raw` is well formed and spells row `c` of `table` -/
def rowOK (c : Nat) : Bool :=
  match H3.Gen.HuffEnc.raw[c]?, H3.Gen.HuffEnc.table[c]? with
  | some (cnt, parts), some (cnt', code) =>
    cnt == cnt' && partsOK parts cnt && (partsBits parts cnt == bitsN cnt code)
  | _, _ => false

/-- (number of bits, value) of what `putParts` writes for a row of `raw` -/
def partsNum : List Nat → Nat → Nat × Nat
  | [], _ => (0, 0)
  | p :: ps, rest =>
    let r := partsNum ps (rest - (if rest < 8 then rest else 8))
    ((if rest < 8 then rest else 8) + r.1, p * 2 ^ r.1 + r.2)

theorem partsBits_num : ∀ (ps : List Nat) (rest : Nat), partsOK ps rest = true →
    partsBits ps rest = bitsN (partsNum ps rest).1 (partsNum ps rest).2 ∧
      (partsNum ps rest).2 < 2 ^ (partsNum ps rest).1
  | [], _, _ => ⟨rfl, Nat.one_pos⟩
  | p :: ps, rest, h => by
    simp only [partsOK, Bool.and_eq_true, decide_eq_true_eq] at h
    obtain ⟨ih1, ih2⟩ := partsBits_num ps _ h.2
    simp only [partsBits, partsNum]
    refine ⟨by rw [ih1, bitsN_snoc _ _ _ _ ih2], ?_⟩
    rw [Nat.pow_add]
    exact Nat.lt_of_lt_of_le (Nat.add_lt_add_left ih2 _)
      (by rw [← Nat.succ_mul]; exact Nat.mul_le_mul_right _ h.1.2)

/-- `rowOK` on a row of each table, on numbers -/
def rowsN (r : Nat × List Nat) (t : Nat × Nat) : Bool :=
  r.1 == t.1 && partsOK r.2 r.1 && (partsNum r.2 r.1 == (r.1, t.2))

-- one pass over both tables (indexing row by row walks each list 256 times)
theorem rows_zip : H3.Gen.HuffEnc.raw.length = 256 ∧ H3.Gen.HuffEnc.table.length = 256 ∧
    (∀ t ∈ H3.Gen.HuffEnc.table, t.1 < 31) ∧
    ∀ x ∈ H3.Gen.HuffEnc.raw.zip H3.Gen.HuffEnc.table, rowsN x.1 x.2 = true := by decide +kernel

theorem rows_ok (c : Nat) (hc : c < 256) : rowOK c = true := by
  obtain ⟨hr, ht, _, hall⟩ := rows_zip
  have h1 := List.getElem?_eq_getElem (hr ▸ hc : c < H3.Gen.HuffEnc.raw.length)
  have h2 := List.getElem?_eq_getElem (ht ▸ hc : c < H3.Gen.HuffEnc.table.length)
  have h := hall (_, _) (List.mem_of_getElem? (List.getElem?_zip_eq_some.2 ⟨h1, h2⟩))
  simp only [rowsN, Bool.and_eq_true, beq_iff_eq] at h
  have hb := (partsBits_num _ _ h.1.2).1
  rw [h.2] at hb
  rw [rowOK, h1, h2]
  simp only [Bool.and_eq_true, beq_iff_eq]
  exact ⟨h.1, hb⟩

theorem raw_row (c : Nat) (hc : c < 256) : ∃ cnt parts,
    H3.Gen.HuffEnc.raw[c]? = some (cnt, parts) ∧ partsOK parts cnt = true ∧
      partsBits parts cnt = codeT c ∧ (codeT c).length = cnt ∧ cnt < 31 := by
  have h := rows_ok c hc
  unfold rowOK at h
  unfold codeT
  split at h
  · next cnt parts cnt' code h1 h2 =>
    simp only [Bool.and_eq_true, beq_iff_eq] at h
    obtain ⟨⟨rfl, h3⟩, h4⟩ := h
    exact ⟨cnt, parts, h1, h3, by rw [h2]; exact h4, by rw [h2]; exact length_bitsN _ _,
      rows_zip.2.2.1 _ (List.mem_of_getElem? h2)⟩
  · exact absurd h (by simp)

/-- `bits` have been emitted: the last window ends at `bits.length`, the buffer holds `bits`
    followed by `k` ones, up to its end. -/
structure Inv (e : Encoder) (bits : List Bool) (k : Nat) : Prop where
  pos : 8 * e.pos.byte + e.pos.bit + e.pos.count = bits.length
  bit : e.pos.bit < 8
  cnt : e.pos.count ≤ 8
  fill : (bits.length + k) % 8 = 0
  buf : e.buffer = pack (bits ++ ones k)

theorem Inv.length {e : Encoder} {bits : List Bool} {k : Nat} (h : Inv e bits k) :
    8 * e.buffer.length = bits.length + k := by
  have := h.fill
  rw [h.buf, length_pack, List.length_append, List.length_replicate]
  omega

/-- `end_range` of `ensure_free_space`: the position behind the symbol, normalised -/
theorem endRange_byte (w : BitWindow) (cnt : Nat) :
    ((w.forwards cnt).forwards 0).byte = (w.endPos + cnt) / 8 := by
  simp only [BitWindow.forwards, BitWindow.endPos]; omega

theorem endRange_bit (w : BitWindow) (cnt : Nat) :
    ((w.forwards cnt).forwards 0).bit = (w.endPos + cnt) % 8 := by
  simp only [BitWindow.forwards, BitWindow.endPos]; omega

theorem ensureFreeSpace_eq (e : Encoder) (bc : Nat) : ensureFreeSpace e bc =
    ⟨e.pos, e.buffer ++ List.replicate ((e.pos.endPos + bc + 7) / 8 - e.buffer.length) 255⟩ := by
  unfold ensureFreeSpace
  simp only []
  rw [endRange_byte, endRange_bit]
  by_cases hlt : e.buffer.length > (e.pos.endPos + bc) / 8
  · rw [if_pos hlt, show (e.pos.endPos + bc + 7) / 8 - e.buffer.length = 0 by omega, List.replicate_zero,
      List.append_nil]
  · rw [if_neg hlt]
    congr 3
    split <;> omega

theorem ensureFreeSpace_inv (e : Encoder) (bits : List Bool) (k bc : Nat) (hI : Inv e bits k) :
    ∃ k', Inv (ensureFreeSpace e bc) bits k' ∧ bc ≤ k' ∧ (k < 8 → k' < bc + 8) := by
  have hlen := hI.length
  obtain ⟨h1, h2, h5, h3, h4⟩ := hI
  rw [ensureFreeSpace_eq, show e.pos.endPos = bits.length from h1]
  generalize hf : (bits.length + bc + 7) / 8 - e.buffer.length = f
  refine ⟨k + 8 * f, ⟨h1, h2, h5, by omega, ?_⟩, by omega, by omega⟩
  -- the bytes appended are `f` more groups of eight ones
  show e.buffer ++ List.replicate f 255 = _
  rw [ones_add, ← List.append_assoc, pack_append _ _ ⟨e.buffer.length, by simp; omega⟩, pack_ones, ← h4]

theorem putParts_inv (ps : List Nat) (rest : Nat) (e : Encoder) (bits : List Bool) (k : Nat)
    (hI : Inv e bits k) (hok : partsOK ps rest = true) (hsp : rest ≤ k) :
    ∃ e', putParts ps rest e = some e' ∧
      Inv e' (bits ++ partsBits ps rest) (k - (partsBits ps rest).length) := by
  induction ps generalizing rest e bits k with
  | nil => exact ⟨e, rfl, by simpa [partsBits] using hI⟩
  | cons p ps ih =>
    obtain ⟨h1, h2, _, h3, h4⟩ := hI
    simp only [partsOK, Bool.and_eq_true, decide_eq_true_eq] at hok
    obtain ⟨⟨hr1, hp⟩, hok'⟩ := hok
    generalize hc : (if rest < 8 then rest else 8) = c at hp hok'
    have hc1 : 1 ≤ c := by split at hc <;> omega
    have hc8 : c ≤ 8 := by split at hc <;> omega
    have hcr : c ≤ rest := by split at hc <;> omega
    have hw := writeBits_pack bits k c p hc1 hc8 hp (by omega) h3
    rw [← h4] at hw
    unfold putParts
    simp only [hc]
    rw [forwards_eq, show e.pos.endPos = bits.length from h1, hw]
    obtain ⟨e', he1, he2⟩ := ih (rest - c) ⟨⟨bits.length / 8, bits.length % 8, c⟩, _⟩ (bits ++ bitsN c p) (k - c)
      ⟨by simp; omega, Nat.mod_lt _ (by decide), hc8, by simp; omega, rfl⟩ hok' (by omega)
    refine ⟨e', he1, ?_⟩
    simp only [partsBits, hc, ← List.append_assoc, List.length_append, length_bitsN, Nat.sub_add_eq]
    exact he2

/-- invariant between two `put`s: the ones fill up the last byte only, so the buffer is exactly `pack bits` -/
def Inv₀ (e : Encoder) (bits : List Bool) : Prop := Inv e bits ((8 - bits.length % 8) % 8)

theorem Inv.toInv₀ {e : Encoder} {bits : List Bool} {k : Nat} (h : Inv e bits k) (hk : k < 8) : Inv₀ e bits := by
  have := h.fill
  rwa [Inv₀, show (8 - bits.length % 8) % 8 = k by omega]

theorem put_inv (e : Encoder) (bits : List Bool) (c : Nat) (hc : c < 256) (hI : Inv₀ e bits) :
    ∃ e', put e c = some e' ∧ Inv₀ e' (bits ++ codeT c) := by
  obtain ⟨cnt, parts, hraw, hok, hbits, hlen, _⟩ := raw_row c hc
  obtain ⟨k', hI1, hsp, hL⟩ := ensureFreeSpace_inv e bits _ cnt hI
  obtain ⟨e', he1, he2⟩ := putParts_inv parts cnt _ bits k' hI1 hok hsp
  have := hL (Nat.mod_lt _ (by decide))
  unfold put
  rw [hraw]
  rw [hbits, hlen] at he2
  exact ⟨e', he1, he2.toInv₀ (by omega)⟩

theorem putAll_inv (s : List Nat) (hs : ∀ b ∈ s, b < 256) (e : Encoder) (bits : List Bool)
    (hI : Inv₀ e bits) : ∃ e', putAll s e = some e' ∧ Inv₀ e' (bits ++ encT s) := by
  induction s generalizing e bits with
  | nil => exact ⟨e, rfl, by simpa [encT] using hI⟩
  | cons c s ih =>
    obtain ⟨e₁, h1, hI₁⟩ := put_inv e bits c (hs c List.mem_cons_self) hI
    obtain ⟨e', h2, hI'⟩ := ih (fun b hb => hs b (List.mem_cons_of_mem _ hb)) e₁ _ hI₁
    refine ⟨e', ?_, ?_⟩
    · unfold putAll; rw [h1]; exact h2
    · simpa [encT] using hI'

theorem Inv₀.buffer_eq {e : Encoder} {bits : List Bool} (h : Inv₀ e bits) : e.buffer = pack bits := by
  rw [h.buf, pack_pad]

theorem Inv₀_init : Inv₀ ⟨⟨0, 0, 0⟩, []⟩ [] :=
  ⟨rfl, by decide, Nat.zero_le _, rfl, by simp [pack_nil]⟩

theorem hencode?_eq (s : List Nat) (hs : ∀ b ∈ s, b < 256) :
    hencode? s = some (pack (encT s)) := by
  obtain ⟨e', h1, hI⟩ := putAll_inv s hs _ _ Inv₀_init
  unfold hencode?
  rw [h1, Option.map_some, hI.buffer_eq, List.nil_append]

theorem hencode_eq (s : List Nat) (hs : ∀ b ∈ s, b < 256) : hencode s = pack (encT s) := by
  unfold hencode
  rw [hencode?_eq s hs, Option.getD_some]

end H3.Huffman
