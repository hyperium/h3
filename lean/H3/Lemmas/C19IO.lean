import H3.Model.Session
import H3.Lemmas.C19
import H3.Lemmas.WriteBuf
import H3.Lemmas.SendFrames
/-! Behind C19: reading a WebTransport stream with caller-sized buffers (`readLim`, one step at a
    time by `pollRead_spec`), what an opened stream puts on the wire (`openBidi` / `openUni`, through
    `TxOK`), and that `UniAccept.resolve` hands back a suffix of its script. -/
namespace H3.Session
open H3.FS
open H3.Lemmas.C04 (bytesOf)

def endOf : List Ev → RdEnd
  | [] => .open_
  | .chunk _ :: r => endOf r
  | .pend :: r => endOf r
  | .fin :: _ => .eof
  | .reset c :: _ => .err c

/-- `BufList` holds no empty chunk -/
def BufOK (buf : List (List Nat)) : Prop := ∀ c ∈ buf, c ≠ []

theorem skipPend_facts (sc : List Ev) :
    bytesOf (skipPend sc) = bytesOf sc ∧ endOf (skipPend sc) = endOf sc ∧
    (∀ e ∈ skipPend sc, e ∈ sc) ∧ ∀ r, skipPend sc ≠ .pend :: r := by
  fun_induction skipPend sc with
  | case1 r ih => exact ⟨ih.1, ih.2.1, fun e he => List.mem_cons_of_mem _ (ih.2.2.1 e he), ih.2.2.2⟩
  | case2 sc h => exact ⟨rfl, rfl, fun _ he => he, fun r hr => h r hr⟩

/-- the `k`-th completed call reports at most as many bytes as the `k`-th buffer holds -/
def Fits : List (List Nat) → List Nat → Prop
  | [], _ => True
  | _ :: _, [] => False
  | p :: ps, n :: ns => p.length ≤ n ∧ Fits ps ns

structure ReadOK (sizes : List Nat) (s : Rd) (sc : List Ev) (r : RdRes) : Prop where
  /-- nothing is lost, duplicated or reordered, wherever the loop stops -/
  conserve : r.pieces.flatten ++ (r.s.buf.flatten ++ bytesOf r.script) = s.buf.flatten ++ bytesOf sc
  /-- every completed call before the last reports at least one byte … -/
  nonempty : ∀ p ∈ r.pieces, p ≠ []
  /-- … and never more than its buffer holds -/
  fits : Fits r.pieces sizes
  /-- the loop ends as the stream does — FIN ⇒ `Ok(0)`, RESET ⇒ the error, neither ⇒ `Pending` —
      and only once every byte delivered before that has been handed out -/
  ended : r.fin ≠ .more → r.fin = endOf sc ∧ r.pieces.flatten = s.buf.flatten ++ bytesOf sc
  /-- the caller stops early only because it ran out of buffers -/
  more : r.fin = .more → r.pieces.length = sizes.length
  bufOK : BufOK r.s.buf

/-- on a buffer that holds something, a call hands out between one and `n` bytes from its front -/
theorem takeLim_spec (n : Nat) (hn : 0 < n) (s : Rd) (hbuf : BufOK s.buf) (hne : s.buf.flatten ≠ []) :
    ∃ d, (takeLim n s).1 = .data d ∧ d ≠ [] ∧ d.length ≤ n ∧
      d ++ (takeLim n s).2.buf.flatten = s.buf.flatten ∧ BufOK (takeLim n s).2.buf := by
  have ht := FS.takeChunk_spec n s.buf hbuf (by omega)
  unfold takeLim
  rcases hc : takeChunk n s.buf with ⟨_ | d, buf'⟩
  · rw [hc] at ht; exact absurd (by rw [ht.1]; rfl) hne
  · rw [hc] at ht; exact ⟨d, rfl, ht.1, ht.2.1, ht.2.2.1.symm, ht.2.2.2⟩

/-- the script of the call is `sc1` of `Session.readLim`: `pend`s are skipped only when nothing is buffered -/
theorem pollRead_spec (n : Nat) (hn : 0 < n) (s : Rd) (hbuf : BufOK s.buf) (sc : List Ev)
    (hsc : ScriptOK sc) {o : RdOut} {s' : Rd} {r : List Ev}
    (h : pollRead n s (if s.buf.flatten ≠ [] then sc else skipPend sc) = (o, s', r)) :
    match (generalizing := false) o with
    | .data d => d ≠ [] ∧ d.length ≤ n ∧
        d ++ (s'.buf.flatten ++ bytesOf r) = s.buf.flatten ++ bytesOf sc ∧ endOf r = endOf sc ∧
        BufOK s'.buf ∧ ScriptOK r
    | o => s.buf.flatten ++ bytesOf sc = [] ∧ s'.buf.flatten ++ bytesOf r = [] ∧
        BufOK s'.buf ∧ endOf sc = (match (generalizing := false) o with | .err c => .err c | .pending => .open_ | _ => .eof) := by
  obtain ⟨hby, hen, hsub, hhead⟩ := skipPend_facts sc
  unfold pollRead at h
  by_cases hne : s.buf.flatten ≠ []
  · obtain ⟨d, hd, h1, h2, h3, h4⟩ := takeLim_spec n hn s hbuf hne
    rw [if_pos hne, if_pos hne, hd] at h
    cases h
    exact ⟨h1, h2, by rw [← List.append_assoc, h3], rfl, h4, hsc⟩
  · have h0 : s.buf.flatten = [] := Decidable.not_not.mp hne
    rw [if_neg hne, if_neg hne] at h
    rw [h0, List.nil_append]
    generalize skipPend sc = sk at hby hen hsub hhead h
    cases sk with
    | nil => cases h; exact ⟨hby.symm, by rw [h0]; rfl, hbuf, hen.symm⟩
    | cons e r0 =>
      cases e with
      | pend => exact absurd rfl (hhead r0)
      | fin => cases h; exact ⟨hby.symm, by simp [h0, bytesOf], hbuf, hen.symm⟩
      | reset c => cases h; exact ⟨hby.symm, by simp [h0, bytesOf], hbuf, hen.symm⟩
      | chunk b =>
        have hbne : b ≠ [] := hsc b (hsub _ (List.mem_cons_self ..))
        obtain ⟨d, hd, h1, h2, h3, h4⟩ := takeLim_spec n hn { s with buf := s.buf ++ [b] }
          (List.forall_mem_append.mpr ⟨hbuf, by simpa using hbne⟩) (by simp [hbne])
        simp only [hd] at h
        cases h
        refine ⟨h1, h2, ?_, hen, h4, fun x hx => hsc x (hsub _ (List.mem_cons_of_mem _ hx))⟩
        rw [← List.append_assoc, h3, ← hby]; simp [h0, bytesOf]

theorem ReadOK.stopped {sizes : List Nat} {s : Rd} {sc : List Ev} {r : RdRes} (hp : r.pieces = [])
    (h1 : s.buf.flatten ++ bytesOf sc = []) (h2 : r.s.buf.flatten ++ bytesOf r.script = [])
    (h3 : BufOK r.s.buf) (h4 : r.fin = endOf sc) (hne : r.fin ≠ .more) : ReadOK sizes s sc r :=
  ⟨by rw [hp, h1, h2]; rfl, by simp [hp], by rw [hp]; trivial, fun _ => ⟨h4, by rw [hp, h1]; rfl⟩,
    fun h => absurd h hne, h3⟩

/-- **The read loop, for every sequence of positive buffer sizes.** -/
theorem readLim_ok (sizes : List Nat) (hpos : ∀ n ∈ sizes, 0 < n) (s : Rd) (hbuf : BufOK s.buf)
    (sc : List Ev) (hsc : ScriptOK sc) : ReadOK sizes s sc (readLim sizes s sc) := by
  fun_induction readLim sizes s sc with
  | case1 s sc =>  -- no buffer sizes left
    exact ⟨by simp, by simp, trivial, fun h => absurd rfl h, by simp, hbuf⟩
  | case2 n ns s sc sc1 s' r h =>  -- the call reports no bytes: excluded by `pollRead_spec`
    have hs := pollRead_spec n (hpos n (List.mem_cons_self ..)) s hbuf sc hsc h
    exact absurd rfl hs.1
  | case3 n ns s sc sc1 d s' r h hd t ih =>  -- the call reports `d`; the loop goes on (`t`)
    have hs := pollRead_spec n (hpos n (List.mem_cons_self ..)) s hbuf sc hsc h
    obtain ⟨_, hdn, hbytes, hend, hok, hr⟩ := hs
    have ht := ih (fun m hm => hpos m (List.mem_cons_of_mem _ hm)) hok hr
    refine ⟨?_, ?_, ⟨hdn, ht.fits⟩, fun hne => ?_, fun hm => ?_, ht.bufOK⟩
    · show (d :: t.pieces).flatten ++ _ = _
      rw [List.flatten_cons, List.append_assoc, ht.conserve, hbytes]
    · intro p hp
      rcases List.mem_cons.mp hp with rfl | hp
      · exact hd
      · exact ht.nonempty p hp
    · obtain ⟨h1, h2⟩ := ht.ended hne
      refine ⟨h1.trans hend, ?_⟩
      show (d :: t.pieces).flatten = _
      rw [List.flatten_cons, h2, hbytes]
    · show (d :: t.pieces).length = (n :: ns).length
      rw [List.length_cons, List.length_cons, ht.more hm]
  -- `Ok(0)`: FIN; the RESET's error; `Pending` with the script used up
  | case4 n ns s sc sc1 s' r h | case5 n ns s sc sc1 c s' r h | case6 n ns s sc sc1 s' r h =>
    have hs := pollRead_spec n (hpos n (List.mem_cons_self ..)) s hbuf sc hsc h
    exact .stopped rfl hs.1 hs.2.1 hs.2.2.1 hs.2.2.2.symm nofun

theorem length_le_flatten (ps : List (List Nat)) (h : ∀ p ∈ ps, p ≠ []) : ps.length ≤ ps.flatten.length := by
  induction ps with
  | nil => simp
  | cons p r ih =>
    have hp : 0 < p.length := List.length_pos_iff.mpr (h p (List.mem_cons_self ..))
    have := ih (fun q hq => h q (List.mem_cons_of_mem _ hq))
    simp only [List.length_cons, List.flatten_cons, List.length_append]
    omega

theorem ReadOK.prefix {sizes s sc r} (h : ReadOK sizes s sc r) :
    ∃ rest, r.pieces.flatten ++ rest = s.buf.flatten ++ bytesOf sc := ⟨_, h.conserve⟩

theorem ReadOK.complete {sizes s sc r} (h : ReadOK sizes s sc r)
    (hlen : (s.buf.flatten ++ bytesOf sc).length < sizes.length) :
    r.pieces.flatten = s.buf.flatten ++ bytesOf sc ∧ r.fin = endOf sc := by
  have hne : r.fin ≠ .more := by
    intro hm
    have h1 := h.more hm
    have h2 := length_le_flatten _ h.nonempty
    have h3 := congrArg List.length h.conserve
    simp only [List.length_append] at h3 hlen
    omega
  exact ⟨(h.ended hne).2, (h.ended hne).1⟩

theorem ReadOK.payload {sizes s sc r} {payload : List Nat} (h : ReadOK sizes s sc r)
    (hp : s.buf.flatten ++ bytesOf sc = payload) :
    (∃ rest, r.pieces.flatten ++ rest = payload) ∧ (∀ p ∈ r.pieces, p ≠ []) ∧ Fits r.pieces sizes ∧
    (payload.length < sizes.length → r.pieces.flatten = payload ∧ r.fin = endOf sc) := by
  subst hp
  exact ⟨h.prefix, h.nonempty, h.fits, h.complete⟩

theorem Rd.ofUni_flatten (s : H3.UniAccept.St) : (Rd.ofUni s).buf.flatten = s.buf :=
  H3.Lemmas.C04.leftover_flatten s.buf

theorem Rd.ofUni_bufOK (s : H3.UniAccept.St) : BufOK (Rd.ofUni s).buf :=
  H3.Lemmas.C04.leftover_ne s.buf

theorem bytesOf_uniScript (s : H3.UniAccept.St) (r : List Ev) :
    bytesOf (uniScript s r) = H3.Lemmas.C04.future s r := by
  unfold uniScript H3.Lemmas.C04.future
  split <;> simp [*, bytesOf]

theorem scriptOK_uniScript {s : H3.UniAccept.St} {r : List Ev} (h : ScriptOK r) : ScriptOK (uniScript s r) := by
  unfold uniScript
  split
  · exact h
  · exact fun b hb => h b (by simpa using hb)
  · exact fun b hb => h b (by simpa using hb)

/-- the transport delivers nothing behind FIN / RESET -/
def EndLast : List Ev → Prop
  | [] => True
  | .fin :: r => evBytes r = []
  | .reset _ :: r => evBytes r = []
  | .chunk _ :: r => EndLast r
  | .pend :: r => EndLast r

theorem endLast_of_evBytes_nil (sc : List Ev) (h : evBytes sc = []) : EndLast sc := by
  induction sc with
  | nil => trivial
  | cons e r ih =>
    cases e with
    | chunk b =>
      simp only [evBytes, List.append_eq_nil_iff] at h
      exact ih h.2
    | pend => exact ih h
    | fin | reset c => exact h

theorem endLast_suffix (a b : List Ev) (h : EndLast (a ++ b)) : EndLast b := by
  induction a with
  | nil => exact h
  | cons e r ih =>
    cases e with
    | chunk c | pend => exact ih h
    | fin | reset c =>
      have h' : evBytes (r ++ b) = [] := h
      rw [evBytes_append, List.append_eq_nil_iff] at h'
      exact endLast_of_evBytes_nil b h'.2

theorem bytesOf_eq_evBytes (sc : List Ev) (h : EndLast sc) : bytesOf sc = evBytes sc := by
  induction sc with
  | nil => rfl
  | cons e r ih =>
    cases e with
    | chunk c => simp only [bytesOf, evBytes]; rw [ih h]
    | pend => simp only [bytesOf, evBytes]; exact ih h
    | fin | reset c => simp only [bytesOf, evBytes]; exact h.symm

open H3.WriteBuf H3.Varint

/-- at least `n` of the transport's answers take something: room for `n` bytes even if each takes one
    (the COUNT of non-zero answers, not their sum) -/
def Accepts (script : List Nat) (n : Nat) : Prop := n ≤ (script.filter (0 < ·)).length

theorem sendSlice_full (d sc : List Nat) :
    (sendSlice d sc).1 ++ (sendSlice d sc).2 = d ∧ (Accepts sc d.length → (sendSlice d sc).2 = []) := by
  fun_induction sendSlice d sc with
  | case1 d => exact ⟨rfl, fun h => List.eq_nil_of_length_eq_zero (Nat.le_zero.mp h)⟩
  | case2 => exact ⟨rfl, fun _ => rfl⟩
  | case3 d k ks hd n ih =>
    -- a positive entry takes at least one byte, an entry `0` (`Pending`) none
    refine ⟨by rw [List.append_assoc, ih.1, List.take_append_drop], fun h => ih.2 ?_⟩
    exact filter_pos_step (l := n) (by rw [List.length_drop]; exact (Nat.add_sub_of_le (Nat.min_le_right ..)).symm)
      (fun hk hn => Nat.lt_min.mpr ⟨hk, Nat.pos_of_ne_zero hn⟩) h

/-- the bytes of an HTTP/3 DATA frame (RFC 9114 §7.2.1: type 0x00, length, payload); the same
    bytes as `Spec.Output.wire 0 p` -/
def dataFrame (p : List Nat) : List Nat := [0x00] ++ Varint.encode p.length ++ p

/-- the bytes handed to the write calls, in order -/
def handed : List WOp → List Nat
  | [] => []
  | .slice d _ :: r => d ++ handed r
  | .frame p _ :: r => dataFrame p ++ handed r
  | .finish :: r => handed r
  | .reset _ :: r => handed r

/-- every write call is given enough acceptance by the transport to complete -/
def Enough : List WOp → Prop
  | [] => True
  | .slice d sc :: r => Accepts sc d.length ∧ Enough r
  | .frame p sc :: r => Accepts sc (dataFrame p).length ∧ Enough r
  | .finish :: r => Enough r
  | .reset _ :: r => Enough r

def FramesOK (ops : List WOp) : Prop := ∀ p sc, WOp.frame p sc ∈ ops → p.length < 2^62

theorem fromFrame_data_some (p : List Nat) (hp : p.length < 2^62) :
    ∃ w, fromFrame (.data p) = some w ∧ w.WF ∧ w.view = dataFrame p := by
  obtain ⟨w, hw⟩ := fromFrame_some (.data p) hp trivial nofun
  obtain ⟨_, hwf, hv, _⟩ := fromFrame_spec (f := .data p) trivial hw
  exact ⟨w, hw, hwf, hv⟩

/-- what is known about the send side after some calls: `pre` is what has been handed over so far -/
structure TxOK (t : Tx) (pre : List Nat) : Prop where
  noPanic : t.panic = false
  pfx : ∃ rest, t.wire ++ rest = pre ∧ (t.stuck = false → rest = [])

theorem Tx.op_stuck {t : Tx} (h : t.stuck = true) (op : WOp) : t.op op = t := by
  cases op <;> simp [Tx.op, Tx.writeBuf, h]

theorem Tx.foldl_stuck {t : Tx} (h : t.stuck = true) (ops : List WOp) : ops.foldl Tx.op t = t := by
  induction ops with
  | nil => rfl
  | cons op r ih => rw [List.foldl_cons, Tx.op_stuck h, ih]

theorem TxOK.stuck_append {t : Tx} {pre : List Nat} (h : TxOK t pre) (hs : t.stuck = true)
    (more : List Nat) : TxOK t (pre ++ more) := by
  obtain ⟨rest, hr, _⟩ := h.pfx
  exact ⟨h.noPanic, rest ++ more, by rw [← List.append_assoc, hr], fun h0 => (by rw [hs] at h0; cases h0)⟩

theorem TxOK.wire_eq {t : Tx} {pre : List Nat} (h : TxOK t pre) (hs : t.stuck = false) : t.wire = pre := by
  obtain ⟨rest, hr, hre⟩ := h.pfx
  rw [← hr, hre hs, List.append_nil]

theorem writeBuf_ok (t : Tx) (pre : List Nat) (h : TxOK t pre) (hs : t.stuck = false) (w : WB) (hwf : w.WF)
    (script : List Nat) :
    TxOK (t.writeBuf (some w) script) (pre ++ w.view) ∧
    (Accepts script w.view.length → (t.writeBuf (some w) script).stuck = false) ∧
    (t.writeBuf (some w) script).fin = t.fin := by
  obtain ⟨o, w', -, -, hov, hc, hw⟩ := drain_full w hwf script
  rw [Tx.writeBuf, if_neg (hs ▸ Bool.false_ne_true), hw, ← hov, ← h.wire_eq hs, ← List.append_assoc]
  by_cases hv : w'.view = []
  · rw [if_pos hv]
    exact ⟨⟨h.noPanic, [], by rw [hv], fun _ => rfl⟩, fun _ => hs, rfl⟩
  · rw [if_neg hv]
    exact ⟨⟨h.noPanic, _, rfl, nofun⟩, fun ha => absurd (hc (hov ▸ ha)) hv, rfl⟩

theorem op_ok (t : Tx) (pre : List Nat) (h : TxOK t pre) (hs : t.stuck = false) (op : WOp)
    (hf : ∀ p sc, op = .frame p sc → p.length < 2^62) :
    TxOK (t.op op) (pre ++ handed [op]) ∧ (Enough [op] → (t.op op).stuck = false) ∧
    ((t.op op).fin = true ↔ (t.fin = true ∨ op = .finish)) := by
  have hr := h.wire_eq hs
  cases op with
  | slice d sc =>
    simp only [Tx.op, handed, List.append_nil]
    rw [if_neg (by simp [hs])]
    refine ⟨⟨h.noPanic, (sendSlice d sc).2, ?_, fun h0 => ?_⟩, fun he => ?_, by simp⟩
    · show t.wire ++ (sendSlice d sc).1 ++ (sendSlice d sc).2 = pre ++ d
      rw [List.append_assoc, (sendSlice_full d sc).1, hr]
    · have h1 : (!(sendSlice d sc).2.isEmpty) = false := h0
      simpa using h1
    · show (!(sendSlice d sc).2.isEmpty) = false
      rw [(sendSlice_full d sc).2 he.1]; rfl
  | frame p sc =>
    obtain ⟨w, hw, hwf, hv⟩ := fromFrame_data_some p (hf p sc rfl)
    obtain ⟨h1, h2, h3⟩ := writeBuf_ok t pre h hs w hwf sc
    simp only [Tx.op, handed, List.append_nil, hw]
    rw [hv] at h1 h2
    exact ⟨h1, fun he => h2 he.1, by rw [h3]; simp⟩
  | finish | reset c =>
    simp only [Tx.op, handed, List.append_nil]
    rw [if_neg (by simp [hs])]
    exact ⟨⟨h.noPanic, h.pfx⟩, fun _ => hs, by simp⟩

theorem handed_cons (op : WOp) (r : List WOp) : handed (op :: r) = handed [op] ++ handed r := by
  cases op <;> simp [handed]

theorem enough_cons (op : WOp) (r : List WOp) : Enough (op :: r) ↔ Enough [op] ∧ Enough r := by
  cases op <;> simp [Enough]

theorem ops_ok (ops : List WOp) (hf : FramesOK ops) (t : Tx) (pre : List Nat) (h : TxOK t pre) :
    TxOK (ops.foldl Tx.op t) (pre ++ handed ops) ∧
    (t.stuck = false → Enough ops → (ops.foldl Tx.op t).stuck = false) ∧
    ((ops.foldl Tx.op t).stuck = false →
      ((ops.foldl Tx.op t).fin = true ↔ (t.fin = true ∨ WOp.finish ∈ ops))) := by
  induction ops generalizing t pre with
  | nil =>
    simp only [List.foldl_nil, handed, List.append_nil]
    exact ⟨h, fun hs _ => hs, fun _ => by simp⟩
  | cons op r ih =>
    by_cases hs : t.stuck = true
    · -- a call is left waiting: the calls behind it are never made
      rw [Tx.foldl_stuck hs]
      exact ⟨h.stuck_append hs _, fun h0 => (by rw [hs] at h0; cases h0), fun h0 => (by rw [hs] at h0; cases h0)⟩
    have hs : t.stuck = false := by simpa using hs
    obtain ⟨a1, a2, a3⟩ := op_ok t pre h hs op fun p sc e => hf p sc (e ▸ List.mem_cons_self ..)
    obtain ⟨b1, b2, b3⟩ := ih (fun p sc hm => hf p sc (List.mem_cons_of_mem _ hm)) (t.op op) _ a1
    simp only [List.foldl_cons]
    rw [handed_cons, ← List.append_assoc]
    refine ⟨b1, fun _ he => ?_, fun hns => ?_⟩
    · rw [enough_cons] at he
      exact b2 (a2 he.1) he.2
    · rw [b3 hns, a3, List.mem_cons, or_assoc, eq_comm (a := op)]

/-- `open_bi` / `open_uni` and the application's calls behind it: the header is the two integers `x` (the stream
    type) and `sid`, written into a fresh `WriteBuf` -/
theorem opened_ok {x sid : Nat} (hx : x < 2^62) (hsid : sid < 2^62) (hs : List Nat) (ops : List WOp)
    (hf : FramesOK ops) :
    let t := ops.foldl Tx.op (({} : Tx).writeBuf
      ((WB.new none).putOpt (do let a ← writeVar x; let b ← writeVar sid; pure (a ++ b))) hs)
    let hdr := Varint.encode x ++ Varint.encode sid
    t.panic = false ∧ (∃ rest, t.wire ++ rest = hdr ++ handed ops) ∧
    (t.stuck = false → t.wire = hdr ++ handed ops ∧ (t.fin = true ↔ WOp.finish ∈ ops)) ∧
    (Accepts hs hdr.length → Enough ops → t.stuck = false) := by
  obtain ⟨he, hle⟩ := writeVar2_of_lt hx hsid
  obtain ⟨w, hw, hwf, hv⟩ := putOpt_new_view (p := none) he (Nat.le_trans hle (by decide))
  rw [hw, ← hv.trans (List.append_nil _)]
  have h0 : TxOK ({} : Tx) [] := ⟨rfl, [], rfl, fun _ => rfl⟩
  obtain ⟨a1, a2, a3⟩ := writeBuf_ok {} [] h0 rfl w hwf hs
  rw [List.nil_append] at a1
  obtain ⟨b1, b2, b4⟩ := ops_ok ops hf _ _ a1
  obtain ⟨rest, hr, _⟩ := b1.pfx
  refine ⟨b1.noPanic, ⟨rest, hr⟩, fun hst => ⟨b1.wire_eq hst, ?_⟩, fun ha he => b2 (a2 ha) he⟩
  rw [b4 hst, a3]
  simp

end H3.Session

namespace H3.UniAccept

theorem pollVarint_suffix (s : St) (sc : List Ev) : (pollVarint s sc).2.2 <:+ sc := by
  fun_induction pollVarint s sc with
  | case1 | case2 | case3 => exact List.suffix_refl _
  | case4 => exact List.suffix_cons _ _
  | case5 _ _ _ _ _ _ ih | case6 _ _ _ _ _ ih | case7 _ _ _ _ _ _ ih => exact ih.trans (List.suffix_cons _ _)

theorem pollId_suffix (s : St) (sc : List Ev) : (pollId s sc).2.2 <:+ sc := by
  unfold pollId
  split
  · have := pollVarint_suffix s sc
    split <;> rename_i h <;> rw [h] at this <;> exact this
  · exact List.suffix_refl _

theorem pollType_suffix (s : St) (sc : List Ev) : (pollType s sc).2.2 <:+ sc := by
  unfold pollType
  split
  · exact pollId_suffix s sc
  · have := pollVarint_suffix s sc
    split <;> rename_i h <;> rw [h] at this
    · exact (pollId_suffix _ _).trans this
    · exact this
    · exact this
    · exact this

theorem resolve_suffix (fuel : Nat) (s : St) (sc : List Ev) (s' : St) (r : List Ev)
    (h : resolve fuel s sc = .resolved s' r) : ∃ pre, sc = pre ++ r := by
  suffices r <:+ sc from this.imp fun _ e => e.symm
  induction fuel generalizing s sc with
  | zero => simp [resolve] at h
  | succ n ih =>
    unfold resolve at h
    have hp := pollType_suffix s sc
    split at h <;> rename_i heq <;> rw [heq] at hp
    · cases h; exact hp
    · cases h
    · cases h
    · split at h
      · cases h
      · exact (ih _ _ h).trans hp
end H3.UniAccept
