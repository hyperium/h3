/-! RFC 9114 §4.1 as a specification of the receive side of a request stream, written from the RFC
    text and the wording of property C03, not from the code:

      a message is  U* H (U|D)* (H U*)?      U = frame of unknown type (§9: ignored)
                                             H = HEADERS, D = DATA of any length including 0

    Everything else — a known frame other than HEADERS first, DATA or HEADERS after the trailers,
    CANCEL_PUSH / SETTINGS / GOAWAY / MAX_PUSH_ID (§7.2.3/4/6/7: control stream only), PUSH_PROMISE
    sent to a server (§7.2.5), an HTTP/2-reserved type (§7.2.8) — is a connection error
    H3_FRAME_UNEXPECTED.  A request whose stream the client finishes before any HEADERS is
    incomplete (§4.1): the server refuses that stream with H3_REQUEST_INCOMPLETE and the
    connection lives on.  A frame cut short by the end of the stream, or whose payload does not
    fit its layout, is H3_FRAME_ERROR (§7.1).

    The recogniser reads the frame sequence once, left to right, and says what the application
    and the peer must observe under the documented call pattern (head; body until its end is
    reported; trailers). No chunking, no polling, no buffer appears here. -/
namespace H3.Spec.ReqSeq

abbrev Bytes := List Nat

def H3_FRAME_UNEXPECTED : Nat := 0x0105
def H3_FRAME_ERROR : Nat := 0x0106
def H3_SETTINGS_ERROR : Nat := 0x0109
def H3_REQUEST_INCOMPLETE : Nat := 0x010d
def H3_GENERAL_PROTOCOL_ERROR : Nat := 0x0101
def H3_ID_ERROR : Nat := 0x0108
def H3_MESSAGE_ERROR : Nat := 0x010e

/-- the frame alphabet of the property, by meaning -/
inductive K where
  /-- HEADERS carrying this (well-formed) field section -/
  | H (block : Bytes)
  /-- DATA, complete, any length including zero -/
  | D (payload : Bytes)
  /-- DATA whose payload has only arrived in part when the stream stops (never followed by
      another frame, never before a clean FIN) -/
  | Dpart (got : Bytes)
  /-- unknown type, any length -/
  | U
  /-- CANCEL_PUSH, SETTINGS, GOAWAY, MAX_PUSH_ID -/
  | X
  /-- PUSH_PROMISE -/
  | P
  /-- HTTP/2-reserved type (0x2, 0x6, 0x8, 0x9) -/
  | R
  /-- a frame of a known type whose payload does not fit the type's layout (§7.1); when the type
      is also out of place two rules apply and either code is right -/
  | M
  /-- SETTINGS with unacceptable content (§7.2.4.1) on a request stream: out of place and
      invalid, either code is right -/
  | S
  /-- frame type 0x41, the WEBTRANSPORT_STREAM signal of draft-ietf-webtrans-http3, with its session
      id (R-03b: a type that is DEFINED and allocated — not one of the unknown / reserved types
      that §9 says to ignore — and whose only place is the very start of a stream that is handed to
      the WebTransport layer instead of the request API, C19) -/
  | W
  /-- frame type 0x41 read, the session id not (yet) complete when the stream stops -/
  | Wpart
deriving Repr, DecidableEq

inductive Side where
  | server | client
deriving Repr, DecidableEq

/-- how the byte stream stops after the frames -/
inductive Stop where
  /-- FIN on a frame boundary -/
  | fin
  /-- FIN inside a frame -/
  | truncated
  /-- RESET_STREAM with this code, noticed after the frames listed -/
  | reset (c : Nat)
  /-- still open, nothing more has arrived -/
  | open_
deriving Repr, DecidableEq

/-- one observable step of the documented call pattern -/
inductive Obs where
  /-- the message head was delivered -/
  | head (block : Bytes)
  /-- all body bytes handed to the application by the `recv_data` calls, in order -/
  | body (bs : Bytes)
  /-- `recv_data` reported the end of the body -/
  | bodyEnd
  | trailers (block : Bytes)
  | noTrailers
  /-- the call failed with a connection error of this code -/
  | connError (code : Nat)
  /-- the call failed with an error confined to the stream -/
  | streamError (code : Nat)
  /-- the call failed because the peer reset the stream -/
  | resetBy (c : Nat)
  /-- the call is waiting for the peer -/
  | pending
deriving Repr, DecidableEq

structure Outcome where
  calls : List Obs
  /-- the connection error, if any (what the connection is closed with) -/
  connError : Option Nat := none
  /-- RESET_STREAM sent by this endpoint on the stream, if any -/
  streamReset : Option Nat := none
deriving Repr, DecidableEq

/-- The verdict is ALWAYS a finite list of explicit outcomes: where the property text leaves the
    answer open (R-03: the client-side counterparts of the two server rules) the list names every
    alternative the RFC allows — a panic, a hang, or going on to process the stream is never among
    them.  (Until the audit there was a constructor `any` = "no opinion" for these cases.) -/
inductive Expect where
  /-- exactly one of these -/
  | oneOf (os : List Outcome)
deriving Repr, DecidableEq

def Expect.accepts : Expect → Outcome → Prop
  | .oneOf os, o => o ∈ os

instance (e : Expect) (o : Outcome) : Decidable (e.accepts o) := by
  cases e <;> simp only [Expect.accepts] <;> exact inferInstance

/-- where the recogniser is in  U* H (U|D)* (H U*)? -/
inductive Phase where
  | start
  | body (head : Bytes) (acc : Bytes)
  | trailers (head : Bytes) (acc : Bytes) (block : Bytes)
deriving Repr, DecidableEq

/-- what has been observed by the time the recogniser is in this phase and the next thing
    happens to the call in progress -/
def Phase.seen : Phase → List Obs
  | .start => []
  | .body h acc => [.head h, .body acc]
  | .trailers h acc _ => [.head h, .body acc, .bodyEnd]

/-- the call in progress fails with a connection error; any of `codes` is right -/
def violation (p : Phase) (codes : List Nat) : Expect :=
  .oneOf (codes.map fun c => { calls := p.seen ++ [.connError c], connError := some c })

/-- R-03, client side of "the stream ends before any HEADERS".  The property fixes the server's
    answer only; for a client RFC 9114 §4.1 makes a response without a header section incomplete,
    hence the call that waits for the response must FAIL, with an error confined to the stream
    (§4.1.2 malformed: H3_MESSAGE_ERROR, what h3 answers; incomplete: H3_REQUEST_INCOMPLETE;
    H3_GENERAL_PROTOCOL_ERROR), the stream reset with that code or not.  Delivering a response,
    reporting a clean end, waiting for ever, panicking or closing the connection (see the note in
    the body) are not in the list. -/
def clientNoResponse : Expect :=
  -- since the repair 132f8d8 (D-07a, property C07: a stream abandoned before its headers never closes the
  -- connection) the connection error H3_FRAME_UNEXPECTED is no longer among the alternatives
  .oneOf ([H3_MESSAGE_ERROR, H3_REQUEST_INCOMPLETE, H3_GENERAL_PROTOCOL_ERROR].flatMap fun c =>
      [{ calls := [.streamError c] }, { calls := [.streamError c], streamReset := some c }])

/-- the stream stops while the recogniser is in phase `p` -/
def atStop (side : Side) (p : Phase) : Stop → Expect
  | .truncated => violation p [H3_FRAME_ERROR]
  | .reset c => .oneOf [{ calls := p.seen ++ [.resetBy c] }]
  | .open_ =>
    match p with
    -- the trailers are complete but the stream is not: waiting for its end (to see that nothing
    -- forbidden follows) and handing the trailers out at once are both in order
    | .trailers _ _ t => .oneOf [{ calls := p.seen ++ [.pending] }, { calls := p.seen ++ [.trailers t] }]
    | _ => .oneOf [{ calls := p.seen ++ [.pending] }]
  | .fin =>
    match p with
    | .start =>
      match side with
      | .server => .oneOf [{ calls := [.streamError H3_REQUEST_INCOMPLETE],
                             streamReset := some H3_REQUEST_INCOMPLETE }]
      | .client => clientNoResponse
    | .body h acc => .oneOf [{ calls := [.head h, .body acc, .bodyEnd, .noTrailers] }]
    | .trailers h acc t => .oneOf [{ calls := [.head h, .body acc, .bodyEnd, .trailers t] }]

/-- the alternatives of both -/
def Expect.union : Expect → Expect → Expect
  | .oneOf a, .oneOf b => .oneOf (a ++ b)

/-- R-03b: the stream stops inside a 0x41 header (type read, session id incomplete).  The type is
    already known to be out of place, so refusing it at once is in order; so is waiting for the
    rest of the header (stream open: the call is pending; RESET: the call sees the reset; FIN: the
    header is cut short, H3_FRAME_ERROR). -/
def atWpart (p : Phase) : Stop → Expect
  | .open_ => (Expect.oneOf [{ calls := p.seen ++ [.pending] }]).union (violation p [H3_FRAME_UNEXPECTED])
  | .reset c => (Expect.oneOf [{ calls := p.seen ++ [.resetBy c] }]).union (violation p [H3_FRAME_UNEXPECTED])
  | _ => violation p [H3_FRAME_ERROR, H3_FRAME_UNEXPECTED]

/-- read the frames left to right -/
def expected (side : Side) : Phase → List K → Stop → Expect
  | p, [], stop => atStop side p stop
  | p, .U :: r, stop => expected side p r stop
  -- R-03b: on a stream read through the request API (whether or not WebTransport was negotiated on
  -- the connection) 0x41 is a known frame out of place: connection error H3_FRAME_UNEXPECTED
  -- (RFC 9114 §4.1, what h3 does) or H3_FRAME_ERROR (it is not a well-formed HTTP/3 frame: it has
  -- no length).  It is never skipped, acted on, or a reason to hang or panic.
  | p, .W :: _, _ => violation p [H3_FRAME_UNEXPECTED, H3_FRAME_ERROR]
  | p, .Wpart :: _, stop => atWpart p stop
  | p, .R :: _, _ => violation p [H3_FRAME_UNEXPECTED]
  | p, .X :: _, _ => violation p [H3_FRAME_UNEXPECTED]
  | p, .M :: _, _ => violation p [H3_FRAME_ERROR, H3_FRAME_UNEXPECTED]
  | p, .S :: _, _ => violation p [H3_SETTINGS_ERROR, H3_FRAME_UNEXPECTED]
  | p, .P :: _, _ =>
    match side with
    | .server => violation p [H3_FRAME_UNEXPECTED]
    -- R-03, client side: h3 has no push support and never sends MAX_PUSH_ID, so every PUSH_PROMISE
    -- carries a push ID above the (absent) limit: §7.2.5 H3_ID_ERROR; refusing the frame as
    -- unexpected is the other acceptable answer.  Either way the call in progress fails with a
    -- connection error; the frame is never skipped or acted on.
    | .client => violation p [H3_FRAME_UNEXPECTED, H3_ID_ERROR]
  | .start, .H b :: r, stop => expected side (.body b []) r stop
  | .start, .D _ :: _, _ => violation .start [H3_FRAME_UNEXPECTED]
  | .start, .Dpart _ :: _, _ => violation .start [H3_FRAME_UNEXPECTED]
  | .body h acc, .D p :: r, stop => expected side (.body h (acc ++ p)) r stop
  | .body h acc, .Dpart g :: _, stop =>
    -- the part that arrived is body; the frame itself is cut short if the stream ends here
    atStop side (.body h (acc ++ g)) (if stop = .fin then .truncated else stop)
  | .body h acc, .H t :: r, stop => expected side (.trailers h acc t) r stop
  | .trailers h acc t, .D _ :: _, _ => violation (.trailers h acc t) [H3_FRAME_UNEXPECTED]
  | .trailers h acc t, .Dpart _ :: _, _ => violation (.trailers h acc t) [H3_FRAME_UNEXPECTED]
  | .trailers h acc t, .H _ :: _, _ => violation (.trailers h acc t) [H3_FRAME_UNEXPECTED]

/-- the specification: what a frame sequence followed by `stop` must make observable -/
def spec (side : Side) (ks : List K) (stop : Stop) : Expect := expected side .start ks stop

/-- membership in  U* H (U|D)* (H U*)?  (for statements about "the language") -/
def inLanguage : Phase → List K → Bool
  | .start, [] => false
  | _, [] => true
  | p, .U :: r => inLanguage p r
  | .start, .H b :: r => inLanguage (.body b []) r
  | .body h acc, .D p :: r => inLanguage (.body h (acc ++ p)) r
  | .body h acc, .H t :: r => inLanguage (.trailers h acc t) r
  | _, _ => false

end H3.Spec.ReqSeq
