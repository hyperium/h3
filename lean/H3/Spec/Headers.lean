import H3.Model.Headers
/-! Oracle of property C12, written from the property text, RFC 9114 §4.2–4.3 (field names,
    field values, pseudo-header fields, trailers), RFC 9110 §5.1/§5.5/§5.6.2/§9.1/§15 (token,
    field-value bytes, method, status-code) and RFC 9220/8441 (`:protocol`) — not from the control
    flow of `headers.rs`.  It shares with the model only the vocabulary: byte strings, the
    spelling of the seven names and the abstract `http` parsers (`Http`), which say what
    "parseable" means for `:scheme`, `:authority` and `:path` as far as h3 delegates it (reading
    R-12c); what every grammar of these three components demands is written out below, without the
    crate (`SyntaxOk`), and the `:protocol` tokens are written out too (`protocolTokens`).

    What the text does not state is not demanded: no ordering of received pseudo-header fields,
    nothing about duplicated pseudo-header fields, no `:scheme`/`:path` presence (reading R-12 in
    DESIGN.md §12, C12).
    Several `Host` fields *are* spoken of — "identical when both are present", "a non-empty
    authority" — see `AuthorityOk` (D-12e, reading R-12b).
    "Only defined pseudo-header fields" is read as the RFC uses the word (§4.3: "Pseudo-header
    fields are only valid in the context in which they are defined.  Pseudo-header fields defined
    for requests MUST NOT appear in responses; pseudo-header fields defined for responses MUST NOT
    appear in requests.  Pseudo-header fields MUST NOT appear in trailer sections.  Endpoints MUST
    treat a request or response that contains undefined or invalid pseudo-header fields as
    malformed."): defined *for this kind of message* — `DefinedFor` (D-12f).  For requests these are
    `:method`, `:scheme`, `:authority`, `:path` (§4.3.1) and `:protocol` (RFC 9220 §3 / RFC 8441 §4),
    for responses `:status` alone (§4.3.2: "For responses, a single ":status" pseudo-header field is
    defined"), for trailers none, so every trailer name must be a token. -/
namespace H3.Spec.Headers
open H3.Headers (Bytes FieldLine Http HeaderMap UriParts nMethod nScheme nAuthority nPath nStatus nProtocol nHost)

/-! ### RFC 9110 character classes -/

/-- `"!" / "#" / "$" / "%" / "&" / "'" / "*" / "+" / "-" / "." / "^" / "_" / "`" / "|" / "~"` -/
def tcharSpecials : List Nat := [0x21, 0x23, 0x24, 0x25, 0x26, 0x27, 0x2a, 0x2b, 0x2d, 0x2e, 0x5e, 0x5f, 0x60, 0x7c, 0x7e]
def DIGIT (b : Nat) : Prop := 0x30 ≤ b ∧ b ≤ 0x39
def UPPER (b : Nat) : Prop := 0x41 ≤ b ∧ b ≤ 0x5a
def LOWER (b : Nat) : Prop := 0x61 ≤ b ∧ b ≤ 0x7a
/-- RFC 9110 §5.6.2 `tchar` -/
def tchar (b : Nat) : Prop := b ∈ tcharSpecials ∨ DIGIT b ∨ UPPER b ∨ LOWER b
instance (b : Nat) : Decidable (tchar b) := by unfold tchar DIGIT UPPER LOWER; infer_instance

/-- RFC 9110 §5.1 + RFC 9114 §4.2: a field name is a non-empty token without upper-case letters
    (so: no control bytes, no separators such as `"(),/:;<=>?@[\]{}`, no space, no byte ≥ 0x7f). -/
def LowerToken (n : Bytes) : Prop := n ≠ [] ∧ ∀ b ∈ n, tchar b ∧ ¬ UPPER b
instance (n : Bytes) : Decidable (LowerToken n) := by unfold LowerToken UPPER; infer_instance

/-- RFC 9110 §5.5: `field-vchar = VCHAR / obs-text`, plus SP and HTAB inside; this excludes NUL,
    CR, LF, every other control byte and DEL (RFC 9114 §4.2, §10.3). -/
def FieldValueByte (b : Nat) : Prop := (0x21 ≤ b ∧ b ≤ 0x7e) ∨ 0x80 ≤ b ∨ b = 0x20 ∨ b = 0x09
def LegalValue (v : Bytes) : Prop := ∀ b ∈ v, FieldValueByte b
instance (v : Bytes) : Decidable (LegalValue v) := by unfold LegalValue FieldValueByte; infer_instance

/-- RFC 9110 §9.1: `method = token`. -/
def MethodToken (m : Bytes) : Prop := m ≠ [] ∧ ∀ b ∈ m, tchar b
instance (v : Bytes) : Decidable (MethodToken v) := by unfold MethodToken; infer_instance

/-- RFC 9110 §15: `status-code = 3DIGIT`, first digit not zero (100…999). -/
def StatusCode (v : Bytes) : Prop := v.length = 3 ∧ (∀ b ∈ v, DIGIT b) ∧ v.head? ≠ some 0x30
instance (v : Bytes) : Decidable (StatusCode v) := by unfold StatusCode DIGIT; infer_instance

/-! ### received field sections -/

/-- the name starts with `:` -/
def IsPseudo (n : Bytes) : Prop := n.head? = some 0x3a
instance (n : Bytes) : Decidable (IsPseudo n) := by unfold IsPseudo; infer_instance

/-- The `:protocol` values h3 knows, written out: the tokens of the IANA "HTTP Upgrade Tokens"
    registry that `h3::ext::Protocol` has a constant for — `webtransport`
    (draft-ietf-webtrans-http3), `connect-udp` (RFC 9298), `connect-ip` (RFC 9484), `websocket`
    (RFC 9220 / RFC 8441).  The list the translator reads from `ext.rs` is proved equal to this one
    (`H3.Headers.protocols_gen_eq_spec`, as a property `C12_protocols_are_iana_tokens`), so the oracle
    does not take its word from the code. -/
def protocolTokens : List Bytes :=
  [[0x77, 0x65, 0x62, 0x74, 0x72, 0x61, 0x6e, 0x73, 0x70, 0x6f, 0x72, 0x74],   -- webtransport
   [0x63, 0x6f, 0x6e, 0x6e, 0x65, 0x63, 0x74, 0x2d, 0x75, 0x64, 0x70],         -- connect-udp
   [0x63, 0x6f, 0x6e, 0x6e, 0x65, 0x63, 0x74, 0x2d, 0x69, 0x70],               -- connect-ip
   [0x77, 0x65, 0x62, 0x73, 0x6f, 0x63, 0x6b, 0x65, 0x74]]                     -- websocket

/-- the six defined pseudo-header fields (RFC 9114 §4.3.1, §4.3.2; RFC 9220 §3), each with a
    value its parser accepts (reading R-12c: "parseable" = the parser h3 delegates to accepts it;
    the crate-independent necessary conditions are `SyntaxOk` below).  (Which of them is defined
    for which kind of message: `DefinedFor`.) -/
def PseudoOk (H : Http) (n v : Bytes) : Prop :=
  (n = nMethod ∧ MethodToken v) ∨
  (n = nScheme ∧ (H.parseScheme v).isSome) ∨
  (n = nAuthority ∧ (H.parseAuthority v).isSome) ∨
  (n = nPath ∧ (H.parsePath v).isSome) ∨
  (n = nStatus ∧ StatusCode v) ∨
  (n = nProtocol ∧ v ∈ protocolTokens)
instance (H : Http) (n v : Bytes) : Decidable (PseudoOk H n v) := by unfold PseudoOk; infer_instance

/-- one field line of a header section -/
def FieldOk (H : Http) (f : FieldLine) : Prop :=
  f.1 ≠ [] ∧ (if IsPseudo f.1 then PseudoOk H f.1 f.2 else LowerToken f.1 ∧ LegalValue f.2)
instance (H : Http) (f : FieldLine) : Decidable (FieldOk H f) := by unfold FieldOk; infer_instance

/-- the values of the fields called `n`, in order -/
def valuesOf (n : Bytes) (fs : List FieldLine) : List Bytes := (fs.filter (fun f => f.1 = n)).map (·.2)

/-- "a non-empty authority (from :authority or Host, identical when both are present)":

    * there is a non-empty value among the `:authority` and `Host` values;
    * *identical when both are present* (RFC 9114 §4.3.1 "If both fields are present, they MUST
      contain the same value"): when there is an `:authority` field, **every** `Host` value — not
      only the first — is the `:authority` value.  (Which of several different `:authority`
      values counts is not fixed by the text — R-12, duplicated pseudo-header fields — so the
      clause asks for *an* `:authority` value that all `Host` values equal; with one `:authority`
      field, or several equal ones, that is "all `Host` values equal it".)
    * reading R-12b, *a* (one) authority *from Host*: when the authority comes from `Host`, the
      `Host` values are one value (RFC 9110 §7.2: a request with several differing `Host` field
      lines has no authority one could name): every `Host` value is the first one.  Several
      identical `Host` lines are not refused. -/
def AuthorityOk (fs : List FieldLine) : Prop :=
  (∃ a ∈ valuesOf nAuthority fs ++ valuesOf nHost fs, a ≠ []) ∧
  (valuesOf nAuthority fs ≠ [] → ∃ a ∈ valuesOf nAuthority fs, ∀ h ∈ valuesOf nHost fs, a = h) ∧
  (∀ h ∈ valuesOf nHost fs, (valuesOf nHost fs).head? = some h)
instance (fs : List FieldLine) : Decidable (AuthorityOk fs) := by unfold AuthorityOk; infer_instance

/-- the pseudo-header fields defined for requests: RFC 9114 §4.3.1 ("The following pseudo-header
    fields are defined for requests": `:method`, `:scheme`, `:authority`, `:path`) and the
    `:protocol` field of the extended CONNECT request (RFC 9220 §3, RFC 8441 §4) -/
def requestPseudoNames : List Bytes := [nMethod, nScheme, nAuthority, nPath, nProtocol]

/-- the pseudo-header fields defined for responses: RFC 9114 §4.3.2 ("For responses, a single
    ":status" pseudo-header field is defined") -/
def responsePseudoNames : List Bytes := [nStatus]

/-- "only defined pseudo-header fields": every pseudo-header field of the section is one of those
    defined for this kind of message (RFC 9114 §4.3: "only valid in the context in which they are
    defined"; request fields MUST NOT appear in responses, response fields MUST NOT appear in
    requests; a message with an undefined pseudo-header field is malformed).  D-12f. -/
def DefinedFor (defined : List Bytes) (fs : List FieldLine) : Prop :=
  ∀ f ∈ fs, IsPseudo f.1 → f.1 ∈ defined
instance (d : List Bytes) (fs : List FieldLine) : Decidable (DefinedFor d fs) := by
  unfold DefinedFor; infer_instance

/-! ### "parseable values": what does not depend on the `http` crate (reading R-12c)

    `PseudoOk` asks the `http` crate (h3 delegates to it).  RFC 9114 §4.3.1 names what each field
    carries — `:scheme` "the scheme portion of the URI" (RFC 3986 §3.1), `:authority` "the authority
    portion of the target URI" (§3.2), `:path` "the path and query parts of the target URI" (§3.3,
    §3.4) — so a value outside that grammar is not parseable whatever a library says.  The clauses
    below are *necessary* conditions taken from those grammars (complete for the scheme, partial for
    the other two), each one line of the RFC; DESIGN.md section 9, R-12c lists per class what is
    demanded, what is not, and why. -/

def ALPHA (b : Nat) : Prop := UPPER b ∨ LOWER b
instance (b : Nat) : Decidable (ALPHA b) := by unfold ALPHA UPPER LOWER; infer_instance

/-- the first byte is a letter (so the value is not empty) -/
def StartsAlpha : Bytes → Prop
  | [] => False
  | b :: _ => ALPHA b
instance (v : Bytes) : Decidable (StartsAlpha v) := by
  cases v <;> unfold StartsAlpha <;> infer_instance

/-- RFC 3986 §3.1: `scheme = ALPHA *( ALPHA / DIGIT / "+" / "-" / "." )` (the whole grammar). -/
def SchemeSyntax (v : Bytes) : Prop :=
  StartsAlpha v ∧ ∀ b ∈ v, ALPHA b ∨ DIGIT b ∨ b = 0x2b ∨ b = 0x2d ∨ b = 0x2e
instance (v : Bytes) : Decidable (SchemeSyntax v) := by unfold SchemeSyntax DIGIT; infer_instance

/-- what follows the last `@` (the whole value when there is none): `host [ ":" port ]` -/
def hostPort (v : Bytes) : Bytes := (v.reverse.takeWhile (· ≠ 0x40)).reverse

/-- RFC 3986 §3.2 `authority = [ userinfo "@" ] host [ ":" port ]`, two necessary conditions:
    neither `userinfo` nor `host` contains `@`, so there is at most one; and unless the host is an
    IP literal (`[`…`]`) it contains no `:` (`reg-name`, `IPv4address`), so what follows the first
    `:` of `host [ ":" port ]` is `port = *DIGIT`.
    (NOT asked: a non-empty host, a port below 65536, the absence of userinfo — R-12c.) -/
def AuthoritySyntax (v : Bytes) : Prop :=
  (v.filter (· = 0x40)).length ≤ 1 ∧
  ((hostPort v).head? = some 0x5b ∨ ∀ b ∈ ((hostPort v).dropWhile (· ≠ 0x3a)).drop 1, DIGIT b)
instance (v : Bytes) : Decidable (AuthoritySyntax v) := by unfold AuthoritySyntax DIGIT; infer_instance

/-- RFC 3986 §3.3 / §3.4: `#` is neither a `pchar` nor a query character — it ends the query and
    starts the fragment, which is not part of a request target (RFC 9110 §7.1).  One necessary
    condition of "the path and query parts": no `#`. -/
def PathSyntax (v : Bytes) : Prop := 0x23 ∉ v
instance (v : Bytes) : Decidable (PathSyntax v) := by unfold PathSyntax; infer_instance

def schemeHttp : Bytes := [0x68, 0x74, 0x74, 0x70]
def schemeHttps : Bytes := [0x68, 0x74, 0x74, 0x70, 0x73]

/-- the necessary condition of one field line -/
def PseudoSyntax (n v : Bytes) : Prop :=
  (n = nScheme → SchemeSyntax v) ∧ (n = nAuthority → AuthoritySyntax v) ∧ (n = nPath → PathSyntax v)
instance (n v : Bytes) : Decidable (PseudoSyntax n v) := by unfold PseudoSyntax; infer_instance

/-- RFC 9114 §4.3.1: "This pseudo-header field MUST NOT be empty for "http" or "https" URIs": when
    the section's `:scheme` is `http` or `https` (every `:scheme` value, and there is one), no
    `:path` value is empty. -/
def PathNonEmptyHttp (fs : List FieldLine) : Prop :=
  valuesOf nScheme fs ≠ [] → (∀ s ∈ valuesOf nScheme fs, s = schemeHttp ∨ s = schemeHttps) →
  ∀ p ∈ valuesOf nPath fs, p ≠ []
instance (fs : List FieldLine) : Decidable (PathNonEmptyHttp fs) := by unfold PathNonEmptyHttp; infer_instance

/-- the crate-independent part of "parseable values" for a request section (R-12c) -/
def SyntaxOk (fs : List FieldLine) : Prop := (∀ f ∈ fs, PseudoSyntax f.1 f.2) ∧ PathNonEmptyHttp fs
instance (fs : List FieldLine) : Decidable (SyntaxOk fs) := by unfold SyntaxOk; infer_instance

def WellFormedRequest (H : Http) (fs : List FieldLine) : Prop :=
  (∀ f ∈ fs, FieldOk H f) ∧ DefinedFor requestPseudoNames fs ∧ (∃ f ∈ fs, f.1 = nMethod) ∧ AuthorityOk fs

/-- a well-formed request whose `:scheme` / `:authority` / `:path` values also satisfy the
    crate-independent necessary conditions (R-12c): what the driver's oracle demands. -/
def WellFormedRequestStrict (H : Http) (fs : List FieldLine) : Prop := WellFormedRequest H fs ∧ SyntaxOk fs

def WellFormedResponse (H : Http) (fs : List FieldLine) : Prop :=
  (∀ f ∈ fs, FieldOk H f) ∧ DefinedFor responsePseudoNames fs ∧ (∃ f ∈ fs, f.1 = nStatus)

def WellFormedTrailers (fs : List FieldLine) : Prop :=
  ∀ f ∈ fs, f.1 ≠ [] ∧ ¬ IsPseudo f.1 ∧ LowerToken f.1 ∧ LegalValue f.2

/-- the regular (non-pseudo) fields, in order -/
def regular (fs : List FieldLine) : List FieldLine := fs.filter (fun f => ¬ IsPseudo f.1)

/-- "carries exactly the regular fields, per-name order kept": for every name the entries of that
    name are the received ones in the received order (in particular nothing is added or lost). -/
def CarriesRegular (entries fs : List FieldLine) : Prop :=
  ∀ n, entries.filter (fun f => f.1 = n) = (regular fs).filter (fun f => f.1 = n)

instance (H : Http) (fs : List FieldLine) : Decidable (WellFormedRequest H fs) := by
  unfold WellFormedRequest; infer_instance
instance (H : Http) (fs : List FieldLine) : Decidable (WellFormedRequestStrict H fs) := by
  unfold WellFormedRequestStrict; infer_instance
instance (H : Http) (fs : List FieldLine) : Decidable (WellFormedResponse H fs) := by
  unfold WellFormedResponse; infer_instance
instance (fs : List FieldLine) : Decidable (WellFormedTrailers fs) := by
  unfold WellFormedTrailers; infer_instance

/-! ### sent field sections -/

/-- RFC 9114 §4.3: "All pseudo-header fields MUST appear in the header section before regular
    header fields." -/
def PseudoFirst (out : List FieldLine) : Prop :=
  ∃ ps rs, out = ps ++ rs ∧ (∀ f ∈ ps, IsPseudo f.1) ∧ (∀ f ∈ rs, ¬ IsPseudo f.1)

/-- each pseudo-header field at most once -/
def PseudoOnce (out : List FieldLine) : Prop := ((out.filter (fun f => IsPseudo f.1)).map (·.1)).Nodup

def optField (n : Bytes) : Option Bytes → List FieldLine
  | some v => [(n, v)]
  | none => []

def mCONNECT : Bytes := [0x43, 0x4f, 0x4e, 0x4e, 0x45, 0x43, 0x54]
def https : Bytes := [0x68, 0x74, 0x74, 0x70, 0x73]

/-- "with the values the caller supplied": the pseudo-header fields of a request made of
    `method`, a URI and an optional `Protocol` extension (RFC 9114 §4.3.1, §4.4; RFC 9220):
    `:method`; `:scheme` (the URI's, else the `https` default) and `:path` (the URI's path and
    query, `/` when it has none) unless this is a plain CONNECT; `:authority` when the URI has
    one; `:protocol` when the method is CONNECT and the extension is there.  Listed in the order
    method, scheme, authority, path, protocol (the property fixes no order among them). -/
def sentRequestPseudo (method : Bytes) (uri : UriParts) (ext : Option Bytes) : List FieldLine :=
  let proto := if method = mCONNECT then ext else none
  let plain := method = mCONNECT ∧ proto = none
  let path : Bytes := match uri.pathAndQuery with
    | none => [0x2f]
    | some d => if d = [] then [0x2f] else d
  [(nMethod, method)] ++
  (if plain then [] else [(nScheme, uri.scheme.getD https)]) ++
  optField nAuthority uri.authority ++
  (if plain then [] else [(nPath, path)]) ++
  optField nProtocol proto

/-- three ASCII digits of a status code -/
def statusText (n : Nat) : Bytes := [0x30 + n / 100, 0x30 + n / 10 % 10, 0x30 + n % 10]

def sentResponsePseudo (status : Nat) : List FieldLine := [(nStatus, statusText status)]

end H3.Spec.Headers
