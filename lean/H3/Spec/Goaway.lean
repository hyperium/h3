import H3.Model.Goaway
/-! RFC 9114 §5.2 / §7.2.6 as an oracle over what can be *observed* of a connection: the GOAWAY
identifiers written so far, the requests shown to the application, the requests refused.
Nothing here refers to the implementation's variables (`sent_closing`, `last_accepted_stream`,
…); only the alphabets of events and observations, `H3.Goaway.Ev` and `Obs`, are shared with the model. -/
namespace H3.Spec.Goaway
open H3.Goaway (Obs)

/-- the observable history of a server connection. -/
structure Hist where
  /-- GOAWAY identifiers written, latest first. -/
  sent : List Nat := []
  /-- requests handed to the application. -/
  surfaced : List Nat := []
  /-- requests refused with H3_REQUEST_REJECTED. -/
  rejected : List Nat := []
  /-- request streams the peer has opened. -/
  opened : List Nat := []
  /-- requests the application is done with (its last handle is gone). -/
  done : List Nat := []
  /-- the count of the `shutdown(n)` call being answered. -/
  call : Option Nat := none
deriving Repr, DecidableEq

def Hist.push (h : Hist) : Obs → Hist
  | .goaway g => { h with sent := g :: h.sent }
  | .surfaced i => { h with surfaced := i :: h.surfaced }
  | .rejected i => { h with rejected := i :: h.rejected }
  | .arrived i => { h with opened := i :: h.opened }
  | .completed i => { h with done := i :: h.done }
  | .shutdownCalled n => { h with call := some n }
  | _ => h

/-- RFC 9000 §2.1: a client-initiated bidirectional stream ID (62 bit). -/
def clientBidi (id : Nat) : Bool := id % 4 == 0 && decide (id < 2^62)

def lastSent (h : Hist) : Option Nat := h.sent.head?

/-- §7.2.6: server→client GOAWAY carries a client-initiated bidirectional stream ID;
    §5.2: "the identifier in each frame MUST NOT be greater than the identifier in any
    previous frame". -/
def okGoaway (h : Hist) (g : Nat) : Bool := clientBidi g && h.sent.all (fun p => decide (g ≤ p))

/-- §5.2: requests with an identifier ≥ the one in the GOAWAY "were not and will not be
    processed" — so no request already shown to the application may be at or above it. -/
def noRetract (h : Hist) (g : Nat) : Bool := h.surfaced.all (fun i => decide (i < g))

/-- §5.2: once a GOAWAY was sent, a request at or above the last identifier sent is
    rejected; every other request is served. -/
def mustReject (h : Hist) (i : Nat) : Bool :=
  match lastSent h with
  | some g => decide (g ≤ i)
  | none => false

/-- one more observation against the history so far.  `strict = false` leaves out `noRetract`
    (the only clause that does not survive saturation of the identifier space). -/
def okObs (strict : Bool) (h : Hist) : Obs → Bool
  | .goaway g => okGoaway h g && (!strict || noRetract h g)
  | .surfaced i => !mustReject h i
  | .rejected i => mustReject h i
  -- "every request below it is still served": a request shown to the application (by the clause
  -- above it is below the line) whose peer sent a complete well-formed request is never refused
  -- service afterwards, whatever GOAWAY was sent or received in between
  | .notServed _ => false
  | _ => true

def valid (strict : Bool) : Hist → List Obs → Bool
  | _, [] => true
  | h, o :: r => okObs strict h o && valid strict (h.push o) r

/-! ### the queue rules (second audit: D-08b)

What the per-observation clauses above cannot see: a stream that never gets an outcome, an outcome
given twice, a `shutdown` that answers `Ok` without a GOAWAY in force.  Still over the observable
history only (plus the peer's `arrived`, the application's `completed` / `shutdownCalled`). -/

/-- stream `i` has had its outcome: shown to the application or refused. -/
def disposed (h : Hist) (i : Nat) : Bool := h.surfaced.contains i || h.rejected.contains i

/-- the largest request shown to the application so far. -/
def largestSurfaced (h : Hist) : Option Nat := h.surfaced.foldl (fun m i => some (match m with | some a => max a i | none => i)) none

/-- `shutdown(n)`: "accepting `n` potentially still in-flight" requests — at most `n` more than the
    largest one shown so far (the first `n` when none was shown); the identifier space ends at 2^62 − 4. -/
def shutdownBound (h : Hist) (n : Nat) : Nat :=
  min (match largestSurfaced h with
       | some L => L + 4 * (n + 1)
       | none => 4 * n) (2^62 - 4)

def okQueue (h : Hist) : Obs → Bool
  -- at most one outcome per stream
  | .surfaced i => !disposed h i
  | .rejected i => !disposed h i
  -- under the documented pattern *call `accept` until `None`* (R-08) `None` ends the server's look at
  -- incoming streams.  The text gives every request one of two fates — at or above the last identifier
  -- sent: refused with H3_REQUEST_REJECTED; below it: served — so a stream the peer has opened that has
  -- been neither shown nor refused when `None` is answered is a violation whichever side of the line
  -- it is on (the last GOAWAY of `accept` may move the line, it cannot excuse the stream).  And `None`
  -- is the end of the connection's work: no request shown earlier is still in progress
  | .acceptNone => h.opened.all (disposed h) && h.surfaced.all (fun i => h.done.contains i)
  -- "once a server has begun graceful shutdown": a `shutdown(n)` that answers `Ok` leaves a GOAWAY in
  -- force whose identifier admits at most `n` more requests (a lower identifier than the one in force
  -- has to be written)
  | .shutdownOk =>
    match lastSent h with
    | none => false
    | some g =>
      match h.call with
      | some n => decide (g ≤ shutdownBound h n)
      | none => true
  | _ => true

def validQ : Hist → List Obs → Bool
  | _, [] => true
  | h, o :: r => okQueue h o && validQ (h.push o) r

/-- the identifiers of the arrivals an observation sequence disposes of, in order. -/
def outcomes : List Obs → List Nat
  | [] => []
  | .surfaced i :: r => i :: outcomes r
  | .rejected i :: r => i :: outcomes r
  | _ :: r => outcomes r

/-! ### requests in progress (for "`accept` says `None` only when drained")

Over the history only: a request is *in progress* from the step that shows it to the application
(`surfaced id`) until the step `complete id` (the connection has learnt that every handle of the
request is gone — how it learns that, and that it never learns it early, is `H3.Drain` / C09). -/

def surfacedIn : List Obs → List Nat
  | [] => []
  | .surfaced i :: r => i :: surfacedIn r
  | _ :: r => surfacedIn r

def progressStep (live : List Nat) (st : H3.Goaway.Ev × List Obs) : List Nat :=
  let live1 :=
    match st.1 with
    | .complete id => live.filter (· != id)
    | _ => live
  surfacedIn st.2 ++ live1

/-- the requests in progress after a history (a list of steps: event, what it showed). -/
def inProgress (tr : List (H3.Goaway.Ev × List Obs)) : List Nat := tr.foldl progressStep []

/-! ### client side -/

/-- §7.2.6 "A client MUST treat receipt of a GOAWAY frame containing a stream ID of any other
    type as a connection error of type H3_ID_ERROR"; §5.2 "Receiving a GOAWAY containing a
    larger identifier than previously received MUST be treated as a connection error of type
    H3_ID_ERROR". -/
def clientBad (prev : Option Nat) (id : Nat) : Bool :=
  !clientBidi id ||
  (match prev with
   | some p => decide (p < id)
   | none => false)

/-- what a client knows after processing GOAWAY frames in order. -/
structure Client where
  /-- identifier of the last GOAWAY accepted -/
  prev : Option Nat := none
  /-- a GOAWAY was the connection error H3_ID_ERROR (nothing is processed after it) -/
  err : Bool := false
  /-- a GOAWAY has been accepted: no new request may be started -/
  stopped : Bool := false
deriving Repr, DecidableEq

def clientStep (c : Client) (id : Nat) : Client :=
  if c.err then c
  else if clientBad c.prev id then { c with err := true }
  else { c with prev := some id, stopped := true }

def clientAfter (ids : List Nat) : Client := ids.foldl clientStep {}

/-- the GOAWAY identifiers a history has handed to the client's driver, in order: those
    received on the control stream before a poll of the driver (`st.1`), and those still
    waiting (`st.2`). -/
def feed (st : List Nat × List Nat) : H3.Goaway.Ev → List Nat × List Nat
  | .recvGoaway id => (st.1, st.2 ++ [id])
  | .pollClose => (st.1 ++ st.2, [])
  | _ => st

/-- "A client that has processed a GOAWAY starts no new request", for calls that wait for stream
    credit: what a client history may show is decided when the call gets its stream — `true` = the
    request may be written, `false` = the call must answer `RemoteClosing` and nothing may be written.
    No opinion (`none`) after a connection error that no accepted GOAWAY preceded (after an
    accepted one the answer stays `false`). -/
def mayStart (processedIds : List Nat) : Option Bool :=
  let c := clientAfter processedIds
  if c.stopped then some false else if c.err then none else some true

def processed (evs : List H3.Goaway.Ev) : List Nat := (evs.foldl feed ([], [])).1

end H3.Spec.Goaway
