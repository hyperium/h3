import H3.Model.Drain
/-! The oracle of C09 over a history of steps (`H3.Drain.Step` = event + what it showed):
a request is *alive* while some handle of it — resolver, stream, either half — has not been
dropped; `accept` may say "no more requests" exactly when the peer's GOAWAY has arrived and no
request handed out earlier is alive.  Defined over the history only, not over the
connection's `ongoing_streams` or its channel. -/
namespace H3.Spec.Drain
open H3.Drain

def handedOutIn : List Obs → List Nat
  | [] => []
  | .handedOut id :: r => id :: handedOutIn r
  | _ :: r => handedOutIn r

/-- the live handles (one entry per handle, named by its request) after one more step. -/
def ownersStep (own : List Nat) (st : Step) : List Nat :=
  let own1 :=
    match st.ev with
    | .clone id => if own.contains id then id :: own else own
    | .dropHandle id => own.erase id
    | _ => own
  -- a request handed out in this step starts with one handle (the resolver)
  handedOutIn st.obs ++ own1

def owners (tr : List Step) : List Nat := tr.foldl ownersStep []

def alive (tr : List Step) (id : Nat) : Bool := (owners tr).contains id
def noneAlive (tr : List Step) : Bool := (owners tr).isEmpty
def goawaySeen (tr : List Step) : Bool := tr.any (fun st => st.ev == .goaway)
def errorSeen (tr : List Step) : Bool := tr.any (fun st => st.ev == .connError)
def returnsNone (st : Step) : Bool := st.obs.contains .acceptNone

/-- the requests that arrived (as a hypothesis on a history, `arrivals tr = handedOut tr`: every request that arrived has been handed out). -/
def arrivals : List Step → List Nat
  | [] => []
  | ⟨.arrive id, _⟩ :: r => id :: arrivals r
  | _ :: r => arrivals r
def handedOut : List Step → List Nat
  | [] => []
  | st :: r => handedOutIn st.obs ++ handedOut r

end H3.Spec.Drain
