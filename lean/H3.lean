import H3.Model.Varint
import H3.Model.StreamId
import H3.Lemmas.Varint
import H3.Lemmas.StreamId
import H3.Lemmas.StaticTable
import H3.Props.C16
import H3.Model.Datagram
import H3.Props.C18
import H3.Model.Frame
import H3.Model.FrameStream
import H3.Spec.Framing
import H3.Spec.FramingStrict
import H3.Spec.FramingJudge
import H3.Spec.FrameRef
import H3.Spec.FrameAgree
import H3.Lemmas.FrameStream
import H3.Lemmas.FrameStreamInv
import H3.Lemmas.FrameStreamReach
import H3.Lemmas.FrameStreamReader
import H3.Lemmas.FrameStreamFast
import H3.Lemmas.FramingStrict
import H3.Lemmas.FrameStreamSplit
import H3.Lemmas.Frame
import H3.Lemmas.FrameLaws
import H3.Lemmas.FrameSpec
import H3.Lemmas.FrameRefSpec
import H3.Props.C02
import H3.Model.Bits
import H3.Model.PrefixInt
import H3.Model.Huffman
import H3.Model.PrefixString
import H3.Spec.Huffman
import H3.Lemmas.Bits
import H3.Lemmas.Pack
import H3.Lemmas.PrefixInt
import H3.Lemmas.HuffWalk
import H3.Lemmas.HuffDec
import H3.Lemmas.HuffLoop
import H3.Lemmas.HuffEnc
import H3.Lemmas.HuffSpec
import H3.Lemmas.HuffTables
import H3.Lemmas.HuffFits
import H3.Props.C15
import H3.Gen.Settings
import H3.Model.Settings
import H3.Model.Config
import H3.Spec.Settings
import H3.Lemmas.BufCursor
import H3.Lemmas.SettingsEnc
import H3.Lemmas.Settings
import H3.Props.C13
import H3.Model.ErrCell
import H3.Lemmas.ErrCell
import H3.Props.C05
import H3.Model.QuinnAdapter
import H3.Props.C17
import H3.Model.Headers
import H3.Spec.Headers
import H3.Lemmas.Headers
import H3.Props.C12
import H3.Model.Session
import H3.Props.C19
import H3.Model.UniAccept
import H3.Model.Control
import H3.Spec.ControlRules
import H3.Lemmas.C04
import H3.Model.Setup
import H3.Lemmas.Setup
import H3.Spec.Faults
import H3.Props.C04
import H3.Model.Goaway
import H3.Spec.Goaway
import H3.Lemmas.Goaway
import H3.Lemmas.GoawayQueue
import H3.Props.C08
import H3.Model.Drain
import H3.Spec.Drain
import H3.Lemmas.Drain
import H3.Props.C09
import H3.Model.WriteBuf
import H3.Model.SendSide
import H3.Spec.Output
import H3.Lemmas.VarintSpec
import H3.Lemmas.WriteBuf
import H3.Lemmas.WriteBufChunks
import H3.Lemmas.Output
import H3.Lemmas.SendFrames
import H3.Lemmas.SendSide
import H3.Lemmas.SendSideX
import H3.Props.C14
import H3.Model.ReqRecv
import H3.Spec.ReqSeq
import H3.Lemmas.ReqRecv
import H3.Props.C03
import H3.Gen.StaticTable
import H3.Gen.Field
import H3.Model.Qpack
import H3.Spec.Qpack
import H3.Lemmas.Qpack
import H3.Props.C11
import H3.Props.C10
import H3.Props.C11Closed
import H3.Model.Dyn
import H3.Model.DynSys
import H3.Spec.Dyn
import H3.Lemmas.DynBasic
import H3.Lemmas.DynStatic
import H3.Lemmas.DynTable
import H3.Lemmas.DynTrack
import H3.Lemmas.DynEnc
import H3.Lemmas.DynSysInv
import H3.Lemmas.DynPrefix
import H3.Lemmas.DynPartial
import H3.Props.C20
import H3.Model.Iso
import H3.Lemmas.Iso
import H3.Lemmas.IsoLift
import H3.Lemmas.IsoPolledFS
import H3.Lemmas.IsoPolledReq
import H3.Lemmas.IsoPolled
import H3.Props.C07
import H3.Lemmas.C06Frame
import H3.Lemmas.C06Req
import H3.Lemmas.C06Run
import H3.Lemmas.C06Ctl
import H3.Lemmas.C06Free
import H3.Lemmas.SendCompletion
import H3.Model.ConnClose
import H3.Lemmas.ConnClose
import H3.Props.C06
import H3.Lemmas.C19
import H3.Lemmas.C19IO
import H3.Lemmas.C19Live
import H3.Lemmas.ReqSimP
import H3.Lemmas.FrameStreamPoll
import H3.Lemmas.ReqLiftRun
import H3.Lemmas.ReqLiftToks
import H3.Lemmas.ReqLift
import H3.Lemmas.FrameStreamPend
import H3.Lemmas.ReqRetry
import H3.Lemmas.ReqPoll
import H3.Lemmas.ReqSplit
import H3.Model.E2E
import H3.Lemmas.E2EWire
import H3.Lemmas.E2EFrames
import H3.Lemmas.E2ERecv
import H3.Lemmas.E2EHeaders
import H3.Lemmas.E2ESend
import H3.Lemmas.E2EIso
import H3.Lemmas.E2ECompose
import H3.Model.Split
import H3.Lemmas.E2ESplit
import H3.Lemmas.E2EInter
import H3.Lemmas.E2EPolls
import H3.Props.C01
import H3.Gen.ReqArms
import H3.Gen.FirstFrame
import H3.Gen.CtlArms
import H3.Gen.UniArms
import H3.Gen.FrameDispatch
import H3.Gen.FrameErrCodes
import H3.Lemmas.GenAgreeFrame
import H3.Lemmas.GenAgreeReq
import H3.Lemmas.GenAgreeCtl
import H3.Gen.SendArms
import H3.Gen.GoawayArms
import H3.Gen.QpackArms
import H3.Lemmas.GenAgreeSend
import H3.Lemmas.GenAgreeGoaway
import H3.Lemmas.GenAgreeQpack
import H3.Gen.DrainArms
import H3.Lemmas.GenAgreeDrain
import H3.Gen.DgSendArms
import H3.Lemmas.GenAgreeDgSend
